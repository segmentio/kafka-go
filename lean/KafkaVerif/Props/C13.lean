/-
Props/C13.lean — property C13: partition balancers return offered partitions and match the
reference hashes.

Model: Model/Balancer.lean (follows balancer.go), constants extracted into Gen/BalancerConsts.lean.
Reference side: Spec/Partitioners.lean.
-/
import KafkaVerif.Lemmas.Murmur2
import KafkaVerif.Lemmas.BalancerRange
import KafkaVerif.Lemmas.RoundRobin
import KafkaVerif.Lemmas.LeastBytes
import KafkaVerif.Lemmas.BalancerPool
import KafkaVerif.Gen.BalancerConsts

namespace KV.C13
open KV KV.Balancer

/-- the partition list a Writer supplies for `n` partitions -/
def iota (n : Nat) : List Int := (List.range n).map Int.ofNat

theorem iota_length (n : Nat) : (iota n).length = n := by rw [iota, List.length_map, List.length_range]

theorem iota_ne_nil {n : Nat} (h0 : 0 < n) : iota n ≠ [] := fun e => by
  have := iota_length n; rw [e] at this; exact Nat.ne_of_gt h0 this.symm

theorem iota_nodup (n : Nat) : (iota n).Nodup :=
  List.Pairwise.map Int.ofNat (fun _ _ h hab => h (Int.ofNat.inj hab)) List.nodup_range

theorem consts_are_java : toSpecConsts Gen.balancerConsts = Spec.javaConsts := by decide
theorem mask_is_toPositive : Gen.balancerConsts.mask = 0x7fffffff ∧ Gen.refHashMask = 0x7fffffff := by decide

/-- Atomicity facts (extracted on every run): `RoundRobin.balance` and `LeastBytes.Balance` run entirely
under their mutex, so concurrent calls are serialised and the call-sequence theorems (`roundRobin_*`, `leastBytes_min`)
apply to every interleaving.  (The mutex semantics itself is part of the trusted base.) -/
theorem balance_bodies_atomic : Gen.rrBalanceAtomic = true ∧ Gen.lbBalanceAtomic = true := by decide

theorem loadCached_iota (cache : Option Nat) (n : Nat) : (loadCachedPartitions cache n).2 = iota n := by
  obtain ⟨c, hc, h⟩ := loadCached_eq cache n
  rw [h, iota, ← List.map_take, List.take_range, Nat.min_eq_left hc]

/-- the cache invariant "holds `[0..c)`" is preserved: the new cache is again of that shape and large enough -/
theorem loadCached_cache (cache : Option Nat) (n : Nat) : ∃ c, (loadCachedPartitions cache n).1 = some c ∧ n ≤ c :=
  have ⟨c, hc, h⟩ := loadCached_eq cache n
  ⟨c, by rw [h], hc⟩

theorem murmur2Go_eq_java (key : Bytes) : murmur2Go Gen.balancerConsts key = Spec.murmur2 key := by
  rw [murmur2Go_eq_with, consts_are_java]; rfl

theorem random_offered (pick : Nat) (parts : List Int) (h0 : parts ≠ []) :
    ∃ p, randomBalance pick parts = some p ∧ p ∈ parts := by
  unfold randomBalance
  rw [if_neg (mt List.length_eq_zero_iff.mp h0)]
  exact mod_offered parts pick h0

theorem murmur2_offered (c : MConsts) (key : Option Bytes) (consistent : Bool) (pick : Nat) (parts : List Int)
    (h0 : parts ≠ []) (h : parts.length < 4294967296) :
    ∃ p, murmur2Balance c consistent pick key parts = some p ∧ p ∈ parts := by
  unfold murmur2Balance
  split
  · exact random_offered pick parts h0
  · exact u32_index_offered _ parts h0 h

theorem crc32_offered (key : Option Bytes) (consistent : Bool) (pick : Nat) (parts : List Int)
    (h0 : parts ≠ []) (h : parts.length < 4294967296) :
    ∃ p, crc32Balance consistent pick key parts = some p ∧ p ∈ parts := by
  unfold crc32Balance
  split
  · exact random_offered pick parts h0
  · exact u32_index_offered _ parts h0 h

/-- `Hash` returns an *index*; it is in `[0, n)` for every hash value and every `1 ≤ n < 2³¹`. -/
theorem hashIndex_range (sum : UInt32) (n : Nat) (h0 : 0 < n) (h : n < 2147483648) :
    0 ≤ hashIndex sum n ∧ hashIndex sum n < n := by
  unfold hashIndex
  rw [lenInt32_small n h]
  exact abs_tmod_range _ _ (by omega)

theorem refHashIndex_range (mask sum : UInt32) (n : Nat) (h0 : 0 < n) (h : n < 2147483648) :
    0 ≤ refHashIndex mask sum n ∧ refHashIndex mask sum n < n := by
  unfold refHashIndex
  rw [lenInt32_small n h]
  constructor
  · exact Int.tmod_nonneg _ (by omega)
  · exact Int.tmod_lt_of_pos _ (by omega)

theorem mem_iota (n : Nat) (x : Int) (h0 : 0 ≤ x) (h : x < n) : x ∈ iota n := by
  unfold iota
  rw [List.mem_map]
  exact ⟨x.toNat, List.mem_range.mpr (by omega), by simp; omega⟩

/-- with the partition list the Writer supplies, `Hash` (non-nil key) returns an offered partition -/
theorem hash_offered (rr : RoundRobin) (key : Bytes) (n : Nat) (h0 : 0 < n) (h : n < 2147483648) :
    ∃ p, (hashBalance rr (some key) (iota n)).2 = some p ∧ p ∈ iota n := by
  have := hashIndex_range (fnv1a32 key) n h0 h
  rw [hashBalance, iota_length, if_neg (Nat.ne_of_gt h0)]
  exact ⟨_, rfl, mem_iota n _ this.1 this.2⟩

theorem refhash_offered (mask : UInt32) (pick : Nat) (key : Option Bytes) (n : Nat) (h0 : 0 < n) (h : n < 2147483648) :
    ∃ p, refHashBalance mask pick key (iota n) = some p ∧ p ∈ iota n := by
  cases key with
  | none => exact random_offered pick _ (iota_ne_nil h0)
  | some k =>
    have := refHashIndex_range mask (fnv1a32 k) n h0 h
    rw [refHashBalance, iota_length, if_neg (Nat.ne_of_gt h0)]
    exact ⟨_, rfl, mem_iota n _ this.1 this.2⟩

/-- Java default partitioner: `toPositive(murmur2(key)) % n`; nil key is not hashed unless Consistent. -/
theorem murmur2_eq_java_partitioner (key : Bytes) (consistent : Bool) (pick : Nat) (n : Nat)
    (h0 : 0 < n) (h : n < 4294967296) :
    murmur2Balance Gen.balancerConsts consistent pick (some key) (iota n)
      = some (Int.ofNat (Spec.javaPartition (Spec.murmur2 key).toNat n)) := by
  unfold murmur2Balance
  rw [if_neg (by simp)]
  refine (u32_index_range _ n h0 h).trans ?_
  rw [mask_is_toPositive.1, mask31_toNat, keyBytes, murmur2Go_eq_java]
  rfl

theorem murmur2_nil_rule (pick : Nat) (parts : List Int) :
    murmur2Balance Gen.balancerConsts false pick none parts = randomBalance pick parts
    ∧ murmur2Balance Gen.balancerConsts true pick none parts
        = murmur2Balance Gen.balancerConsts true pick (some []) parts := by
  constructor
  · simp [murmur2Balance]
  · simp [murmur2Balance, keyBytes]

/-- librdkafka `consistent`: `crc32(key) % n` -/
theorem crc32_eq_librdkafka (key : Bytes) (hk : key ≠ []) (consistent : Bool) (pick : Nat) (n : Nat)
    (h0 : 0 < n) (h : n < 4294967296) :
    crc32Balance consistent pick (some key) (iota n)
      = some (Int.ofNat (Spec.rdkafkaConsistent (crc32IEEE key).toNat n)) := by
  unfold crc32Balance
  rw [if_neg (fun hc => hk (List.length_eq_zero_iff.mp hc.1))]
  exact u32_index_range _ n h0 h

/-- librdkafka `consistent_random`: NULL *and* empty keys are random; `consistent` hashes them alike -/
theorem crc32_empty_rule (pick : Nat) (parts : List Int) :
    crc32Balance false pick none parts = randomBalance pick parts
    ∧ crc32Balance false pick (some []) parts = randomBalance pick parts
    ∧ crc32Balance true pick none parts = crc32Balance true pick (some []) parts := by
  refine ⟨by simp [crc32Balance, keyLen], by simp [crc32Balance, keyLen], by simp [crc32Balance, keyLen, keyBytes]⟩

/-- Sarama `hashPartitioner` -/
theorem hash_eq_sarama (sum : UInt32) (n : Nat) (h : n < 2147483648) :
    hashIndex sum n = Spec.saramaHash sum.toNat n := by
  unfold hashIndex Spec.saramaHash
  rw [lenInt32_small n h, toInt32_eq_spec]

/-- Sarama `referenceHashPartitioner` -/
theorem refhash_eq_sarama (sum : UInt32) (n : Nat) (h : n < 2147483648) :
    refHashIndex Gen.refHashMask sum n = Int.ofNat (Spec.saramaRefHash sum.toNat n) := by
  unfold refHashIndex Spec.saramaRefHash Spec.two31
  rw [lenInt32_small n h, mask_is_toPositive.2, mask31_toNat]
  simp
  rfl

/-- nil-key rules of the FNV balancers: `Hash` → round robin, `ReferenceHash` → random -/
theorem hash_nil_rule (rr : RoundRobin) (mask : UInt32) (pick : Nat) (parts : List Int) :
    hashBalance rr none parts = rr.balance parts ∧ refHashBalance mask pick none parts = randomBalance pick parts :=
  ⟨rfl, rfl⟩

/-- (`key ≠ []` is needed for `crc32Balance` only, which sends an empty key to the random branch unless `consistent`) -/
theorem hashed_pure (c : MConsts) (key : Bytes) (parts : List Int) (rr₁ rr₂ : RoundRobin) (p₁ p₂ : Nat)
    (cons₁ cons₂ : Bool) (mask : UInt32) (hk : key ≠ []) :
    (hashBalance rr₁ (some key) parts).2 = (hashBalance rr₂ (some key) parts).2
    ∧ refHashBalance mask p₁ (some key) parts = refHashBalance mask p₂ (some key) parts
    ∧ crc32Balance cons₁ p₁ (some key) parts = crc32Balance cons₂ p₂ (some key) parts
    ∧ murmur2Balance c cons₁ p₁ (some key) parts = murmur2Balance c cons₂ p₂ (some key) parts := by
  have hkl : ¬ keyLen (some key) = 0 := fun h => hk (List.length_eq_zero_iff.mp h)
  refine ⟨?_, rfl, ?_, ?_⟩
  · simp only [hashBalance]; split <;> rfl
  · simp only [crc32Balance, hkl, false_and, if_false]
  · simp only [murmur2Balance, reduceCtorEq, false_and, if_false]

/-- A user-supplied Hasher: the result never depends on what the hasher processed before (it is Reset on every
call — extracted fact `hasher_reset_unconditional`). -/
theorem custom_hasher_pure {σ : Type} (h : Hasher σ) (st₁ st₂ : σ) (key : Bytes) (n : Nat) (mask : UInt32) :
    (hashBalanceWith h st₁ key n).2 = (hashBalanceWith h st₂ key n).2
    ∧ (refHashBalanceWith h mask st₁ key n).2 = (refHashBalanceWith h mask st₂ key n).2 := ⟨rfl, rfl⟩

/-- with `fnv.New32a()` as the user-supplied Hasher the result is the default one -/
theorem custom_fnv_eq_default (st : UInt32) (key : Bytes) (n : Nat) (mask : UInt32) :
    (hashBalanceWith fnvHasher st key n).2 = hashIndex (fnv1a32 key) n
    ∧ (refHashBalanceWith fnvHasher mask st key n).2 = refHashIndex mask (fnv1a32 key) n := ⟨rfl, rfl⟩

theorem hasher_reset_unconditional : Gen.hashResetsFirst = true ∧ Gen.refHashResetsFirst = true := by decide

/-- `hashIndex_range` at the sum 0x80000000 = `int32` −2³¹, where negating BEFORE the modulo would overflow: the code takes the
remainder first -/
theorem hashIndex_minInt32 (n : Nat) (h0 : 0 < n) (h : n < 2147483648) :
    0 ≤ hashIndex 0x80000000 n ∧ hashIndex 0x80000000 n < n := hashIndex_range _ n h0 h

example : hashIndex 0x80000000 3 = 2 ∧ hashIndex 0xFFFFFFFF 3 = 1 ∧ refHashIndex 0x7fffffff 0x80000000 3 = 0 := by decide

/-- For a fresh RoundRobin with `ChunkSize ≥ 1` on a fixed non-empty list, call number `j` (from 0) returns
`parts[(j / ChunkSize) % |parts|]`: runs of ChunkSize calls on one partition, cycling through the list in order — for the
first 2⁶⁴ calls (the call counter is a Go `uint64`; at one call per nanosecond that is 584 years, so the bound is an
assumption about physics, recorded in the evidence; `roundRobin_wrap64_counterexample` shows what happens beyond).  No
bound on ChunkSize.  With a `uint32` counter (`RoundRobinLegacy`) the cycle breaks at 2³²: `roundRobin_legacy_wrap_counterexample`. -/
theorem roundRobin_cycle (parts : List Int) (hp : parts ≠ []) (ch : Int) (h1 : 1 ≤ ch) (n : Nat) (hn : n ≤ two64) :
    (RoundRobin.run (RoundRobin.fresh ch) parts n).2 = (List.range n).map (fun j => parts[(j / ch.toNat) % parts.length]?) := by
  have := rr_run parts hp ch h1 n 0 (RoundRobin.fresh ch) rfl (fun _ => rfl) (by omega)
  simpa using this

/-- the same from any point of the cycle: a balancer that is where `calls` calls leave it continues the cycle at call
number `calls` — in particular across 2³² and 2⁶³ calls -/
theorem roundRobin_cycle_from (parts : List Int) (hp : parts ≠ []) (ch : Int) (h1 : 1 ≤ ch) (calls n : Nat)
    (hn : calls + n ≤ two64) :
    (RoundRobin.run (RoundRobin.placed ch calls parts.length) parts n).2 =
      (List.range n).map (fun j => parts[((calls + j) / ch.toNat) % parts.length]?) := by
  have hlt : 0 < n → calls % two64 = calls := fun h => Nat.mod_eq_of_lt (by omega)
  exact rr_run parts hp ch h1 n calls _ rfl (fun h => by simp [RoundRobin.placed, hlt h]) hn

/-- one balancer shared by several topics (the Writer's default, the hash balancers' fallback for messages without key):
whatever non-empty list each call is offered, the j-th call answers from the GLOBAL call number,
`lists[j][(j / ChunkSize) % |lists[j]|]` — so the messages of every topic keep moving over all of its partitions (a
balancer that keeps a position instead, `RoundRobinPos`, does not: `roundRobin_pos_starves_counterexample`). -/
theorem roundRobin_shared (lists : List (List Int)) (hne : ∀ l ∈ lists, l ≠ []) (ch : Int) (h1 : 1 ≤ ch)
    (hn : lists.length ≤ two64) (j : Nat) (hj : j < lists.length) :
    ((RoundRobin.fresh ch).runVar lists)[j]? = some (lists[j][(j / ch.toNat) % lists[j].length]?) := by
  have := rr_runVar ch h1 lists 0 (RoundRobin.fresh ch) rfl (fun _ => rfl) hne (by omega) j hj
  simpa using this

/-- every RoundRobin call returns an offered partition (any state, any chunk size) -/
theorem roundRobin_offered (rr : RoundRobin) (parts : List Int) (hp : parts ≠ []) :
    ∃ p, (rr.balance parts).2 = some p ∧ p ∈ parts := by
  unfold RoundRobin.balance
  rw [if_neg (mt List.length_eq_zero_iff.mp hp)]
  exact mod_offered parts _ hp

/-- RoundRobin when the partition list changes between calls (grows, shrinks in the middle of a chunk): the j-th answer
is one of the partitions offered to the j-th call, from any state -/
theorem roundRobin_var_offered (lists : List (List Int)) (hne : ∀ l ∈ lists, l ≠ []) :
    ∀ (rr : RoundRobin) (j : Nat) (hj : j < lists.length),
      ∃ p, (rr.runVar lists)[j]? = some (some p) ∧ p ∈ lists[j] := by
  induction lists with
  | nil => intro rr j hj; simp at hj
  | cons l rest ih =>
    intro rr j hj
    simp only [RoundRobin.runVar]
    cases j with
    | zero =>
      obtain ⟨p, hp, hm⟩ := roundRobin_offered rr l (hne l (List.mem_cons_self ..))
      exact ⟨p, by simp [hp], by simpa using hm⟩
    | succ k =>
      obtain ⟨p, hp, hm⟩ := ih (fun l' h => hne l' (List.mem_cons_of_mem _ h)) (rr.balance l).1 k (by simpa using hj)
      exact ⟨p, by simpa using hp, by simpa using hm⟩

/-- `ChunkSize < 1` behaves as `ChunkSize = 1` -/
theorem roundRobin_chunk_default (c : Int) (hc : c < 1) (ctr : Nat) (parts : List Int) :
    (RoundRobin.balance ⟨c, ctr⟩ parts).2 = (RoundRobin.balance ⟨1, ctr⟩ parts).2 := by
  simp [RoundRobin.balance, hc]

/-- a `uint32` call counter (`RoundRobinLegacy`) fails at the 2³² wrap — with 3 partitions and ChunkSize 1 two consecutive
calls return the same partition; the `uint64` counter continues the cycle there. -/
theorem roundRobin_legacy_wrap_counterexample :
    (RoundRobinLegacy.run ⟨1, 4294967295⟩ [0, 1, 2] 2).2 = [some 0, some 0] ∧
    (RoundRobin.run (RoundRobin.placed 1 4294967295 3) [0, 1, 2] 2).2 = [some 0, some 1] := by decide

/-- `RoundRobinPos` keeps a position instead of the call number: alternating a 3-partition and a 5-partition topic
through one balancer it never sends anything to partitions 1 of the first and 0, 2, 4 of the second; `RoundRobin`
visits them -/
theorem roundRobin_pos_starves_counterexample :
    let lists : List (List Int) := (List.range 12).map (fun j => if j % 2 = 0 then [0, 1, 2] else [0, 1, 2, 3, 4])
    (RoundRobinPos.runVar ⟨1, 0, 0⟩ lists) =
      [some 0, some 1, some 2, some 3, some 0, some 1, some 2, some 3, some 0, some 1, some 2, some 3] ∧
    ((RoundRobin.fresh 1).runVar lists) =
      [some 0, some 1, some 2, some 3, some 1, some 0, some 0, some 2, some 2, some 4, some 1, some 1] := by decide

/-- beyond 2⁶⁴ calls the 64-bit counter wraps as the 32-bit one did (outside the hypothesis of `roundRobin_cycle`) -/
theorem roundRobin_wrap64_counterexample :
    (RoundRobin.run ⟨1, 18446744073709551615⟩ [0, 1, 2] 2).2 = [some 0, some 0] := by decide

/-- states reachable from a fresh `LeastBytes` by calls with a fixed partition list, with the history
of (returned partition, message size), most recent first -/
inductive LBReach (parts : List Int) : LeastBytes → List (Int × Nat) → Prop
  | init : LBReach parts ⟨[]⟩ []
  | step (lb : LeastBytes) (hist : List (Int × Nat)) (sz : Nat) (p : Int) :
      LBReach parts lb hist → (lb.balance sz parts).2 = some p →
      LBReach parts (lb.balance sz parts).1 ((p, sz) :: hist)

theorem lbReach_inv (parts : List Int) (hp : parts ≠ []) (hnd : parts.Nodup) (lb : LeastBytes) (hist : List (Int × Nat))
    (hr : LBReach parts lb hist) : (lb = ⟨[]⟩ ∧ hist = []) ∨ LBInv lb parts hist := by
  induction hr with
  | init => exact .inl ⟨rfl, rfl⟩
  | step lb hist sz p _ hres ih =>
    obtain ⟨q, hq, _, _, hinv⟩ := lb_step_start lb parts hist sz hp hnd ih
    cases hq.symm.trans hres
    exact .inr hinv

/-- In every reachable state, the next call returns an offered partition whose routed-bytes total is
minimal among all offered partitions; (with `lbReach_inv`) every counter equals the bytes routed. -/
theorem leastBytes_min (parts : List Int) (hp : parts ≠ []) (hnd : parts.Nodup) (lb : LeastBytes)
    (hist : List (Int × Nat)) (hr : LBReach parts lb hist) (sz : Nat) :
    ∃ p, (lb.balance sz parts).2 = some p ∧ p ∈ parts ∧ ∀ q, q ∈ parts → routed hist p ≤ routed hist q :=
  have ⟨q, hq, hm, hmin, _⟩ := lb_step_start lb parts hist sz hp hnd (lbReach_inv parts hp hnd lb hist hr)
  ⟨q, hq, hm, hmin⟩

/-- metadata as a broker answers it: a topic entry without error lists at least one partition (assumption about the
broker, recorded in the evidence; the Writer does not check it) -/
def MetaWF (resp : List MetaTopic) : Prop := ∀ t ∈ resp, t.err = 0 → 0 < t.nparts

/-- a topic-level error code in the metadata answer is returned as the error and the balancer is NOT called
(no list, in particular no empty list, is offered) -/
theorem writer_error_no_offer (cache : Option Nat) (resp : List MetaTopic) (topic : String) (t : MetaTopic)
    (hf : resp.find? (·.name == topic) = some t) (he : t.err ≠ 0) :
    writerOffer cache resp topic = .error t.err := by
  simp [writerOffer, writerPartitions, hf, he]

/-- no entry for the topic: `UnknownTopicOrPartition`, no call -/
theorem writer_missing_topic (cache : Option Nat) (resp : List MetaTopic) (topic : String)
    (hf : resp.find? (·.name == topic) = none) : writerOffer cache resp topic = .error 3 := by
  simp [writerOffer, writerPartitions, hf]

/-- every list a Writer offers is `[0, …, n-1]` for the partition count of the topic's entry: non-empty (for
well-formed metadata), duplicate-free, and of the entry's length — the hypotheses of the per-balancer theorems above. -/
theorem writer_offer_shape (cache : Option Nat) (resp : List MetaTopic) (topic : String) (l : List Int)
    (hwf : MetaWF resp) (ho : writerOffer cache resp topic = .ok l) :
    ∃ t, resp.find? (·.name == topic) = some t ∧ t.err = 0 ∧ l = iota t.nparts ∧ l ≠ [] ∧ l.Nodup := by
  unfold writerOffer writerPartitions at ho
  cases hf : resp.find? (·.name == topic) with
  | none => simp [hf] at ho
  | some t =>
    by_cases he : t.err = 0
    · have hpos : 0 < t.nparts := hwf t (List.mem_of_find?_eq_some hf) he
      simp only [hf, he, ne_eq, not_true_eq_false, if_false, Except.ok.injEq] at ho
      subst ho
      rw [loadCached_iota]
      exact ⟨t, rfl, he, rfl, iota_ne_nil hpos, iota_nodup _⟩
    · simp [hf, he] at ho

/-- the built-in balancers answer with a member of the list a Writer offers (keyed Hash as the instance; the other
balancers' theorems apply to the same list through `writer_offer_shape`) -/
theorem writer_hash_lands_in_offer (cache : Option Nat) (resp : List MetaTopic) (topic : String) (l : List Int)
    (hwf : MetaWF resp) (ho : writerOffer cache resp topic = .ok l) (hlen : l.length < 2147483648)
    (rr : RoundRobin) (key : Bytes) :
    ∃ p, (hashBalance rr (some key) l).2 = some p ∧ p ∈ l := by
  obtain ⟨t, hf, he, rfl, _, _⟩ := writer_offer_shape cache resp topic l hwf ho
  exact hash_offered rr key t.nparts (hwf t (List.mem_of_find?_eq_some hf) he) (by rwa [iota_length] at hlen)

/-- regenerated on every run: along both paths of both methods the hasher is acquired (h.lock resp. fnv1aPool.Get)
before its first use and released only by a deferred Unlock / Put, i.e. after the last use; the methods have pointer
receivers (the lock that is taken is the shared one, not a copy). -/
theorem hasher_paths_owned :
    ownedThroughout Gen.hashCustomPath = true ∧ ownedThroughout Gen.hashPooledPath = true ∧
    ownedThroughout Gen.refHashCustomPath = true ∧ ownedThroughout Gen.refHashPooledPath = true ∧
    Gen.hashPtrRecv = true ∧ Gen.refHashPtrRecv = true := by decide

/-- the paths are not empty shells: each contains the three uses Reset / Write / Sum32 -/
theorem hasher_paths_use :
    ∀ path ∈ [Gen.hashCustomPath, Gen.hashPooledPath, Gen.refHashCustomPath, Gen.refHashPooledPath],
      3 ≤ (path.filter (· == OwnEv.use)).length := by decide

/-- what `ownedThroughout` means: at every use the caller is between its acquire and its release -/
theorem owned_use_is_held (es : List OwnEv) (h : ownedThroughout es = true) (pre post : List OwnEv)
    (he : es = pre ++ OwnEv.use :: post) : holdingAfter pre false = true :=
  ownedRun_use_held es false false h pre post he

/-- the pool side, for every sequence of Get / Put / discard events of any number of callers: an object held by one
caller is held by no other and is not lying in the pool (so no later Get can hand it out before its Put).  Together
with `hasher_paths_owned` + `owned_use_is_held`: Reset; Write; Sum32 of one Balance call are never interleaved with
another call's operations on the same hasher, so the sequential theorems (`hash_eq_sarama`, `refhash_eq_sarama`,
`hashed_pure`) describe every interleaving.  `sync.Pool` (Get returns a pooled or a fresh object, never one that is
checked out) and `sync.Mutex` are trusted. -/
theorem pool_exclusive (evs : List PoolEv) (p : Pool) (hr : Pool.init.run evs = some p) :
    (∀ c o c', (c, o) ∈ p.held → (c', o) ∈ p.held → c = c') ∧ (∀ c o, (c, o) ∈ p.held → o ∉ p.free) := by
  have hi := Pool.inv_run evs Pool.init p Pool.inv_init hr
  exact ⟨hi.excl, hi.notFree⟩

/-- sharpness: a Put that is not deferred (the hasher goes back before it is used) is rejected by the discipline, and
in the pool model a second caller then obtains the very object the first one is still using -/
theorem early_put_counterexample :
    ownedThroughout [.acquire, .release, .use, .use, .use] = false ∧
    (∃ p, Pool.init.run [.get 1 none, .put 1, .get 2 (some 0)] = some p ∧ (2, 0) ∈ p.held) := by
  refine ⟨by decide, ⟨_, rfl, by decide⟩⟩

/-! Non-vacuity: concrete values meet the hypotheses and exercise the definitions -/

example : (iota 3) ≠ [] ∧ (iota 3).length < 4294967296 ∧ (iota 3).Nodup := by decide
example : murmur2Balance Gen.balancerConsts false 0 (some [0x6b, 0x61, 0x66, 0x6b, 0x61]) (iota 7) = some 3 := by decide
example : (RoundRobin.run (RoundRobin.fresh 2) [10, 20, 30] 7).2 = [some 10, some 10, some 20, some 20, some 30, some 30, some 10] := by decide
example : ((⟨[]⟩ : LeastBytes).balance 5 [2, 0, 1]).2 = some 0 := by decide
example : LBReach [2, 0, 1] ((⟨[]⟩ : LeastBytes).balance 5 [2, 0, 1]).1 [(0, 5)] :=
  LBReach.step ⟨[]⟩ [] 5 0 LBReach.init (by decide)
example : MetaWF [⟨"decoy", 0, 7⟩, ⟨"t", 0, 3⟩] ∧ writerOffer none [⟨"decoy", 0, 7⟩, ⟨"t", 0, 3⟩] "t" = .ok [0, 1, 2] := by
  refine ⟨by intro t ht h; simp at ht; rcases ht with rfl | rfl <;> decide, by rfl⟩
example : writerOffer none [⟨"t", 5, 0⟩] "t" = .error 5 := by rfl
example : ∃ p, Pool.init.run [.get 1 none, .get 2 none, .put 1, .get 3 (some 0)] = some p ∧ p.held = [(3, 0), (2, 1)] :=
  ⟨_, rfl, rfl⟩

end KV.C13
