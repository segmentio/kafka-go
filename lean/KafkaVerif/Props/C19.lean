/-
Props/C19.lean — Offset and metadata queries report exactly the brokers' state.

Over Model/ListOffsets.lean, Model/Seek.lean and Model/Mappings.lean, with the tables and the Seek decision tree
regenerated from /repo in Gen/Offsets.lean (go/ast over conn.go, reader.go, protocol/listoffsets) and Gen/Mappings.lean; the
reference side is Spec/Offsets.lean.
-/
import KafkaVerif.Spec.Offsets
import KafkaVerif.Lemmas.ListOffsets
import KafkaVerif.Lemmas.Seek
import KafkaVerif.Lemmas.Mappings
import KafkaVerif.Base.Run
import KafkaVerif.Spec.FieldMaps
import KafkaVerif.Gen.Mappings

namespace KV.Props.C19
open KV.ListOffsets KV.Seek
open KV.Spec.Offsets (seekTarget)
open KV.Lemmas.Seek

/-- the single-partition request Split builds for one requested entry -/
def single (r : Request) (tp : String × ReqPart) : Request :=
  { replicaID := r.replicaID, isolation := r.isolation, topics := [(tp.1, [tp.2])] }

theorem split_single (r : Request) : split r = (flat r).map (single r) := rfl

theorem split_covers (r : Request) : (split r).flatMap flat = flat r := by
  rw [split_single]
  induction flat r with
  | nil => rfl
  | cons tp tps ih =>
    simp only [List.map_cons, List.flatMap_cons, ih]
    simp [single, flat]

/-- outcome of one part as the transport hands it to Merge -/
inductive Sub where
  | answered (throttle : Int) (a : ResPart)   -- the leader's answer for that partition
  | failed (e : String)                        -- the part could not be sent / was refused / timed out
  deriving Repr, Inhabited

def Sub.result (t : String) : Sub → Result
  | .answered th a => .ok { throttle := th, topics := [(t, [a])] }
  | .failed e => .err e

/-- the broker answered about the partition it was asked about -/
def Sub.WF (tp : String × ReqPart) : Sub → Prop
  | .answered _ a => a.partition = tp.2.partition
  | .failed _ => True

/-- the one entry the merged response must hold for a requested entry -/
def expected (x : (String × ReqPart) × Sub) : String × ResPart :=
  match x.2 with
  | .answered _ a => (x.1.1, { a with timestamp := x.1.2.timestamp })
  | .failed _ => (x.1.1, placeholder x.1.2)

theorem requestedTs_single (r : Request) (tp : String × ReqPart) :
    requestedTs (single r tp) tp.1 tp.2.partition = some tp.2.timestamp := by
  simp [requestedTs, single, flat]

theorem entriesOf_single (r : Request) (x : (String × ReqPart) × Sub) (h : x.2.WF x.1) :
    entriesOf (single r x.1) (x.2.result x.1.1) = [expected x] := by
  obtain ⟨tp, s⟩ := x
  cases s with
  | failed e => simp [Sub.result, entriesOf, single, flat, expected]
  | answered th a =>
    have ha : a.partition = tp.2.partition := h
    have := requestedTs_single r tp
    simp only [Sub.result, entriesOf, expected, List.flatMap_cons, List.flatMap_nil, List.map_cons, List.map_nil,
      List.append_nil, ha, this]

/-- **Exactly one entry per requested (topic, partition, timestamp)**, carrying that part's result with the
requested timestamp restored, or the placeholder of that partition when the part failed; in request order. -/
theorem entries_exact (r : Request) (xs : List ((String × ReqPart) × Sub)) (hwf : ∀ x ∈ xs, x.2.WF x.1) :
    entries (xs.map fun x => single r x.1) (xs.map fun x => x.2.result x.1.1) = xs.map expected := by
  induction xs with
  | nil => rfl
  | cons x xs ih =>
    simp only [List.map_cons, entries]
    rw [entriesOf_single r x (hwf x List.mem_cons_self), ih (fun y hy => hwf y (List.mem_cons_of_mem _ hy))]
    rfl

def Sub.isFailed : Sub → Bool
  | .failed _ => true
  | .answered _ _ => false

theorem isErr_result (t : String) (s : Sub) : isErr (s.result t) = s.isFailed := by
  cases s <;> rfl

theorem filter_isErr_length (xs : List ((String × ReqPart) × Sub)) :
    ((xs.map fun x => x.2.result x.1.1).filter isErr).length = (xs.filter fun x => x.2.isFailed).length := by
  induction xs with
  | nil => rfl
  | cons x xs ih =>
    simp only [List.map_cons, List.filter_cons, isErr_result]
    split <;> simp [ih]

/-- For a request `r` whose parts (`xs` pairs every requested entry, in order, with the outcome
of its part) did not all fail, Merge succeeds and the merged response holds exactly the expected entries
(a permutation: grouping by topic and sorting neither lose, duplicate nor alter entries). -/
theorem split_merge (r : Request) (xs : List ((String × ReqPart) × Sub))
    (hreq : xs.map (·.1) = flat r) (hwf : ∀ x ∈ xs, x.2.WF x.1)
    (hsome : ∃ x ∈ xs, x.2.isFailed = false) :
    ∃ resp, merge (split r) (xs.map fun x => x.2.result x.1.1) = .ok resp ∧
      (flatRes resp.topics).Perm (xs.map expected) := by
  have hsplit : split r = xs.map fun x => single r x.1 := by
    rw [split_single, ← hreq, List.map_map]; rfl
  have hne : (xs.filter fun x => x.2.isFailed).length ≠ xs.length := fun heq => by
    obtain ⟨x, hx, hf⟩ := hsome
    simpa [hf] using List.length_filter_eq_length_iff.mp heq x hx
  refine ⟨{ throttle := maxThrottle 0 (xs.map fun x => x.2.result x.1.1),
            topics := group (entries (split r) (xs.map fun x => x.2.result x.1.1)) }, ?_, ?_⟩
  · simp [merge, filter_isErr_length, hne]
  · show (flatRes (group _)).Perm _
    rw [hsplit, entries_exact r xs hwf]
    exact Lemmas.ListOffsets.group_perm _

/-- every part failed → Merge returns the first part's error -/
theorem split_merge_all_failed (reqs : List Request) (e : String) (rs : List Result)
    (hall : ∀ x ∈ rs, isErr x = true) : merge reqs (.err e :: rs) = .error e := by
  unfold merge
  have : ((Result.err e :: rs).filter isErr).length = (Result.err e :: rs).length := by
    apply List.length_filter_eq_length_iff.mpr
    intro x hx
    rcases List.mem_cons.mp hx with rfl | hx
    · rfl
    · exact hall x hx
  simp [this]

example : (match merge [] [.err "dial", .err "timeout"] with | .error e => e | .ok _ => "") = "dial" := by decide +kernel

/-- a failure (or any change) of one part alters the expected entry of that part only.  The statement is about the list of
expected entries alone (`List.map_set`); that this list is what Merge produces is `entries_exact` / `split_merge`. -/
theorem failure_isolated (xs : List ((String × ReqPart) × Sub)) (i : Nat) (s' : Sub) (tp : String × ReqPart) :
    (xs.set i (tp, s')).map expected = (xs.map expected).set i (expected (tp, s')) := by
  simp [List.map_set]

/-- a concrete request over two topics and two leaders, one part failing -/
example :
    let r : Request := ⟨-1, 0, [("a", [⟨0, -1, -2⟩, ⟨1, -1, 1234⟩]), ("b", [⟨0, -1, -1⟩])]⟩
    (match merge (split r) [.ok ⟨0, [("a", [⟨0, 0, -1, 5, 0⟩])]⟩, .err "dial", .ok ⟨3, [("b", [⟨0, 0, -1, 99, 0⟩])]⟩] with
      | .ok resp => some resp | .error _ => none)
      = some ⟨3, [("a", [⟨0, 0, -2, 5, 0⟩, ⟨1, -1, -1, -1, -1⟩]), ("b", [⟨0, 0, -1, 99, 0⟩])]⟩ := by
  decide +kernel

/-- the throttle Merge reports (`maxThrottle 0` of the parts' results) is at least every answered part's throttle -/
theorem merge_throttle (rs : List Result) (start : Int) :
    start ≤ maxThrottle start rs ∧
    (∀ res, Result.ok res ∈ rs → res.throttle ≤ maxThrottle start rs) := by
  induction rs generalizing start with
  | nil => exact ⟨Int.le_refl _, fun _ h => by cases h⟩
  | cons r rs ih =>
    -- one step raises the running maximum to at least `r`'s throttle
    obtain ⟨s', hs', hstart, hr⟩ : ∃ s', maxThrottle start (r :: rs) = maxThrottle s' rs ∧ start ≤ s' ∧
        ∀ res, r = .ok res → res.throttle ≤ s' := by
      cases r with
      | err e => exact ⟨start, rfl, Int.le_refl _, fun _ h => by cases h⟩
      | ok res0 =>
        refine ⟨if start < res0.throttle then res0.throttle else start, rfl, ?_, ?_⟩
        · split <;> omega
        · rintro res ⟨⟩; split <;> omega
    rw [hs']
    obtain ⟨h1, h2⟩ := ih s'
    refine ⟨Int.le_trans hstart h1, fun res hres => ?_⟩
    rcases List.mem_cons.mp hres with h | h
    · exact Int.le_trans (hr res h.symm) h1
    · exact h2 res h

def _root_.KV.Seek.Outcome.toSpec : Outcome → KV.Spec.Offsets.SeekResult
  | .ok n => .ok n
  | .outOfRange => .outOfRange
  | .readError => .readError
  | .badWhence => .badWhence

@[simp] theorem toSpec_ok (n : Int) : (Outcome.ok n).toSpec = .ok n := rfl
@[simp] theorem toSpec_oor : Outcome.outOfRange.toSpec = .outOfRange := rfl
@[simp] theorem toSpec_re : Outcome.readError.toSpec = .readError := rfl
@[simp] theorem toSpec_bw : Outcome.badWhence.toSpec = .badWhence := rfl

theorem toSpec_checked (offs : Offsets) (t : Int → Int → Int) :
    (checked offs t).toSpec = match offs with
      | none => .readError
      | some (f, l) => if f ≤ t f l ∧ t f l ≤ l then .ok (t f l) else .outOfRange := by
  rcases offs with _ | ⟨f, l⟩
  · rfl
  · by_cases h : t f l < f ∨ l < t f l
    · simp only [checked, if_pos h, if_neg (show ¬ (f ≤ t f l ∧ t f l ≤ l) by omega)]; rfl
    · simp only [checked, if_neg h, if_pos (show f ≤ t f l ∧ t f l ≤ l by omega)]; rfl

/-- In every whence mode (SeekStart, SeekAbsolute, SeekEnd, SeekCurrent, each with and
without SeekDontCheck) Seek does what the reference `Spec.seekSpec` says: the new offset is the position the
mode designates (first+off, off, last−off, cur+off), accepted iff it lies in [first, last] as reported by the
broker unless the call is one of the documented unchecked shortcuts; a failed offset lookup is the only other
failure; other whence values are refused. -/
theorem seek_correct (cur off w : Int) (dc : Bool) (offs : Offsets) :
    (seek cur off w dc offs).toSpec = KV.Spec.Offsets.seekSpec cur off w dc offs := by
  by_cases hw : w = 0 ∨ w = 1 ∨ w = 2 ∨ w = 3
  · -- at a concrete whence the reference evaluates to the same shortcut / range check
    rcases hw with rfl | rfl | rfl | rfl
    · rw [seek_start, toSpec_checked]; rcases offs with _ | ⟨f, l⟩ <;> cases dc <;> rfl
    · rw [seek_absolute]
      cases dc
      · by_cases h : off = cur
        · simp [h, KV.Spec.Offsets.seekSpec, KV.Spec.Offsets.unchecked, seekTarget]
        · rw [if_neg (by simp [h]), toSpec_checked]
          rcases offs with _ | ⟨f, l⟩ <;> simp [h, KV.Spec.Offsets.seekSpec, KV.Spec.Offsets.unchecked, seekTarget]
      · rfl
    · rw [seek_end, toSpec_checked]; rcases offs with _ | ⟨f, l⟩ <;> cases dc <;> rfl
    · rw [seek_current]
      cases dc
      · rw [if_neg Bool.false_ne_true, toSpec_checked]; rcases offs with _ | ⟨f, l⟩ <;> rfl
      · rfl
  · rw [seek_badWhence _ _ _ _ _ hw]
    simp [KV.Spec.Offsets.seekSpec, whence_test_false hw]

/-- a model outcome as an outcome of the symbolically executed Seek: on success the value returned is the new offset -/
def liftOutcome : Outcome → KV.Gen.Offsets.SeekOut
  | .ok n => .ok n n
  | .badWhence => .badWhence
  | .outOfRange => .outOfRange
  | .readError => .readError

/-- the decision tree obtained by executing conn.go (*Conn).Seek symbolically equals the hand-written model on every
input; in particular the value returned is always the connection's new offset.  At a concrete whence (and flag, and
lookup result) every test of `seekSrc` on them evaluates, so the tree reduces by `rfl` to the one range check left; only
the absolute seek keeps a test on variables (`off = cur`). -/
theorem seek_src_eq (cur off w : Int) (dc : Bool) (offs : Offsets) :
    KV.Gen.Offsets.seekSrc cur off w dc offs = liftOutcome (seek cur off w dc offs) := by
  have hchk : ∀ (offs : Offsets) (t : Int → Int → Int), liftOutcome (checked offs t) = match offs with
      | none => .readError
      | some (f, l) => if t f l < f ∨ l < t f l then .outOfRange else .ok (t f l) (t f l) := by
    rintro (_ | ⟨f, l⟩) t
    · rfl
    · exact apply_ite liftOutcome _ _ _
  by_cases hw : w = 0 ∨ w = 1 ∨ w = 2 ∨ w = 3
  · rcases hw with rfl | rfl | rfl | rfl
    · rw [seek_start, hchk]; rcases offs with _ | ⟨f, l⟩ <;> cases dc <;> rfl
    · rw [seek_absolute]
      cases dc
      · by_cases h : off = cur
        · subst h; rw [if_pos (Or.inr rfl)]; exact if_pos rfl
        · rw [if_neg (by simp [h]), hchk]
          refine (if_neg h).trans ?_
          rcases offs with _ | ⟨f, l⟩ <;> rfl
      · rfl
    · rw [seek_end, hchk]; rcases offs with _ | ⟨f, l⟩ <;> cases dc <;> rfl
    · rw [seek_current]
      cases dc
      · rw [if_neg Bool.false_ne_true, hchk]; rcases offs with _ | ⟨f, l⟩ <;> rfl
      · rfl
  · rw [seek_badWhence _ _ _ _ _ hw]; exact if_neg hw

/-- The regenerated decision tree of (*Conn).Seek meets the reference on every input, and the
value it returns is the connection's new offset -/
theorem seek_src_correct (cur off w : Int) (dc : Bool) (offs : Offsets) :
    match KV.Gen.Offsets.seekSrc cur off w dc offs with
    | .ok n r => r = n ∧ KV.Spec.Offsets.seekSpec cur off w dc offs = .ok n
    | .badWhence => KV.Spec.Offsets.seekSpec cur off w dc offs = .badWhence
    | .outOfRange => KV.Spec.Offsets.seekSpec cur off w dc offs = .outOfRange
    | .readError => KV.Spec.Offsets.seekSpec cur off w dc offs = .readError := by
  rw [seek_src_eq, ← seek_correct]
  cases seek cur off w dc offs
  · exact ⟨rfl, rfl⟩
  all_goals rfl

example : seek 7 3 2 false (some (0, 100)) = .ok 97 := by decide +kernel
example : seek 7 3 3 true none = .ok 10 := by decide +kernel
example : seek 7 200 1 false (some (0, 100)) = .outOfRange := by decide +kernel
example : KV.Spec.Offsets.seekSpec 7 3 2 false (some (0, 100)) = .ok 97 := by decide +kernel

/-- the new connection offset of a call: unchanged unless the call succeeded -/
def offsetAfter (cur : Int) : Outcome → Int
  | .ok n => n
  | _ => cur

/-- `offsetAfter` on a failed call.  The model `seek` returns an outcome and holds no connection state: that a failed
Seek leaves `c.offset` alone is the convention `offsetAfter` writes down, not a fact derived from the source. -/
theorem seek_no_change_on_error (cur off w : Int) (dc : Bool) (offs : Offsets)
    (h : ∀ n, seek cur off w dc offs ≠ .ok n) : offsetAfter cur (seek cur off w dc offs) = cur := by
  cases hs : seek cur off w dc offs with
  | ok n => exact absurd hs (h n)
  | _ => rfl

/-- Conn.Offset followed by an unchecked absolute Seek restores a concrete offset -/
theorem offset_roundtrip (cur : Int) (h : cur ≠ -2 ∧ cur ≠ -1) :
    seek 0 (offsetOf cur).1 (offsetOf cur).2 true none = .ok cur := by
  have : offsetOf cur = (cur, 1) := by
    simp [offsetOf, h, KV.Gen.Offsets.firstOffset, KV.Gen.Offsets.lastOffset, seekAbsolute, KV.Gen.Offsets.seekAbsolute]
  rw [this, seek_absolute]
  rfl

/-- the source's Merge sorts topics by name and partitions by (Partition, Offset) — the keys `group` / `partLt`
use — and Split copies only header fields and per-partition fields the model's `split` copies (tolerant: fewer visible
fields never alarm, a foreign sort key or copied field does) -/
theorem merge_split_shape :
    (KV.Gen.Offsets.mergeSortFields.all fun f => ["Topic", "Partition", "Offset"].contains f) = true ∧
    (KV.Gen.Offsets.splitRequestFields.all fun f => ["IsolationLevel", "ReplicaID", "Topics"].contains f) = true ∧
    (KV.Gen.Offsets.splitInnerFields.all fun f =>
      ["CurrentLeaderEpoch", "Partition", "Partitions", "Timestamp", "Topic"].contains f) = true := by
  decide +kernel

/-- the placeholder of a failed part is Kafka's UNKNOWN (−1) with no offset, timestamp or epoch, on the failed
partition; the sentinel timestamps and whence values are the documented ones -/
theorem regenerated_constants (p : ReqPart) :
    placeholder p = ⟨p.partition, -1, -1, -1, -1⟩ ∧ firstOffset = -2 ∧ lastOffset = -1 ∧
    seekStart = 0 ∧ seekAbsolute = 1 ∧ seekEnd = 2 ∧ seekCurrent = 3 ∧ dontCheckBit = 2 ^ 30 := by
  refine ⟨rfl, rfl, rfl, rfl, rfl, rfl, rfl, by decide⟩

section fieldmaps
open KV.Spec.FieldMaps KV.Gen.Mappings

/-- every user-visible field of Client.Metadata / OffsetFetch / OffsetCommit / ListOffsets and Conn.ReadPartitions
is copied from the protocol field the models in Model/Mappings.lean copy it from (tables regenerated from the
source; tolerant to locals, see Spec/FieldMaps.lean) -/
theorem mapping_sources :
    allAgree clientMetadata_Broker userBroker = true ∧ allAgree clientMetadata_Partition metaPartition = true ∧
    allAgree clientMetadata_Topic metaTopic = true ∧ allAgree clientMetadata_MetadataResponse metaResponse = true ∧
    allAgree clientMetadata_Request metaRequest = true ∧
    allAgree readBrokerMetadata_Broker userBroker = true ∧
    allAgree readTopicMetadatav1_Partition connPartition = true ∧ allAgree readTopicMetadatav6_Partition connPartitionV6 = true ∧
    allAgree offsetFetch_OffsetFetchPartition fetchPartition = true ∧ allAgree offsetFetch_OffsetFetchResponse fetchResponse = true ∧
    allAgree offsetFetch_Request fetchRequest = true ∧
    allAgree offsetCommit_OffsetCommitPartition commitPartition = true ∧ allAgree offsetCommit_RequestPartition commitRequestPartition = true ∧
    allAgree offsetCommit_Request commitRequest = true ∧
    allAgree listOffsets_RequestPartition listRequestPartition = true ∧ allAgree listOffsets_Request listRequest = true ∧
    allAgree listOffsets_PartitionOffsets listPartitionOffsets = true := by decide +kernel

/-- Client.ListOffsets: the request loop marks FirstOffset / LastOffset as asked (0) for the two sentinel timestamps,
and the response loop stores an entry's offset in FirstOffset / LastOffset / Offsets[offset] ← its timestamp by the
same case analysis — every row of the case tables regenerated from listoffset.go is one `clientInit` / `clientStep` model
(tolerant: a rewritten switch yields fewer rows, never a wrong one) -/
theorem listOffsets_switch_shape :
    (KV.Gen.Mappings.listOffsetsSwitches.flatten.all fun row =>
      ["FirstOffset|_.FirstOffset|0", "LastOffset|_.LastOffset|0",
       "FirstOffset|_.FirstOffset|_.Offset", "LastOffset|_.LastOffset|_.Offset",
       "default|_.Offsets[_.Offset]|makeTime(_.Timestamp)"].contains row) = true := by decide +kernel

/-- protocol/listoffsets Merge: every decision and field update visible in the source is one the model's `merge`
makes — the requested timestamps are indexed by (topic, partition), a failed part is counted and gets placeholders
under its topic, the throttle is raised to a larger part value, an answered entry gets the indexed timestamp when the
index has its key, the call fails only when all (and at least one) parts failed, partitions are compared by number
first (tolerant: fewer visible statements never alarm, a different one does) -/
theorem merge_statements_shape :
    (KV.Gen.Mappings.listOffsetsMergeStatements.all fun st =>
      ["set _[topicPartition{…}] = _.Timestamp", "set _[_] = _", "if _!=nil", "set _[_.Topic] = _", "++",
       "if _.ThrottleTimeMs<_.ThrottleTimeMs", "set _.ThrottleTimeMs = _.ThrottleTimeMs", "if _",
       "set _.Timestamp = _", "set _[_.Topic] = append(_[_.Topic],_)", "if _>0&&_==len(_)",
       "set _.Topics = make(…)", "set _.Topics = append(_.Topics,ResponseTopic{…})",
       "if _.Partition!=_.Partition"].contains st) = true := by decide +kernel

/-- client.go ConsumerOffsets: every decision / update visible in the source is one the model `consumerOffsets` makes:
errors are tested on the call, on the whole answer and on each partition *by itself* (a test that also looks at whether
an earlier partition already failed would store later failed partitions as −1), only the first error is kept, a
partition without error is stored under its id with its committed offset (tolerant pin) -/
theorem consumerOffsets_statements_shape :
    (KV.Gen.Mappings.consumerOffsetsStatements.all fun st =>
      ["if _!=nil", "set _[_] = _.Partitions[_].ID", "if _.Error!=nil", "if _==nil",
       "set _[_.Partition] = _.CommittedOffset"].contains st) = true := by decide +kernel

end fieldmaps

section mappings
open KV.Mappings
open KV.Routing (lookupD MResponse MBroker MTopic MPartition)
open KV.Lemmas.Mappings (lookup_goMap lookup_goMap_none goMap_forall)
open KV.Lemmas.ListOffsets

/-- the group coordinator's state: committed (offset, metadata) and per-partition error codes -/
structure Coord where
  committed : List ((String × Int) × (Int × String))
  errs : List ((String × Int) × Int)

/-- what the coordinator holds for (topic, partition): (offset, metadata, error); −1/"" when nothing is committed
or an error applies -/
def Coord.value (c : Coord) (t : String) (p : Int) : Int × String × Int :=
  match c.errs.lookup (t, p) with
  | some e => (-1, "", e)
  | none => match c.committed.lookup (t, p) with
    | some (o, m) => (o, m, 0)
    | none => (-1, "", 0)

def Coord.part (c : Coord) (t : String) (p : Int) : OFPart :=
  ⟨p, (c.value t p).1, (c.value t p).2.1, (c.value t p).2.2⟩

/-- the coordinator's OffsetFetch answer (the environment) -/
def coordFetch (c : Coord) (asked : List (String × List Int)) : OFResponse :=
  { throttle := 0, error := 0, topics := asked.map fun x => (x.1, x.2.map (c.part x.1)) }

/-- **OffsetFetch**: for a request naming topics (a Go map: distinct names) the user-level response holds, for
every requested topic, one entry per requested partition in request order carrying exactly the coordinator's
committed offset, metadata and error for that partition — an error on one partition is on that entry only. -/
theorem mapping_exact_offsetFetch (c : Coord) (g : String) (topics : List (String × List Int))
    (hne : topics ≠ []) (hnd : (topics.map (·.1)).Nodup) (t : String) (ps : List Int) (hmem : (t, ps) ∈ topics) :
    (offsetFetchRequest g topics) = (g, some topics) ∧
    (offsetFetchResponse (coordFetch c topics)).topics.lookup t
      = some (ps.map fun p => ⟨p, (c.value t p).1, (c.value t p).2.1, (c.value t p).2.2⟩) := by
  constructor
  · simp [offsetFetchRequest, List.length_pos_iff.mpr hne]
  · simp only [offsetFetchResponse, coordFetch, List.map_map]
    refine lookup_goMap _ t _ (List.mem_map.mpr ⟨(t, ps), hmem, ?_⟩) (by rw [List.map_map]; exact hnd)
    simp [convOF, Coord.part, Function.comp_def]

example : (offsetFetchRequest "g" []).2 = none := rfl

/-- Kafka's OffsetFetch: a NULL topics array asks for every partition the group has committed (`all`); an array
— even an empty one — asks for exactly its entries -/
def coordAnswer (c : Coord) (all : List (String × List Int)) : Option (List (String × List Int)) → OFResponse
  | none => coordFetch c all
  | some asked => coordFetch c asked

/-- **OffsetFetch, all-topics form**: a nil or empty user map is sent as NULL (not as an empty array), so the
user-level response lists every partition the group has committed with the coordinator's values; an empty
array would have been answered with no topic at all. -/
theorem mapping_exact_offsetFetch_all (c : Coord) (g : String) (all : List (String × List Int))
    (hnd : (all.map (·.1)).Nodup) (t : String) (ps : List Int) (hmem : (t, ps) ∈ all) :
    (offsetFetchRequest g []).2 = none ∧
    (offsetFetchResponse (coordAnswer c all (offsetFetchRequest g []).2)).topics.lookup t
      = some (ps.map fun p => ⟨p, (c.value t p).1, (c.value t p).2.1, (c.value t p).2.2⟩) ∧
    (offsetFetchResponse (coordAnswer c all (some []))).topics = [] :=
  ⟨rfl, (mapping_exact_offsetFetch c g all (List.ne_nil_of_mem hmem) hnd t ps hmem).2, rfl⟩

/-- **OffsetCommit, request side**: every commit the user listed reaches the protocol request with its partition,
offset and metadata unchanged, in the user's order, under its topic; nothing else is added. -/
theorem mapping_exact_offsetCommit_request (g : String) (gen : Int) (mem inst : String)
    (topics : List (String × List UCommit)) (now : Int) :
    (offsetCommitRequest g gen mem inst topics now).group = g ∧
    (offsetCommitRequest g gen mem inst topics now).generation = gen ∧
    (offsetCommitRequest g gen mem inst topics now).member = mem ∧
    (offsetCommitRequest g gen mem inst topics now).topics.map
        (fun x => (x.1, x.2.map fun p => (p.index, p.offset, p.metadata))) = topics := by
  refine ⟨rfl, rfl, rfl, ?_⟩
  simp only [offsetCommitRequest, List.map_map]
  refine (List.map_congr_left fun x _ => ?_).trans (List.map_id _)
  simp only [Function.comp, List.map_map]
  exact Prod.ext rfl ((List.map_congr_left fun _ _ => rfl).trans (List.map_id _))

/-- **OffsetCommit, response side**: the per-partition error codes come back under their topic, unchanged -/
theorem mapping_exact_offsetCommit_response (res : List (String × List (Int × Int)))
    (hnd : (res.map (·.1)).Nodup) (t : String) (ps : List (Int × Int)) (hmem : (t, ps) ∈ res) :
    (offsetCommitResponse res).lookup t = some ps := by
  refine lookup_goMap _ t ps (List.mem_map.mpr ⟨(t, ps), hmem, ?_⟩) (by rw [List.map_map]; exact hnd)
  simp

/-- **ConsumerOffsets**, for distinct partition ids: a partition the coordinator answers without
error is reported with exactly its committed offset; a partition it answers with an error is **not** in the map, and
then an error naming a failed partition and its code is returned. -/
theorem mapping_exact_consumerOffsets (c : Coord) (t : String) (ps : List Int) (hnd : ps.Nodup) :
    ∃ m e, consumerOffsets 0 ((ps.map (c.part t)).map convOF) = .ok (m, e) ∧
      (∀ p ∈ ps, (c.value t p).2.2 = 0 → m.lookup p = some (c.value t p).1) ∧
      (∀ p ∈ ps, (c.value t p).2.2 ≠ 0 → m.lookup p = none) ∧
      ((∃ p ∈ ps, (c.value t p).2.2 ≠ 0) → ∃ p code, e = some (p, code) ∧ p ∈ ps ∧ code = (c.value t p).2.2 ∧ code ≠ 0) ∧
      ((∀ p ∈ ps, (c.value t p).2.2 = 0) → e = none) := by
  -- the call in terms of `ps`: the map of the partitions without error, the first partition with one
  have hco : consumerOffsets 0 ((ps.map (c.part t)).map convOF) =
      .ok (goMap ((ps.filter fun p => (c.value t p).2.2 == 0).map fun p => (p, (c.value t p).1)),
           (ps.find? fun p => (c.value t p).2.2 != 0).map fun p => (p, (c.value t p).2.2)) := by
    simp [consumerOffsets, List.filter_map, List.find?_map, List.map_map, Function.comp_def, convOF, Coord.part]
  refine ⟨_, _, hco, fun p hp h0 => ?_, fun p _ hne => ?_, ?_, fun hall => ?_⟩
  · refine lookup_goMap _ p _ (List.mem_map.mpr ⟨p, List.mem_filter.mpr ⟨hp, by simpa using h0⟩, rfl⟩) ?_
    simpa [List.map_map, Function.comp_def] using hnd.sublist List.filter_sublist
  · refine lookup_goMap_none _ p fun e he => ?_
    obtain ⟨q, hq, rfl⟩ := List.mem_map.mp he
    rintro rfl
    exact hne (by simpa using (List.mem_filter.mp hq).2)
  · rintro ⟨p, hp, hne⟩
    cases hf : ps.find? fun p => (c.value t p).2.2 != 0 with
    | none => exact absurd (by simpa using hne) (List.find?_eq_none.mp hf p hp)
    | some q => exact ⟨q, _, rfl, List.mem_of_find?_eq_some hf, rfl, by simpa using List.find?_some hf⟩
  · rw [List.find?_eq_none.mpr fun p hp => by simp [hall p hp]]
    rfl

/-- a group-level error fails the whole ConsumerOffsets call -/
theorem consumerOffsets_group_error (g : Int) (hg : g ≠ 0) (fetched : List UOFPart) :
    consumerOffsets g fetched = .error g := by
  simp [consumerOffsets, hg]

theorem brokerMap_lookup (bs : List MBroker) (hnd : (bs.map (·.nodeID)).Nodup) (b : MBroker) (hb : b ∈ bs) :
    (brokerMap bs).lookup b.nodeID = some (convBroker b) :=
  lookup_goMap _ _ _ (List.mem_map.mpr ⟨b, hb, rfl⟩) (by rw [List.map_map]; exact hnd)

theorem brokerMap_id (bs : List MBroker) (id : Int) (b : UBroker) (h : (brokerMap bs).lookup id = some b) : b.id = id := by
  refine goMap_forall (fun k v => v.id = k) _ (fun e he => ?_) id b h
  obtain ⟨x, _, rfl⟩ := List.mem_map.mp he
  rfl

theorem brokerOrPlaceholder_id (bs : List MBroker) (id : Int) : (brokerOrPlaceholder (brokerMap bs) id).id = id := by
  simp only [brokerOrPlaceholder]
  cases h : (brokerMap bs).lookup id with
  | none => rfl
  | some b => exact brokerMap_id bs id b h

theorem makeBrokers_ids (bs : List MBroker) (ids : List Int) : (makeBrokers (brokerMap bs) ids).map (·.id) = ids := by
  rw [makeBrokers, List.map_map]
  exact (List.map_congr_left fun k _ => brokerOrPlaceholder_id bs k).trans (List.map_id _)

/-- **Metadata**: brokers, topics and partitions are reported in the answer's order with their name, internal
flag, error code and partition id unchanged; **every leader, replica and ISR id of the answer is reported as that
id** — whether or not the id is in the answer's broker list (replicas on offline brokers, no leader) — and an id that is listed is reported as exactly that broker (id, host, port, rack). -/
theorem mapping_exact_metadata (res : MResponse) :
    (clientMetadata res).brokers = res.brokers.map convBroker ∧
    (clientMetadata res).topics.map (fun t => (t.name, t.internal, t.error, t.partitions.map fun p =>
        (p.id, p.error, p.leader.id, p.replicas.map (·.id), p.isr.map (·.id))))
      = res.topics.map (fun t => (t.name, t.internal, t.error, t.partitions.map fun p =>
        (p.index, p.error, p.leader, p.replicas, p.isr))) ∧
    ((res.brokers.map (·.nodeID)).Nodup → ∀ t ∈ res.topics, ∀ p ∈ t.partitions, ∀ b ∈ res.brokers, b.nodeID = p.leader →
      brokerOrPlaceholder (brokerMap res.brokers) p.leader = convBroker b) := by
  refine ⟨rfl, ?_, ?_⟩
  · simp only [clientMetadata, List.map_map]
    apply List.map_congr_left
    intro t _
    simp only [Function.comp, List.map_map]
    congr 3
    apply List.map_congr_left
    intro p _
    simp [Function.comp, brokerOrPlaceholder_id, makeBrokers_ids]
  · intro hnd t _ p _ b hb hid
    simp [brokerOrPlaceholder, ← hid, brokerMap_lookup res.brokers hnd b hb]

/-- **makeBrokers**, with which ReadPartitions resolves replica / ISR ids (through the same map as Metadata): every id is
reported under that id, a listed one as its broker, one without a listed broker as a placeholder carrying the id (never
as another broker) -/
theorem mapping_exact_readPartitions (bs : List MBroker) (hnd : (bs.map (·.nodeID)).Nodup) (ids : List Int) :
    (makeBrokers (brokerMap bs) ids).map (·.id) = ids ∧
    (∀ b ∈ bs, b.nodeID ∈ ids → convBroker b ∈ makeBrokers (brokerMap bs) ids) := by
  refine ⟨makeBrokers_ids bs ids, ?_⟩
  · intro b hb hin
    simp only [makeBrokers, List.mem_map]
    exact ⟨b.nodeID, hin, by rw [brokerMap_lookup bs hnd b hb]⟩

/-- **Client.ListOffsets, one merged entry**: folding one response entry into the per-partition records replaces
the record of its own (topic, partition) only; the new record keeps the partition id and sets FirstOffset /
LastOffset / an Offsets entry as the entry's (restored) timestamp selects, and the error code iff the entry
carries one.  (Hence a failed part's placeholder marks its own partition only.) -/
theorem mapping_exact_listOffsets_step (m : List ((String × Int) × PartitionOffsets)) (t : String) (p : ResPart)
    (cur : PartitionOffsets) (hcur : m.lookup (t, p.partition) = some cur) :
    ∃ r, clientStep m (t, p) = some (KV.ListOffsets.ainsert m (t, p.partition) r) ∧
      (∀ k, k ≠ (t, p.partition) → (KV.ListOffsets.ainsert m (t, p.partition) r).lookup k = m.lookup k) ∧
      (KV.ListOffsets.ainsert m (t, p.partition) r).lookup (t, p.partition) = some r ∧
      r.partition = cur.partition ∧
      (p.timestamp = firstOffset → r.first = p.offset ∧ r.last = cur.last ∧ r.offsets = cur.offsets) ∧
      (p.timestamp = lastOffset → r.last = p.offset ∧ r.first = cur.first ∧ r.offsets = cur.offsets) ∧
      (p.timestamp ≠ firstOffset → p.timestamp ≠ lastOffset →
        r.first = cur.first ∧ r.last = cur.last ∧ r.offsets = KV.ListOffsets.ainsert cur.offsets p.offset p.timestamp) ∧
      (p.error ≠ 0 → r.error = p.error) ∧ (p.error = 0 → r.error = cur.error) := by
  refine ⟨stepRecord cur p, clientStep_hit (e := (t, p)) hcur, fun k hk => lookup_ainsert_other m _ k _ hk,
    lookup_ainsert_self m _ _, ?_⟩
  have hfl : firstOffset ≠ lastOffset := by decide
  unfold stepRecord
  by_cases he : p.error = 0 <;> by_cases hf : p.timestamp = firstOffset
  · simp [he, hf, hfl]
  · by_cases hl : p.timestamp = lastOffset <;> simp [he, hf, hl, hfl.symm]
  · simp [he, hf, hfl]
  · by_cases hl : p.timestamp = lastOffset <;> simp [he, hf, hl, hfl.symm]

theorem clientStep_other (m m' : List ((String × Int) × PartitionOffsets)) (e : String × ResPart)
    (h : clientStep m e = some m') :
    (∀ k, k ≠ (e.1, e.2.partition) → m'.lookup k = m.lookup k) ∧ (m'.lookup (e.1, e.2.partition)).isSome = true := by
  obtain ⟨r, rfl⟩ := clientStep_eq_ainsert h
  exact ⟨fun k hk => lookup_ainsert_other m _ k r hk, by rw [lookup_ainsert_self]; rfl⟩

/-- **Client.ListOffsets, the whole fold**: the records of partitions the merged response does not mention are
exactly what the request loop initialised; every record that existed still exists. -/
theorem clientApply_untouched (es : List (String × ResPart)) (m m' : List ((String × Int) × PartitionOffsets))
    (h : es.foldlM clientStep m = some m') :
    (∀ k, (∀ e ∈ es, (e.1, e.2.partition) ≠ k) → m'.lookup k = m.lookup k) ∧
    (∀ k, (m.lookup k).isSome = true → (m'.lookup k).isSome = true) := by
  induction es generalizing m with
  | nil => simp only [List.foldlM_nil, pure] at h; cases h; exact ⟨fun _ _ => rfl, fun _ h => h⟩
  | cons e es ih =>
    obtain ⟨m1, hs, h⟩ := Run.cons_eq_some.mp h
    obtain ⟨h1, h2⟩ := ih m1 h
    obtain ⟨s1, s2⟩ := clientStep_other m m1 e hs
    refine ⟨fun k hk => ?_, fun k hk => ?_⟩
    · rw [h1 k (fun x hx => hk x (List.mem_cons_of_mem _ hx))]
      exact s1 k (fun heq => hk e List.mem_cons_self heq.symm)
    · apply h2
      by_cases hke : k = (e.1, e.2.partition)
      · subst hke; exact s2
      · rw [s1 k hke]; exact hk

/-- when every entry of the merged response concerns a requested partition (what `entries_exact` gives for
well-formed part answers) the fold never hits the nil-map panic -/
theorem clientApply_total (es : List (String × ResPart)) (m : List ((String × Int) × PartitionOffsets))
    (h : ∀ e ∈ es, (m.lookup (e.1, e.2.partition)).isSome = true) : ∃ m', es.foldlM clientStep m = some m' := by
  induction es generalizing m with
  | nil => exact ⟨m, rfl⟩
  | cons e es ih =>
    obtain ⟨cur, hcur⟩ := Option.isSome_iff_exists.mp (h e List.mem_cons_self)
    obtain ⟨m', hm'⟩ := ih (KV.ListOffsets.ainsert m (e.1, e.2.partition) (stepRecord cur e.2)) fun x hx =>
      isSome_lookup_ainsert m _ _ _ (h x (List.mem_cons_of_mem _ hx))
    exact ⟨m', Run.cons_eq_some.mpr ⟨_, clientStep_hit hcur, hm'⟩⟩

theorem expected_key (x : (String × ReqPart) × Sub) (h : x.2.WF x.1) :
    ((expected x).1, (expected x).2.partition) = (x.1.1, x.1.2.partition) := by
  obtain ⟨tp, s⟩ := x
  cases s with
  | failed e => rfl
  | answered th a =>
    have : a.partition = tp.2.partition := h
    simp [expected, this]

/-- **Client.ListOffsets end to end (no panic)**: for any user request and any outcomes of its
parts that are not all failures (each answering about the partition it was asked about), the protocol request is
split, merged, and folded into the per-partition records without hitting the nil-map case: a result is returned. -/
theorem clientListOffsets_total (iso : Int) (topics : List (String × List (Int × Int)))
    (xs : List ((String × ReqPart) × Sub))
    (hreq : xs.map (·.1) = flat (clientRequest iso topics)) (hwf : ∀ x ∈ xs, x.2.WF x.1)
    (hsome : ∃ x ∈ xs, x.2.isFailed = false) :
    ∃ resp recs, merge (split (clientRequest iso topics)) (xs.map fun x => x.2.result x.1.1) = .ok resp ∧
      clientApply (clientInit topics) resp = some recs := by
  obtain ⟨resp, hm, hperm⟩ := split_merge (clientRequest iso topics) xs hreq hwf hsome
  refine ⟨resp, ?_⟩
  have hkeys : ∀ e ∈ flatRes resp.topics, ((clientInit topics).lookup (e.1, e.2.partition)).isSome = true := by
    intro e he
    obtain ⟨x, hx, rfl⟩ := List.mem_map.mp (hperm.mem_iff.mp he)
    have hx1 : x.1 ∈ flat (clientRequest iso topics) := hreq ▸ List.mem_map_of_mem hx
    rw [flat_clientRequest] at hx1
    obtain ⟨y, hy, hxy⟩ := List.mem_map.mp hx1
    rw [expected_key x (hwf x hx), ← hxy]
    exact isSome_lookup_foldl_ainsert (fun x : String × (Int × Int) => (x.1, x.2.1)) _ _ [] y hy
  obtain ⟨recs, hrecs⟩ := clientApply_total (flatRes resp.topics) (clientInit topics) hkeys
  exact ⟨recs, hm, hrecs⟩

/-- **ReadOffsets**: both offsets are reported iff both list-offset requests succeeded; otherwise the first error
in request order is returned and no offset at all (the first value is not leaked) -/
theorem readOffsets_exact (first last : Except Int Int) :
    (∀ f l, readOffsets first last = .ok (f, l) ↔ first = .ok f ∧ last = .ok l) ∧
    (∀ e, first = .error e → readOffsets first last = .error e) ∧
    (∀ f e, first = .ok f → last = .error e → readOffsets first last = .error e) := by
  refine ⟨?_, ?_, ?_⟩
  · intro f l
    cases first <;> cases last <;> simp [readOffsets]
  · intro e h; subst h; rfl
  · intro f e h1 h2; subst h1; subst h2; rfl

/-- **ReadPartitions, error scope**: when no answered topic carries an error that concerns the connection, every
partition of every answered topic is reported, in order, with the error code the broker gave for it
(errors of other topics hide nothing); otherwise the first such error is returned. -/
theorem readPartitions_error_scope (connTopic : String) (res : MResponse) :
    (res.topics.all (fun t => !concerns connTopic t) = true →
      ∃ ps, readPartitions connTopic res = .ok ps ∧
        ps.map (fun p => (p.topic, p.id, p.error)) = res.topics.flatMap (fun t => t.partitions.map fun p => (t.name, p.index, p.error))) ∧
    (∀ pre t post, res.topics = pre ++ t :: post → pre.all (fun t => !concerns connTopic t) = true →
      concerns connTopic t = true → readPartitions connTopic res = .error t.error) := by
  rw [KV.Lemmas.Mappings.readPartitions_eq]
  constructor
  · intro hall
    rw [List.find?_eq_none.mpr fun t ht => by simpa using List.all_eq_true.mp hall t ht]
    refine ⟨_, rfl, ?_⟩
    simp only [List.map_flatMap, List.map_map]
    rfl
  · intro pre t post hsplit hpre hc
    rw [hsplit, List.find?_append, List.find?_eq_none.mpr fun t ht => by simpa using List.all_eq_true.mp hpre t ht,
      Option.none_or, List.find?_cons_of_pos hc]

/-- which topics ReadPartitions asks for: the arguments, else the connection's topic, else all -/
theorem readPartitionsTopics_spec (connTopic : String) (args : List String) :
    (args ≠ [] → readPartitionsTopics connTopic args = some args) ∧
    (connTopic ≠ "" → readPartitionsTopics connTopic [] = some [connTopic]) ∧
    readPartitionsTopics "" [] = none := by
  refine ⟨?_, ?_, rfl⟩
  · intro h
    cases args with
    | nil => exact absurd rfl h
    | cons a as => simp [readPartitionsTopics]
  · intro h
    have : connTopic.length ≠ 0 := by
      intro h0; exact h (String.length_eq_zero_iff.mp h0)
    simp [readPartitionsTopics, this]

end mappings

/-- The versions from which the library's decoder expects the fields of the OffsetFetch /
ListOffsets / OffsetCommit responses (struct tags, regenerated) are those of the Kafka protocol guide — in particular
the group-level error code of OffsetFetch is read from v2 on, so a failed lookup is reported at every version that can
express it -/
theorem response_fields_since : KV.Gen.Offsets.responseFieldSince = KV.Spec.Offsets.wireSince := rfl

theorem offsetFetch_group_error_visible (v : Int) :
    KV.Spec.Offsets.offsetFetchTopLevelError KV.Gen.Offsets.responseFieldSince v = decide (2 ≤ v) := by
  simp [KV.Spec.Offsets.offsetFetchTopLevelError, KV.Gen.Offsets.responseFieldSince, List.lookup]

/-- The one function every query uses to turn a Kafka error code into a Go error (regenerated
guard of its `return nil`) reports "no error" for code 0 ONLY — error codes are signed, −1 (UNKNOWN_SERVER_ERROR) is a
failure like every other non-zero code -/
theorem makeError_nil_iff (code : Int) : KV.Gen.Offsets.makeErrorIsNil code = true ↔ code = 0 := by
  simp [KV.Gen.Offsets.makeErrorIsNil]

end KV.Props.C19
