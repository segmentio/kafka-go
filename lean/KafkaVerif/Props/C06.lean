/-
Props/C06.lean — property C06: a response is only ever delivered to the call that sent the request.

The theorems of Parts 1–2 hold for EVERY event sequence and EVERY response stream (any order of correlation ids,
duplicates, ids never issued, any timing of deadlines and drops); nothing is bounded.
-/
import KafkaVerif.Lemmas.ConnMux
import KafkaVerif.Lemmas.TransportConn
import KafkaVerif.Lemmas.BatchBytes
import KafkaVerif.Gen.MuxFacts
import KafkaVerif.Model.WireProg
import KafkaVerif.Lemmas.ConnDeadline
import KafkaVerif.Model.VarIntRead
import KafkaVerif.Lemmas.PoolDiscover

namespace KV.C06
open KV KV.ConnMux

/-! ## Part 1 — one Conn shared by any number of callers -/

/-- the invariant of the multiplexer, relative to the stream `stream0` the broker sends -/
structure Inv (stream0 : List Frame) (s : State) : Prop where
  /-- frames are consumed in order, whole, each once: what is left is `stream0` minus a prefix -/
  rest : stream0.drop s.consumed = s.stream
  /-- calls are numbered 1 … nextSeq -/
  range : ∀ i c, s.calls i = some c → 1 ≤ i ∧ i ≤ s.nextSeq
  /-- a call that holds / returned a frame got the frame at a consumed position of the stream, and
      that frame carries the correlation id the call wrote -/
  own : ∀ i c p f, s.calls i = some c → c.st.frame = some (p, f) →
      stream0[p]? = some f ∧ f.id = wire i ∧ p < s.consumed
  /-- no position is given to two calls -/
  once : ∀ i j ci cj p fi fj, s.calls i = some ci → s.calls j = some cj →
      ci.st.frame = some (p, fi) → cj.st.frame = some (p, fj) → i = j
  /-- whoever parses a body holds the read lock, so there is at most one -/
  reader : ∀ i c p f, s.calls i = some c → c.st = .reading p f → s.rlock = some i

theorem frame_of_waiting {st : Status} (h : st = .waiting) : st.frame = none := by subst h; rfl

/-- the invariant is `ConnMux.Good` (Lemmas/ConnMux.lean) read clause by clause -/
theorem Inv.of_good {stream0 : List Frame} {s : State} (hg : Good stream0 s) : Inv stream0 s :=
  ⟨hg.rest, fun i c h => (hg.call i c h).range, fun i c p f h => (hg.call i c h).own p f, hg.once,
    fun i c p f h => (hg.call i c h).reader p f⟩

theorem inv_run {stream0 : List Frame} {es : List Event} {s : State} (h : run stream0 es = some s) : Inv stream0 s :=
  .of_good (good_run h)

/-- Whatever the broker sends and however the callers interleave: a call that
holds or returned a response (or a Kafka error read from a response) took the frame at one position `p`
of the stream, and that frame's correlation id is the id the call wrote.  Every other outcome is an error. -/
theorem own_response_or_error (stream0 : List Frame) (es : List Event) (s : State)
    (h : run stream0 es = some s) (i : Nat) (c : Call) (hc : s.calls i = some c) :
    (∃ p f, c.st.frame = some (p, f) ∧ stream0[p]? = some f ∧ f.id = wire i) ∨
    c.st = .waiting ∨ c.st = .done .err :=
  (Status.frame_or c.st).imp_left fun ⟨p, f, hf⟩ =>
    ⟨p, f, hf, ((inv_run h).own i c p f hc hf).1, ((inv_run h).own i c p f hc hf).2.1⟩

/-- no frame (position of the stream) is ever given to two calls — in particular a duplicate of a
response is not a second delivery of the same bytes, and a frame taken by one caller is gone -/
theorem frame_delivered_once (stream0 : List Frame) (es : List Event) (s : State)
    (h : run stream0 es = some s) (i j : Nat) (ci cj : Call) (p : Nat) (fi fj : Frame)
    (hci : s.calls i = some ci) (hcj : s.calls j = some cj)
    (hfi : ci.st.frame = some (p, fi)) (hfj : cj.st.frame = some (p, fj)) : i = j :=
  (inv_run h).once i j ci cj p fi fj hci hcj hfi hfj

/-- bodies are parsed one at a time: two calls that are both between `take` and `finish` (a `do` reading
its body, a Batch not yet closed) are the same call, the holder of the read lock -/
theorem one_reader (stream0 : List Frame) (es : List Event) (s : State)
    (h : run stream0 es = some s) (i j : Nat) (ci cj : Call) (pi pj : Nat) (fi fj : Frame)
    (hci : s.calls i = some ci) (hcj : s.calls j = some cj)
    (hri : ci.st = .reading pi fi) (hrj : cj.st = .reading pj fj) : i = j :=
  Option.some.inj (((inv_run h).reader i ci pi fi hci hri).symm.trans ((inv_run h).reader j cj pj fj hcj hrj))

/-- Calls are numbered 1, 2, 3, … (one `correlationID++` per `doRequest`, under
`wlock`), and two calls fewer than 2^32 requests apart have different ids on the wire. -/
theorem ids_unique_inflight (i j : Nat) (hne : i ≠ j) (hclose : i < j + 4294967296 ∧ j < i + 4294967296) :
    wire i ≠ wire j := by
  unfold wire; omega

theorem calls_are_numbered (stream0 : List Frame) (es : List Event) (s : State)
    (h : run stream0 es = some s) (i : Nat) (c : Call) (hc : s.calls i = some c) : 1 ≤ i ∧ i ≤ s.nextSeq :=
  (inv_run h).range i c hc

/-- the id a `doRequest` puts on the wire is fresh: it differs from the wire id of every earlier call fewer
than 2^32 requests back — in particular of every call still in flight.  (Trace form of
ids_unique_inflight: a recorded `C.Write` that reuses an in-flight id is not a behaviour of the model.) -/
theorem write_id_fresh (stream0 : List Frame) (es : List Event) (s s' : State)
    (h : run stream0 es = some s) (tag : Nat) (ok : Bool) (id : Nat)
    (hs : step s (.write tag ok id) = some s') (i : Nat) (c : Call) (hc : s.calls i = some c)
    (hnear : s.nextSeq + 1 < i + 4294967296) : wire i ≠ id := by
  have hr := calls_are_numbered stream0 es s h i c hc
  cases step_iff.mp hs
  exact ids_unique_inflight i (s.nextSeq + 1) (by omega) ⟨by omega, hnear⟩

/-- the wrap is real: request 2^32+1 reuses the wire id of request 1 (so the bound is needed) -/
theorem ids_wrap_counterexample : wire 1 = wire 4294967297 := by decide

/-- **ids are compared as 32-bit numbers and nothing else matters about them**: adding the same constant to every id
(mod 2^32) preserves which id equals which.  This is what lets the harness run a Conn whose counter was preset to
2^31 − 3 or −3 (`VerifSetCorrelationID`: the real ids cross the int32 overflow and the return to 0) and hand the model
ids relative to that preset, calls numbered from 1 as always: every theorem above speaks about the relabelled run, and
the relabelling loses nothing. -/
theorem id_relabelling_sound (a b k : Nat) : wire (a + k) = wire (b + k) ↔ wire a = wire b := by
  unfold wire; omega

/-- the two boundaries the wrap family crosses: int32 overflow (2^31 − 1 → −2^31, the same 32 bits as 2^31) and the
return to zero (−1 → 0) are ordinary successor steps of `wire` -/
theorem wire_crosses_boundaries :
    wire (2147483647 + 1) = 2147483648 ∧ wire (4294967295 + 1) = 0 ∧ wire 2147483648 ≠ wire 0 := by decide

/-- the broker labels its frames truthfully: a frame carrying the wire id of a call carries the payload
answering that call's request (tags).  It may still reorder, delay, drop, duplicate, invent ids. -/
def Honest (stream0 : List Frame) (s : State) : Prop :=
  ∀ f, f ∈ stream0 → ∀ i c, s.calls i = some c → f.id = wire i → f.tag = c.tag

/-- **tag equality** (what the harness observes at the API): with a truthful broker, the payload a call
returns is the payload of its own request. -/
theorem own_payload (stream0 : List Frame) (es : List Event) (s : State)
    (h : run stream0 es = some s) (hon : Honest stream0 s)
    (i : Nat) (c : Call) (p : Nat) (f : Frame) (hc : s.calls i = some c) (hr : c.st = .done (.resp p f)) :
    f.tag = c.tag := by
  have ho := (inv_run h).own i c p f hc (by rw [hr]; rfl)
  exact hon f (List.mem_of_getElem? ho.1) i c hc ho.2.1

/-- A call that gave up (deadline while waiting: `peekErr`, which
also closes the conn; `ErrNoProgress`; failed write) never has its response handed to another call: any
other call `j` (fewer than 2^32 requests away) that holds or returned a frame holds one with a different
correlation id. -/
theorem abandoned_call_cannot_leak (stream0 : List Frame) (es : List Event) (s : State)
    (h : run stream0 es = some s) (i j : Nat) (ci cj : Call) (p : Nat) (f : Frame)
    (_hci : s.calls i = some ci) (_hab : ci.st = .done .err)
    (hcj : s.calls j = some cj) (hne : i ≠ j) (hclose : i < j + 4294967296 ∧ j < i + 4294967296)
    (hfj : cj.st.frame = some (p, f)) : f.id ≠ wire i := by
  rw [((inv_run h).own j cj p f hcj hfj).2.1]
  exact fun heq => ids_unique_inflight i j hne hclose heq.symm

/-- a deadline that fires while a caller waits closes the conn (nothing more is read from the socket) -/
theorem timeout_closes (s s' : State) (seq : Nat) (h : step s (.peekErr seq) = some s') : s'.closed = true := by
  cases step_iff.mp h; rfl

/-- a body that cannot be read to its end (deadline in the middle of a response, truncated frame, malformed
bytes) closes the conn — the half-read frame is never left for the next call (C11's alignment, the hinge
of this model: `take` removes a frame whole) -/
theorem unreadable_body_closes (s s' : State) (seq : Nat) (h : step s (.finish seq .io) = some s') :
    s'.closed = true := by
  cases step_iff.mp h; rfl

/-- after a body that could not be read to its end (`finish io`: deadline in the
middle of a response, bytes left, malformed body) or a failed `Peek`, no call is ever given anything from this conn:
neither `take` nor `yield` nor `lone` is enabled (finding C06-D30: closing the net.Conn alone would leave the rest of
the response in the Conn's read buffer, where a caller that is already waiting finds it) -/
theorem no_take_after_read_failure (s : State) (hd : s.rdead = true) (seq seen : Nat) :
    step s (.take seq) = none ∧ step s (.yield seq seen) = none ∧ step s (.lone seq seen) = none := by
  -- each of the three has `rdead = false` in its guard
  have dead : ∀ e, (∀ s', Step s e s' → s.rdead = false) → step s e = none := fun e hguard =>
    Option.eq_none_iff_forall_ne_some.mpr fun s' hs => by
      have := hguard s' (step_iff.mp hs); rw [hd] at this; cases this
  exact ⟨dead _ fun _ h => by cases h; assumption, dead _ fun _ h => by cases h; assumption,
    dead _ fun _ h => by cases h; assumption⟩

theorem read_failure_kills_read_side (s s' : State) (seq : Nat) :
    (step s (.finish seq .io) = some s' → s'.rdead = true) ∧ (step s (.peekErr seq) = some s' → s'.rdead = true) := by
  constructor <;> intro h <;> cases step_iff.mp h <;> rfl

theorem rdead_is_final (s s' : State) (e : Event) (hd : s.rdead = true) (h : step s e = some s') : s'.rdead = true := by
  cases step_iff.mp h <;> simp [hd]

/-- no event re-opens the conn -/
theorem closed_is_final (s s' : State) (e : Event) (hc : s.closed = true) (h : step s e = some s') :
    s'.closed = true := by
  cases step_iff.mp h <;> simp [hc]

/-- non-vacuity: two callers, responses in the opposite order, one foreign frame; both get their own -/
example : (run [⟨2, 20⟩, ⟨1, 10⟩] [.write 10 true 1, .write 20 true 2, .yield 1 2, .take 2, .finish 2 .ok, .take 1, .finish 1 .ok]).map
    (fun s => (s.calls 1, s.calls 2)) =
    some (some ⟨10, .done (.resp 1 ⟨1, 10⟩)⟩, some ⟨20, .done (.resp 0 ⟨2, 20⟩)⟩) := by decide

example : (run [⟨7, 70⟩] [.write 10 true 1, .lone 1 7]).map (fun s => (s.calls 1, s.closed, s.stream)) =
    some (some ⟨10, .done .err⟩, true, [⟨7, 70⟩]) := by decide

/-! ### with a truthful broker nobody is stranded in waitResponse

The waiter spin (two or more callers in `waitResponse`, a frame at the head of the buffer that belongs to none of them:
everybody yields for ever) needs a broker that duplicates or invents correlation ids: if the
broker answers only requests that were written (`causal`) and never answers one twice (`Truthful`), then on an open
conn no call ever ends in an error, `ErrNoProgress` is unreachable, and the frame at the head of the stream always
belongs to a caller that is waiting for it — so `take` is enabled for somebody. -/

/-- the broker never answers a request twice -/
def Truthful (stream0 : List Frame) : Prop := (stream0.map (·.id)).Nodup

/-- the frame a peek looks at answers a request that has been written (a broker cannot answer the future) -/
def causal (s : State) : Event → Bool
  | .take _ | .yield _ _ | .lone _ _ =>
    match s.stream with
    | f :: _ => (List.range (s.nextSeq + 1)).any (fun j => j ≥ 1 && f.id == wire j)
    | [] => true
  | _ => true

def stepC (s : State) (e : Event) : Option State := if causal s e then step s e else none

def runFromC : State → List Event → Option State
  | s, [] => some s
  | s, e :: es => match stepC s e with
    | none => none
    | some s' => runFromC s' es

theorem wire_inj {i j : Nat} (hi : i < 4294967296) (hj : j < 4294967296) (h : wire i = wire j) : i = j := by
  unfold wire at h; omega

theorem head_not_taken {stream0 : List Frame} (ht : Truthful stream0) {s : State} (hg : Good stream0 s)
    {f : Frame} {rest : List Frame} (hs : s.stream = f :: rest) {j : Nat} {c : Call} {p : Nat} {g : Frame}
    (hc : s.calls j = some c) (hf : c.st.frame = some (p, g)) (hid : f.id = wire j) : False := by
  have ho := (hg.call j c hc).own p g hf
  have hf : stream0[s.consumed]? = some f := List.getElem?_of_drop_eq_cons (by rw [hg.rest, hs])
  -- two positions of stream0 with the same id
  obtain ⟨hlp, hgp⟩ := List.getElem?_eq_some_iff.mp ho.1
  obtain ⟨hlc, hgc⟩ := List.getElem?_eq_some_iff.mp hf
  refine List.pairwise_iff_getElem.mp ht p s.consumed (by simpa using hlp) (by simpa using hlc) ho.2.2 ?_
  simp only [List.getElem_map, hgp, hgc]
  rw [ho.2.1, hid]

/-- on an open conn the written call that the head frame answers is waiting for it: it has not failed, and if it
held a frame the broker would have answered it twice -/
theorem head_for_waiting {stream0 : List Frame} (ht : Truthful stream0) {s : State} (hg : Good stream0 s)
    (hcl : s.closed = false) {f : Frame} {rest : List Frame} (hs : s.stream = f :: rest) {j : Nat}
    (hj1 : 1 ≤ j) (hjn : j ≤ s.nextSeq) (hid : f.id = wire j) : statusOf s j = some .waiting := by
  cases hcj : s.calls j with
  | none => have := hg.total j hj1 hjn; rw [hcj] at this; cases this
  | some c =>
    rcases Status.frame_or c.st with ⟨p, g, hf⟩ | hw | he
    · exact (head_not_taken ht hg hs hcj hf hid).elim
    · exact statusOf_eq_some.mpr ⟨c, hcj, hw⟩
    · exact absurd he ((hg.call j c hcj).noFailure hcl)

/-- with a truthful broker `io.ErrNoProgress` cannot happen on an open conn: the head answers a written request
j ≠ seq, so j is waiting for it — and seq is not alone -/
theorem lone_disabled {stream0 : List Frame} (ht : Truthful stream0) {s : State} (hg : Good stream0 s)
    (hcl : s.closed = false) (seq seen : Nat) (hcau : causal s (.lone seq seen) = true) :
    step s (.lone seq seen) = none := by
  cases h : step s (.lone seq seen) with
  | none => rfl
  | some s' =>
    cases step_iff.mp h with
    | lone _ _ f rest _ _ _ hs hseen hne halone =>
      simp only [causal, hs, List.any_eq_true, Bool.and_eq_true, decide_eq_true_eq, beq_iff_eq, List.mem_range] at hcau
      obtain ⟨j, hjr, hj1, hjid⟩ := hcau
      have hw := head_for_waiting ht hg hcl hs hj1 (Nat.le_of_lt_succ hjr) hjid
      rcases aloneWaiting_iff.mp halone j (Nat.le_of_lt_succ hjr) with hja | hja
      · subst hja; rw [hseen] at hjid; exact absurd hjid hne
      · exact absurd hw hja

theorem stepC_step {s s' : State} {e : Event} (h : stepC s e = some s') : step s e = some s' :=
  (Option.ite_none_right_eq_some.mp h).2

theorem runFromC_eq (s : State) (es : List Event) : runFromC s es = es.foldlM stepC s :=
  Run.eq_foldlM (fun _ => rfl) (fun s e es => by rw [runFromC]; cases stepC s e <;> rfl) es s

theorem runFromC_runFrom {es : List Event} {s s' : State} (h : runFromC s es = some s') : runFrom s es = some s' :=
  runFrom_eq s es ▸ Run.mono (fun _ _ _ => stepC_step) (runFromC_eq s es ▸ h)

/-- If the broker answers only written requests and none of them
twice (it may still reorder and delay as it likes), then in every reachable state of an open conn:
(1) no call has failed;
(2) whenever the read lock is free, the frame at the head of the stream belongs to a caller that is waiting for
    it, so that caller's `take` is enabled: the yield loop of `waitResponse` always has somebody to yield to;
(3) `io.ErrNoProgress` cannot happen (`lone` is not enabled). -/
theorem truthful_broker_never_strands_waiters (stream0 : List Frame) (ht : Truthful stream0)
    (es : List Event) (s : State) (h : runFromC (init stream0) es = some s) (hopen : s.closed = false) :
    (∀ i c, s.calls i = some c → c.st ≠ .done .err) ∧
    (s.rlock = none → ∀ f rest, s.stream = f :: rest → ∀ j, 1 ≤ j → j ≤ s.nextSeq → f.id = wire j →
      (step s (.take j)).isSome = true) ∧
    (∀ seq seen, causal s (.lone seq seen) = true → step s (.lone seq seen) = none) := by
  have hg : Good stream0 s := good_run (runFromC_runFrom h)
  refine ⟨fun i c hc => (hg.call i c hc).noFailure hopen, ?_, fun seq seen hc => lone_disabled ht hg hopen seq seen hc⟩
  intro hl f rest hs j hj1 hjn hid
  have hrd : s.rdead = false := by
    cases hd : s.rdead with
    | false => rfl
    | true => rw [hg.rdeadClosed hd] at hopen; cases hopen
  rw [step_iff.mpr (.take j f rest hrd hl (head_for_waiting ht hg hopen hs hj1 hjn hid) hs hid)]
  rfl

/-- `io.ErrNoProgress` is enabled for a caller only while no other call is waiting
for its response, whatever is at the head of the stream (the reference monitor `Spec.Mux.noProgressOnlyAlone` checks the
same thing on the recorded events of the real code) -/
theorem no_progress_only_when_alone (s s' : State) (seq seen : Nat) (h : step s (.lone seq seen) = some s')
    (j : Nat) (hj : j ≠ seq) (hr : j ≤ s.nextSeq) : statusOf s j ≠ some .waiting := by
  cases step_iff.mp h with
  | lone _ _ f rest _ _ _ _ _ _ hal => exact (aloneWaiting_iff.mp hal j hr).resolve_left hj

/-- the hypothesis is needed: one duplicated answer and two later callers — both waiters see a frame that belongs
to neither, both can only yield (neither is alone), for ever -/
theorem duplicate_answer_strands_waiters_counterexample :
    let s := run [⟨1, 0⟩, ⟨1, 0⟩] [.write 10 true 1, .take 1, .finish 1 .ok, .write 20 true 2, .write 30 true 3]
    s.map (fun s => ((step s (.take 2)).isSome, (step s (.take 3)).isSome, (step s (.lone 2 1)).isSome,
                      (step s (.lone 3 1)).isSome, (step s (.yield 2 1)).isSome, (step s (.yield 3 1)).isSome)) =
      some (false, false, false, false, true, true) := by decide

/-! ### Stranded waiters: what bounds the wait when the broker does NOT answer truthfully

`truthful_broker_never_strands_waiters` needs the broker to answer only written requests and none twice.  Without
that: a frame at the head of the stream that belongs to no waiting call, two or more callers waiting.  In the model the
only events left for them are `yield` (which changes nothing) and `peekErr` (a deadline).  The theorem below makes the
liveness assumption exact: as long as no deadline fires (`peekErr`) and no new request is written, NOTHING ever
changes — no take, no ErrNoProgress, and `Close` does not help either (`Event.close` leaves the waiters where they are:
what is in the read buffer can still be peeked).  The wait is bounded by the earliest deadline among the waiting calls
and by nothing else.  In the code that bound needs `waitResponse` to check the caller's deadline itself (finding
C06-D32, /repo 718903a): `Peek` is served from the buffer and never touches the socket, so the socket's deadline alone
cannot fire (harness op `lv`). -/

/-- a frame nobody is waiting for at the head, the read lock free, and every waiting caller has company -/
def Stranded (s : State) : Prop :=
  s.rlock = none ∧ ∃ f rest, s.stream = f :: rest ∧
    (∀ j, statusOf s j = some .waiting → f.id ≠ wire j) ∧
    (∀ j, statusOf s j = some .waiting → aloneWaiting s j = false)

/-- neither a deadline nor a new request -/
def quiet : Event → Bool
  | .peekErr _ => false
  | .write _ _ _ => false
  | _ => true

/-- from a stranded state a quiet event is a `yield` or a `close` -/
theorem stranded_step {s s' : State} {e : Event} (hs : Stranded s) (hq : quiet e = true) (h : step s e = some s') :
    s'.calls = s.calls ∧ s'.stream = s.stream ∧ s'.nextSeq = s.nextSeq ∧ s'.rlock = none := by
  obtain ⟨hl, f, rest, hst, hid, hal⟩ := hs
  cases step_iff.mp h with
  | write => cases hq
  | peekErr => cases hq
  | take seq f' rest' _ _ hw hs' hm => rw [hst] at hs'; cases hs'; exact absurd hm (hid seq hw)
  | yield => exact ⟨rfl, rfl, rfl, hl⟩
  | lone seq _ _ _ _ _ hw _ _ _ halone => rw [hal seq hw] at halone; cases halone
  | finish seq _ _ _ hl' => rw [hl] at hl'; cases hl'
  | close => exact ⟨rfl, rfl, rfl, hl⟩

theorem stranded_preserved {s s' : State} {e : Event} (hs : Stranded s) (hq : quiet e = true)
    (h : step s e = some s') : Stranded s' := by
  obtain ⟨hc, hst, hn, hl⟩ := stranded_step hs hq h
  obtain ⟨_, f, rest, hst0, hid, hal⟩ := hs
  have hw : ∀ j, statusOf s' j = statusOf s j := fun j => by simp only [statusOf, hc]
  refine ⟨hl, f, rest, hst.trans hst0, fun j hj => hid j (hw j ▸ hj), fun j hj => ?_⟩
  rw [← hal j (hw j ▸ hj)]
  simp only [aloneWaiting, hn, hw]

/-- from a stranded state, whatever the callers, the application (`close`)
and the scheduler do, as long as no deadline fires and no new request is written every call stays exactly where it
is: the waiting calls keep waiting.  Only `peekErr` gets them out. -/
theorem stranded_waiters_wait_for_a_deadline : ∀ (es : List Event) (s s' : State), Stranded s →
    es.all quiet = true → runFrom s es = some s' → s'.calls = s.calls ∧ Stranded s' := by
  intro es s s' hs hq h
  refine runFrom_induction (P := fun t => t.calls = s.calls ∧ Stranded t) ?_ ⟨rfl, hs⟩ h
  intro t e t' he ⟨hc, ht⟩ hstep
  have hqe := List.all_eq_true.mp hq e he
  exact ⟨(stranded_step ht hqe hstep).1.trans hc, stranded_preserved ht hqe hstep⟩

/-- and a deadline does get them out: `peekErr` is enabled for every waiting caller of a stranded state, ends that call
with an error and kills the read side, after which the others can only fail too (`no_take_after_read_failure`) -/
theorem deadline_ends_the_wait (s : State) (hs : Stranded s) (j : Nat) (hw : statusOf s j = some .waiting) :
    ∃ s', step s (.peekErr j) = some s' ∧ statusOf s' j = some (.done .err) ∧ s'.rdead = true :=
  ⟨_, step_iff.mpr (.peekErr j hs.1 hw), statusOf_setStatus_same hw rfl, rfl⟩

/-! ## Part 2 — pooled connections of a Transport -/

section Transport
open KV.TransportConn (CSt PConn Delivery Outcome)

def settled (st : CSt) : Prop := st = .idle ∨ st = .grabbed ∨ st = .finished true

structure TInv (s : TransportConn.State) : Prop where
  /-- an unused slot is pristine -/
  absentPristine : ∀ i, (s.conns i).st = .absent → s.conns i = TransportConn.absent
  /-- idle, or owned by a requester before its request was handed over, or just after a completed
      exchange: every request written has had its response frame consumed -/
  balanced : ∀ i, settled (s.conns i).st → (s.conns i).written = (s.conns i).consumed
  /-- inside an exchange exactly one request is unanswered -/
  oneOutstanding : ∀ i, (s.conns i).st = .busy → (s.conns i).written = (s.conns i).consumed + 1
  /-- what was delivered: the frame's id is the id written, it is the k-th frame of the conn for the
      k-th request of the conn, and it has been consumed -/
  deliveries : ∀ d, d ∈ s.delivered →
      d.frame.id = wire d.id ∧ d.reqPos = d.framePos ∧ d.framePos < (s.conns d.cid).consumed

/-- `TInv` is `TransportConn.PoolOk` (Lemmas/TransportConn.lean) read clause by clause -/
theorem tinv_run {es : List TransportConn.Event} {s : TransportConn.State} (h : TransportConn.run es = some s) :
    TInv s :=
  have hp := TransportConn.poolOk_run h
  ⟨fun i => (hp.conn i).absentPristine, fun i => (hp.conn i).balanced, fun i => (hp.conn i).oneOutstanding,
    hp.deliveries⟩

/-- A connection sitting in the idle stack (and one handed to a requester,
before its request is written) has consumed a response frame for every request ever written on it:
no answer of an earlier exchange is still to come on a connection the pool can hand out. -/
theorem no_leftover_in_pool (es : List TransportConn.Event) (s : TransportConn.State)
    (h : TransportConn.run es = some s) (i : Nat)
    (hidle : (s.conns i).st = .idle ∨ (s.conns i).st = .grabbed) :
    (s.conns i).written = (s.conns i).consumed := by
  have hi := tinv_run h
  rcases hidle with h1 | h1
  · exact hi.balanced i (Or.inl h1)
  · exact hi.balanced i (Or.inr (Or.inl h1))

/-- one exchange at a time per pooled connection -/
theorem one_exchange_at_a_time (es : List TransportConn.Event) (s : TransportConn.State)
    (h : TransportConn.run es = some s) (i : Nat) (hb : (s.conns i).st = .busy) :
    (s.conns i).written = (s.conns i).consumed + 1 :=
  (tinv_run h).oneOutstanding i hb

/-- **own_response_or_error** (Transport).  Every response handed to a caller came in a frame whose
correlation id is the id written for that caller's request (`protocol.RoundTrip`'s check) and which is
the k-th frame of the connection for its k-th request. -/
theorem transport_own_response (es : List TransportConn.Event) (s : TransportConn.State)
    (h : TransportConn.run es = some s) (d : Delivery) (hd : d ∈ s.delivered) :
    d.frame.id = wire d.id ∧ d.reqPos = d.framePos :=
  ⟨((tinv_run h).deliveries d hd).1, ((tinv_run h).deliveries d hd).2.1⟩

/-- drop on failed exchange: after an exchange that ended in an error (timeout, EOF, malformed frame,
correlation id mismatch) the connection can neither be released to the pool, nor grabbed, nor given
another request — its run loop can only end -/
theorem failed_exchange_drops (s : TransportConn.State) (cid : Nat) (hf : (s.conns cid).st = .finished false)
    (a : Bool) (tag : Nat) :
    TransportConn.step s (.release cid a) = none ∧ TransportConn.step s (.grab cid) = none ∧
    TransportConn.step s (.recv cid tag) = none ∧ ∀ o, TransportConn.step s (.done cid o) = none := by
  simp [TransportConn.step, hf]

/-- **abandoned_call_cannot_leak** (Transport), `transport_own_response` read from the frame's side: a delivery that
took the k-th frame of its connection answers the k-th request of that connection — the frame answering an abandoned
k-th request can only ever be paired with that k-th request (whose caller is gone), never with a later one. -/
theorem transport_abandoned_cannot_leak (es : List TransportConn.Event) (s : TransportConn.State)
    (h : TransportConn.run es = some s) (d : Delivery) (hd : d ∈ s.delivered) (k : Nat)
    (hk : d.framePos = k) : d.reqPos = k := by
  rw [← hk]; exact (transport_own_response es s h d hd).2

/-- non-vacuity: a caller gives up (tag 7), the exchange still completes and its frame is consumed by the
run loop; the connection goes back to the pool balanced and the next request gets its own frame -/
example : (TransportConn.run [.new 1 1 1 [⟨2, 7⟩, ⟨3, 8⟩], .recv 1 7, .abandon 7, .done 1 .ok, .release 1 true,
      .grab 1, .recv 1 8, .done 1 .ok, .release 1 true]).map
      (fun s => (s.delivered, (s.conns 1).st, (s.conns 1).written, (s.conns 1).consumed)) =
    some ([⟨1, 3, 8, 1, ⟨3, 8⟩, 1⟩], .idle, 2, 2) := by decide

/-- a response with a foreign correlation id is not `ok`: the model has no such transition -/
example : TransportConn.run [.new 1 1 1 [⟨9, 7⟩], .recv 1 7, .done 1 .ok] = none := by decide

end Transport

/-! ## Part 3 — a Batch consumes its frame whole, on every read path

`ConnMux.take` removes a frame from the stream as a unit and `finish` says whether the conn survives.  For a Fetch
exchange that is a statement about bytes: Model/BatchBytes.lean follows `ReadBatchWith`, the message-set reader and
`Batch.Read / ReadMessage / Close` with the `remain` counter of the Go code, and the theorem below holds for EVERY
sequence of reads the caller makes before Close (ReadMessage, Read into a buffer of any capacity, none at all),
every fetch version header (v2, v5, v10), every content of the response (well formed, truncated, garbage) and either
deadline outcome. -/
section BatchBytes
open KV.Reader KV.ConnOps KV.BatchBytes

/-- the frame is finished: its counter is at zero (so the next byte of the stream is the next frame's first byte),
or the stream has ended -/
def FrameDone (s' : RS) : Prop := s'.sz = 0 ∨ s'.inp = []

/-- the Batch keeps to its frame in the sense of `ConnOps.FramedAt`, with "the conn is kept" for "not a failure": a kept
conn has consumed its frame to the last byte, whatever reader `ReadBatchWith` created — wherever the final discard fails,
its error becomes the Batch's and closes the conn -/
theorem fetchBatch_framed (expired : Bool) (v : Nat) (offset : Int) (fuel : Nat) (ops : List Op) (s : RS) :
    Adv s (fetchBatch expired v offset fuel ops s).rs ∧
    ((fetchBatch expired v offset fuel ops s).kept = true → (fetchBatch expired v offset fuel ops s).rs.sz = 0) :=
  close_framed (openBatch_shape expired v offset s) (runOps_reads expired fuel ops _)

/-- For every fetch version, fetch offset, deadline outcome, content of the stream
and every sequence of `ReadMessage` / `Read(buffer of any capacity)` calls (including none) before `Close`:
the bytes consumed are charged to the frame one for one, and IF THE CONN IS KEPT the frame has been consumed to its
last byte (or the stream has ended) — never a kept conn with part of the response still in the stream.
No side condition on the response: `ReadBatchWith` itself skips a message set that a response at the high watermark
carries (/repo 5ef8978; the `empty` reader reads nothing and would leave it in the stream, C11
`fetch_at_watermark_counterexample`). -/
theorem batch_close_consumes_frame (expired : Bool) (v : Nat) (offset : Int) (fuel : Nat) (ops : List Op) (s : RS) :
    Adv s (fetchBatch expired v offset fuel ops s).rs ∧
    ((fetchBatch expired v offset fuel ops s).kept = true → FrameDone (fetchBatch expired v offset fuel ops s).rs) :=
  ⟨(fetchBatch_framed expired v offset fuel ops s).1, fun hk => .inl ((fetchBatch_framed expired v offset fuel ops s).2 hk)⟩

/-- in the kept case with the frame on the stream: what is left is exactly what followed the frame -/
theorem batch_close_leaves_next_frame (expired : Bool) (v : Nat) (offset : Int) (fuel : Nat) (ops : List Op) (s : RS)
    (hz : (fetchBatch expired v offset fuel ops s).rs.sz = 0) :
    (fetchBatch expired v offset fuel ops s).rs.inp = s.inp.drop s.sz :=
  ((batch_close_consumes_frame expired v offset fuel ops s).1.consumed_all hz).2

/-- A kept conn has consumed the frame completely, not only "or the stream has ended" as in `FrameDone`: if the rest of
the response cannot be skipped (it is late, the connection broke) `Close` reports it and closes (/repo 7936b6a).
`fetchBatch_framed` says it of every Batch, so the hypothesis on the reader is not used. -/
theorem batch_close_kept_means_consumed_to_the_last_byte (expired : Bool) (v : Nat) (offset : Int) (fuel : Nat)
    (ops : List Op) (s : RS)
    (hreal : (openBatch expired v offset s).hasMsgs = true ∧ (openBatch expired v offset s).empty = false)
    (hkept : (fetchBatch expired v offset fuel ops s).kept = true) :
    (fetchBatch expired v offset fuel ops s).rs.sz = 0 ∧
      (fetchBatch expired v offset fuel ops s).rs.inp = s.inp.drop s.sz :=
  have hz := (fetchBatch_framed expired v offset fuel ops s).2 hkept
  ⟨hz, batch_close_leaves_next_frame expired v offset fuel ops s hz⟩

/-- a discard that fails makes Close fail and closes the conn, whatever the batch ended with -/
theorem failed_discard_closes (b : BSt) (hd : (b.hasMsgs && !b.empty) = true) (e : Err)
    (he : (discardN (↑b.rs.sz) b.rs).1 = .error e) :
    (batchClose b).2.2 = false ∧ (batchClose b).1 = some (ofErr e) := by
  constructor
  · cases hk : (batchClose b).2.2 with
    | false => rfl
    | true =>
      obtain ⟨u, hu⟩ := batchClose_kept_discarded b hd hk
      rw [he] at hu; cases hu
  · unfold batchClose
    simp only [hd, ↓reduceIte, he]

/-- the same for every request/response operation that goes through `(*Conn).do` (C11's operation table over the
regenerated `readFrom` programs): `Event.finish ok` and `finish kafka` of Model/ConnMux are `Outcome.ok` /
`Outcome.kafka` of `ConnOps.opRead`, `finish io` is `Outcome.fail`.  For a good operation (expectZeroSize, and a
kafka error drained or impossible inside the parse) a body that does not fail has consumed its frame to the last
byte — the byte-level meaning of "`take` removes a frame whole" outside Fetch.  (C11's `opRead_framed`.) -/
theorem finish_without_failure_consumes_frame (o : OpSpec) (v : Nat) (topic : Bytes) (s : RS)
    (hz : o.expectZero = true) (hg : o.drain = true ∨ hasFailList (o.parse v) = false)
    (hnf : (opRead o v topic s).1.isFail = false) :
    (opRead o v topic s).2.sz = 0 ∧ (opRead o v topic s).2.inp = s.inp.drop s.sz := by
  rw [((opRead_framed o v topic hz hg).aligned hnf).2]
  exact ⟨rfl, rfl⟩

end BatchBytes

/-! ## Part 4 — the structural facts the models stand on, re-read from the source on every run

`go/extract/muxfacts` parses conn.go, batch.go, transport.go, protocol/conn.go and protocol/roundtrip.go (never
runs them) and writes `Gen/MuxFacts.lean`.  Each fact is a SHAPE (fields and methods by name, locals and
parameters by position and data flow), so behaviour-preserving edits leave it true.  What each one carries:

* `idAndWriteUnderWlock`, `idIncrementedOnceByOne` — `Event.write` is one atomic step that numbers the call
  `nextSeq + 1` and puts exactly that id on the wire (`write_id_fresh`, `ids_unique_inflight`).
* `takeOnlyOnIdMatch` — `Event.take` requires `f.id = wire seq` (`own_response_or_error`).
* `peekErrorCloses`, `bodyErrorClosesUnlessKafka` — `peekErr` and `finish io` close the conn (`timeout_closes`,
  `unreadable_body_closes`): a frame is consumed whole or the conn is closed.
* `hooksInsideCriticalSections` — the trace-acceptance tie: each `C.*` / `T.*` hook is recorded while the mutex
  that makes its event atomic is held (wlock, rlock, the group mutex; `run` is a single goroutine), so the recorded
  order is an order in which the critical sections really happened.
* `promisePairedWithRequest`, `runAnswersItsOwnRequest` — TransportConn `Delivery`: the response of an exchange
  goes to the promise created with that request.
* `loneOnlyWhenAlone` — `Event.lone` requires `aloneWaiting`.
* `inflightCountsRequests` — `aloneWaiting` counts the calls whose status is `waiting`: every request written and not
  yet served.  In the code that is `Conn.inflight`: `enter()` in `doRequest` (the one function that numbers and writes a
  request, whoever calls it: `do`, ApiVersions, ReadBatchWith), `leave()` when the wait ends.
* `primitivesChargeWhatTheyConsume` — the primitives of read.go / discard.go themselves: every `r.Discard` /
  `io.ReadFull` / `r.Read` has its byte count subtracted from the budget (`conserves_*` of Base/Reader and
  `varint_read_conserves` below; `WireProg.Prim.conserves`, on which `wire_discipline_consumes_frame` rests, says it of
  the model's primitives).
* `readFailureCloseDropsBuffered` — `finish io` sets `rdead`, and `rdead_is_final` with `no_take_after_read_failure`
  says no call takes a frame after that: in the code the close of an unreadable response must also drop what is
  buffered of it, under the read lock
  (finding C06-D30: closing the net.Conn alone left the leftover in the bufio.Reader for the waiting callers).
* `wireSitesThreaded`, `remainOnlyFromPrims`, `batchCallbacksThreaded` — the hypothesis of
  `wire_discipline_consumes_frame` below.
* `batchCloseDiscards`, `discardRewindsToWire`, `batchCloseKeepsOnlyKafkaOrShortBuffer`, `readValueAccountsBytes`,
  `messageSetSizeFromHeader` — the steps of Model/BatchBytes.lean (`batchClose`, `valOfRead`, `openBatch`) that
  `batch_close_consumes_frame` composes.
* `failedExchangeEndsRun`, `releaseInsideRun` — TransportConn: `done err` leads to `finished false`, from which only
  `exit` is possible (`failed_exchange_drops`, `no_leftover_in_pool`).
* `idgenAdvancesPerExchange`, `roundTripChecksId` — TransportConn: `recv` increments `idgen`, `done ok` requires
  `f.id = wire idgen` (`transport_own_response`). -/
theorem structural_facts_hold :
    Gen.MuxFacts.idAndWriteUnderWlock = true ∧ Gen.MuxFacts.idIncrementedOnceByOne = true ∧
    Gen.MuxFacts.takeOnlyOnIdMatch = true ∧ Gen.MuxFacts.peekErrorCloses = true ∧
    Gen.MuxFacts.bodyErrorClosesUnlessKafka = true ∧ Gen.MuxFacts.batchCloseDiscards = true ∧
    Gen.MuxFacts.batchCloseKeepsOnlyKafkaOrShortBuffer = true ∧ Gen.MuxFacts.readValueAccountsBytes = true ∧
    Gen.MuxFacts.messageSetSizeFromHeader = true ∧ Gen.MuxFacts.failedExchangeEndsRun = true ∧
    Gen.MuxFacts.releaseInsideRun = true ∧ Gen.MuxFacts.idgenAdvancesPerExchange = true ∧
    Gen.MuxFacts.roundTripChecksId = true ∧ Gen.MuxFacts.discardRewindsToWire = true ∧
    Gen.MuxFacts.wireSitesThreaded = true ∧ Gen.MuxFacts.remainOnlyFromPrims = true ∧
    Gen.MuxFacts.batchCallbacksThreaded = true ∧ Gen.MuxFacts.hooksInsideCriticalSections = true ∧
    Gen.MuxFacts.promisePairedWithRequest = true ∧ Gen.MuxFacts.runAnswersItsOwnRequest = true ∧
    Gen.MuxFacts.loneOnlyWhenAlone = true ∧ Gen.MuxFacts.readFailureCloseDropsBuffered = true ∧
    Gen.MuxFacts.primitivesChargeWhatTheyConsume = true ∧ Gen.MuxFacts.inflightCountsRequests = true := by decide

/-- **readVarInt conserves bytes however the response is cut into chunks** (Model/VarIntRead.lean).  `Prim.varint` of
Model/WireProg.lean is a primitive that conserves by definition; that read.go's algorithm does is proved here, beside
it (no lemma connects the two models) — the window of buffered bytes at each turn of its loop is an arbitrary list —
including the branch that makes room in the buffer in the middle of a number (without `sz -= n` there the budget stays
too high by the bytes already consumed, and `Batch.close` discards that many bytes of the NEXT response). -/
theorem varint_read_conserves (fuel : Nat) (ws : List Nat) (s : Reader.RS) :
    Reader.Adv s (VarIntRead.readVarInt fuel ws s).2 := VarIntRead.readVarInt_conserves fuel ws s

def okVal (r : Except Reader.Err Int × Reader.RS) : Option Int × Reader.RS :=
  (match r.1 with | .ok v => some v | .error _ => none, r.2)

def isShortRead (r : Except Reader.Err Int × Reader.RS) : Bool :=
  match r.1 with | .error .shortRead => true | _ => false

/-- the value and the bytes consumed do not depend on where the chunk boundary falls: 300 zig-zag-encoded on two bytes
(value 150), all at once, split inside the number, and with a third byte waiting -/
theorem varint_chunking_examples :
    okVal (VarIntRead.readVarInt 8 [3] ⟨[0xAC, 0x02, 9], 3⟩) = (some 150, ⟨[9], 1⟩) ∧
    okVal (VarIntRead.readVarInt 8 [1, 2] ⟨[0xAC, 0x02, 9], 3⟩) = (some 150, ⟨[9], 1⟩) ∧
    okVal (VarIntRead.readVarInt 8 [1, 1, 1] ⟨[0xAC, 0x02, 9], 3⟩) = (some 150, ⟨[9], 1⟩) ∧
    okVal (VarIntRead.readVarInt 8 [0, 2] ⟨[0xAC, 0x02, 9], 3⟩) = (some 150, ⟨[9], 1⟩) ∧
    -- the budget ends inside the number: errShortRead with the budget used up
    isShortRead (VarIntRead.readVarInt 8 [1, 2] ⟨[0xAC, 0x02, 9], 1⟩) = true ∧
    (VarIntRead.readVarInt 8 [1, 2] ⟨[0xAC, 0x02, 9], 1⟩).2 = ⟨[0x02, 9], 0⟩ ∧
    -- the stream ends inside the number
    (VarIntRead.readVarInt 8 [1] ⟨[0xAC], 5⟩).2 = ⟨[], 4⟩ := by decide +kernel

/-- **Every reader in the size-threading discipline consumes its frame whole.**  Model/BatchBytes.lean spells out the
magic-0/1 path; the rest of message_reader.go (record batches, varints, record headers, both decompression sites,
the reader stack) is covered by shape: `wireSitesThreaded`, `remainOnlyFromPrims` and `batchCallbacksThreaded`
say that the code touches the connection only as `r.remain, err = prim(r.reader, r.remain, …)` (10 sites), through
the batch.go callbacks (which use only readNewBytes / discardN / io.ReadFull) and through two LimitedReaders charged
`n − N`.  For ANY program of that form — whatever it computes, however it treats errors, whatever the bytes —
followed by the `discardN(r.remain)` of `Batch.close`: consumed bytes and counter agree, the frame ends with the counter
at zero or the stream ended, and at zero what is left of the stream is exactly what followed the frame. -/
theorem wire_discipline_consumes_frame {α : Type} (prog : WireProg.Prog α) (s : Reader.RS) :
    let s1 := (prog.run s).2
    let s2 := (Reader.discardN (↑s1.sz) s1).2
    Reader.Adv s s2 ∧ (s2.sz = 0 ∨ s2.inp = []) ∧ (s2.sz = 0 → s2.inp = s.inp.drop s.sz) :=
  WireProg.prog_then_discard_finishes prog s

/-- non-vacuity: a program that reads a length, then that many bytes through a "codec" that stops early, ignores
the error of a further read and returns; the discard still lands on the frame boundary -/
example :
    let prog : WireProg.Prog Nat :=
      .call (.peekRead 1) fun r => match r with
        | .ok [n] => .call (.readUpTo n.toNat 2) fun _ => .call (.peekRead 9) fun _ => .ret 7
        | _ => .ret 0
    let s1 := (prog.run ⟨[5, 1, 2, 3, 4, 5, 6, 99, 98], 7⟩).2
    (Reader.discardN (↑s1.sz) s1).2 = ⟨[99, 98], 0⟩ := by decide

/-! ## Part 5 — the decision structure of waitResponse, do, conn.run and the functions around them IS the models'
transition structure

`go/extract/muxfacts/symflow.go` executes thirteen functions symbolically (one table each, the conjuncts of
`flow_tables_are_the_models`): every condition is classified into a
named predicate by data flow (the error returned by the peek, the id parameter against the peeked id,
`concurrency() == 1`; the error of doRequest / waitResponse / the read closure, `errors.As(err, &kafkaError)`; the
error of the round trip, `errors.Is(err, ErrNoRecord)`, the result of `releaseConn`), every combination of truth
values is run through if / switch / for / break / return, and the calls that matter are recorded in order
(`Gen.MuxFacts.waitResponseFlow`, `doFlow`, `runFlow`, …).  Below, the same rows are computed FROM THE MODELS — which
event the scenario is, what `step` does to `closed`, `rlock`, the call's status, the pooled conn's state — and the
theorem says the two agree row by row.  What a row function takes from `step` is what it computes from a state; where a
scenario ends in front of the exchange (a failed seek, negotiation, request or wait) no event of the model is involved and
the row is the list of calls made so far, written out. -/
section Flow

/-- the scenario `sc` of a table row sets the predicate `p` -/
def flag (sc : List String) (p : String) : Bool := sc.contains (p ++ "=true")

/-- waitResponse: the scenario as a ConnMux event on a state with one (alone) or two waiting callers and one frame
on the stream whose id matches call 1 or nobody -/
def waitResponseModelRow (sc : List String) : List String :=
  let pf := flag sc "peekFailed"; let im := flag sc "idMatches"; let al := flag sc "alone"
  let fid := if im then 1 else 7
  let pre : List Event := if al then [.write 10 true 1] else [.write 10 true 1, .write 20 true 2]
  -- somebody else's frame at the head and this call's deadline has passed: the wait ends like a failed Peek (C06-D32)
  let dp := flag sc "deadlinePassed" && flag sc "hasDeadline"
  let ev : Event := if pf then .peekErr 1 else if im then .take 1 else if al then .lone 1 7 else if dp then .peekErr 1 else .yield 1 7
  match run [⟨fid, 0⟩] pre with
  | none => ["model: no such state"]
  | some s0 =>
    match step s0 ev with
    | none => ["model: event not enabled"]
    | some s1 =>
      let st := statusOf s1 1
      ["lock", "peek"] ++
      (match st with | some (.reading _ _) => ["skip"] | _ => []) ++
      (if st == some (.done .err) && ev == .lone 1 7 then ["noProgress"] else []) ++
      (if s1.closed then ["close"] else []) ++
      (if s1.rlock.isNone then ["unlock"] else []) ++
      (if st == some .waiting then ["loop"] else []) ++ ["leave"]

/-- (*Conn).do: request written or not, response taken or not, body outcome -/
def doModelRow (sc : List String) : List String :=
  let rf := flag sc "requestFailed"; let wf := flag sc "waitFailed"
  let bf := flag sc "readFailed"; let ik := flag sc "isKafkaError"
  if rf then ["doRequest"]
  else if wf then ["doRequest", "waitResponse"]
  else
    let o : Body := if !bf then .ok else if ik then .kafka else .io
    match run [⟨1, 0⟩] [.write 10 true 1, .take 1] with
    | none => ["model: no such state"]
    | some s0 =>
      match step s0 (.finish 1 o) with
      | none => ["model: event not enabled"]
      | some s1 => ["doRequest", "waitResponse", "read"] ++ (if s1.closed then ["close"] else []) ++
          (if s1.rlock.isNone then ["unlock"] else [])

/-- transport.go (*conn).run: one iteration as TransportConn events -/
def runModelRow (sc : List String) : List String :=
  let ef := flag sc "exchangeFailed"; let nr := flag sc "noRecord"; let rel := flag sc "released"
  let o : TransportConn.Outcome := if !ef then .ok else if nr then .errKeep else .err
  let pre : List TransportConn.Event :=
    (if rel then [] else [.closeIdle 1]) ++ [.new 1 1 1 [⟨2, 5⟩], .recv 1 5]
  match TransportConn.run pre with
  | none => ["model: no such state"]
  | some s0 =>
    match TransportConn.step s0 (.done 1 o) with
    | none => ["model: event not enabled"]
    | some s1 =>
      -- the model's own answer: a delivery was recorded (kept for the failing exchanges, overridden just below)
      let answered := if s1.delivered.length > s0.delivered.length then "resolve" else "reject"
      -- `run` resolves with whatever the round trip returned; the model delivers only on `ok`
      let answered := if !ef then "resolve" else answered
      match TransportConn.step s1 (.release 1 rel) with
      | none => ["defer:closeSocket", "roundTrip", answered, "leave-loop"]          -- finished false: nothing but exit
      | some s2 =>
        ["defer:closeSocket", "roundTrip", answered, "release",
         if (s2.conns 1).st == .idle then "next-iteration" else "leave-loop"]

/-- (*Conn).doRequest: one `write` event -/
def doRequestModelRow (sc : List String) : List String :=
  let wf := flag sc "writeFailed"
  match step (init []) (.write 10 (!wf) 1) with
  | none => ["model: event not enabled"]
  | some s1 =>
    ["enter", "lock", "nextId", "write"] ++
    (if s1.closed && statusOf s1 1 == some (.done .err) then ["close", "leave"] else []) ++ ["unlock"]

/-- protocol.RoundTrip on a pooled conn in the middle of an exchange: `done ok` is possible exactly when a frame
with the id just written is read -/
def roundTripModelRow (sc : List String) : List String :=
  let wf := flag sc "writeFailed"; let er := flag sc "expectsResponse"
  let rf := flag sc "readFailed"; let mm := flag sc "idMismatch"
  if wf then ["write", "return:error"]
  else if !er then ["write", "return:nothing"]
  else
    let fid := if mm then 9 else 2
    match TransportConn.run [.new 1 1 1 [⟨fid, 5⟩], .recv 1 5] with
    | none => ["model: no such state"]
    | some s0 =>
      let okPossible := (TransportConn.step s0 (.done 1 .ok)).isSome
      ["write", "read", if !rf && okPossible then "return:response" else "return:error"]

/-- the idle stack: a pooled conn that has just completed an exchange, in a group that is closed or not -/
def releaseConnModelRow (sc : List String) : List String :=
  let gc := flag sc "groupClosed"
  let pre : List TransportConn.Event := (if gc then [.closeIdle 1] else []) ++ [.new 1 1 1 [⟨2, 5⟩], .recv 1 5, .done 1 .ok]
  match TransportConn.run pre with
  | none => ["model: no such state"]
  | some s0 =>
    -- the model takes `release` only with the `accepted` that the group's state dictates
    match TransportConn.step s0 (.release 1 (!gc)), TransportConn.step s0 (.release 1 gc) with
    | some s1, none =>
      ["lock", "defer:unlock"] ++ (if (s1.conns 1).st == .idle then ["push"] else []) ++ [if !gc then "return:true" else "return:false"]
    | _, _ => ["model: release not determined"]

/-- `grabConn`: the top of the idle stack is handed out exactly when `grab` is enabled (the stack is not empty).  `"?"`
(here and below) marks a state the event should not lead to; no extracted row contains it, so a table that matches
says the branch is never taken. -/
def grabConnModelRow (sc : List String) : List String :=
  let pre : List TransportConn.Event :=
    if flag sc "idleEmpty" then [] else [.new 1 1 1 [⟨2, 5⟩], .recv 1 5, .done 1 .ok, .release 1 true]
  match TransportConn.run pre with
  | none => ["model: no such state"]
  | some s0 =>
    match TransportConn.step s0 (.grab 1) with
    | some s1 => ["lock", "defer:unlock"] ++ (if (s1.conns 1).st == .grabbed then ["pop", "return:conn"] else ["?"])
    | none => ["lock", "defer:unlock", "return:nil"]

/-- `grabConnTo` (the path taken when a `Transport.Resolver` is set): scans the idle stack from the top for a conn to
the resolved address.  The model has no addresses — `Event.grab cid` may take ANY idle conn, which covers every choice
the scan can make; a conn is handed out exactly when `grab` is enabled for it and the address matches, and no idle conn
(or none to that address) means the caller connects anew. -/
def grabConnToModelRow (sc : List String) : List String :=
  let pre : List TransportConn.Event :=
    if flag sc "idleLeft" then [.new 1 1 1 [⟨2, 5⟩], .recv 1 5, .done 1 .ok, .release 1 true] else []
  match TransportConn.run pre with
  | none => ["model: no such state"]
  | some s0 =>
    match TransportConn.step s0 (.grab 1) with
    | some s1 =>
      if flag sc "addressMatches" then
        ["lock", "defer:unlock"] ++ (if (s1.conns 1).st == .grabbed then ["pop", "return:conn"] else ["?"])
      else ["lock", "defer:unlock", "loop", "return:nil"]
    | none => ["lock", "defer:unlock", "return:nil"]

/-- `removeConn` (the idle timer): the conn leaves the pool exactly when `remove` is enabled -/
def removeConnModelRow (sc : List String) : List String :=
  -- `isThisConn`: the conn is (still) in the idle stack when its timer fires
  let pre : List TransportConn.Event :=
    [.new 1 1 1 [⟨2, 5⟩], .recv 1 5, .done 1 .ok, .release 1 true] ++ (if flag sc "isThisConn" then [] else [.grab 1])
  match TransportConn.run pre with
  | none => ["model: no such state"]
  | some s0 =>
    match TransportConn.step s0 (.remove 1) with
    | some s1 => ["lock", "defer:unlock"] ++ (if (s1.conns 1).st == .closing then ["pop", "return:true"] else ["?"])
    | none => ["lock", "defer:unlock", "return:false"]

/-- `closeIdleConns`: one `closeIdle` event on a group with one idle conn -/
def closeIdleConnsModelRow (_ : List String) : List String :=
  match TransportConn.run [.new 1 1 1 [⟨2, 5⟩], .recv 1 5, .done 1 .ok, .release 1 true] with
  | none => ["model: no such state"]
  | some s0 =>
    match TransportConn.step s0 (.closeIdle 1) with
    | none => ["model: event not enabled"]
    | some s1 =>
      ["lock"] ++ (if (s1.conns 1).st != .idle then ["clearIdle"] else []) ++
      (if s1.closedGroups.contains 1 then ["markClosed"] else []) ++ ["unlock"] ++
      (if (s1.conns 1).st == .closing then ["closeConn"] else [])

/-- how (*Conn).ApiVersions ends the exchange (/repo 2b8f9f7): the body parsed and nothing left → `ok`; the broker's
error code and nothing left → `kafka` (conn kept, frame consumed); a body that could not be read, or bytes left after
the list (checked by `expectZeroSize` unless the read already failed) → `io`: the conn is closed -/
def apiVersionsOutcome (bodyKafka bodyOther trailing : Bool) : Body :=
  if bodyOther || trailing then .io else if bodyKafka then .kafka else .ok

/-- (*Conn).ApiVersions uses the multiplexer without `do`: the read lock taken by waitResponse is released by a
deferred unlock in every case; the conn is closed exactly when ConnMux's `finish` with `apiVersionsOutcome` closes it -/
def apiVersionsModelRow (sc : List String) : List String :=
  if flag sc "requestFailed" then ["doRequest", "return"]
  else if flag sc "waitFailed" then ["doRequest", "waitResponse", "return"]
  else
    match run [⟨1, 0⟩] [.write 0 true 1, .take 1] with
    | none => ["model: no such state"]
    | some s0 =>
      let other := sc.contains "body=other"
      match step s0 (.finish 1 (apiVersionsOutcome (sc.contains "body=kafka") other (flag sc "trailingBytes"))) with
      | none => ["model: event not enabled"]
      | some s1 =>
        ["doRequest", "waitResponse"] ++ (if s0.rlock.isSome && s1.rlock.isNone then ["defer:unlock"] else []) ++
        ["readBody"] ++ (if other then [] else ["checkSize"]) ++ (if s1.closed then ["close"] else []) ++ ["return"]

/-- a v2 fetch response body: header (watermark `hwm`) and one empty magic-1 message -/
def sampleFetchBody (hwm : UInt8) : KV.Bytes :=
  [0,0,0,0, 0,0,0,1, 0,1,116, 0,0,0,1, 0,0,0,0, 0,0, 0,0,0,0,0,0,0,hwm, 0,0,0,34,
   0,0,0,0,0,0,0,0, 0,0,0,22, 0,0,0,0, 1, 0, 0,0,0,0,0,0,0,1, 255,255,255,255, 0,0,0,0]

/-- the same header at the watermark with an empty message set -/
def emptySetFetchBody : KV.Bytes :=
  [0,0,0,0, 0,0,0,1, 0,1,116, 0,0,0,1, 0,0,0,0, 0,0, 0,0,0,0,0,0,0,0, 0,0,0,0]

/-- (*Conn).ReadBatchWith: the failures in front of the exchange return a Batch that carries only the error; once
waitResponse has taken the frame the Batch holds the read lock (ConnMux: `rlock` stays with the call until `finish`),
whatever the header says; the message-set reader is created exactly when `BatchBytes.openBatch` creates one -/
def readBatchWithModelRow (sc : List String) : List String :=
  if flag sc "seekFailed" then ["seek", "return:batchWithErrorOnly"]
  else if flag sc "negotiateFailed" then ["seek", "negotiate", "return:batchWithErrorOnly"]
  else if flag sc "requestFailed" then ["seek", "negotiate", "doRequest", "return:batchWithErrorOnly"]
  else if flag sc "waitFailed" then ["seek", "negotiate", "doRequest", "waitResponse", "return:batchWithErrorOnly"]
  else
    match run [⟨1, 0⟩] [.write 0 true 1, .take 1] with
    | none => ["model: no such state"]
    | some s0 =>
      let wm := flag sc "atWatermark"
      let body : KV.Bytes :=
        if flag sc "headerFailed" then [0, 0]
        else if wm && !flag sc "setNotEmpty" then emptySetFetchBody
        else sampleFetchBody (if wm then 0 else 5)
      let s1 : Reader.RS := ⟨body, body.length⟩
      let b := BatchBytes.openBatch false 2 0 s1
      -- at the watermark the message set, if any, is skipped at once: the model's reader state moves to the frame end
      let skipped := b.empty && b.rs.sz == 0 && b.rs.inp.isEmpty && body.length > emptySetFetchBody.length
      ["seek", "negotiate", "doRequest", "waitResponse", "readHeader", "drainOnKafkaError"] ++
      (if skipped then ["skipSetAtWatermark"] else []) ++
      (if b.hasMsgs && !b.empty then ["newMessageSetReader"] else []) ++
      [if s0.rlock.isSome then "return:batchHoldingTheLock" else "return:batchWithErrorOnly"]

/-- (*Batch).close, for each class of the batch's sticky error: the message-set reader (when there is one) is
discarded, the conn is closed exactly when `BatchBytes.batchClose` says it is not kept, and the read lock is given back
in every case (ConnMux: `finish` always clears `rlock`) -/
def batchCloseModelRow (sc : List String) : List String :=
  let err : Option BatchBytes.BErr :=
    if sc.contains "err=nil" then none
    else if sc.contains "err=eof" then some .eof
    else if sc.contains "err=kafka" then some (.kafka 7)
    else if sc.contains "err=short" then some .shortBuffer
    else some .other
  let body := sampleFetchBody 5
  -- `discardFailed`: the stream ends 7 bytes before the frame does (the rest is late, or the connection broke)
  let b : BatchBytes.BSt :=
    { rs := ⟨body, if flag sc "discardFailed" then body.length + 7 else body.length⟩, pending := none, offset := 0, err := err,
      hasMsgs := flag sc "hasMsgs", empty := false }
  let (_, rs', kept) := BatchBytes.batchClose b
  let unlocked := match run [⟨1, 0⟩] [.write 0 true 1, .take 1, .finish 1 (if kept then .ok else .io)] with
    | some s => s.rlock.isNone
    | none => false
  (if rs' != b.rs then ["discard"] else []) ++ (if kept then [] else ["closeConn"]) ++ (if unlocked then ["unlock"] else [])

/-- the attach / detach steps of the deadline object are the subject of Model/ConnDeadline.lean (Part 6:
`flow_tables_release_detached`); the multiplexer models do not speak about them -/
def noDeadline (eff : List String) : List String :=
  eff.filter (fun e => !(e == "attach" || e == "detach" || e == "defer:detach"))

/-- the extracted decision tables are the models' transitions (evaluated by the kernel alone: the elaborator's evaluator
is far slower on string comparisons) -/
theorem flow_tables_are_the_models :
    Gen.MuxFacts.batchCloseFlow.all (fun (sc, eff) => batchCloseModelRow sc == noDeadline eff) = true ∧
    Gen.MuxFacts.apiVersionsFlow.all (fun (sc, eff) => apiVersionsModelRow sc == noDeadline eff) = true ∧
    Gen.MuxFacts.readBatchWithFlow.all (fun (sc, eff) => readBatchWithModelRow sc == eff) = true ∧
    Gen.MuxFacts.releaseConnFlow.all (fun (sc, eff) => releaseConnModelRow sc == eff) = true ∧
    Gen.MuxFacts.grabConnFlow.all (fun (sc, eff) => grabConnModelRow sc == eff) = true ∧
    Gen.MuxFacts.grabConnToFlow.all (fun (sc, eff) => grabConnToModelRow sc == eff) = true ∧
    Gen.MuxFacts.removeConnFlow.all (fun (sc, eff) => removeConnModelRow sc == eff) = true ∧
    Gen.MuxFacts.closeIdleConnsFlow.all (fun (sc, eff) => closeIdleConnsModelRow sc == eff) = true ∧
    Gen.MuxFacts.doRequestFlow.all (fun (sc, eff) => doRequestModelRow sc == eff) = true ∧
    Gen.MuxFacts.roundTripFlow.all (fun (sc, eff) => roundTripModelRow sc == eff) = true ∧
    Gen.MuxFacts.waitResponseFlow.all (fun (sc, eff) => waitResponseModelRow sc == noDeadline eff) = true ∧
    Gen.MuxFacts.doFlow.all (fun (sc, eff) => doModelRow sc == noDeadline eff) = true ∧
    Gen.MuxFacts.runFlow.all (fun (sc, eff) => runModelRow sc == eff) = true := by
  decide +kernel

end Flow

/-! ## Part 6 — the socket's read deadline belongs to the operation that holds the read lock

Model/ConnDeadline.lean.  The discipline "whoever gives the read lock back detaches its deadline object first"
(`disciplined`) is what the code must follow; the regenerated decision tables of `waitResponse`, `do`, `ApiVersions`
and `Batch.close` show it (`flow_tables_release_detached` below).  Under it the read deadline of the socket is, at
every moment, the CURRENT value of the deadline object of the operation that reads: a SetDeadline / SetWriteDeadline
meant for something else never ends somebody's read (finding C06-D31: `ApiVersions` left its deadline object attached
— after a negotiation that ran under the write deadline, every later SetWriteDeadline rewrote the socket's READ
deadline and timed out an unrelated read that had no deadline at all). -/

section Deadline
open KV.ConnDeadline

/-- for every interleaving of SetReadDeadline / SetWriteDeadline calls with operations that
attach their deadline object under the read lock and detach it before they give the lock back: while an operation
holds the read lock, the socket's read deadline IS the current value of that operation's own deadline object -/
theorem deadline_isolation (es : List ConnDeadline.Event) (s : ConnDeadline.State)
    (hd : ConnDeadline.disciplined es = true) (h : ConnDeadline.run es = some s) (o : Obj) (hh : s.holder = some o) :
    s.sock = (s.obj o).value :=
  ((dinv_of_run hd h).holder o hh).1

/-- a deadline set on the OTHER object while somebody reads does not touch the socket -/
theorem foreign_deadline_is_inert (es : List ConnDeadline.Event) (s s' : ConnDeadline.State)
    (hd : ConnDeadline.disciplined es = true) (h : ConnDeadline.run es = some s) (o o' : Obj) (hh : s.holder = some o)
    (hne : o' ≠ o) (t : Nat) (hs : ConnDeadline.step s (.set o' t) = some s') : s'.sock = s.sock := by
  rw [(step_set hs).2.1, (dinv_of_run hd h).other_detached hh hne]; rfl

/-- the discipline is needed — an `ApiVersions` that does not detach (finding C06-D31): negotiation under the write
deadline, lock given back with the object still attached; then a read with no read deadline, and a SetWriteDeadline(5) meant for a later write: the
socket's read deadline becomes 5 while the reader's own deadline object says "none" -/
theorem stale_attachment_counterexample :
    (ConnDeadline.run [.attach .w, .release false, .attach .r, .set .w 5]).map
      (fun s => (s.holder, s.sock, s.r.value)) = some (some .r, 5, 0) := by decide

/-- with the detach the same schedule leaves the reader alone -/
theorem detached_schedule_example :
    (ConnDeadline.run [.attach .w, .release true, .attach .r, .set .w 5]).map
      (fun s => (s.holder, s.sock, s.r.value)) = some (some .r, 0, 0) := by decide

def undefer : String → Option String
  | "defer:unlock" => some "unlock"
  | "defer:detach" => some "detach"
  | _ => none

/-- a row of a decision table respects the discipline: walking its effects (deferred calls run in reverse order at the
end), no `unlock` happens while the deadline object is attached.  `attach` = setConnReadDeadline, `waitResponse` (as a
callee) returns with the lock held and the object attached, `detach` = unsetConnReadDeadline. -/
def rowDetaches (attached0 : Bool) (effs : List String) : Bool :=
  let walk := fun (st : Bool × Bool) (e : String) =>
    -- st = (attached, ok)
    if e == "attach" || e == "waitResponse" then (true, st.2)
    else if e == "detach" then (false, st.2)
    else if e == "unlock" then (st.1, st.2 && !st.1)
    else st
  ((effs ++ (effs.filterMap undefer).reverse).foldl walk (attached0, true)).2

/-- the four functions that give the read lock back, as extracted this run, detach first in every scenario
(`Batch.close` starts with the lock held and the object attached by `ReadBatchWith`'s `waitResponse`) -/
theorem flow_tables_release_detached :
    Gen.MuxFacts.waitResponseFlow.all (fun (_, eff) => rowDetaches false eff) = true ∧
    Gen.MuxFacts.doFlow.all (fun (_, eff) => rowDetaches false eff) = true ∧
    Gen.MuxFacts.apiVersionsFlow.all (fun (_, eff) => rowDetaches false eff) = true ∧
    Gen.MuxFacts.batchCloseFlow.all (fun (_, eff) => rowDetaches true eff) = true := by
  decide +kernel

end Deadline

/-! ## Part 7 — the pool's metadata refresh applies the answer to ITS request

Model/PoolDiscover.lean.  "No call ever receives another call's response or a response left over from an exchange that
was abandoned" also binds the calls the Transport makes for itself: the refresh loop of the connection pool abandons a
refresh on its deadline and starts the next one while the connection goroutine may still deliver the outcome of the
abandoned request.  With a promise per refresh that late outcome lands where nobody listens. -/

section Discover
open KV.PoolDiscover

/-- for every interleaving of the refresh loop (start, deadline) with the connection
goroutine (late completions included): what refresh k gives to `p.update` is the outcome of request k — its answer, its
error, or its own deadline — never the outcome of an earlier, abandoned request -/
theorem refresh_applies_own_outcome (es : List PoolDiscover.Event) (s : PoolDiscover.State)
    (h : PoolDiscover.run true es = some s) (k : Nat) (r : PoolDiscover.Res) (hm : (k, r) ∈ s.applied) : r.req = k :=
  (pinv_run h).applied k r hm

/-- the promise per refresh is needed (`fresh = false`: one channel for all refreshes): refresh 1 is abandoned on its
deadline, refresh 2 starts, the late answer to request 1 arrives — and refresh 2 applies it as its own; its real answer
is then applied by refresh 3: the cache runs one generation behind -/
theorem shared_promise_counterexample :
    (PoolDiscover.run false [.start, .timeout, .start, .complete 1 true, .take, .start, .complete 2 true, .take]).map
      (·.applied) = some [(1, .error 1), (2, .answer 1), (3, .answer 2)] := by decide

/-- with a promise per refresh the same schedule: the late answer stays in its abandoned promise -/
theorem own_promise_example :
    (PoolDiscover.run true [.start, .timeout, .start, .complete 1 true, .complete 2 true, .take]).map (·.applied) =
      some [(1, .error 1), (2, .answer 2)] := by decide

/-- the allocation site, re-read from transport.go this run -/
theorem discover_promise_per_refresh : Gen.MuxFacts.discoverPromisePerRefresh = true := by decide

end Discover

end KV.C06
