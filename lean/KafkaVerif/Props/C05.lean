/-
Props/C05.lean — "Record batches: what is produced is exactly what a consumer decodes".

Reference side: `Spec/RecordBatch.lean` (independent strict decoder + encoder for message sets v0/v1 and
record batches v2).  Library side: `Model/RecordWriter.lean`, `Model/RecordWriterPaged.lean` (kafka-go's writers, flat and
on the page buffer), `Model/RecordReader.lean`, `Model/ConnReader.lean` (its decoders on the Client.Fetch and Conn paths),
`Model/Pages.lean`, `Model/PageHeap.lean`, `Model/PageBuffer.lean` (pages of protocol/buffer.go: counts, contents, index
arithmetic).

Modelling level of the decoder models (Model/RecordReader, Model/ConnReader): records, varbytes, record headers, wrappers, offsets and the
control flow are re-modelled field by field; the fixed-width fields of a batch / message header are read with the Spec's own
`readFrameBody` / `readMsgBody`, so agreement on those is by construction and what ties their order and widths to the Go reads is
`gen_field_order`.  Of the C02 token model: the byte → token step is done by the reference reader (the Go code's field-by-field
reads inside one token are not re-modelled); that step and truncated responses stay tied by correspondence.
-/
import KafkaVerif.Lemmas.RecordBatchSpec
import KafkaVerif.Lemmas.RecordWriter
import KafkaVerif.Lemmas.Pages
import KafkaVerif.Lemmas.PageHeap
import KafkaVerif.Lemmas.RecordReader
import KafkaVerif.Props.C02
import KafkaVerif.Lemmas.ByteTokens
import KafkaVerif.Lemmas.ByteItems
import KafkaVerif.Lemmas.ConnReader
import KafkaVerif.Lemmas.PageBuffer
import KafkaVerif.Lemmas.RecordWriterPaged
import KafkaVerif.Gen.RecordConsts
import KafkaVerif.Gen.RecordLayout

namespace KV.Props.C05
open KV KV.RW KV.Spec.RB

/-! ## Part A — wire primitives -/

theorem zigzag_roundtrip (x : Int) : unzigzag (zigzag x) = x := unzigzag_zigzag x

/-- every varint decodes to itself, whatever follows (no bound on the value) -/
theorem varint_roundtrip (x : Int) (rest : Bytes) : readVarint (varint x ++ rest) = some (x, rest) :=
  readVarint_varint x rest

/-- `sizeOfVarInt` (protocol/size.go, `bits.Len64` formula) and `varIntLen` (write.go, loop) are both the
actual encoded length -/
theorem varint_size (x : Int) :
    Model.RecordWriter.sizeOfVarInt x = (varint x).length ∧ Model.RecordWriter.varIntLen x = (varint x).length :=
  ⟨Model.RecordWriter.sizeOfVarInt_eq x, Model.RecordWriter.varIntLen_eq x⟩

theorem int64_roundtrip (x : Int) (rest : Bytes) (h : InRange M64 x) : readI64 (i64 x ++ rest) = some (x, rest) :=
  readI64_i64 x rest h

example : InRange M64 (-9223372036854775808) ∧ InRange M64 9223372036854775807 := by decide

/-! ## Part B — the reference codec round-trips -/

/-- records of a v2 batch: keys/values/headers (null ≠ empty), deltas, order; exactly `n` records -/
theorem v2_records_roundtrip (xs : List RecV2) : decodeRecs (xs.length : Int) (encRecs xs) = some xs :=
  decodeRecs_encRecs xs

/-- null and empty are different on the wire -/
theorem null_ne_empty : varbytes none ≠ varbytes (some []) ∧ nbytes none ≠ nbytes (some []) := by
  constructor
  · simp [varbytes, varint_neg_one, varint_zero]
  · simp [nbytes, i32, beN, toU, M32, byte]

theorem v2_frame_roundtrip (crc : Bytes → Nat) (hcrc : ∀ b, crc b < M32) (f : FrameV2) (h : f.WF) (rest : Bytes) :
    readFrame crc (encFrame crc f ++ rest) = some (f, rest) :=
  readFrame_encFrame crc hcrc f h rest

theorem msg_roundtrip (crc : Bytes → Nat) (hcrc : ∀ b, crc b < M32) (m : Msg) (h : m.WF) (rest : Bytes) :
    readMsg crc (encMsg crc m ++ rest) = some (m, rest) :=
  readMsg_encMsg crc hcrc m h rest

def Entry.WF : Entry → Prop
  | .msg m => m.WF
  | .batch f => f.WF

/-- several batches per response, any mix of formats: the whole set decodes to the entries, in order -/
theorem set_roundtrip (c : Crcs) (h1 : ∀ b, c.ieee b < M32) (h2 : ∀ b, c.castagnoli b < M32)
    (es : List Entry) (h : ∀ e ∈ es, Entry.WF e) : decodeSet c (encSet c es) = some es :=
  decodeSet_encSet c h1 h2 es (fun e he => by have := h e he; cases e <;> simpa [Entry.WF] using this)

/-- a checksum that does not match makes the strict decoder reject the entry -/
theorem bad_crc_rejected_v2 (crc : Bytes → Nat) (hcrc : ∀ b, crc b < M32) (f : FrameV2) (h : f.WF) (rest : Bytes)
    (c' : Nat) (hc : c' < M32) (hne : c' ≠ crc (frameBody f)) :
    readFrame crc (i64 f.baseOffset ++ (i32 ((9 + (frameBody f).length : Nat) : Int) ++ (i32 f.leaderEpoch ++
      (i8 2 ++ (u32 c' ++ frameBody f)))) ++ rest) = none :=
  (readFrame_encFrame_crc crc (fun _ => c') f h hc rest).trans (if_neg hne.symm)

/-- hypotheses are satisfiable: a concrete batch header and a concrete message -/
example : (⟨100, 0, 0, 1, 1600000000000, 1600000000001, -1, -1, -1, 2, [12, 0, 0, 0, 1, 0]⟩ : FrameV2).WF := by
  unfold FrameV2.WF; decide

example : (⟨7, 1, 0, 1600000000000, none, some [1, 2]⟩ : Msg).WF := by
  unfold Msg.WF; decide

/-! ## Part C — the writers -/

open Model.RecordWriter

example : expected [5, 7] [⟨0, none, some [], []⟩, ⟨0, some [1], none, [⟨[2], none⟩]⟩]
    = [⟨0, 5, none, some [], []⟩, ⟨1, 7, some [1], none, [⟨[2], none⟩]⟩] := by decide

/-- `protocol/record_v2.go writeToVersion2` (uncompressed): the bytes are one well-formed v2 batch which the
independent decoder accepts (consistent lengths, valid checksum, count, deltas 0..n-1) and which carries
exactly the given records, in order, with their millisecond timestamps. -/
theorem v2_write_spec (crc : Bytes → Nat) (hcrc : ∀ b, crc b < M32) (attrs now : Int) (recs : List PRec)
    (hne : recs ≠ []) (hwf : (frameOfV2 attrs now recs).WF) (hcodec : codecOf attrs = 0)
    (hlog : logAppend attrs = false) :
    ∃ bytes f, writeV2 crc attrs now recs = some bytes ∧
      readFrame crc bytes = some (f, []) ∧ f.baseOffset = 0 ∧ f.count = recs.length ∧
      f.lastOffsetDelta = (recs.length : Int) - 1 ∧
      flattenEntry ⟨crc, crc⟩ (fun _ _ => none) (.batch f) =
        some (isControl attrs, expected (recs.map (effTime now)) recs) :=
  have h := frameOfV2_spec crc hcrc attrs now recs hwf hcodec hlog
  ⟨_, _, writeV2_eq crc attrs now recs hne, h.1, rfl, rfl, rfl, h.2⟩

/-- `Conn.WriteMessages` (produce v3/v7, uncompressed): `recordBatch.writeTo` + `writeRecordBatch` +
`writeRecord` emit a batch the independent decoder accepts, with the length field computed by
`recordBatchSize` equal to the real length, and each record's timestamp = ms(t) exactly (times in ns). -/
theorem legacy_v2_write_spec (crc : Bytes → Nat) (hcrc : ∀ b, crc b < M32) (recs : List PRec)
    (hne : recs ≠ []) (hwf : (legacyFrame recs).WF) :
    ∃ f, readFrame crc (legacyBatch crc recs) = some (f, []) ∧ f.baseOffset = 0 ∧ f.count = recs.length ∧
      f.lastOffsetDelta = (recs.length : Int) - 1 ∧
      flattenEntry ⟨crc, crc⟩ (fun _ _ => none) (.batch f) =
        some (false, expected (recs.map (fun r => timestampOf r.time)) recs) := by
  have h := written_batch_spec crc hcrc (fun _ _ => none) _ hwf (fun r => timestampOf r.time) recs rfl rfl rfl
    (congrArg some (legacyRecordsWith_eq ..))
  exact ⟨_, legacyBatch_eq crc recs hne ▸ h.1, rfl, rfl, rfl, h.2⟩

/-- protocol `writeToVersion2` WITH compression (any codec: abstract compressor `comp`, decompressor `dec` with
`dec (comp p) = p`): header fields, count, deltas as in the plain case, CRC over attributes..end of the compressed
payload; decompressing and decoding gives back exactly the given records -/
theorem v2_write_compressed_spec (crc : Bytes → Nat) (hcrc : ∀ b, crc b < M32) (comp : Bytes → Bytes)
    (dec : Int → Bytes → Option Bytes) (attrs now : Int) (recs : List PRec)
    (hne : recs ≠ []) (hwf : (frameOfV2C comp attrs now recs).WF) (hcodec : codecOf attrs ≠ 0)
    (hlog : logAppend attrs = false) (hdec : ∀ p, dec (codecOf attrs) (comp p) = some p) :
    ∃ bytes f, writeV2C crc comp attrs now recs = some bytes ∧
      readFrame crc bytes = some (f, []) ∧ f.baseOffset = 0 ∧ f.count = recs.length ∧
      f.lastOffsetDelta = (recs.length : Int) - 1 ∧
      flattenEntry ⟨crc, crc⟩ dec (.batch f) = some (isControl attrs, expected (recs.map (effTime now)) recs) :=
  have h := frameOfV2C_spec crc hcrc comp dec attrs now recs hwf hcodec hlog hdec
  ⟨_, _, writeV2C_eq crc comp attrs now recs hne, h.1, rfl, rfl, rfl, h.2⟩

/-- Conn `WriteCompressedMessages`, produce v3/v7 (`compressRecordBatch` + `writeRecordBatch`) -/
theorem legacy_v2_write_compressed_spec (crc : Bytes → Nat) (hcrc : ∀ b, crc b < M32) (comp : Bytes → Bytes)
    (dec : Int → Bytes → Option Bytes) (code : Int) (recs : List PRec)
    (hne : recs ≠ []) (hwf : (legacyFrameC comp code recs).WF) (hcodec : codecOf code ≠ 0)
    (hlog : logAppend code = false) (hdec : ∀ p, dec (codecOf code) (comp p) = some p) :
    ∃ f, readFrame crc (legacyBatchC crc comp code recs) = some (f, []) ∧ f.baseOffset = 0 ∧ f.count = recs.length ∧
      f.lastOffsetDelta = (recs.length : Int) - 1 ∧
      flattenEntry ⟨crc, crc⟩ dec (.batch f) =
        some (isControl code, expected (recs.map (fun r => timestampOf r.time)) recs) := by
  have h := written_batch_spec crc hcrc dec _ hwf (fun r => timestampOf r.time) recs rfl rfl hlog
    ((if_neg hcodec).trans ((hdec _).trans (congrArg some (legacyRecordsWith_eq ..))))
  exact ⟨_, legacyBatchC_eq crc comp code recs hne ▸ h.1, rfl, rfl, rfl, h.2⟩

/-- protocol `writeToVersion1` WITH compression: exactly one wrapper message (null key, value = compressed set) that
the reference decoder accepts, and the uncompressed set it wraps decodes to the given records, offsets 0..n-1 -/
theorem v1_write_compressed_spec (c : Crcs) (h1 : ∀ b, c.ieee b < M32) (h2 : ∀ b, c.castagnoli b < M32)
    (comp : Bytes → Bytes) (attrs now : Int) (recs : List PRec)
    (hw : (⟨0, 1, attrs, now, none, some (comp (writeV1 c.ieee (attrs - attrs % 8) now 0 recs))⟩ : Msg).WF)
    (hwf : ∀ m ∈ msgsOfV1 (attrs - attrs % 8) now 0 recs, m.WF) :
    decodeSet c (writeV1C c.ieee comp attrs now recs) =
      some [.msg ⟨0, 1, attrs, now, none, some (comp (writeV1 c.ieee (attrs - attrs % 8) now 0 recs))⟩] ∧
    decodeSet c (writeV1 c.ieee (attrs - attrs % 8) now 0 recs) =
      some ((msgsOfV1 (attrs - attrs % 8) now 0 recs).map Entry.msg) :=
  writeV1C_spec c h1 h2 comp attrs now recs hw hwf

/-- Conn produce v2 (`writeMessage`, `compressMessageSet`): `messageSize` is the real size; the plain set and the set
inside a wrapper decode to the given messages; the wrapper is `encMsg ⟨0, 1, code, 0, null, compressed⟩` -/
theorem legacy_v1_write_spec (c : Crcs) (h1 : ∀ b, c.ieee b < M32) (h2 : ∀ b, c.castagnoli b < M32)
    (comp : Bytes → Bytes) (code : Int) (recs : List PRec)
    (hwf0 : ∀ m ∈ legacyMsgs 0 (fun _ => 0) 0 recs, m.WF) (hwf1 : ∀ m ∈ legacyMsgs 0 (fun j => (j : Int)) 0 recs, m.WF) :
    decodeSet c (legacyMessageSet c.ieee recs) = some ((legacyMsgs 0 (fun _ => 0) 0 recs).map Entry.msg) ∧
    decodeSet c (legacyInner c.ieee 0 recs) = some ((legacyMsgs 0 (fun j => (j : Int)) 0 recs).map Entry.msg) ∧
    legacyWrapper c.ieee comp code recs = encMsg c.ieee ⟨0, 1, code, 0, none, some (comp (legacyInner c.ieee 0 recs))⟩ :=
  ⟨legacyMessageSet_eq c recs ▸ decodeSet_encSet_msgs c h1 h2 _ hwf0,
   legacyInner_eq c recs 0 ▸ decodeSet_encSet_msgs c h1 h2 _ hwf1, legacyWrapper_eq c.ieee comp code recs⟩

/-- the size announced in front of the batch (`recordBatch.size`, also used for the request size) is the
number of bytes written -/
theorem legacy_size_exact (crc : Bytes → Nat) (recs : List PRec) (hne : recs ≠ []) :
    (legacyBatch crc recs).length = recordBatchSizeWith tsDelta (recs.head hne).time 0 recs := by
  rw [legacyBatch_eq crc recs hne, encFrame_length, recordBatchSizeWith_eq]
  cases recs with
  | nil => exact absurd rfl hne
  | cons r0 rs => rfl

/-- D6: with the formula `milliseconds(t - base)` (`tsDeltaOld`) the decoded timestamp differs from ms(t):
base 0.9 ms, t 1.1 ms → firstTimestamp 0 + delta 0 = 0 although ms(t) = 1 (and the other direction for
t < base).  The difference of the two millisecond timestamps (`tsDelta`) is exact (`legacy_timestamp_exact`, `legacy_v2_write_spec`). -/
theorem legacy_v2_timestamp_counterexample :
    timestampOf 900000 + tsDeltaOld 900000 1100000 ≠ timestampOf 1100000 ∧
    timestampOf 1100000 + tsDeltaOld 1100000 900000 ≠ timestampOf 900000 := by decide

/-- `tsDelta` is exact for all times -/
theorem legacy_timestamp_exact (base t : Int) : timestampOf base + tsDelta base t = timestampOf t := by
  unfold tsDelta; omega

/-- `protocol/record_v1.go writeToVersion1` (uncompressed) and the Conn v1 writer: the message set decodes to
the given records (v1 has no headers), offsets 0..n-1 -/
theorem v1_write_spec (c : Crcs) (h1 : ∀ b, c.ieee b < M32) (h2 : ∀ b, c.castagnoli b < M32)
    (attrs now : Int) (recs : List PRec) (hwf : ∀ m ∈ msgsOfV1 attrs now 0 recs, m.WF) :
    decodeSet c (writeV1 c.ieee attrs now 0 recs) = some ((msgsOfV1 attrs now 0 recs).map Entry.msg) :=
  writeV1_spec c h1 h2 attrs now recs hwf

/-- known finding C05-D32, at model level: the format-1 writer never looks at the headers — records that differ only in
their headers produce the same bytes (so the headers cannot reach a consumer; the code returns no error either) -/
theorem v1_drops_headers (crc : Bytes → Nat) (attrs now : Int) : ∀ (rs : List PRec) (i : Nat),
    writeV1 crc attrs now i rs = writeV1 crc attrs now i (rs.map fun r => { r with headers := [] })
  | [], _ => rfl
  | r :: rs, i => by
    simp only [writeV1, List.map_cons, v1_drops_headers crc attrs now rs (i + 1)]
    rfl

/-- **the sizing and the writing of the variable-length record fields agree in the Go source** (read off it on every run: go/ast,
`go/extract sizefns` → Gen/SizeFns): `sizeOfVarString` / `sizeOfVarNullBytes` / `sizeOfVarNullBytesIface` size their length
prefix with the zig-zag `sizeOfVarInt`, exactly as `writeVarString` / `writeVarNullBytes` / `writeVarNullBytesFrom` write it
with `writeVarInt`; both zig-zag maps shift by 1 and 63; `sizeOfUnsignedVarInt` is `(bits.Len64(i|1) + 6) / 7`; and the
per-record length of `writeToVersion2` adds up the sizers of exactly the fields the record loop writes, in their order.
(The writer model computes the length with the extracted names: `recordV2_eq` depends on them.) -/
theorem gen_size_calls :
    Gen.SizeFns.varStringCalls = ["sizeOfVarInt"] ∧ Gen.SizeFns.writeVarStringCalls = ["writeVarInt"] ∧
    Gen.SizeFns.varNullBytesCalls = ["sizeOfVarInt", "sizeOfVarInt"] ∧
    Gen.SizeFns.writeVarNullBytesCalls = ["writeVarInt", "writeVarInt"] ∧
    Gen.SizeFns.varNullBytesIfaceCalls = ["sizeOfVarInt", "sizeOfVarInt"] ∧
    Gen.SizeFns.writeVarNullBytesFromCalls = ["writeVarInt", "writeVarInt"] ∧
    Gen.SizeFns.varIntCalls = ["sizeOfUnsignedVarInt"] ∧ Gen.SizeFns.writeVarIntCalls = ["writeUnsignedVarInt"] ∧
    Gen.SizeFns.varIntShifts = [1, 63] ∧ Gen.SizeFns.writeVarIntShifts = [1, 63] ∧
    Gen.SizeFns.unsignedConsts = [1, 6, 7] ∧
    Gen.SizeFns.recordLengthCalls = ["sizeOfVarInt", "sizeOfVarInt", "sizeOfVarNullBytesIface", "sizeOfVarNullBytesIface",
      "sizeOfVarInt", "sizeOfVarString", "sizeOfVarNullBytes"] := by decide +kernel

/-- the same for the Conn path (write.go / recordbatch.go): `recordSize` adds up `var…Len` of exactly what `writeRecord`
writes, in its order; every `var…Len` helper sizes its prefix with `varIntLen`, whose zig-zag shifts are 1 and 63 and which
counts 7 bits per byte from the threshold 0x80 (Model/RecordWriter `varIntLen`, `recordSize`; `legacy_v2_write_spec`) -/
theorem gen_legacy_size_calls :
    Gen.SizeFns.legacyRecordSizeCalls =
      ["varIntLen", "varIntLen", "varBytesLen", "varBytesLen", "varArrayLen", "varStringLen", "varBytesLen"] ∧
    Gen.SizeFns.legacyWriteRecordCalls =
      ["writeVarInt", "writeInt8", "writeVarInt", "writeVarInt", "writeVarBytes", "writeVarBytes", "writeVarArray",
        "writeVarString", "writeVarBytes"] ∧
    Gen.SizeFns.legacyVarBytesLenCalls = ["varIntLen"] ∧ Gen.SizeFns.legacyVarStringLenCalls = ["varIntLen"] ∧
    Gen.SizeFns.legacyVarArrayLenCalls = ["varIntLen"] ∧
    Gen.SizeFns.legacyVarIntLenShifts = [1, 63] ∧ Gen.SizeFns.legacyVarIntLenLits = [1, 63, 0, 128, 7, 1] := by decide +kernel

/-- the record length the v2 writer announces is the number of bytes the record body occupies — for EVERY record, in
particular at the sizes where the zig-zag varint of a length is one byte longer than the unsigned one (64..127,
8192..16383, …) -/
theorem v2_record_length_exact (first : Int) (i : Nat) (t : Int) (r : PRec) :
    ∃ body, recordV2 first i t r = varint (body.length : Int) ++ body ∧
      readRec (recordV2 first i t r) = some (specRec (t - first) i r, []) := by
  refine ⟨recBody (specRec (t - first) i r), by rw [recordV2_eq]; rfl, ?_⟩
  rw [recordV2_eq]
  have := readRec_encRec (specRec (t - first) i r) []
  simpa using this

/-! ## Part F — the library's DECODER on the Client.Fetch path (Model/RecordReader) -/

open Model.RecordReader in
/-- the decoders agree (clause `decoders_agree` of DESIGN.md §7), Client.Fetch side: on every valid response — any sequence of v2 batches (any codec whose
decompressor returns the encoded records, any attribute bits: transactional, control, timestamp type, delete
horizon, unknown bits; compaction gaps: any deltas), plain v0/v1 messages and compressed v1 WRAPPERS with relative
inner offsets (also compacted: any inner offsets), any number of entries — the decoder model (`RecordSet.ReadFrom` + `RecordStream`) returns exactly
the records and absolute offsets of the reference decoder, minus control batches. -/
theorem decoders_agree_client (c : Crcs) (h1 : ∀ b, c.ieee b < M32) (h2 : ∀ b, c.castagnoli b < M32)
    (dec : Int → Bytes → Option Bytes) (es : List Entry) (gs : List (Bool × List Rec)) (h : AllGood c dec es gs) :
    flattenAll c dec es = some gs ∧ clientFetch c dec (encSet c es) = surfaced gs := by
  refine ⟨flattenAll_good c h1 h2 dec es gs h, ?_⟩
  have := libReadSet_encSet c h1 h2 dec es gs h [] (encSet c es).length (encSet_length_ge c es)
  simp only [List.append_nil] at this
  simp only [clientFetch, this]
  cases (encSet c es).length - es.length <;> simp [libReadSet]

open Model.RecordReader in
/-- `control_hidden`: nothing of a control batch is surfaced; everything else is, in order -/
theorem control_hidden (c : Crcs) (h1 : ∀ b, c.ieee b < M32) (h2 : ∀ b, c.castagnoli b < M32)
    (dec : Int → Bytes → Option Bytes) (es : List Entry) (gs : List (Bool × List Rec)) (h : AllGood c dec es gs) :
    clientFetch c dec (encSet c es) = ((gs.filter (fun g => !g.1)).flatMap (·.2)) ∧
    (∀ g ∈ gs, g.1 = true → ∀ r ∈ g.2, r ∈ clientFetch c dec (encSet c es) →
        ∃ g' ∈ gs, g'.1 = false ∧ r ∈ g'.2) := by
  have hc := (decoders_agree_client c h1 h2 dec es gs h).2
  refine ⟨hc, ?_⟩
  intro g _ _ r _ hr
  rw [hc] at hr
  simp only [surfaced, List.mem_flatMap, List.mem_filter] at hr
  obtain ⟨g', ⟨hg', hf⟩, hr'⟩ := hr
  exact ⟨g', hg', by simpa using hf, hr'⟩

open Model.RecordReader in
/-- `bad_crc_yields_no_records`: a batch whose stored checksum differs from the computed one ends decoding: the
records of the entries before it are surfaced, none of the corrupt batch (nor anything after it) -/
theorem bad_crc_yields_no_records (c : Crcs) (h1 : ∀ b, c.ieee b < M32) (h2 : ∀ b, c.castagnoli b < M32)
    (dec : Int → Bytes → Option Bytes) (es : List Entry) (gs : List (Bool × List Rec)) (h : AllGood c dec es gs)
    (f : FrameV2) (xs : List RecV2) (hf : GoodBatch dec f xs) (c' : Nat) (hc : c' < M32)
    (hne : c' ≠ c.castagnoli (frameBody f)) (tail : Bytes) :
    clientFetch c dec (encSet c es ++ (i64 f.baseOffset ++ (i32 ((9 + (frameBody f).length : Nat) : Int) ++
      (i32 f.leaderEpoch ++ (i8 2 ++ (u32 c' ++ frameBody f)))) ++ tail)) = surfaced gs := by
  simp only [clientFetch]
  rw [libReadSet_encSet c h1 h2 dec es gs h _ _ (by have := encSet_length_ge c es; rw [List.length_append]; omega),
    show i64 f.baseOffset ++ _ ++ tail = encFrame (fun _ => c') f ++ tail from rfl,
    libReadSet_bad_crc c dec f xs hf (fun _ => c') hc hne tail, List.append_nil]

open Model.RecordReader in
/-- v1 wrappers on the Client.Fetch path: a compressed message whose value holds inner messages with relative offsets
(any, also with compaction gaps) and which carries the absolute offset of the last one decodes to the inner records
at `wrapperOffset - lastRelative + relative` — on the decoder model and on the reference decoder alike -/
theorem v1_wrapper_offsets (c : Crcs) (h1 : ∀ b, c.ieee b < M32) (h2 : ∀ b, c.castagnoli b < M32)
    (dec : Int → Bytes → Option Bytes) (m : Msg) (inner : List Msg) (h : GoodWrapper c dec m inner) :
    clientFetch c dec (encSet c [.msg m]) = wrapperRecs m inner ∧
    flattenEntry c dec (.msg m) = some (false, wrapperRecs m inner) := by
  have hg : AllGood c dec [.msg m] [(false, wrapperRecs m inner)] := .cons (.wrapper m inner h) .nil
  have := (decoders_agree_client c h1 h2 dec _ _ hg).2
  exact ⟨by simpa [surfaced] using this, flattenEntry_wrapper c h1 h2 dec m inner h⟩

/-! ### both read paths on the same bytes

`C02.readAll` (Model/MessageSetReader + Model/Batch, property C02's model of message_reader.go / batch.go) consumes
a token stream read off the BYTES; `clientFetch` is this file's model of the Client path.  Two tokenizers are
composed with it below: this property's `tokenizeAll` (any attribute bits; complete responses) and, further down
(`decoders_agree_items`), C02's byte-level `C02.tokenize` (any cut of the response). -/

open Model.RecordReader in
/-- the decoders agree (`decoders_agree`) on bytes for EVERY format the property names: any sequence of plain and compressed v2 batches
(any codec whose decompressor returns the encoded records; transactional / control / any attribute bits), plain v0/v1
messages and compressed v1 wrappers with relative inner offsets, laid out as a broker lays out a log (`LWF`: ranges
increasing, compaction gaps allowed; `Safe`: the fetch contract for mixed v1→v2 logs).
The bytes of the reference encoder tokenize (`tokenizeAll`, the Spec reader doing the byte work) to a stream on which
the Conn/Batch reader model (`C02.readAll`: message_reader.go + batch.go) delivers exactly the logical records at or
above the fetch offset; the Client.Fetch decoder model returns the same records from the same bytes, minus control
batches — so when the response holds no control batch both paths return the same records, absolute offsets and order. -/
theorem decoders_agree_bytes (c : Crcs) (h1 : ∀ b, c.ieee b < M32) (h2 : ∀ b, c.castagnoli b < M32)
    (dec : Int → Bytes → Option Bytes) (tagOf : Rec → Nat) (ds : List Desc) (hgood : ∀ d ∈ ds, d.Good c dec)
    (nb : Int) (hnb : 0 ≤ nb) (hwf : C02.LWF nb (ds.map (Desc.item c tagOf)))
    (o hwm : Int) (ho : 0 ≤ o) (hsafe : C02.Safe o (ds.map (Desc.item c tagOf))) (hne : hwm ≠ o) (expired : Bool) :
    ∃ toks, tokenizeAll c dec tagOf (encSet c (ds.map Desc.entry)).length (encSet c (ds.map Desc.entry)) = some toks ∧
      (C02.readAll .fixed expired o hwm toks).1 =
        ((((ds.map Desc.group).flatMap (·.2))).filter (fun r => o ≤ r.offset)).map (fun r => (r.offset, tagOf r)) ∧
      clientFetch c dec (encSet c (ds.map Desc.entry)) = surfaced (ds.map Desc.group) ∧
      ((∀ d ∈ ds, d.group.1 = false) → (C02.readAll .fixed expired o hwm toks).1 =
        ((clientFetch c dec (encSet c (ds.map Desc.entry))).filter (fun r => o ≤ r.offset)).map (fun r => (r.offset, tagOf r))) := by
  have htok := tokenizeAll_encSet c h1 h2 dec tagOf ds hgood (encSet c (ds.map Desc.entry)).length
    (by have := encSet_length_ge c (ds.map Desc.entry); simpa using this)
  have hsf := C02.single_fetch (ds.map (Desc.item c tagOf)) nb hnb hwf o hwm ho hsafe hne (-1) expired
  simp only [C02.responseTokens, C02.containedRecords, show ((-1 : Int) < 0) from by decide, if_true] at hsf
  have hcf := (decoders_agree_client c h1 h2 dec _ _ (allGood_descs c dec ds hgood)).2
  have hconn : (C02.readAll .fixed expired o hwm (C02.allTokens (ds.map (Desc.item c tagOf)))).1 =
      ((((ds.map Desc.group).flatMap (·.2))).filter (fun r => o ≤ r.offset)).map (fun r => (r.offset, tagOf r)) := by
    rw [hsf.1, allRecords_descs, List.filter_map]; rfl
  refine ⟨_, htok, hconn, hcf, ?_⟩
  intro hnc
  rw [hconn, hcf]
  rw [surfaced_of_no_control _ fun g hg => by
    obtain ⟨d, hd, rfl⟩ := List.mem_map.mp hg
    exact hnc d hd]

open Model.RecordReader Model.ConnReader in
/-- the decoders agree (`decoders_agree`), CONTENT, at byte level on both sides: the field-by-field model of message_reader.go
(`Model/ConnReader`: readHeader, readMessageV1 incl. wrappers and extractOffset, readMessageV2 incl. compressed
batches) applied to a complete valid response returns exactly the records of the reference decoder at or above the
fetch offset — keys, values, headers, timestamps (the append time for LogAppendTime batches), absolute offsets, order —
EXACTLY: null and empty are told apart on this path too, both paths apply the timestamp type and both pass over control
batches, a wrapper message may carry a key; and that is, unconditionally, what the Client.Fetch model returns from the same
bytes. -/
theorem decoders_agree_content (c : Crcs) (h1 : ∀ b, c.ieee b < M32) (h2 : ∀ b, c.castagnoli b < M32)
    (dec : Int → Bytes → Option Bytes) (es : List Entry) (gs : List (Bool × List Rec)) (h : AllGood c dec es gs) (o : Int) :
    connFetch dec o (encSet c es) = some ((surfaced gs).filter (fun r => o ≤ r.offset)) ∧
    connFetch dec o (encSet c es) = some ((clientFetch c dec (encSet c es)).filter (fun r => o ≤ r.offset)) := by
  have hconn := connReadSet_encSet c h1 h2 dec es gs h (encSet c es).length (encSet_length_ge c es)
  have hfirst : connFetch dec o (encSet c es) = some ((surfaced gs).filter (fun r => o ≤ r.offset)) := by
    simp only [connFetch, hconn, Option.map_some]
  exact ⟨hfirst, by rw [hfirst, (decoders_agree_client c h1 h2 dec es gs h).2]⟩

open Model.RecordReader in
/-- **Both read paths on the same bytes, with C02's byte-level tokenizer.**  `its` is any sequence the
reference encoder can emit (`C02.BItem`: plain and compressed v2 batches, v0/v1 messages, compressed wrappers; `enc` any
compressor that `dec` inverts), laid out like a log (`LWF`, `Safe`).  The Conn/Batch reader model (`C02.readAll`,
message_reader.go + batch.go) run on the tokens that `C02.tokenize` reads off the encoded bytes delivers exactly the
records — absolute offsets and content digests `tagC ts key value headers`, in order — that the Client.Fetch model
(`clientFetch`, protocol.RecordSet.ReadFrom) decodes from those same bytes at or above the fetch offset.
(For responses cut after `n` bytes `C02.single_fetch_bytes` says what the Conn path delivers: `contained layout n`.) -/
theorem decoders_agree_items (c : Crcs) (h1 : ∀ b, c.ieee b < M32) (h2 : ∀ b, c.castagnoli b < M32)
    (dec : Int → Bytes → Option Bytes) (enc : Int → Bytes → Bytes) (hdec : ∀ k b, dec k (enc k b) = some b)
    (hpos : ∀ k b, 0 < (enc k b).length) (tagC : Int → Option Bytes → Option Bytes → List Hdr → Nat)
    (its : List C02.BItem) (hitems : ∀ it ∈ its, it.WF (cfgOf tagC c dec) enc) (hextra : ∀ it ∈ its, itemExtra it)
    (nb : Int) (hnb : 0 ≤ nb) (hwf : C02.LWF nb (C02.layoutOfItems (cfgOf tagC c dec) enc its))
    (o hwm : Int) (ho : 0 ≤ o) (hsafe : C02.Safe o (C02.layoutOfItems (cfgOf tagC c dec) enc its)) (hne : hwm ≠ o)
    (expired : Bool) :
    clientFetch c dec (C02.encItems (cfgOf tagC c dec) enc its) = surfaced ((its.map (descOf c enc)).map Desc.group) ∧
    (C02.readAll .fixed expired o hwm
        (C02.tokenize (cfgOf tagC c dec) ((C02.encItems (cfgOf tagC c dec) enc its).length + 1) .hdr (C02.encItems (cfgOf tagC c dec) enc its))).1 =
      ((clientFetch c dec (C02.encItems (cfgOf tagC c dec) enc its)).filter (fun r => o ≤ r.offset)).map
        (fun r => (r.offset, contentTag tagC r)) := by
  have hsf := (C02.single_fetch_bytes (cfgOf tagC c dec) enc hdec hpos h1 h2 its hitems nb hnb hwf o hwm ho hsafe hne
    expired (C02.encItems (cfgOf tagC c dec) enc its).length).1
  simp only [List.take_length] at hsf
  have hall := C02.contained_all (C02.layoutOfItems (cfgOf tagC c dec) enc its) (C02.encItems (cfgOf tagC c dec) enc its).length
    (by rw [itemsSize_bytes]; exact Nat.le_refl _)
  have hcf : clientFetch c dec (C02.encItems (cfgOf tagC c dec) enc its) = surfaced ((its.map (descOf c enc)).map Desc.group) := by
    rw [encItems_descs]
    exact (decoders_agree_client c h1 h2 dec _ _ (allGood_descs c dec _ (good_descs tagC c dec enc hdec its hitems hextra))).2
  refine ⟨hcf, ?_⟩
  rw [hsf, hall, layoutOfItems_descs tagC c dec enc its hitems, allRecords_descs, hcf,
    surfaced_of_no_control _ (groups_not_control tagC c dec enc its hitems), List.filter_map]
  rfl

open Model.RecordReader in
section
/-- hypotheses of `decoders_agree_bytes` are satisfiable: an (empty, retained) v2 batch [10,12] followed by a v1
message at 13 with the LogAppendTime bit set -/
def exBatch : FrameV2 := ⟨10, 0, 0, 2, 1600000000000, 1600000000000, -1, -1, -1, 0, encRecs []⟩
def exMsg : Msg := ⟨13, 1, 8, 1600000000001, none, some [1, 2]⟩
def exLayout : List Desc := [.batch exBatch [], .msg exMsg]

example (c : Crcs) (dec : Int → Bytes → Option Bytes) (tagOf : Rec → Nat) :
    (∀ d ∈ exLayout, d.Good c dec) ∧ C02.LWF 0 (exLayout.map (Desc.item c tagOf)) ∧ C02.Safe 0 (exLayout.map (Desc.item c tagOf)) := by
  refine ⟨?_, ?_, ?_⟩
  · intro d hd
    simp only [exLayout, List.mem_cons, List.not_mem_nil, or_false] at hd
    rcases hd with rfl | rfl
    · exact ⟨by unfold FrameV2.WF; decide, rfl, rfl⟩
    · exact ⟨by unfold Msg.WF; decide, by decide⟩
  · simp [exLayout, C02.LWF, Desc.item, exBatch, exMsg, recToks, C02.RecsWF, C02.sumSizes, encRecs, codecOf, C02.hdr1Size, encMsg, msgBody, nbytes]
  · simp [exLayout, C02.Safe, Desc.item, C02.headB2, C02.isB2]
end

/-! ## Part E — constants regenerated from the Go sources on every run (`go/extract records`) -/

/-- The header sizes, back-patch offsets, attribute masks and magic-byte offset that kafka-go's sources state (read off them
on every run) are the ones of the reference layout (`Spec/RecordBatch`) and of the writer models: 61 = length of a Spec batch
without records; 49 = what follows the length field; the positions patched by `writeToVersion2` are the Spec's
field offsets of lastOffsetDelta, firstTimestamp, maxTimestamp, count, (CRC start), batchLength, crc;
compression = attributes mod 8; control = bit 5; magic byte at 16. -/
theorem gen_consts_match_spec :
    (encFrame (fun _ => 0) ⟨0, 0, 0, 0, 0, 0, 0, 0, 0, 0, []⟩).length = Gen.RecordConsts.recordBatchHeaderSize
    ∧ Gen.RecordConsts.legacyHeaderAfterLength + (i64 0 ++ i32 0).length = Gen.RecordConsts.recordBatchHeaderSize
    ∧ Model.RecordWriter.recordBatchSizeWith Model.RecordWriter.tsDelta 0 0 [] = Gen.RecordConsts.recordBatchHeaderSize
    ∧ Gen.RecordConsts.v2PatchOffsets =
        [ (i64 0 ++ i32 0 ++ i32 0 ++ i8 0 ++ u32 0 ++ i16 0).length,
          (i64 0 ++ i32 0 ++ i32 0 ++ i8 0 ++ u32 0 ++ i16 0 ++ i32 0).length,
          (i64 0 ++ i32 0 ++ i32 0 ++ i8 0 ++ u32 0 ++ i16 0 ++ i32 0 ++ i64 0).length,
          (i64 0 ++ i32 0 ++ i32 0 ++ i8 0 ++ u32 0 ++ i16 0 ++ i32 0 ++ i64 0 ++ i64 0 ++ i64 0 ++ i16 0 ++ i32 0).length,
          (i64 0 ++ i32 0 ++ i32 0 ++ i8 0 ++ u32 0).length,
          (i64 0).length,
          (i64 0 ++ i32 0 ++ i32 0 ++ i8 0).length ]
    ∧ Gen.RecordConsts.v2LengthPrefix = [(i64 0 ++ i32 0).length]
    ∧ (∀ a : Int, codecOf a = a % ((Gen.RecordConsts.compressionMask + 1 : Nat) : Int))
    ∧ Gen.RecordConsts.legacyCompressionMask = Gen.RecordConsts.compressionMask
    ∧ (∀ a : Int, isControl a = decide ((a / (Gen.RecordConsts.controlConst : Int)) % 2 = 1))
    ∧ Gen.RecordConsts.transactionalConst * 2 = Gen.RecordConsts.controlConst
    ∧ (∀ bs : Bytes, magicOf bs = bs[Gen.RecordConsts.magicByteOffsetConst]?) := by
  refine ⟨by simp [encFrame, frameBody, Gen.RecordConsts.recordBatchHeaderSize], by decide, rfl, ?_, ?_, ?_, rfl, ?_, rfl, ?_⟩
  · simp [Gen.RecordConsts.v2PatchOffsets]
  · simp [Gen.RecordConsts.v2LengthPrefix]
  · intro a; rfl
  · intro a; simp only [isControl, Gen.RecordConsts.controlConst]; rfl
  · intro bs; rfl

/-- wire fields of the reference layout in order (kinds: 1/2/4/8 = fixed width in bytes, 10 varint, 11 varbytes,
12 varstring, 13 bytes with int32 length, 14 var array count): a v2 batch header; a v2 record up to the header count;
one record header; a v1 message from its offset field on -/
def specFrameFields : List Nat := [8, 4, 4, 1, 4, 2, 4, 8, 8, 8, 2, 4, 4]
def specRecordFields : List Nat := [10, 1, 10, 10, 11, 11, 10]
def specHeaderFields : List Nat := [12, 11]
def specMsgFields : List Nat := [8, 4, 4, 1, 1, 8, 13, 13]

/-- the fixed-width part of that list is the Spec encoder's: 61 bytes before the records, in this order -/
theorem spec_frame_fields (crc : Bytes → Nat) (f : FrameV2) :
    specFrameFields.foldl (· + ·) 0 = (encFrame crc { f with payload := [] }).length ∧
    encFrame crc f = i64 f.baseOffset ++ (i32 ((9 + (frameBody f).length : Nat) : Int) ++ (i32 f.leaderEpoch ++ (i8 2 ++
      (u32 (crc (frameBody f)) ++ (i16 f.attributes ++ (i32 f.lastOffsetDelta ++ (i64 f.firstTs ++ (i64 f.maxTs ++
      (i64 f.producerId ++ (i16 f.producerEpoch ++ (i32 f.baseSeq ++ (i32 f.count ++ f.payload)))))))))))) := by
  refine ⟨by simp [specFrameFields, encFrame, frameBody], rfl⟩

/-- The ORDER and WIDTH of the fields every writer writes and every reader reads, extracted from the sequence of
read*/write* calls in the Go sources on every run (`go/extract recordlayout`), are the reference layout's:
`writeToVersion2`, `readFromVersion2` (which reads key/value lengths as bare varints), `writeToVersion1`,
`readMessage` (key/value lengths as int32), Conn `writeRecordBatch` (CRC dry run over attributes..count on one
writer, then the full header on the other), `writeRecord`, `writeMessage` (CRC dry run from the magic byte on),
and `messageSetReader.readHeader` for magic 0, 1 and 2. -/
theorem gen_field_order :
    Gen.RecordLayout.protoWriteV2.map (·.2) = specFrameFields ++ specRecordFields ++ specHeaderFields
    ∧ Gen.RecordLayout.protoReadV2.map (·.2) = specFrameFields ++ [10, 1, 10, 10, 10, 10, 10] ++ specHeaderFields
    ∧ Gen.RecordLayout.protoWriteV1.map (·.2) = specMsgFields
    ∧ Gen.RecordLayout.protoReadMsg.map (·.2) = [8, 4, 4, 1, 1, 8, 4, 4]
    ∧ Gen.RecordLayout.connWriteBatch = (specFrameFields.drop 5).map (fun k => (0, k)) ++ specFrameFields.map (fun k => (1, k))
    ∧ Gen.RecordLayout.connWriteRecord.map (·.2) = [10, 1, 10, 10, 11, 11, 14] ++ specHeaderFields
    ∧ Gen.RecordLayout.connWriteMessage = (specMsgFields.drop 3).map (fun k => (0, k)) ++ specMsgFields.map (fun k => (1, k))
    ∧ (Gen.RecordLayout.connReadHeaderPrefix ++ Gen.RecordLayout.connReadHeaderMagic2).map (·.2) = specFrameFields
    ∧ (Gen.RecordLayout.connReadHeaderPrefix ++ Gen.RecordLayout.connReadHeaderMagic1).map (·.2) = specMsgFields.take 6
    ∧ (Gen.RecordLayout.connReadHeaderPrefix ++ Gen.RecordLayout.connReadHeaderMagic0).map (·.2) = specMsgFields.take 5 := by
  decide +kernel

/-! ## Part D — pages (protocol/buffer.go) -/

open Model.Pages in
/-- "a page is in the pool only if its count is 0; every count is held by a live holder; the pool has no
duplicates" after EVERY accepted sequence of page operations (alloc, reuse from pool, ref, unref, pool drop) -/
theorem pages_inv (es : List PEvent) (s : PState) (h : run init es = some s) : Inv s :=
  Model.Pages.pages_inv es s h

open Model.Pages in
/-- while a live `pageRef`/`pageBuffer` keeps a count on page `p`, no operation sequence hands `p` out again (its version is
unchanged), whatever else is decoded in between; for the bytes themselves see `held_bytes_intact` -/
theorem pages_safe (pre es : List PEvent) (s : PState) (h : run init pre = some s) (p : Nat) (hp : p ∈ s.held) :
    ∀ s', run s es = some s' → (∀ k, k ≤ es.length → ∀ sk, run s (es.take k) = some sk → p ∈ sk.held) →
      s'.ver p = s.ver p :=
  Model.Pages.pages_safe pre es s h p hp

/-! ## Part G — the page buffer's data path (protocol/buffer.go: pageBuffer, contiguousPages, page, pageRef)

The bytes of a request / record set / decoded batch live in 64 KiB pages and are addressed through index arithmetic
(`indexOf`, `slice`, `page.slice`).  `Model/PageBuffer` follows that arithmetic; these theorems say it is invisible:
the buffer behaves like ONE flat byte string, for every page size > 0, every content and every offset — across any
number of page boundaries.  `Contig` (all pages but the last are full) is the invariant `Write`, `WriteAt` and
`Truncate` maintain from the empty buffer; the page size is the one extracted from buffer.go. -/

open Model.PageBuffer in
/-- `Write` appends; `Truncate(n)` keeps the first `n` bytes; `WriteAt` inside the written part (how sizes, counts
and checksums are back-patched) replaces exactly its range; all three keep the pages contiguous -/
theorem pagebuffer_writes (P : Nat) (hP : 0 < P) (pb : PB) (hc : Contig P pb.pages) (b : Bytes) (n off : Nat)
    (hbase : pb.base ≤ off) (hfit : off + b.length ≤ pb.base + (flat pb).length) :
    (flat (write P pb b) = flat pb ++ b ∧ Contig P (write P pb b).pages) ∧
    (flat (truncate pb n) = (flat pb).take n ∧ Contig P (truncate pb n).pages) ∧
    (flat (writeAt P pb b off) = patch (flat pb) (off - pb.base) b ∧ Contig P (writeAt P pb b off).pages) :=
  ⟨⟨(write_spec P hP pb b hc).1, (write_spec P hP pb b hc).2.1⟩, truncate_spec P pb n hc,
   writeAt_spec P hP pb b off hc hbase hfit⟩

open Model.PageBuffer in
/-- `scan(begin, end)` (what the CRC and `WriteTo` see) and `ReadAt(buf, off)` return the corresponding bytes of the
flat content, whatever page boundaries lie in between -/
theorem pagebuffer_reads (P : Nat) (hP : 0 < P) (pb : PB) (hc : Contig P pb.pages) (b e off n : Nat) (hbe : b ≤ e)
    (hbase : pb.base ≤ off) :
    scan P pb b e = ((flat pb).take (e - pb.base)).drop (b - pb.base) ∧
    readAt P pb off n = ((flat pb).drop (off - pb.base)).take n :=
  ⟨scan_eq P hP pb hc b e hbe, readAt_eq P hP pb hc off n hbase⟩

open Model.PageBuffer in
/-- a `pageRef` to `[begin, end)` (a decoded key or value) reads exactly the bytes of its range — its pages start at
page `indexOf(begin)`, not at page 0, and `indexOf` compensates with `pages[0].offset` -/
theorem pagebuffer_ref_read (P : Nat) (hP : 0 < P) (pb : PB) (hc : Contig P pb.pages) (hb0 : pb.base = 0)
    (b e off n : Nat) (hbe : b ≤ e) (he : e ≤ (flat pb).length) :
    refReadAt P (refTo P pb b e) b (e - b) off n = (((flat pb).take e).drop (b + off)).take n :=
  refReadAt_eq P hP pb hc hb0 b e off n hbe he

/-- the extracted page size is positive (premise `0 < P` of the three theorems above for the real constant) -/
theorem gen_page_size : 0 < Gen.RecordConsts.pageSize := by decide

open Model.PageBuffer in
example : Contig 4 [[1, 2, 3, 4], [5, 6, 7, 8], [9]] ∧
    scan 4 ⟨0, [[1, 2, 3, 4], [5, 6, 7, 8], [9]]⟩ 3 9 = [4, 5, 6, 7, 8, 9] ∧
    flat (writeAt 4 ⟨0, [[1, 2, 3, 4], [5, 6, 7, 8], [9]]⟩ [0, 0, 0] 3) = [1, 2, 3, 0, 0, 0, 7, 8, 9] :=
  ⟨⟨rfl, rfl, by simp [Contig]⟩, by decide, by decide⟩


/- `Contig` recurses on the page list: elaborating a proof against `Contig P (w …).pages`, `w` a paged writer, makes
`whnf` run `w` (every `WriteAt` doubling the work).  Nothing below looks inside `Contig`. -/
attribute [local irreducible] Model.PageBuffer.Contig

open Model.PageBuffer in
/-- **`writeToVersion2` as it really runs — on the page buffer.**  The header is first written with placeholders, the
records appended (crossing page boundaries wherever they fall), then lastOffsetDelta/firstTimestamp/maxTimestamp/
numRecords are back-patched with `WriteAt` at offsets +23/+27/+35/+57, the CRC-32C is computed over
`pages.scan(offset+21, end)` and length and checksum are back-patched at +8/+17.  Whatever the page size, whatever the
buffer already held (`flat pb`, e.g. the request header and earlier partitions, so the batch starts anywhere in a
page): afterwards the buffer holds the old content followed by one batch that the independent decoder accepts and that
carries exactly the given records. -/
theorem v2_write_paged_spec (P : Nat) (hP : 0 < P) (crc : Bytes → Nat) (hcrc : ∀ b, crc b < M32) (attrs now : Int)
    (recs : List PRec) (pb : PB) (hc : Contig P pb.pages) (hb0 : pb.base = 0)
    (hne : recs ≠ []) (hwf : (frameOfV2 attrs now recs).WF) (hcodec : codecOf attrs = 0)
    (hlog : logAppend attrs = false) :
    ∃ pb' bytes f, writeV2Paged P crc attrs now recs pb = some pb' ∧ flat pb' = flat pb ++ bytes ∧
      Contig P pb'.pages ∧
      readFrame crc bytes = some (f, []) ∧ f.count = recs.length ∧
      flattenEntry ⟨crc, crc⟩ (fun _ _ => none) (.batch f) =
        some (isControl attrs, expected (recs.map (effTime now)) recs) := by
  obtain ⟨pb', h1, h3⟩ := writeV2Paged_spec hP crc attrs now recs ⟨hc, hb0, rfl⟩ hne
  have w := frameOfV2_spec crc hcrc attrs now recs hwf hcodec hlog
  exact ⟨pb', _, _, h1, h3.flat, h3.contig, w.1, rfl, w.2⟩

open Model.PageBuffer in
/-- **`RecordSet.WriteTo` on the request's page buffer** (protocol/record.go, the `w.(*pageBuffer)` fast path used by
`WriteRequest`): a size placeholder, the batch at `bufferOffset+4`, the size back-patched.  The buffer then holds the
old content, the 4-byte length of the batch, and the batch — which the independent decoder reads back to exactly the
records given. -/
theorem recordset_write_paged_spec (P : Nat) (hP : 0 < P) (crc : Bytes → Nat) (hcrc : ∀ b, crc b < M32) (attrs now : Int)
    (recs : List PRec) (pb : PB) (hc : Contig P pb.pages) (hb0 : pb.base = 0)
    (hne : recs ≠ []) (hwf : (frameOfV2 attrs now recs).WF) (hcodec : codecOf attrs = 0)
    (hlog : logAppend attrs = false) :
    ∃ pb' bytes f, writeSetV2Paged P crc attrs now recs pb = some pb' ∧
      flat pb' = flat pb ++ (u32 bytes.length ++ bytes) ∧ Contig P pb'.pages ∧
      readFrame crc bytes = some (f, []) ∧ f.count = recs.length ∧
      flattenEntry ⟨crc, crc⟩ (fun _ _ => none) (.batch f) =
        some (isControl attrs, expected (recs.map (effTime now)) recs) := by
  obtain ⟨pb', h1, h3⟩ := writeSetV2Paged_holds hP crc attrs now recs ⟨hc, hb0, rfl⟩ hne
  have w := frameOfV2_spec crc hcrc attrs now recs hwf hcodec hlog
  exact ⟨pb', _, _, h1, h3.flat, h3.contig, w.1, rfl, w.2⟩

open Model.PageBuffer in
/-- **the compressed `writeToVersion2` on the page buffer**: the record loop writes into the compressor, which writes
into the buffer whatever chunks it likes, when it likes (`chunks`, adding up to `comp records`); the placeholders,
the back-patches and the CRC over `scan(offset+21, end)` then cover the COMPRESSED bytes.  The buffer ends with the
old content followed by one batch that the independent decoder accepts and that decompresses to exactly the records. -/
theorem v2_write_compressed_paged_spec (P : Nat) (hP : 0 < P) (crc : Bytes → Nat) (hcrc : ∀ b, crc b < M32)
    (comp : Bytes → Bytes) (dec : Int → Bytes → Option Bytes) (chunks : List Bytes) (attrs now : Int)
    (recs : List PRec) (pb : PB) (hc : Contig P pb.pages) (hb0 : pb.base = 0)
    (hne : recs ≠ []) (hwf : (frameOfV2C comp attrs now recs).WF) (hcodec : codecOf attrs ≠ 0)
    (hlog : logAppend attrs = false) (hdec : ∀ p, dec (codecOf attrs) (comp p) = some p)
    (hch : chunks.flatten = comp (recordsV2 now (firstTime now recs) 0 recs)) :
    ∃ pb' bytes f, writeV2PagedC P crc chunks attrs now recs pb = some pb' ∧ flat pb' = flat pb ++ bytes ∧
      Contig P pb'.pages ∧
      readFrame crc bytes = some (f, []) ∧ f.count = recs.length ∧
      flattenEntry ⟨crc, crc⟩ dec (.batch f) = some (isControl attrs, expected (recs.map (effTime now)) recs) := by
  obtain ⟨pb', h1, h3⟩ := writeV2PagedC_spec hP crc comp chunks attrs now recs ⟨hc, hb0, rfl⟩ hne hch
  have w := frameOfV2C_spec crc hcrc comp dec attrs now recs hwf hcodec hlog hdec
  exact ⟨pb', _, _, h1, h3.flat, h3.contig, w.1, rfl, w.2⟩

open Model.PageBuffer in
/-- **`writeToVersion1` as it really runs — on the page buffer**, uncompressed and compressed.  Per message: offset, size
and CRC placeholders, magic, attributes, timestamp, key, value, then size and CRC back-patched with `WriteAt` at
`messageOffset+8` / `+12`.  With a codec the uncompressed set is first rendered into the SAME buffer, read back through
`pages.scan(bufferOffset, Size())` into the compressor, the buffer truncated to `bufferOffset`, and one wrapper message
written over it.  Whatever the page size and whatever the buffer held before: afterwards it holds the old content
followed by a message set the independent decoder accepts — the messages themselves, or exactly one wrapper whose
(compressed) value is the set of the messages with relative offsets 0..n-1. -/
theorem v1_write_paged_spec (P : Nat) (hP : 0 < P) (c : Crcs) (h1 : ∀ b, c.ieee b < M32) (h2 : ∀ b, c.castagnoli b < M32)
    (comp : Bytes → Bytes) (attrs now : Int) (recs : List PRec) (pb : PB) (hc : Contig P pb.pages) (hb0 : pb.base = 0)
    (hw : (⟨0, 1, attrs, now, none, some (comp (writeV1 c.ieee (attrs - attrs % 8) now 0 recs))⟩ : Msg).WF)
    (hwf : ∀ m ∈ msgsOfV1 attrs now 0 recs, m.WF) (hwf' : ∀ m ∈ msgsOfV1 (attrs - attrs % 8) now 0 recs, m.WF) :
    (∃ bytes, flat (writeV1Paged P c.ieee attrs now 0 recs pb) = flat pb ++ bytes ∧
      Contig P (writeV1Paged P c.ieee attrs now 0 recs pb).pages ∧
      decodeSet c bytes = some ((msgsOfV1 attrs now 0 recs).map Entry.msg)) ∧
    (∃ bytes, flat (writeV1PagedC P c.ieee comp attrs now recs pb) = flat pb ++ bytes ∧
      Contig P (writeV1PagedC P c.ieee comp attrs now recs pb).pages ∧
      decodeSet c bytes =
        some [.msg ⟨0, 1, attrs, now, none, some (comp (writeV1 c.ieee (attrs - attrs % 8) now 0 recs))⟩] ∧
      decodeSet c (writeV1 c.ieee (attrs - attrs % 8) now 0 recs) =
        some ((msgsOfV1 (attrs - attrs % 8) now 0 recs).map Entry.msg)) := by
  have a := writeV1Paged_spec hP c.ieee attrs now recs 0 ⟨hc, hb0, rfl⟩
  have b := writeV1PagedC_spec hP c.ieee comp attrs now recs ⟨hc, hb0, rfl⟩
  exact ⟨⟨_, a.flat, a.contig, writeV1_spec c h1 h2 attrs now recs hwf⟩,
    ⟨_, b.flat, b.contig, writeV1C_spec c h1 h2 comp attrs now recs hw hwf'⟩⟩

/-! ### The bytes handed out stay intact (pages WITH their content) -/

open Model.Pages in
/-- **"the key/value bytes it hands out stay intact until released, whatever else is decoded meanwhile"**, at the level
of the bytes: in the heap of pages with contents (`Model/PageHeap`: only a live pageBuffer stores into its pages;
`newPage` takes a page from the pool or allocates one), after ANY history `pre`, take a page `p` on which some holder
keeps a count (a `pageRef` = the Bytes of a key or a value) and whose buffer is gone (no writer: the decode that produced
it has finished).  Then over EVERY continuation `es` — other buffers allocating, recycling pooled pages, writing
arbitrary bytes, taking and dropping references, the runtime emptying the pool — as long as that holder keeps its count,
the content of `p` is exactly what it was, and no buffer ever becomes its writer again. -/
theorem held_bytes_intact (pre es : List HEvent) (s : HState) (h : hrun hinit pre = some s) (p : Nat)
    (hp : p ∈ s.ps.held) (hw : s.writer p = false) :
    ∀ s', hrun s es = some s' → (∀ k, k ≤ es.length → ∀ sk, hrun s (es.take k) = some sk → p ∈ sk.ps.held) →
      s'.content p = s.content p ∧ s'.writer p = false :=
  heap_stable_run es s (hinv_run pre hinit s inv_init h) p hp hw

open Model.Pages in
/-- non-vacuity: a decode fills page 0 and hands out a reference, its buffer goes away; a second decode allocates page 1,
fills and releases it; a third one recycles page 1 from the pool and overwrites it — page 0 still reads `[1, 2, 3]` -/
example : ∃ s, hrun hinit [.allocPage, .write 0 [1, 2, 3], .refTo 0, .unrefBuf 0, .allocPage, .write 1 [9], .unrefBuf 1,
    .reusePage 0, .write 1 [7, 7]] = some s ∧ 0 ∈ s.ps.held ∧ s.writer 0 = false ∧ s.content 0 = [1, 2, 3] ∧
    s.content 1 = [7, 7] := by
  refine ⟨_, rfl, ?_, ?_, ?_, ?_⟩ <;> decide

open Model.Pages in
/-- the same while the page's buffer is STILL decoding (`readMessage` of a v0/v1 set appends the next message's key and
value to the buffer whose earlier ranges are already handed out): as long as nobody overwrites the page (`noOverwrite`:
appends at its end are allowed — the only stores a decode buffer performs) and the holder keeps its count, the bytes a
reference reads are a prefix of the page's content at every later time: they are never changed, only followed. -/
theorem held_bytes_only_grow (pre es : List HEvent) (s : HState) (h : hrun hinit pre = some s) (p : Nat)
    (hp : p ∈ s.ps.held) (hno : noOverwrite p es = true) :
    ∀ s', hrun s es = some s' → (∀ k, k ≤ es.length → ∀ sk, hrun s (es.take k) = some sk → p ∈ sk.ps.held) →
      s.content p <+: s'.content p :=
  heap_grow_run es s (hinv_run pre hinit s inv_init h) p hp hno

open Model.Pages in
/-- non-vacuity: key bytes referenced, then the same buffer appends the next message, another decode recycles a page -/
example : ∃ s, hrun hinit [.allocPage, .append 0 [1, 2], .refTo 0, .append 0 [3, 4, 5], .allocPage, .unrefBuf 1,
    .reusePage 0, .write 1 [7]] = some s ∧ 0 ∈ s.ps.held ∧ s.content 0 = [1, 2, 3, 4, 5] := by
  refine ⟨_, rfl, ?_, ?_⟩ <;> decide

/-! ### Timestamp type (attributes bit 3) -/

/-- LogAppendTime: every record of the batch carries the batch's append time (`maxTimestamp`), whatever its delta -/
theorem log_append_time_v2 (f : FrameV2) (r : RecV2) (h : logAppend f.attributes = true) :
    (recOfV2 f r).ts = f.maxTs ∧ (recOfV2 f r).offset = f.baseOffset + r.offDelta ∧ (recOfV2 f r).key = r.key ∧
      (recOfV2 f r).value = r.value ∧ (recOfV2 f r).headers = r.headers := by
  simp [recOfV2, recOfV2c, stamp, h]

/-- CreateTime (what kafka-go's writers produce: they never set bit 3): first timestamp + delta -/
theorem create_time_v2 (f : FrameV2) (r : RecV2) (h : logAppend f.attributes = false) :
    (recOfV2 f r).ts = f.firstTs + r.tsDelta := by
  simp [recOfV2, recOfV2c, stamp, h]

open Model.RecordReader Model.ConnReader in
/-- the timestamp-type tests found in the FOUR decoders (protocol readFromVersion2 / readFromVersion1,
message_reader.go readMessageV2 / readMessageV1; go/ast extraction of every `attributes & <mask>`) are the Spec's bit:
a decoder that stops looking at the bit, or looks at another one, breaks this theorem on the next run -/
theorem gen_timestamp_type (a : Int) :
    libLogAppendV2 a = logAppend a ∧ libLogAppendV1 a = logAppend a ∧ connLogAppendV2 a = logAppend a ∧
      connLogAppendV1 a = logAppend a :=
  ⟨libLogAppendV2_eq a, libLogAppendV1_eq a, connLogAppendV2_eq a, connLogAppendV1_eq a⟩

end KV.Props.C05
