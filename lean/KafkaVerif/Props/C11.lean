/-
Props/C11.lean — "A Conn stays usable after broker-reported errors and is never reused misaligned".

Statement proved (for every operation that goes through (*Conn).do, every negotiated version, every response frame
`hdr ++ body` that is fully delivered, *whatever bytes* `body` holds — in particular with any int16 in any error field —
and whatever follows on the stream):
  after the operation either the result is ok / a kafka error, exactly the frame was consumed, the Conn is open and its
  state is the state of a fresh Conn positioned at the next frame (`aligned_or_closed`, `next_op_as_fresh`); or the
  result is a non-kafka error and the Conn is closed, after which every operation fails (`closed_stays_failed`).
No well-formedness of `body` is needed for this: it follows from byte conservation of every parser program
(`parser_conserves`, proved once for ALL programs, so it also covers whatever the translator regenerates) plus
`expectZeroSize` and the drain on kafka errors (`discardOnKafkaError`).  Each of these rests on a call or a check in the
Go code that is a regenerated fact; the shape without it is kept as a counterexample:
  * the drain in `writeCompressedMessages` (produce): `d2_regression_counterexample`;
  * the drain in `readOffset` (listOffsets): `listOffsets_two_partitions_counterexample`;
  * `expectZeroSize` and close on non-kafka errors in ApiVersions: `apiVersions_trailing_counterexample`.

-/
import KafkaVerif.Lemmas.ConnOps
import KafkaVerif.Lemmas.ConnLocal
import KafkaVerif.Model.ConnSpecs
import KafkaVerif.Spec.ConnFrames
import KafkaVerif.Lemmas.ReaderStack
import KafkaVerif.Model.ConnVersions

namespace KV.C11
open KV KV.Reader KV.ConnOps

/-- every parser program conserves bytes: consumed bytes and the frame counter move together, on success and on error -/
theorem parser_conserves (ps : List Step) (c : Ctx) (s : RS) : Adv s (runSteps ps c s).2 :=
  runSteps_adv ps c s

/-- a broker error code can only surface from inside a parse through an explicit early exit -/
theorem kafka_error_needs_check (ps : List Step) (h : hasFailList ps = false) (c : Ctx) (s : RS) :
    isKafka (runSteps ps c s).1 = false :=
  runSteps_nok ps h c s

theorem good_framed (o : OpSpec) (v : Nat) (topic : Bytes) (hgood : o.good v = true) : Framed (opRead o v topic) := by
  have hg : o.expectZero = true ∧ (o.drain = true ∨ hasFailList (o.parse v) = false) := by
    simpa [OpSpec.good] using hgood
  exact opRead_framed o v topic hg.1 hg.2

/-- C11 for the operations going through (*Conn).do -/
theorem aligned_or_closed (o : OpSpec) (v : Nat) (topic : Bytes) (c : Conn) (hdr body rest : Bytes)
    (hgood : o.good v = true) (hclose : o.closeOnErr = true) (hopen : c.closed = false)
    (hstream : c.stream = hdr ++ body ++ rest) (hlen : hdr.length = 8)
    (hsize : beInt (hdr.take 4) = body.length + 4) (hid : beInt (hdr.drop 4) = c.nextId) :
    ((connDo o v topic c).1.isFail = false ∧
        (connDo o v topic c).2 = { stream := rest, nextId := c.nextId + 1, closed := false }) ∨
    ((connDo o v topic c).1.isFail = true ∧ (connDo o v topic c).2.closed = true) := by
  rw [connDo_eq_exchange, hclose]
  exact exchange_aligned_or_closed (good_framed o v topic hgood) c body rest hopen
    (wait_ok c hdr body rest hstream hlen hsize hid)

/-- aligned ⇒ the next operation runs from exactly the state of a fresh connection positioned at the next frame:
its result is the fresh connection's result (both are the same function applied to the same state). -/
theorem next_op_as_fresh (o : OpSpec) (v : Nat) (topic : Bytes) (c : Conn) (hdr body rest : Bytes)
    (hgood : o.good v = true) (hclose : o.closeOnErr = true) (hopen : c.closed = false)
    (hstream : c.stream = hdr ++ body ++ rest) (hlen : hdr.length = 8)
    (hsize : beInt (hdr.take 4) = body.length + 4) (hid : beInt (hdr.drop 4) = c.nextId)
    (hnf : (connDo o v topic c).1.isFail = false) (o₂ : OpSpec) (v₂ : Nat) :
    connDo o₂ v₂ topic (connDo o v topic c).2 =
      connDo o₂ v₂ topic { stream := rest, nextId := c.nextId + 1, closed := false } := by
  rcases aligned_or_closed o v topic c hdr body rest hgood hclose hopen hstream hlen hsize hid with h | h
  · rw [h.2]
  · rw [h.1] at hnf; cases hnf

/-- no byte of another response is ever looked at: for EVERY operation (good or not), every version and every
body, the result of an exchange is a function of the bytes of its own frame alone, and whatever follows the frame on
the stream is still there, untouched, after whatever part of the frame was left unread.  (Locality of every parser
program: `runSteps_local`, by the same mutual induction as conservation.) -/
theorem result_depends_only_on_frame (o : OpSpec) (v : Nat) (topic : Bytes) (c : Conn) (hdr body rest : Bytes)
    (hopen : c.closed = false)
    (hstream : c.stream = hdr ++ body ++ rest) (hlen : hdr.length = 8)
    (hsize : beInt (hdr.take 4) = body.length + 4) (hid : beInt (hdr.drop 4) = c.nextId) :
    (connDo o v topic c).1 = (opRead o v topic ⟨body, body.length⟩).1 ∧
    (connDo o v topic c).2.stream = (opRead o v topic ⟨body, body.length⟩).2.inp ++ rest := by
  rw [connDo_eq_exchange]
  exact exchange_local (opRead_local o v topic) _ c body rest hopen (wait_ok c hdr body rest hstream hlen hsize hid)

/-- after a transport / framing error the Conn is closed and every later operation fails, forever -/
theorem closed_stays_failed (o : OpSpec) (v : Nat) (topic : Bytes) (c : Conn) (h : c.closed = true) :
    (connDo o v topic c).1.isFail = true ∧ (connDo o v topic c).2 = c := by
  rw [connDo_eq_exchange, exchange_closed _ _ c h]
  exact ⟨rfl, rfl⟩

/-- a response nobody asked for (foreign correlation id at the head of the stream, one waiter): io.ErrNoProgress AND the
Conn is closed (C11-D30) — so by `closed_stays_failed` every later operation fails, whatever ids it uses; on a Conn
kept open a later request whose id happens to equal the stale frame's would take it for its own response. -/
theorem desync_closes (o : OpSpec) (v : Nat) (topic : Bytes) (c : Conn) (hopen : c.closed = false)
    (hlen : 8 ≤ c.stream.length) (hid : beInt ((c.stream.drop 4).take 4) ≠ c.nextId) :
    (connDo o v topic c).1.isFail = true ∧ (connDo o v topic c).2.closed = true ∧
    ∀ o₂ v₂, (connDo o₂ v₂ topic (connDo o v topic c).2).1.isFail = true := by
  have hw : waitResponse c = .error (.other "io.ErrNoProgress") := by
    simp only [waitResponse, Nat.not_lt.mpr hlen, ↓reduceIte, ne_eq, hid, not_false_eq_true]
  rw [connDo_eq_exchange, exchange_wait_error _ _ c _ hopen hw]
  exact ⟨rfl, rfl, fun o₂ v₂ => (closed_stays_failed o₂ v₂ topic _ rfl).1⟩

theorem closed_stays_failed_fetch (fixed : Bool) (v : Nat) (off : Int) (b : Body) (c : Conn) (h : c.closed = true) :
    (connFetch fixed v off b c).1.isFail = true ∧ (connFetch fixed v off b c).2 = c := by
  rw [connFetch_eq_exchange, exchange_closed _ _ c h]
  exact ⟨rfl, rfl⟩

/-! ### the operation table satisfies the hypotheses (facts regenerated from /repo on every run) -/

/-- operations covered by `aligned_or_closed` -/
def coveredOps : List String := doOps

def goodFor (name : String) (vs : List Nat) : Bool :=
  match specOf name with
  | some o => vs.all (fun v => o.good v) && o.closeOnErr
  | none => false

/-- versions each operation can negotiate; for the single-version operations three stand-ins (their `parse` ignores the version) -/
def versionsFor (name : String) : List Nat :=
  match name with
  | "produce" => Gen.ConnLegacy.versionsOf "writeCompressedMessages"
  | "metadata" => Gen.ConnLegacy.versionsOf "ReadPartitions"
  | "joinGroup" => Gen.ConnLegacy.versionsOf "joinGroup"
  | "createTopics" => Gen.ConnLegacy.versionsOf "createTopics"
  | "deleteTopics" => Gen.ConnLegacy.versionsOf "deleteTopics"
  | "saslHandshake" => Gen.ConnLegacy.versionsOf "saslHandshake"
  | _ => [0, 1, 2]

theorem covered_ops_good : coveredOps.all (fun n => goodFor n (versionsFor n)) = true := by decide +kernel

/-- produce: all three negotiated versions drain on kafka errors (the shape without the `discardOnKafkaError` call is
`produceUnfixed`, `d2_regression_counterexample`) -/
theorem produce_good : goodFor "produce" [2, 3, 7] = true := by decide +kernel

/-- the three regenerated facts behind `connFetch true`: drain on kafka errors, skip at the high watermark, `Batch.close`
minds the error of its final discard -/
theorem fetch_fixed : fetchFixed = true := by decide +kernel

/-- `do` and `Batch.close` close the connection on exactly the non-kafka errors (regenerated; `connFetch` closes on every
failed outcome, and failed = non-kafka there) -/
theorem close_rules_hold : Gen.ConnLegacy.doClosesNonKafka = true ∧ Gen.ConnLegacy.batchClosesNonKafka = true := by decide +kernel

/-! ### the version cache (conn.go loadVersions / negotiateVersion) — Conn state next to the stream

"After a broker-reported error the next operation behaves as on a fresh connection" also speaks about the versions a
Conn remembers: an ApiVersions answer that carries an error code must not become the Conn's version map.
`Model/ConnVersions.lean`; `strict` is the regenerated fact `Gen.ConnLegacy.loadVersionsStrict`. -/

section Versions
open KV.ConnVersions

theorem load_versions_strict_holds : Gen.ConnLegacy.loadVersionsStrict = true := by decide +kernel

/-- a Conn that has its versions never asks again and does not touch the stream for it -/
theorem cached_versions_are_final (strict : Bool) (av : OpSpec) (topic : Bytes) (vc : VConn) (m : List Entry)
    (h : vc.cache = some m) : loadVersions strict av topic vc = (some m, .ok, vc) := by
  unfold loadVersions; rw [h]

theorem vRun_fail {strict : Bool} {av : OpSpec} {key : Int} {cands : List Nat} {run : Nat → Conn → Outcome × Conn}
    {topic : Bytes} {c : Conn} {e : Err} (h : (connDo av 0 topic c).1 = .fail e) :
    vRun strict av key cands run topic ⟨c, none⟩ = (.fail e, ⟨(connDo av 0 topic c).2, none⟩) := by
  simp only [vRun, loadVersions, h]

/-- `loadVersions` checks the error before it caches (`strict`): a broker-reported error is handed on -/
theorem vRun_kafka {av : OpSpec} {key : Int} {cands : List Nat} {run : Nat → Conn → Outcome × Conn}
    {topic : Bytes} {c : Conn} {k : Int} (h : (connDo av 0 topic c).1 = .kafka k) :
    vRun true av key cands run topic ⟨c, none⟩ = (.kafka k, ⟨(connDo av 0 topic c).2, none⟩) := by
  simp only [vRun, loadVersions, h, Bool.not_true, Bool.false_and, Bool.false_eq_true, ↓reduceIte]

/-- the negotiation that meets a broker-reported error on its ApiVersions exchange (honest frame, any content): the
caller gets THAT error, nothing is cached, and the Conn is exactly a fresh one positioned at the next frame — so the
next operation, negotiating or not, behaves as on a fresh connection (it asks the broker again). -/
theorem negotiation_error_leaves_fresh_conn (av : OpSpec) (key : Int) (cands : List Nat) (run : Nat → Conn → Outcome × Conn)
    (topic : Bytes) (c : Conn) (hdr body rest : Bytes) (k : Int)
    (hgood : av.good 0 = true) (hclose : av.closeOnErr = true) (hopen : c.closed = false)
    (hstream : c.stream = hdr ++ body ++ rest) (hlen : hdr.length = 8)
    (hsize : beInt (hdr.take 4) = body.length + 4) (hid : beInt (hdr.drop 4) = c.nextId)
    (hk : (connDo av 0 topic c).1 = .kafka k) :
    vRun true av key cands run topic ⟨c, none⟩ = (.kafka k, VConn.fresh rest (c.nextId + 1)) := by
  rw [vRun_kafka hk]
  rcases aligned_or_closed av 0 topic c hdr body rest hgood hclose hopen hstream hlen hsize hid with h | h
  · rw [h.2]; rfl
  · rw [hk] at h; cases h.1

/-- … hence two negotiating operations in a row, the first meeting the error: the second runs exactly as the first
operation of a fresh connection on what follows -/
theorem next_negotiating_op_as_fresh (av : OpSpec) (key key₂ : Int) (cands cands₂ : List Nat)
    (run run₂ : Nat → Conn → Outcome × Conn) (topic : Bytes)
    (c : Conn) (hdr body rest : Bytes) (k : Int)
    (hgood : av.good 0 = true) (hclose : av.closeOnErr = true) (hopen : c.closed = false)
    (hstream : c.stream = hdr ++ body ++ rest) (hlen : hdr.length = 8)
    (hsize : beInt (hdr.take 4) = body.length + 4) (hid : beInt (hdr.drop 4) = c.nextId)
    (hk : (connDo av 0 topic c).1 = .kafka k) :
    vRun true av key₂ cands₂ run₂ topic (vRun true av key cands run topic ⟨c, none⟩).2 =
      vRun true av key₂ cands₂ run₂ topic (VConn.fresh rest (c.nextId + 1)) := by
  rw [negotiation_error_leaves_fresh_conn av key cands run topic c hdr body rest k hgood hclose hopen hstream hlen hsize hid hk]

/-- request 1: ApiVersions answered with UnsupportedVersion (35) and the one entry brokers send with it (ApiVersions
0..3); request 2: ApiVersions answered normally (Metadata 0..1); request 3: a Metadata v1 answer (no broker, no topic) -/
def versionsStream : Bytes :=
  [0,0,0,16, 0,0,0,1, 0,35, 0,0,0,1, 0,18, 0,0, 0,3] ++
  [0,0,0,16, 0,0,0,2, 0,0, 0,0,0,1, 0,3, 0,0, 0,1] ++
  [0,0,0,16, 0,0,0,3, 0,0,0,0, 0,0,0,1, 0,0,0,0]

/-- with `strict = false` (the list that came with the error is cached): the caller does not see the broker's error
but "no matching versions", and the next call fails the same way without asking the broker again (the stream is not
touched); with `strict = true`: the broker's error, then a fresh negotiation and the answer. -/
theorem version_cache_counterexample :
    ((specOf "apiVersions").bind fun av => (specOf "metadata").map fun md =>
      let bad1 := vDo false av 3 [1, 6] md [116] (VConn.fresh versionsStream 1)
      let bad2 := vDo false av 3 [1, 6] md [116] bad1.2
      let ok1 := vDo true av 3 [1, 6] md [116] (VConn.fresh versionsStream 1)
      let ok2 := vDo true av 3 [1, 6] md [116] ok1.2
      (bad1.1 == noMatch && bad2.1 == noMatch && bad2.2.conn.stream == bad1.2.conn.stream &&
       ok1.1 == .kafka 35 && ok1.2.cache.isNone && ok2.1 == .ok && ok2.2.conn.stream == [] && ok2.2.cache == some [(3, 0, 1)])) = some true := by
  decide +kernel

end Versions

/-- Everything a Conn carries from one operation to the next, and where each piece is accounted for — the fields of
`type Conn struct`, regenerated.  A new field breaks `conn_state_accounted` until somebody has decided whether
"the next operation behaves as on a fresh connection" speaks about it (the version cache is such a piece). -/
def accountedFields : List (String × String) :=
  [("conn", "the byte stream: Conn.stream / closed"), ("rbuf", "the byte stream (read buffer): Conn.stream; dropped on close: dropsBuffer"),
   ("inflight", "LockFacts.leave, exitPath"), ("rlock", "LockFacts / released"), ("correlationID", "Conn.nextId"),
   ("apiVersions", "VConn.cache (Model/ConnVersions.lean)"),
   ("mutex", "guards offset"), ("offset", "the fetch position: C02 (Reader delivery) and C19 (Seek); every fetch of the C11 driver seeks first"),
   ("wlock", "request side"), ("wbuf", "request side"), ("wb", "request side"),
   ("wdeadline", "deadlines: observed (c17s, c11w, c2x), C06 models attach/detach"), ("rdeadline", "deadlines: observed, C06"),
   ("clientID", "immutable"), ("topic", "immutable"), ("partition", "immutable"), ("fetchMaxBytes", "immutable"),
   ("fetchMinSize", "immutable"), ("broker", "immutable"), ("rack", "immutable"), ("requiredAcks", "set by the caller, request side"),
   ("transactionalID", "immutable")]

theorem conn_state_accounted :
    Gen.ConnLegacy.connFields.all (fun f => accountedFields.any (·.1 == f)) = true := by decide +kernel

/-! ### nothing else reads the Conn's buffer

The theorems speak about the operations of the table, the framing code (`waitResponse`, `do`, `ApiVersions`) and the
batch path.  `Gen.ConnLegacy.rbufUsers` is regenerated: every function of package kafka that touches a Conn's read
buffer.  Each is one of the modelled sites, or a helper called only from modelled sites (an extracted helper does not
raise an alarm; a new method that reads responses on its own does). -/

/-- the modelled readers of the buffer: the read closures of the operation table, the framing functions, the batch path -/
def modelledReaders : List String :=
  ["Conn.findCoordinator", "Conn.heartbeat", "Conn.joinGroup", "Conn.leaveGroup", "Conn.listGroups", "Conn.offsetCommit",
   "Conn.offsetFetch", "Conn.syncGroup", "Conn.createTopics", "Conn.deleteTopics", "Conn.saslHandshake",
   "Conn.saslAuthenticate",                      -- framed (v1 handshake) and the raw token exchange (`rawToken`, C17)
   "Conn.readOffset", "Conn.readResponse", "Conn.writeCompressedMessages",
   "Conn.ApiVersions", "Conn.readApiVersions",
   "Conn.waitResponse", "Conn.peekResponseSizeAndID", "Conn.skipResponseSizeAndID", "Conn.do", "Conn.abortRead",
   "Conn.ReadBatchWith", "Batch.close",
   -- the exported entry points of those operations (a renamed unexported helper is accepted through its callers)
   "Conn.ReadOffset", "Conn.ReadFirstOffset", "Conn.ReadLastOffset", "Conn.ReadOffsets", "Conn.Brokers", "Conn.Controller",
   "Conn.ReadPartitions", "Conn.readPartitionsResponse", "Conn.CreateTopics", "Conn.DeleteTopics",
   "Conn.WriteCompressedMessages", "Conn.WriteCompressedMessagesAt", "Conn.ReadBatch"]

def readerAccepted (u : String × List String) : Bool :=
  modelledReaders.contains u.1 || (!u.2.isEmpty && u.2.all modelledReaders.contains)

theorem buffer_readers_are_modelled : Gen.ConnLegacy.rbufUsers.all readerAccepted = true := by decide +kernel

/-! ### a size prefix below 4 (negative ones included)

conn.go waitResponse hands `size − 4` to the read closure; with a prefix below 4 (the correlation id alone takes 4
bytes) that is ≤ 0 and every `readIntN` / `discardN` of read.go answers errShortRead without touching the stream: the
operation fails and `do` closes the Conn.  So the main theorems need no assumption "size prefix ≥ 4": a
fully delivered frame either has an honest prefix (`aligned_or_closed`) or a prefix below 4 (`bad_size_closes`) — a
prefix that is ≥ 4 but wrong is some other frame's honest prefix as far as the client can tell. -/

/-- the program, run on a frame of announced size 0 (and nothing to read), stops with errShortRead having touched
nothing — a closed computation, decided per operation and version below -/
def shortAtZero (ps : List Step) (v : Nat) : Bool :=
  match runSteps ps { ver := v } ⟨[], 0⟩ with
  | (.error .shortRead, ⟨[], 0⟩) => true
  | _ => false

theorem shortAtZero_spec {ps : List Step} {v : Nat} (h : shortAtZero ps v = true) :
    runSteps ps { ver := v } ⟨[], 0⟩ = (.error .shortRead, ⟨[], 0⟩) := by
  unfold shortAtZero at h
  split at h
  · assumption
  · cases h

/-- … and then it does so whatever the stream holds (locality: the program cannot look beyond the announced size) -/
theorem opRead_zero (o : OpSpec) (v : Nat) (topic inp : Bytes) (h : shortAtZero (o.parse v) v = true) :
    opRead o v topic ⟨inp, 0⟩ = (.fail .shortRead, ⟨inp, 0⟩) := by
  unfold opRead
  rw [runSteps_shortRead_at_zero _ _ inp (shortAtZero_spec h)]

/-- ReadBatchWith maps the errShortRead of the header to io.ErrUnexpectedEOF -/
theorem fetchRead_zero (fixed : Bool) (v : Nat) (off : Int) (b : Body) (inp : Bytes) (h : shortAtZero (fetchHeader v) v = true) :
    fetchRead fixed v off b ⟨inp, 0⟩ = (.fail .unexpectedEOF, ⟨inp, 0⟩) := by
  unfold fetchRead
  rw [runSteps_shortRead_at_zero _ _ inp (shortAtZero_spec h)]

def startsFor (name : String) (vs : List Nat) : Bool :=
  match specOf name with
  | some o => vs.all (fun v => shortAtZero (o.parse v) v)
  | none => false

/-- every operation of the table (list-offsets included), every negotiated version, on the regenerated programs -/
theorem ops_short_at_zero : doOps.all (fun n => startsFor n (versionsFor n)) = true := by decide +kernel

/-- a response for the expected correlation id whose size prefix is below 4: the operation fails (errShortRead) and the
Conn is closed — for every such prefix, negative ones included, and whatever follows. -/
theorem bad_size_closes (o : OpSpec) (v : Nat) (topic : Bytes) (c : Conn) (hdr rest : Bytes)
    (hstart : shortAtZero (o.parse v) v = true) (hclose : o.closeOnErr = true) (hopen : c.closed = false)
    (hstream : c.stream = hdr ++ rest) (hlen : hdr.length = 8)
    (hsize : beInt (hdr.take 4) < 4) (hid : beInt (hdr.drop 4) = c.nextId) :
    (connDo o v topic c).1 = .fail .shortRead ∧ (connDo o v topic c).2.closed = true := by
  rw [connDo_eq_exchange, exchange_body _ _ c 0 rest hopen (wait_bad_size c hdr rest hstream hlen hsize hid),
    opRead_zero o v topic rest hstart, hclose]
  exact ⟨rfl, rfl⟩

/-- fetch: the three header programs stop with errShortRead at size 0 (ReadBatchWith maps it to io.ErrUnexpectedEOF) -/
theorem fetch_headers_short_at_zero : [2, 5, 10].all (fun v => shortAtZero (fetchHeader v) v) = true := by decide +kernel

theorem bad_size_closes_fetch (fixed : Bool) (v : Nat) (off : Int) (b : Body) (c : Conn) (hdr rest : Bytes)
    (hstart : shortAtZero (fetchHeader v) v = true) (hopen : c.closed = false)
    (hstream : c.stream = hdr ++ rest) (hlen : hdr.length = 8)
    (hsize : beInt (hdr.take 4) < 4) (hid : beInt (hdr.drop 4) = c.nextId) :
    (connFetch fixed v off b c).1 = .fail .unexpectedEOF ∧ (connFetch fixed v off b c).2.closed = true := by
  rw [connFetch_eq_exchange, exchange_body _ _ c 0 rest hopen (wait_bad_size c hdr rest hstream hlen hsize hid),
    fetchRead_zero fixed v off b rest hstart]
  exact ⟨rfl, rfl⟩

/-! ### the regenerated parser programs are the Kafka layouts (Spec/ConnFrames.lean, transcribed independently) -/

open KV.Gen.ConnLegacy KV.Spec.ConnFrames in
/-- (operation, versions, generated program): with the version conditionals resolved, the program read by the Go code
is token-for-token the layout of the protocol guide -/
def genSpecPairs : List (String × List Nat × List Step) :=
  [ ("findCoordinator", [0], findCoordinatorResponseV0), ("heartbeat", [0], heartbeatResponseV0),
    ("joinGroup", [1, 2], joinGroupResponse), ("leaveGroup", [0], leaveGroupResponseV0),
    ("listGroups", [1], listGroupsResponseV1), ("offsetCommit", [2], offsetCommitResponseV2),
    ("offsetFetch", [1], offsetFetchResponseV1), ("syncGroup", [0], syncGroupResponseV0),
    ("saslHandshake", [0, 1], saslHandshakeResponseV0), ("saslAuthenticate", [0], saslAuthenticateResponseV0),
    ("createTopics", [0, 1, 2], createTopicsResponse), ("deleteTopics", [0, 1], deleteTopicsResponse),
    ("metadata", [1], metadataResponseV1), ("metadata", [6], metadataResponseV6), ("brokers", [1], metadataResponseV1) ]

open KV.Spec.ConnFrames in
theorem gen_matches_spec :
    genSpecPairs.all (fun p => p.2.1.all fun v => (layout p.1 v).map (renderSteps v) == some (renderSteps v p.2.2)) = true := by
  decide +kernel

open KV.Gen.ConnLegacy KV.Spec.ConnFrames in
theorem gen_partitions_match_spec :
    renderSteps 1 partitionOffsetV1 = renderSteps 1 listOffsetsPartition ∧
    renderSteps 2 produceResponsePartitionV2 = renderSteps 2 (producePartition 2) ∧
    renderSteps 3 produceResponsePartitionV2 = renderSteps 3 (producePartition 3) ∧
    renderSteps 7 produceResponsePartitionV7 = renderSteps 7 (producePartition 7) := by decide +kernel

/-! ### the transcribed closures / fetch headers are what the translator regenerates from read.go and conn.go -/

open KV.Gen.ConnLegacy in
theorem closures_regenerated :
    stepsEq fetchHeaderV2Gen fetchHeaderV2 = true ∧ stepsEq fetchHeaderV5Gen fetchHeaderV5 = true ∧
    stepsEq fetchHeaderV10Gen fetchHeaderV10 = true ∧
    stepsEq readOffsetClosureGen (readOffsetClosure partitionOffsetV1) = true ∧
    produceClosureGen.all (fun vp => match specOf "produce" with
                                     | some o => stepsEq vp.2 (o.parse vp.1)
                                     | none => false) = true ∧
    produceClosureGen.map (·.1) = versionsOf "writeCompressedMessages" ∧
    stepsEq apiVersionsParseGen apiVersionsParse = true ∧ apiVersionsErrAfter = true := by decide +kernel

/-! `stepsEq` is sound: it only accepts equal programs, so every conjunct `stepsEq g t = true` of `closures_regenerated`
is the equation `g = t` between the regenerated program and its transcription -/
theorem eqv_stepsEq_sound :
    (∀ a b : Step, a.eqv b = true → a = b) ∧ (∀ a b : List Step, stepsEq a b = true → a = b) := by
  -- along the cases of the two definitions, not the 256 pairs of constructors.  The case names are positions: 1–16 the
  -- diagonal of `Step.eqv` in the order of the constructors (1 `int`, 7 `disc`, 8 `arr`, 9 `arrB`, 10 `ifGe`), 17 every
  -- other pair (`h1`..`h16`: none of the diagonal; `Step.eqv.eq_17` is `… = false` under them), 18–20 `stepsEq`: nil/nil,
  -- cons/cons, different lengths (`stepsEq.eq_3`)
  apply Step.eqv.mutual_induct (motive_1 := fun a b => a.eqv b = true → a = b)
    (motive_2 := fun a b => stepsEq a b = true → a = b)
  case case17 =>
    intro t x h1 h2 h3 h4 h5 h6 h7 h8 h9 h10 h11 h12 h13 h14 h15 h16 h
    rw [Step.eqv.eq_17 t x h1 h2 h3 h4 h5 h6 h7 h8 h9 h10 h11 h12 h13 h14 h15 h16] at h
    cases h
  case case20 => intro t x h1 h2 h; rw [stepsEq.eq_3 t x h1 h2] at h; cases h
  case case1 | case7 => intro a b h; rw [Step.eqv, beq_iff_eq] at h; rw [h]
  case case8 => intro a b ih h; rw [Step.eqv] at h; rw [ih h]
  case case9 | case10 =>
    intro e a f b ih h
    rw [Step.eqv, Bool.and_eq_true, beq_iff_eq] at h
    rw [h.1, ih h.2]
  case case19 =>
    intro a as b bs ih1 ih2 h
    rw [stepsEq, Bool.and_eq_true] at h
    rw [ih1 h.1, ih2 h.2]
  all_goals exact fun _ => rfl

theorem eqv_sound : ∀ (a b : Step), a.eqv b = true → a = b := eqv_stepsEq_sound.1

theorem stepsEq_sound : ∀ (a b : List Step), stepsEq a b = true → a = b := eqv_stepsEq_sound.2

/-! ### D2: produce without the drain on kafka errors violates the theorem -/

def produceUnfixed : OpSpec :=
  { parse := fun v => produceClosure (if v ≥ 7 then Gen.ConnLegacy.produceResponsePartitionV7 else Gen.ConnLegacy.produceResponsePartitionV2),
    drain := false, expectZero := true, post := .none, closeOnErr := true }

/-- produce v2 response: 1 topic "t", 1 partition 0, error 6 (NotLeaderForPartition), offset −1, timestamp −1, throttle 0 -/
def d2Body : Bytes :=
  [0,0,0,1, 0,1,116, 0,0,0,1, 0,0,0,0, 0,6, 255,255,255,255,255,255,255,255, 255,255,255,255,255,255,255,255, 0,0,0,0]
def d2Frame (id : UInt8) : Bytes := [0,0,0,41, 0,0,0,id] ++ d2Body
def d2Next : Bytes := [0,0,0,6, 0,0,0,2, 0,0]     -- a heartbeat response for request 2

/-- without the drain: kafka error 6, Conn kept, 4 bytes of the frame left → the next operation reads mid-frame and
reports io.ErrNoProgress -/
theorem d2_regression_counterexample :
    (connDo produceUnfixed 2 [116] ⟨d2Frame 1 ++ d2Next, 1, false⟩).1 = .kafka 6 ∧
    (connDo produceUnfixed 2 [116] ⟨d2Frame 1 ++ d2Next, 1, false⟩).2 = ⟨[0,0,0,0] ++ d2Next, 2, false⟩ ∧
    (connDo (simpleOp "heartbeat" Gen.ConnLegacy.heartbeatResponseV0) 0 [116]
        (connDo produceUnfixed 2 [116] ⟨d2Frame 1 ++ d2Next, 1, false⟩).2).1 = .fail (.other "io.ErrNoProgress") := by
  decide +kernel

/-- the same frame through the regenerated produce operation: aligned, next operation succeeds.
Non-vacuity of `aligned_or_closed` / `next_op_as_fresh` on a concrete error frame. -/
theorem d2_fixed_example :
    ((specOf "produce").map fun o => (connDo o 2 [116] ⟨d2Frame 1 ++ d2Next, 1, false⟩)) =
      some (.kafka 6, ⟨d2Next, 2, false⟩) ∧
    (connDo (simpleOp "heartbeat" Gen.ConnLegacy.heartbeatResponseV0) 0 [116] ⟨d2Next, 2, false⟩).1 = .ok := by
  decide +kernel

-- the D2 frame is honestly framed: it meets `hlen`, `hsize`, `hid` of `aligned_or_closed`
example : d2Body.length = 37 ∧ beInt ((d2Frame 1).take 4) = d2Body.length + 4 ∧ beInt (((d2Frame 1).take 8).drop 4) = 1 := by decide +kernel

/-! ### fetch: the same statement for ReadBatchWith + Batch; the shapes without the drain, the skip, the discard check -/

/-- C11 for fetch (ReadBatchWith, reading the batch to its end, Batch.Close), for EVERY message-set reader that
conserves bytes — no hypothesis on the frame (the message set of a response at the high watermark is skipped as well). -/
theorem fetch_aligned_or_closed (v : Nat) (offset : Int) (b : Body) (c : Conn) (hdr body rest : Bytes)
    (hb : b.Conserves) (hopen : c.closed = false)
    (hstream : c.stream = hdr ++ body ++ rest) (hlen : hdr.length = 8)
    (hsize : beInt (hdr.take 4) = body.length + 4) (hid : beInt (hdr.drop 4) = c.nextId) :
    ((connFetch true v offset b c).1.isFail = false ∧
        (connFetch true v offset b c).2 = { stream := rest, nextId := c.nextId + 1, closed := false }) ∨
    ((connFetch true v offset b c).1.isFail = true ∧ (connFetch true v offset b c).2.closed = true) := by
  rw [connFetch_eq_exchange]
  exact exchange_aligned_or_closed (fetchRead_framed v offset b hb) c body rest hopen
    (wait_ok c hdr body rest hstream hlen hsize hid)

/-- a fetch v2 response whose header is fine, high watermark 5, with a non-empty set (3 bytes) -/
def atWatermarkBody : Bytes :=
  [0,0,0,0, 0,0,0,1, 0,1,116, 0,0,0,1, 0,0,0,0, 0,0, 0,0,0,0,0,0,0,5, 0,0,0,3, 1,2,3]

/-- C11-D32: fetching at the high watermark, the Go code takes the `messageSetReader{empty: true}` path and reports
RequestTimedOut; without the skip of the set (`fixed = false`) the set stays unread on a Conn that is kept, with it
nothing of the frame is left. -/
theorem fetch_at_watermark_counterexample :
    fetchRead false 2 5 idealBody ⟨atWatermarkBody, atWatermarkBody.length⟩ = (.kafka 7, ⟨[1,2,3], 3⟩) ∧
    fetchRead true 2 5 idealBody ⟨atWatermarkBody, atWatermarkBody.length⟩ = (.kafka 7, ⟨[], 0⟩) := by decide +kernel

/-- a fetch v10 response with a top-level error code (6) -/
def fetchErrV10 : Bytes := [0,0,0,0, 0,6, 0,0,0,9, 0,0,0,0]

/-- D2 for fetch: without the drain the rest of the frame is left on the Conn, with it nothing is -/
theorem d2_fetch_regression_counterexample :
    fetchRead false 10 0 idealBody ⟨fetchErrV10, fetchErrV10.length⟩ = (.kafka 6, ⟨[0,0,0,9, 0,0,0,0], 8⟩) ∧
    fetchRead true 10 0 idealBody ⟨fetchErrV10, fetchErrV10.length⟩ = (.kafka 6, ⟨[], 0⟩) := by decide +kernel

/-- a message-set reader that stops at once on a broker-reported error -/
def stopsEarly : Body := { first := fun s => (.ok (), s), rest := fun s => (.kafka 7, s) }
def shortOf3 : Bytes := [0,0,0,40, 0,0,0,1] ++ (atWatermarkBody.take 33)   -- announces 36 bytes, 33 arrive

/-- C02-D33: a reader that stops on a broker-reported error (or whose caller closes the batch early) leaves the rest of
the response to `Batch.close`; when that cannot be skipped — here the stream ends 3 bytes short — a `Batch.close` that
drops the error of `msgs.discard()` (`fixed = false`) gives kafka error 7 and KEEPS the Conn in mid-response; minding it:
failed and closed. -/
theorem batch_close_discard_counterexample :
    ((connFetch false 2 4 stopsEarly ⟨shortOf3, 1, false⟩).1 = .kafka 7 ∧
     (connFetch false 2 4 stopsEarly ⟨shortOf3, 1, false⟩).2.closed = false) ∧
    ((connFetch true 2 4 stopsEarly ⟨shortOf3, 1, false⟩).1.isFail = true ∧
     (connFetch true 2 4 stopsEarly ⟨shortOf3, 1, false⟩).2.closed = true) := by decide +kernel

theorem idealBody_conserves : idealBody.Conserves := by
  constructor
  · intro s; unfold idealBody; simp only; split <;> exact Adv.refl s
  · intro s; unfold idealBody; simp only
    split
    · exact Adv.drain s (by omega)
    · exact Nat.sub_self s.sz ▸ Adv.drop s s.sz (Nat.le_refl _) (by omega)

/-! ### message_reader.go: the reader stack keeps the frame accounting (the `Body` hypothesis, discharged)

`fetch_aligned_or_closed` assumes the message-set reader conserves bytes.  Model/ReaderStack.lean models what in
message_reader.go decides that: which reader of the stack a read touches, how a compressed batch / wrapper is charged
to the root's `remain`, and what `discard()` discards.  The three statements involved are regenerated facts. -/

section ReaderStackSec
open KV.ReaderStack

/-- with the three accounting facts, every run of the reader stack keeps the root's `remain` in step with the bytes
taken from the Conn -/
theorem stack_run_adv (f : Facts) (hf : f.all = true) : ∀ (os : List Op) (m : MSR), Adv m.root (ReaderStack.run f m os).root :=
  fun os m => (run_bound f hf os m.children).1 m.root

/-- `discard()` (Batch.close, end of batch) leaves nothing of the fetch response unread, whatever is on the stack -/
theorem stack_discard_empties (f : Facts) (hf : f.all = true) (m : MSR) (he : m.root.sz ≤ m.root.inp.length) :
    (ReaderStack.step f m .discard).root = ⟨m.root.inp.drop m.root.sz, 0⟩ ∧ (ReaderStack.step f m .discard).children = [] := by
  simp only [ReaderStack.step, (Facts.all_true hf).1, ↓reduceIte, discardN_all_enough m.root he, and_self]

/-- the source tree has the three accounting statements (regenerated) -/
theorem reader_stack_facts_hold : Gen.ConnLegacy.readerStackFacts.all = true := by decide +kernel

/-- the modelled message-set reader is a `Body` that conserves bytes: the hypothesis of `fetch_aligned_or_closed` /
`fetch_cut_is_error` is discharged for it (any operation sequences, any error it ends with) -/
def stackBody (f : Facts) (ops1 ops2 : List Op) (e1 : Option Err) (e2 : Err) : Body where
  first := fun s => (match e1 with | some e => .error e | none => .ok (), (ReaderStack.run f ⟨s, []⟩ ops1).root)
  rest := fun s => (e2, (ReaderStack.run f ⟨s, []⟩ ops2).root)

theorem stackBody_conserves (f : Facts) (hf : f.all = true) (ops1 ops2 : List Op) (e1 : Option Err) (e2 : Err) :
    (stackBody f ops1 ops2 e1 e2).Conserves :=
  ⟨(run_bound f hf ops1 []).1, (run_bound f hf ops2 []).1⟩

/-- … and looks at the bytes of its own fetch response only: the modelled message-set reader also meets the locality
hypothesis of `fetch_depends_only_on_frame` / `fetch_exchange_ok` -/
theorem stackBody_local (f : Facts) (hf : f.all = true) (ops1 ops2 : List Op) (e1 : Option Err) (e2 : Err) :
    (stackBody f ops1 ops2 e1 e2).Local :=
  ⟨fun rest s he => congrArg (fun p => (_, p.2)) ((run_bound f hf ops1 []).2 rest s he),
   fun rest s he => congrArg (fun p => (_, p.2)) ((run_bound f hf ops2 []).2 rest s he)⟩

/-- two shapes the accounting facts exclude, as runs of the model: (1) `discard()` that only unwinds exhausted readers — closing part-way
through a compressed batch leaves the rest of the response on the Conn; (2) a compressed v2 batch always counted as
fully consumed — `remain` reaches 0 although the stream ended inside the payload. -/
theorem reader_stack_counterexamples :
    (let f : Facts := ⟨false, true, true⟩
     let m := ReaderStack.run f ⟨⟨List.replicate 100 0, 100⟩, []⟩ [.read 61, .pushV2 20 20 50, .read 10, .discard]
     m.root.sz = 19 ∧ m.root.inp.length = 19) ∧
    (let f : Facts := ⟨true, false, true⟩
     let m := ReaderStack.run f ⟨⟨List.replicate 70 0, 100⟩, []⟩ [.read 61, .pushV2 39 39 0, .pop, .discard]
     m.root.sz = 0 ∧ m.root.inp.length = 0) ∧
    (let f : Facts := ⟨true, true, true⟩
     let m := ReaderStack.run f ⟨⟨List.replicate 70 0, 100⟩, []⟩ [.read 61, .pushV2 39 39 0, .pop, .discard]
     m.root.sz = 30) := by decide +kernel

end ReaderStackSec

/-- the fetch analogue of `result_depends_only_on_frame`: for every message-set reader that conserves bytes and looks at
its own frame only, what ReadBatchWith + reading the batch + Close return is a function of the frame's bytes, and what
follows the frame is still there, untouched -/
theorem fetch_depends_only_on_frame (fixed : Bool) (v : Nat) (offset : Int) (b : Body) (hb : b.Conserves) (hl : b.Local)
    (c : Conn) (hdr body rest : Bytes) (hopen : c.closed = false)
    (hstream : c.stream = hdr ++ body ++ rest) (hlen : hdr.length = 8)
    (hsize : beInt (hdr.take 4) = body.length + 4) (hid : beInt (hdr.drop 4) = c.nextId) :
    (connFetch fixed v offset b c).1 = (fetchRead fixed v offset b ⟨body, body.length⟩).1 ∧
    (connFetch fixed v offset b c).2.stream = (fetchRead fixed v offset b ⟨body, body.length⟩).2.inp ++ rest := by
  rw [connFetch_eq_exchange]
  exact exchange_local (fetchRead_local fixed v offset b hb hl) _ c body rest hopen
    (wait_ok c hdr body rest hstream hlen hsize hid)

theorem idealBody_local : idealBody.Local := by
  refine ⟨fun rest s _ => ?_, fun rest s he => ?_⟩
  · simp only [idealBody, ext]
    by_cases hz : s.sz = 0 <;> simp [hz]
  · simp only [idealBody, ext, Enough] at he ⊢
    have h1 : ¬ s.inp.length < s.sz := by omega
    have h2 : ¬ (s.inp ++ rest).length < s.sz := by simp only [List.length_append]; omega
    simp only [h1, h2, ↓reduceIte]
    rw [List.drop_append_of_le_length he]

/-- the oracle's reader (`headerBody`: to the end of the set, refusing a set too short for one header) conserves and is
local: the fetch theorems apply to it -/
theorem headerBody_conserves : headerBody.Conserves := by
  refine ⟨fun s => ?_, idealBody_conserves.2⟩
  simp only [headerBody]
  split
  · exact Adv.refl s
  · split
    · exact Adv.refl s
    · split <;> exact Adv.refl s

/-- the header sizes are those of message_reader.go readHeader (regenerated: the readIntN calls before the switch on the
magic byte plus those of each case) -/
theorem header_sizes_regenerated :
    Gen.ConnLegacy.headerSizes = [(0, headerNeed 0), (1, headerNeed 1), (2, headerNeed 2)] := by decide +kernel

theorem headerBody_local : headerBody.Local := by
  refine ⟨fun rest s he => ?_, idealBody_local.2⟩
  simp only [headerBody, ext]
  by_cases h17 : s.sz < 17
  · simp [h17]
  · have hlen : 16 < s.inp.length := by simp only [Enough] at he; omega
    have hget : (s.inp ++ rest).getD 16 0 = s.inp.getD 16 0 := by
      simp [List.getD_eq_getElem?_getD, List.getElem?_append_left hlen]
    simp only [h17, ↓reduceIte, hget]
    split
    · rfl
    · split <;> rfl

/-! ### any number of operations in a row

The one-step theorems compose: over a stream of honestly framed responses, a whole sequence of operations on one Conn
gives, operation by operation, exactly what each would give alone on a fresh connection holding only its own frame —
up to the first one that fails (a framing error or a transport error in its own frame); from there on every operation
fails with "use of closed connection".  This is the property as the title states it: usable after broker-reported
errors, never reused misaligned.  (`sequence_aligned`; it is `mixed_sequence_aligned`, runs of operations AND fetches,
for the exchanges `Xch.ofOp`.) -/

/-- one exchange of a sequence: the operation, its version, the 8-byte header and the body the broker sends for it -/
structure Exch where
  o : OpSpec
  v : Nat
  hdr : Bytes
  body : Bytes

/-- honest framing for correlation id `id`, operation inside the main theorems (all of the table: `covered_ops_good`) -/
def Exch.WF (e : Exch) (id : Int) : Prop :=
  e.hdr.length = 8 ∧ beInt (e.hdr.take 4) = e.body.length + 4 ∧ beInt (e.hdr.drop 4) = id ∧
  e.o.good e.v = true ∧ e.o.closeOnErr = true

def seqWF : List Exch → Int → Prop
  | [], _ => True
  | e :: r, id => e.WF id ∧ seqWF r (id + 1)

def streamOf : List Exch → Bytes
  | [] => []
  | e :: r => e.hdr ++ e.body ++ streamOf r

def runOps (topic : Bytes) : List Exch → Conn → List Outcome × Conn
  | [], c => ([], c)
  | e :: r, c => ((connDo e.o e.v topic c).1 :: (runOps topic r (connDo e.o e.v topic c).2).1,
                  (runOps topic r (connDo e.o e.v topic c).2).2)

def closedOutcome : Outcome := .fail (.other "use of closed connection")

/-- what each operation gives ALONE, on a fresh connection that holds its own frame and nothing else; after the first
failure: closed -/
def expectedOuts (topic : Bytes) : List Exch → List Outcome
  | [] => []
  | e :: r =>
    let out := (opRead e.o e.v topic ⟨e.body, e.body.length⟩).1
    if out.isFail then out :: r.map (fun _ => closedOutcome) else out :: expectedOuts topic r

theorem runOps_closed (topic : Bytes) (es : List Exch) (c : Conn) (h : c.closed = true) :
    runOps topic es c = (es.map (fun _ => closedOutcome), c) := by
  induction es with
  | nil => rfl
  | cons e r ih =>
    have h1 : connDo e.o e.v topic c = (closedOutcome, c) := exchange_closed (opRead e.o e.v topic) e.o.closeOnErr c h
    simp only [runOps, h1, ih, List.map_cons]

theorem seqWF_append (a b : List Exch) (id : Int) :
    seqWF (a ++ b) id ↔ seqWF a id ∧ seqWF b (id + a.length) := by
  induction a generalizing id with
  | nil => simp [seqWF]
  | cons x r ih =>
    simp only [List.cons_append, seqWF, ih, List.length_cons, and_assoc]
    have : id + 1 + (r.length : Int) = id + ((r.length + 1 : Nat) : Int) := by omega
    rw [this]

theorem runOps_append (topic : Bytes) (a b : List Exch) (c : Conn) :
    runOps topic (a ++ b) c =
      ((runOps topic a c).1 ++ (runOps topic b (runOps topic a c).2).1, (runOps topic b (runOps topic a c).2).2) := by
  induction a generalizing c with
  | nil => rfl
  | cons x r ih => simp only [List.cons_append, runOps, ih]

/-- one exchange of a mixed run, abstractly: how it acts on a Conn, what it gives alone, the frame the broker sends -/
structure Xch where
  run : Conn → Outcome × Conn
  alone : Outcome
  frame : Bytes

/-- the two one-step facts a run needs: on a closed Conn nothing happens; on an open Conn positioned at this frame the
result is the `alone` one and the Conn ends either exactly after the frame or closed -/
def Xch.OK (x : Xch) (id : Int) : Prop :=
  (∀ c, c.closed = true → x.run c = (closedOutcome, c)) ∧
  (∀ c rest, c.closed = false → c.nextId = id → c.stream = x.frame ++ rest →
     (x.run c).1 = x.alone ∧
     ((x.alone.isFail = false ∧ (x.run c).2 = { stream := rest, nextId := id + 1, closed := false }) ∨
      (x.alone.isFail = true ∧ (x.run c).2.closed = true)))

def xseqOK : List Xch → Int → Prop
  | [], _ => True
  | x :: r, id => x.OK id ∧ xseqOK r (id + 1)

def xstream : List Xch → Bytes
  | [] => []
  | x :: r => x.frame ++ xstream r

def xrun : List Xch → Conn → List Outcome × Conn
  | [], c => ([], c)
  | x :: r, c => ((x.run c).1 :: (xrun r (x.run c).2).1, (xrun r (x.run c).2).2)

def xexpected : List Xch → List Outcome
  | [] => []
  | x :: r => if x.alone.isFail then x.alone :: r.map (fun _ => closedOutcome) else x.alone :: xexpected r

theorem xrun_closed (xs : List Xch) (id : Int) (h : xseqOK xs id) (c : Conn) (hc : c.closed = true) :
    xrun xs c = (xs.map (fun _ => closedOutcome), c) := by
  induction xs generalizing id with
  | nil => rfl
  | cons x r ih =>
    have h1 := h.1.1 c hc
    simp only [xrun, h1, ih (id + 1) h.2, List.map_cons]

/-- operations of the table and fetches in any order on one Conn — each gives what it gives alone on a
fresh connection holding only its own frame, up to the first failure; then all fail -/
theorem mixed_sequence_aligned (xs : List Xch) (c : Conn) (rest : Bytes)
    (hopen : c.closed = false) (hok : xseqOK xs c.nextId) (hs : c.stream = xstream xs ++ rest) :
    (xrun xs c).1 = xexpected xs ∧
    ((xexpected xs).all (fun o => !o.isFail) = true →
      (xrun xs c).2 = { stream := rest, nextId := c.nextId + xs.length, closed := false }) := by
  induction xs generalizing c with
  | nil =>
    simp only [xstream, List.nil_append] at hs
    refine ⟨rfl, fun _ => ?_⟩
    cases c; simp_all [xrun]
  | cons x r ih =>
    obtain ⟨hx, hr⟩ := hok
    have hs' : c.stream = x.frame ++ (xstream r ++ rest) := by rw [hs]; simp [xstream, List.append_assoc]
    obtain ⟨hres, hac⟩ := hx.2 c (xstream r ++ rest) hopen rfl hs'
    simp only [xrun, xexpected]
    rw [hres]
    rcases hac with ⟨hnf, hc'⟩ | ⟨hf, hcl⟩
    · have ih' := ih (x.run c).2 (by rw [hc']) (by rw [hc']; exact hr) (by rw [hc'])
      simp only [hnf, Bool.false_eq_true, ↓reduceIte]
      refine ⟨by rw [ih'.1], fun hall => ?_⟩
      simp only [List.all_cons, Bool.and_eq_true] at hall
      rw [ih'.2 hall.2, hc']
      simp only [List.length_cons, Conn.mk.injEq, true_and, and_true]
      omega
    · simp only [hf, ↓reduceIte]
      rw [xrun_closed r (c.nextId + 1) hr _ hcl]
      refine ⟨rfl, fun hall => ?_⟩
      simp [hf] at hall

theorem exchange_xch_ok {read : RS → Outcome × RS} (hf : Framed read) (hl : Local read) (hdr body : Bytes) (id : Int)
    (hlen : hdr.length = 8) (hsize : beInt (hdr.take 4) = body.length + 4) (hid : beInt (hdr.drop 4) = id) :
    Xch.OK ⟨exchange read true, (read ⟨body, body.length⟩).1, hdr ++ body⟩ id := by
  refine ⟨fun c hc => exchange_closed read true c hc, fun c rest hopen hn hs => ?_⟩
  have hw := wait_ok c hdr body rest hs hlen hsize (hn ▸ hid)
  have hloc := (exchange_local hl true c body rest hopen hw).1
  refine ⟨hloc, ?_⟩
  rw [← hloc, ← hn]
  exact exchange_aligned_or_closed hf c body rest hopen hw

/-- an operation of the table is such an exchange -/
def Xch.ofOp (topic : Bytes) (e : Exch) : Xch :=
  { run := connDo e.o e.v topic, alone := (opRead e.o e.v topic ⟨e.body, e.body.length⟩).1, frame := e.hdr ++ e.body }

theorem op_exchange_ok (topic : Bytes) (e : Exch) (id : Int) (h : e.WF id) : (Xch.ofOp topic e).OK id := by
  obtain ⟨hlen, hsize, hid, hgood, hclose⟩ := h
  have := exchange_xch_ok (good_framed e.o e.v topic hgood) (opRead_local e.o e.v topic) e.hdr e.body id hlen hsize hid
  rwa [← hclose] at this

theorem ofOp_seq (topic : Bytes) (es : List Exch) :
    (∀ c, runOps topic es c = xrun (es.map (Xch.ofOp topic)) c) ∧
    expectedOuts topic es = xexpected (es.map (Xch.ofOp topic)) ∧
    streamOf es = xstream (es.map (Xch.ofOp topic)) ∧
    ∀ id, seqWF es id → xseqOK (es.map (Xch.ofOp topic)) id := by
  induction es with
  | nil => exact ⟨fun _ => rfl, rfl, rfl, fun _ _ => trivial⟩
  | cons e r ih =>
    obtain ⟨hrun, hexp, hstr, hok⟩ := ih
    refine ⟨fun c => ?_, ?_, ?_, fun id h => ⟨op_exchange_ok topic e id h.1, hok _ h.2⟩⟩
    · simp only [runOps, List.map_cons, xrun, hrun]; rfl
    · simp only [expectedOuts, List.map_cons, xexpected, hexp, List.map_map]; rfl
    · simp only [streamOf, List.map_cons, xstream, hstr]; rfl

/-- a run of operations of the table is the mixed run of their exchanges -/
theorem sequence_aligned (topic : Bytes) (es : List Exch) (c : Conn) (rest : Bytes)
    (hopen : c.closed = false) (hwf : seqWF es c.nextId) (hs : c.stream = streamOf es ++ rest) :
    (runOps topic es c).1 = expectedOuts topic es ∧
    ((expectedOuts topic es).all (fun o => !o.isFail) = true →
      (runOps topic es c).2 = { stream := rest, nextId := c.nextId + es.length, closed := false }) := by
  obtain ⟨hrun, hexp, hstr, hok⟩ := ofOp_seq topic es
  have h := mixed_sequence_aligned (es.map (Xch.ofOp topic)) c rest hopen (hok _ hwf) (hstr ▸ hs)
  rwa [← hrun, ← hexp, List.length_map] at h

/-- heartbeat, produce v2 answered with NotLeaderForPartition (the D2 frame), heartbeat, a heartbeat whose frame has a byte
too many, one more heartbeat -/
def exampleSeq (hb pr : OpSpec) : List Exch :=
  [⟨hb, 0, [0,0,0,6, 0,0,0,1], [0,0]⟩, ⟨pr, 2, [0,0,0,41, 0,0,0,2], d2Body⟩, ⟨hb, 0, [0,0,0,6, 0,0,0,3], [0,0]⟩,
   ⟨hb, 0, [0,0,0,7, 0,0,0,4], [0,0,9]⟩, ⟨hb, 0, [0,0,0,6, 0,0,0,5], [0,0]⟩]

def exampleHolds (hb pr : OpSpec) : Bool :=
  let es := exampleSeq hb pr
  (runOps [116] es ⟨streamOf es, 1, false⟩).1 == expectedOuts [116] es &&
  (expectedOuts [116] es).map Outcome.isFail == [false, false, false, true, true] &&
  expectedOuts [116] (es.take 3) == [.ok, .kafka 6, .ok] &&
  (runOps [116] (es.take 3) ⟨streamOf es, 1, false⟩).2.nextId == 4

/-- non-vacuity on the regenerated table: the run of `exampleSeq` on one Conn is `[ok, kafka 6, ok, fail, closed]`, i.e.
`expectedOuts`; the hypotheses of `sequence_aligned` hold for the first three (honest frames, operations of the table) -/
theorem sequence_example :
    ((specOf "heartbeat").bind fun hb => (specOf "produce").map fun pr => exampleHolds hb pr) = some true := by decide +kernel

/-- a fetch (ReadBatchWith, the batch read to its end or abandoned, Close) with a conserving, local message-set reader
is such an exchange -/
def Xch.ofFetch (v : Nat) (offset : Int) (b : Body) (hdr body : Bytes) : Xch :=
  { run := connFetch true v offset b, alone := (fetchRead true v offset b ⟨body, body.length⟩).1, frame := hdr ++ body }

theorem fetch_exchange_ok (v : Nat) (offset : Int) (b : Body) (hb : b.Conserves) (hl : b.Local) (hdr body : Bytes) (id : Int)
    (hlen : hdr.length = 8) (hsize : beInt (hdr.take 4) = body.length + 4) (hid : beInt (hdr.drop 4) = id) :
    (Xch.ofFetch v offset b hdr body).OK id := by
  have := exchange_xch_ok (fetchRead_framed v offset b hb) (fetchRead_local true v offset b hb hl) hdr body id hlen hsize hid
  simpa only [Xch.ofFetch, funext (connFetch_eq_exchange true v offset b)] using this

/-- non-vacuity: heartbeat, a fetch v10 answered with NotLeaderForPartition (`fetchErrV10`), heartbeat — one Conn -/
def mixedExample : List Xch :=
  let hb := simpleOp "heartbeat" Gen.ConnLegacy.heartbeatResponseV0
  [Xch.ofOp [116] ⟨hb, 0, [0,0,0,6, 0,0,0,1], [0,0]⟩,
   Xch.ofFetch 10 0 idealBody [0,0,0,(4 + fetchErrV10.length).toUInt8, 0,0,0,2] fetchErrV10,
   Xch.ofOp [116] ⟨hb, 0, [0,0,0,6, 0,0,0,3], [0,0]⟩]

theorem mixed_example :
    ((xrun mixedExample ⟨xstream mixedExample ++ [7], 1, false⟩).1 == [.ok, .kafka 6, .ok] &&
     xexpected mixedExample == [.ok, .kafka 6, .ok] &&
     (xrun mixedExample ⟨xstream mixedExample ++ [7], 1, false⟩).2 == ⟨[7], 4, false⟩) = true := by decide +kernel

/-! ### listOffsets: the shape without the drain, and every frame of the one-partition shape -/

/-- list-offsets without `discardOnKafkaError` in `readOffset` (C11-D34): the kafka error leaves the partition loop
without a drain -/
def listOffsetsUnfixed : OpSpec :=
  { parse := fun _ => readOffsetClosure Gen.ConnLegacy.partitionOffsetV1, drain := false, expectZero := true, post := .none, closeOnErr := true }

/-- two partitions in one list-offsets response (never sent for a one-partition request), error in the first -/
def listOffsets2 : Bytes :=
  [0,0,0,1, 0,1,116, 0,0,0,2, 0,0,0,0, 0,6, 0,0,0,0,0,0,0,0, 0,0,0,0,0,0,0,0,
                               0,0,0,1, 0,0, 0,0,0,0,0,0,0,0, 0,0,0,0,0,0,0,9]

/-- without the drain the second entry stays unread on a Conn that is kept; the regenerated operation skips it -/
theorem listOffsets_two_partitions_counterexample :
    (opRead listOffsetsUnfixed 1 [116] ⟨listOffsets2, listOffsets2.length⟩).1 = .kafka 6 ∧
    (opRead listOffsetsUnfixed 1 [116] ⟨listOffsets2, listOffsets2.length⟩).2.sz = 22 ∧
    ((specOf "listOffsets").map fun o => (opRead o 1 [116] ⟨listOffsets2 ++ [9], listOffsets2.length⟩)) =
      some (.kafka 6, ⟨[9], 0⟩) := by
  decide +kernel

/-- list-offsets v1, the shape a broker answers a one-partition request with: any topic name, partition, error code,
timestamp, offset; any bytes after the frame.  Result: ok / that kafka error, frame exactly consumed. -/
theorem listOffsets_aligned_wf (o : OpSpec) (topic c1 lenb name c2 part err ts off rest : Bytes)
    (hparse : o.parse 1 = readOffsetClosure [.int 4, .err, .int 8, .int 8])
    (hzero : o.expectZero = true) (hpost : o.post.eval topic = fun _ => none)
    (h1 : c1.length = 4) (h1v : beInt c1 = 1) (hl : lenb.length = 2) (hn : beInt lenb = name.length)
    (h2 : c2.length = 4) (h2v : beInt c2 = 1)
    (hp : part.length = 4) (he : err.length = 2) (ht : ts.length = 8) (ho : off.length = 8) :
    opRead o 1 topic ⟨c1 ++ (lenb ++ (name ++ (c2 ++ (part ++ (err ++ (ts ++ (off ++ rest))))))),
                      4 + (2 + (name.length + (4 + (4 + (2 + (8 + 8))))))⟩ =
      (if beInt err = 0 then .ok else .kafka (beInt err), ⟨rest, 0⟩) := by
  have hle : ¬ ((name.length : Int) > ((name.length + (4 + (4 + (2 + (8 + 8)))) : Nat) : Int)) := by omega
  have hnn : ¬ ((name.length : Int) < 0) := by omega
  have h8 : (8 : Nat) = 8 + 0 := rfl
  unfold opRead
  rw [hparse]
  -- the announced size is written as a sum in reading order, so every read peels its summand off syntactically
  simp only [readOffsetClosure, runSteps, runStep, List.cons_append, List.nil_append, iter, lift, discardLen, readLenWith,
    readInt_app c1 _ 4 _ h1, h1v, Int.toNat_one, readInt_app lenb _ 2 _ hl, hn, hle, hnn, ↓reduceIte, discardN_app,
    readInt_app c2 _ 4 _ h2, h2v, readInt_app part _ 4 _ hp, readInt_app err _ 2 _ he, readInt_app ts _ 8 _ ht]
  -- the last summand is a bare `8`
  rw [h8, readInt_app off _ 8 _ ho]
  by_cases hz : beInt err = 0
  · simp [hz, hzero, hpost]
  · simp [hz]

/-- the regenerated list-offsets operation has exactly the shape `listOffsets_aligned_wf` is about -/
theorem listOffsets_gen_shape : ∃ o, specOf "listOffsets" = some o ∧
    o.parse 1 = readOffsetClosure [.int 4, .err, .int 8, .int 8] ∧ o.expectZero = true ∧
    (∀ t, o.post.eval t = fun _ => none) :=
  ⟨_, rfl, rfl, by decide, fun _ => rfl⟩

/-- a well-formed one-partition list-offsets error frame (error 3 = UnknownTopicOrPartition) -/
def listOffsets1 : Bytes :=
  [0,0,0,1, 0,1,116, 0,0,0,1, 0,0,0,0, 0,3, 255,255,255,255,255,255,255,255, 255,255,255,255,255,255,255,255]

/-- `listOffsets_aligned_wf` on a concrete frame, through the regenerated operation -/
theorem listOffsets_wf_example :
    ((specOf "listOffsets").map fun o => opRead o 1 [116] ⟨listOffsets1 ++ [9, 9], listOffsets1.length⟩) =
      some (.kafka 3, ⟨[9, 9], 0⟩) := by decide +kernel

/-! ### the read lock is released on every exit path (regenerated facts), a leaked lock blocks forever -/

theorem lock_facts_hold : Gen.ConnLegacy.lockFacts.all = true := by decide +kernel

/-- with the regenerated lock facts, whatever the exchange does (peek error, ErrNoProgress, body read with any result,
request not even sent), the read lock is free afterwards; and the exchange itself is `connDo` -/
theorem lock_released_on_every_path (lf : LockFacts) (h : lf.all = true) (inflight : Bool) (o : OpSpec) (v : Nat)
    (topic : Bytes) (c : Conn) :
    (connDoL lf inflight o v topic (c, false)).2.2 = false ∧
    (inflight = false → (connDoL lf inflight o v topic (c, false)).1 = (connDo o v topic c).1 ∧
                        (connDoL lf inflight o v topic (c, false)).2.1 = (connDo o v topic c).2) := by
  refine ⟨by simp [connDoL, released_of_all h], ?_⟩
  intro hi
  subst hi
  obtain ⟨_, _, _, _, hDesync, _⟩ := LockFacts.all_true h
  simp [connDoL, hDesync]

/-- the same for ReadBatchWith + Batch: the lock handed to the Batch is released by `Batch.close` -/
theorem lock_released_fetch (lf : LockFacts) (h : lf.all = true) (fixed : Bool) (v : Nat) (off : Int) (b : Body) (c : Conn) :
    (connFetchL lf fixed v off b (c, false)).2.2 = false := by
  obtain ⟨_, _, _, hTake, _, _, _, _, hHandover, hClose⟩ := LockFacts.all_true h
  unfold connFetchL
  simp only [Bool.false_and, Bool.false_eq_true, ↓reduceIte, Bool.false_or, Bool.not_eq_eq_eq_not, Bool.not_false]
  cases exitPath false c <;> simp [released_of_all h, hTake, hHandover, hClose]

/-- once the lock is leaked, every operation whose request goes out blocks — result and state never change again -/
theorem leaked_lock_blocks (lf : LockFacts) (inflight : Bool) (o : OpSpec) (v : Nat) (topic : Bytes) (c : Conn)
    (hsent : exitPath inflight c ≠ .notSent) :
    connDoL lf inflight o v topic (c, true) = (blocked, (c, true)) := by
  have hopen : ∀ c' : Conn, c'.closed = false → exitPath inflight c' ≠ .notSent := by
    intro c' hc
    unfold exitPath
    simp only [hc, Bool.false_eq_true, ↓reduceIte]
    split <;> simp
  unfold connDoL
  by_cases hs : (inflight && c.closed && !lf.dropsBuffer) = true
  · simp only [hs, ↓reduceIte, Bool.true_and]
    simp [hopen { c with closed := false } rfl]
  · simp only [hs, Bool.false_eq_true, ↓reduceIte, Bool.true_and]
    simp [hsent]

theorem drops_buffer_holds : Gen.ConnLegacy.lockFacts.dropsBuffer = true := by decide +kernel

/-- a caller that was already in flight when the Conn was closed fails — provided the closing path dropped what was
left in the read buffer (regenerated: `drops_buffer_holds`); `inflight_served_leftover_counterexample` is the run
without it: the second caller is handed the frame forged inside the first response. -/
theorem inflight_caller_fails_after_close (lf : LockFacts) (hd : lf.dropsBuffer = true) (o : OpSpec) (v : Nat)
    (topic : Bytes) (c : Conn) (hc : c.closed = true) :
    (connDoL lf true o v topic (c, false)).1 = .fail .eof ∧ (connDoL lf true o v topic (c, false)).2.1.closed = true := by
  simp [connDoL, hd, hc, exitPath]

/-- on an open Conn a request already in flight is served exactly like one issued now: pipelining (responses in request
order) does not change what a caller gets — the sequence theorems apply to callers in flight as they are -/
theorem inflight_as_sequential (lf : LockFacts) (o : OpSpec) (v : Nat) (topic : Bytes) (c : Conn) (w : Bool)
    (hopen : c.closed = false) :
    connDoL lf true o v topic (c, w) = connDoL lf false o v topic (c, w) := by
  simp [connDoL, hopen, exitPath]

/-- heartbeat (request 1) answered with `0000` followed, inside the same frame, by a complete frame for request 2;
then the real answer to request 2 -/
def forgedStream : Bytes := [0,0,0,16, 0,0,0,1, 0,0] ++ [0,0,0,6, 0,0,0,2, 0,41] ++ d2Next

theorem inflight_served_leftover_counterexample :
    (let hb := simpleOp "heartbeat" Gen.ConnLegacy.heartbeatResponseV0
     let lf := { Gen.ConnLegacy.lockFacts with dropsBuffer := false }
     let r1 := connDoL lf true hb 0 [] (⟨forgedStream, 1, false⟩, false)
     let r2 := connDoL lf true hb 0 [] r1.2
     r1.1.isFail = true ∧ r1.2.1.closed = true ∧ r2.1 = .kafka 41) ∧
    (let hb := simpleOp "heartbeat" Gen.ConnLegacy.heartbeatResponseV0
     let r1 := connDoL Gen.ConnLegacy.lockFacts true hb 0 [] (⟨forgedStream, 1, false⟩, false)
     let r2 := connDoL Gen.ConnLegacy.lockFacts true hb 0 [] r1.2
     r1.1.isFail = true ∧ r2.1 = .fail .eof) := by decide +kernel

/-- two shapes this guards against, as concrete runs of the model:
(1) waitResponse without the unlock on the peek-error exit: two requests in flight, the response stream ends after 3
bytes — the first caller fails and leaks the lock, the second blocks forever;
(2) Batch.close that does not unlock: fetch answered with an error code, Close, then any operation blocks. -/
theorem leaked_lock_counterexamples :
    (let lf := { Gen.ConnLegacy.lockFacts with peekErr := false }
     let hb := simpleOp "heartbeat" Gen.ConnLegacy.heartbeatResponseV0
     let r1 := connDoL lf true hb 0 [116] (⟨[0, 0, 0], 1, false⟩, false)
     let r2 := connDoL lf true hb 0 [116] r1.2
     r1.1.isFail = true ∧ r1.2.2 = true ∧ r2.1 = blocked) ∧
    (let lf := { Gen.ConnLegacy.lockFacts with batchClose := false }
     let hb := simpleOp "heartbeat" Gen.ConnLegacy.heartbeatResponseV0
     let r1 := connFetchL lf true 10 0 idealBody (⟨[0,0,0,18, 0,0,0,1] ++ fetchErrV10 ++ d2Next, 1, false⟩, false)
     let r2 := connDoL lf false hb 0 [116] r1.2
     r1.1 = .kafka 6 ∧ r1.2.2 = true ∧ r2.1 = blocked) := by decide +kernel

/-! ### ApiVersions: every well-formed v0 frame is consumed exactly; the shape without `expectZeroSize` -/

def encEntries : List (Bytes × Bytes × Bytes) → Bytes
  | [] => []
  | (a, b, c) :: r => a ++ (b ++ (c ++ encEntries r))

def EntriesWF (es : List (Bytes × Bytes × Bytes)) : Prop := ∀ e ∈ es, e.1.length = 2 ∧ e.2.1.length = 2 ∧ e.2.2.length = 2

theorem encEntries_length (es : List (Bytes × Bytes × Bytes)) (h : EntriesWF es) : (encEntries es).length = 6 * es.length := by
  induction es with
  | nil => rfl
  | cons e r ih =>
    obtain ⟨a, b, c⟩ := e
    have he := h (a, b, c) (by simp)
    have hr : EntriesWF r := fun x hx => h x (by simp [hx])
    simp only [encEntries, List.length_append, List.length_cons, ih hr]
    simp only at he
    omega

theorem errs_int (c : Ctx) (v : Int) : ({ c with evs := .int v :: c.evs } : Ctx).errs = c.errs := by
  simp [Ctx.errs]

theorem iter_entries (es : List (Bytes × Bytes × Bytes)) (h : EntriesWF es) (rest : Bytes) (m : Nat) (c : Ctx) :
    ∃ c', iter es.length (runSteps [.int 2, .int 2, .int 2]) c ⟨encEntries es ++ rest, 6 * es.length + m⟩ = (.ok c', ⟨rest, m⟩) ∧
      c'.errs = c.errs := by
  induction es generalizing c with
  | nil => exact ⟨c, by simp [iter, encEntries], rfl⟩
  | cons e r ih =>
    obtain ⟨a, b, d⟩ := e
    have he := h (a, b, d) (by simp)
    simp only at he
    have hr : EntriesWF r := fun x hx => h x (by simp [hx])
    have hsz : 6 * (r.length + 1) + m = 2 + (2 + (2 + (6 * r.length + m))) := by omega
    simp only [List.length_cons, hsz, iter, runSteps, runStep, lift, encEntries, List.append_assoc,
      readInt_app a _ 2 _ he.1, readInt_app b _ 2 _ he.2.1, readInt_app d _ 2 _ he.2.2]
    exact (ih hr _).imp fun c' h => ⟨h.1, h.2.trans (by simp [Ctx.errs])⟩

/-- ApiVersions v0 (conn.go ApiVersions): on every well-formed frame — any error code, any number
of entries, anything after the frame — the result is ok / that kafka error and exactly the frame is consumed. -/
theorem apiVersions_aligned_wf (topic err cnt rest : Bytes) (es : List (Bytes × Bytes × Bytes))
    (he : err.length = 2) (hc : cnt.length = 4) (hcv : beInt cnt = es.length) (hes : EntriesWF es) :
    ((specOf "apiVersions").map fun o =>
      opRead o 0 topic ⟨err ++ (cnt ++ (encEntries es ++ rest)), 2 + (4 + 6 * es.length)⟩) =
      some (if beInt err = 0 then .ok else .kafka (beInt err), ⟨rest, 0⟩) := by
  obtain ⟨c', h1, h2⟩ := iter_entries es hes rest 0 { ver := 0, evs := [.err (beInt err)], lastErr := beInt err }
  have hb : ¬ ((es.length : Int) < 0 ∨ (es.length : Int) > ((6 * es.length) / 6 : Nat)) := by omega
  rw [Nat.add_zero] at h1
  simp only [specOf, Option.map_some, opRead, apiVersionsParse]
  -- the loop body is hidden from `simp`, so that the loop is still the left side of `h1` when `simp` reaches it
  generalize [Step.int 2, Step.int 2, Step.int 2] = B at h1 ⊢
  simp only [runSteps, runStep, lift, readInt_app err _ 2 _ he, readInt_app cnt _ 4 _ hc, hcv, Int.toNat_natCast, hb,
    ↓reduceIte, h1, Post.eval, h2]
  by_cases hz : beInt err = 0
  · simp [hz, Ctx.errs]
  · simp [hz, Ctx.errs]

/-- ApiVersions without `expectZeroSize` and without closing on non-kafka errors (C11-D33) -/
def apiVersionsUnfixed : OpSpec :=
  { parse := fun _ => Gen.ConnLegacy.apiVersionsParseGen, drain := false, expectZero := false, post := .firstErr [], closeOnErr := false }

/-- an ApiVersions v0 response (request 1) with one entry and 4 more bytes in the frame -/
def avFrame : Bytes := [0,0,0,20, 0,0,0,1] ++ [0,0, 0,0,0,1, 0,3, 0,0, 0,9] ++ [7,7,7,7]

/-- C11-D33, the shape without them: ok, Conn kept, 4 bytes of the frame left in the stream → the next operation reads
mid-frame (io.ErrNoProgress); and a cut entry list: error, Conn kept and misaligned all the same -/
theorem apiVersions_trailing_counterexample :
    (connDo apiVersionsUnfixed 0 [] ⟨avFrame ++ d2Next, 1, false⟩).1 = .ok ∧
    (connDo apiVersionsUnfixed 0 [] ⟨avFrame ++ d2Next, 1, false⟩).2 = ⟨[7,7,7,7] ++ d2Next, 2, false⟩ ∧
    (connDo (simpleOp "heartbeat" Gen.ConnLegacy.heartbeatResponseV0) 0 []
        (connDo apiVersionsUnfixed 0 [] ⟨avFrame ++ d2Next, 1, false⟩).2).1 = .fail (.other "io.ErrNoProgress") ∧
    (connDo apiVersionsUnfixed 0 [] ⟨[0,0,0,12, 0,0,0,1, 0,0, 0,0,0,1, 0,3] ++ d2Next, 1, false⟩).2.closed = false := by
  decide +kernel

/-- the same frames through the regenerated operation: an error and the Conn is closed -/
theorem apiVersions_fixed_example :
    ((specOf "apiVersions").map fun o => ((connDo o 0 [] ⟨avFrame ++ d2Next, 1, false⟩).1 matches .fail _,
        (connDo o 0 [] ⟨avFrame ++ d2Next, 1, false⟩).2.closed,
        (connDo o 0 [] ⟨[0,0,0,12, 0,0,0,1, 0,0, 0,0,0,1, 0,3] ++ d2Next, 1, false⟩).2.closed)) = some (true, true, true) := by
  decide +kernel

end KV.C11
