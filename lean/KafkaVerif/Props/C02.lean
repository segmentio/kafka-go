/-
Props/C02.lean — property C02: a Reader delivers exactly the partition's records from its position, in order.
-/
import KafkaVerif.Model.ReaderLoop
import KafkaVerif.Gen.DecoderFacts
import KafkaVerif.Lemmas.ByteLayout
import KafkaVerif.Lemmas.ReaderSystem
import KafkaVerif.Lemmas.ByteReader
import KafkaVerif.Lemmas.BufVarInt
import KafkaVerif.Lemmas.ByteHeader
import KafkaVerif.Lemmas.ByteLocal
import KafkaVerif.Lemmas.ByteWalk

namespace KV.C02

/-! ## R. Regenerated tie: the structural facts of the source the model relies on

`Gen/DecoderFacts.lean` is re-extracted (go/ast, `go/extract/decoder`; renderings are alpha-normalised: receiver `$r`,
locals `$1`, `$2`, … — renaming a receiver, parameter or local does not change a fact) from message_reader.go, batch.go, conn.go and
reader.go of the tree under test on every run; the theorems below compare it with what the model assumes, so an
edit of one of these places breaks `lake build` (`single_fetch_current`, `iterated_fetch_current` and `out_of_range_seeks`
are stated for `currentVariant`). -/

/-- which model variant a set of source facts describes -/
def variantOfFacts (f : Gen.DecoderFacts) : Option Variant :=
  if f.skipEmptyLoop ∧ f.batchEndOnEmpty ∧ f.batchEndOnLast ∧ f.batchEndApplied ∧
     f.jumpGuard = "errors.Is($r.err, io.EOF) && $r.msgs.lengthRemain == 0 && $r.lastOffset >= $r.offset" ∧
     f.oorSeeksConn then some .fixed
  else if !f.skipEmptyLoop ∧ !f.batchEndOnEmpty ∧ !f.batchEndOnLast ∧ !f.batchEndApplied ∧
     f.jumpGuard = "errors.Is($r.err, io.EOF) && $r.msgs.lengthRemain == 0 && $r.lastOffset != -1" ∧
     !f.oorSeeksConn then some .legacy
  else none

/-- the variant of the code under test (`legacy` also stands for "not recognised": then `current_code_is_fixed` fails) -/
def currentVariant : Variant := (variantOfFacts Gen.decoderFacts).getD .legacy

/-- the shapes of `Variant.fixed` are all in place: the empty-batch skip loop in readMessage, the three `batchEnd` sites, the
monotone jump guard, the conn seek in the OffsetOutOfRange branch -/
theorem current_code_is_fixed : currentVariant = .fixed := by decide +kernel

/-- header sizes and payload offsets are the ones the token sizes and the `lengthRemain` accounting of the model use -/
theorem decoder_constants :
    Gen.decoderFacts.hdrV2 = (Tok.h2 0 0 0 false 0).size ∧
    Gen.decoderFacts.hdrV1 = (Tok.h1 1 0 false).size ∧
    Gen.decoderFacts.hdrV0 = (Tok.h1 0 0 false).size ∧
    Gen.decoderFacts.v2PayloadOffset = 49 ∧ Gen.decoderFacts.v2BatchRemainOffset = 49 ∧
    Gen.decoderFacts.hdrV2 = Gen.decoderFacts.v2PayloadOffset + 12 ∧
    Gen.decoderFacts.v1LengthRemain = 1 := by decide

/-- the remaining statements the model transcribes: next offset = offset + 1 (Batch and reader loop), the skip loop
of ReadMessage compares with the conn offset strictly, `highWaterMark == offset` gives the empty reader, Close stores
the batch offset into the conn; the attributes bit that makes `readHeader` pass over a v2 batch as a control batch is bit 5
(0x20, the record-batch format's `isControlBatch`; bit 4 = 0x10 is `isTransactional`: a committed data batch of a
transactional producer is data) -/
theorem decoder_statements :
    Gen.decoderFacts.controlBatchMask = 2 ^ 5 ∧
    Gen.decoderFacts.nextOffsetPlus = 1 ∧ Gen.decoderFacts.readerNextOffsetPlus = 1 ∧
    Gen.decoderFacts.skipBelow = "$r.conn != nil && $1 < $r.connOffset()" ∧
    Gen.decoderFacts.emptyWhenHwmEqOffset = true ∧ Gen.decoderFacts.closeStoresOffset = true := by decide +kernel

/-- the facts of `(*reader).run` / `initialize` the loop LTS (Model/ReaderLoopLTS.lean) transcribes: the sentinel values,
the resolution switch and the seek to the resolved offset, `attempt = 0; offset = start` after a successful initialize,
`errcount++` at the end of an iteration, the action of every simple error class of readLoop's switch
(continue with errcount 0 / close and leave the loop / close and return / sendError and leave the loop), and what `run`
does with the connection itself (`runConnDirect`): it only closes it and moves its offset without asking the broker
(`Seek` with SeekDontCheck) — every step that waits for the broker goes through `r.initialize` / `r.read` /
`r.readOffsets`, which arm a deadline first: each `Env` event of Model/ReaderWorld.lean stands for a call that returns
(a direct `conn.ReadOffsets()` in the OffsetOutOfRange branch would have no deadline: the loop could block for ever in
one event) -/
theorem reader_loop_facts :
    Gen.decoderFacts.firstOffsetConst = -2 ∧ Gen.decoderFacts.lastOffsetConst = -1 ∧
    (∀ first last : Int, resolve Gen.decoderFacts.firstOffsetConst first last = first ∧
                         resolve Gen.decoderFacts.lastOffsetConst first last = last) ∧
    Gen.decoderFacts.initResolve = "switch { case $1 == FirstOffset: $1 = $2 case $1 == LastOffset: $1 = $3 case $1 < $2: $1 = $2 }" ∧
    Gen.decoderFacts.initSeeksResolved = true ∧ Gen.decoderFacts.runResetsAttempt = true ∧
    Gen.decoderFacts.runConnDirect = "Close,Seek+DontCheck" ∧
    Gen.decoderFacts.runErrcountInc = true ∧
    Gen.decoderFacts.loopBranches = "$1 == nil -> errcount=0,continue | errors.Is($1, NotLeaderForPartition) -> close,break-loop | errors.Is($1, OffsetOutOfRange) ->  | errors.Is($1, RequestTimedOut) -> errcount=0,continue | errors.Is($1, UnknownTopicOrPartition) -> close,break-loop | errors.Is($1, context.Canceled) -> close,return | errors.Is($1, errUnknownCodec) -> sendError,break-loop | errors.Is($1, io.EOF) -> errcount=0,continue | errors.Is($1, io.ErrNoProgress) -> close,break-loop | default -> " := by
  refine ⟨by decide, by decide, ?_, rfl, rfl, rfl, rfl, rfl, rfl⟩
  intro first last
  constructor <;> simp [resolve, Gen.decoderFacts]

/-- **the text the statement-level models were written against**: `(*messageSetReader).readMessage` and everything it
reaches in message_reader.go, read.go and discard.go — `readHeader`, `readMessageV1`, `readMessageV2`, `markRead`,
`unwindStack`, `runFunc`, `readMessageHeader`, `extractOffset`, the `remain` wrappers, `peekRead`, `readInt8…64`,
`readVarInt`, `readBytesWith`, `readArrayLen`, `readNewBytes`, `readNewString`, `discardN`, `discardBytes`,
`compression`, `badMagic` — each once, after the normalisation pass (helpers unknown to the model inlined, single-use
locals folded), with the error plumbing (`if err = f(); err != nil { return }` ↦ `must(f())`), the debug output and
value-less `var` declarations removed, receiver `$r`, locals `$1…` per function, and the **functions themselves**
`$f1…` in order of first occurrence (renaming a function or method of these files changes nothing; changing a body does).
`Model/PullReader.lean` follows `readMessage`, readHeader, readMessageV1, readMessageV2, markRead / unwindStack;
`Model/ByteReader.lean` follows the byte-level rest. -/
theorem decoder_text :
    Gen.decoderFacts.decoderText = "readMessage { if $r.empty { $1 = RequestTimedOut return } for { must($r.$f1()) if $r.header.magic != 2 || $r.count != 0 { break } } switch $r.header.magic { case 0, 1: $2, $3, $4, $1 = $r.$f2($5, $6, $7) $8 = -1 case 2: $2, $8, $3, $4, $1 = $r.$f3($5, $6, $7) default: $1 = $r.header.$f4() } return } ;; $f1 { if $r.count > 0 { return } $r.header = messagesHeader{} must($r.$f5(&$r.header.firstOffset)) must($r.$f6(&$r.header.length)) must($r.$f6(&$1)) must($r.$f7(&$r.header.magic)) switch $r.header.magic { case 0: $r.header.crc = $1 must($r.$f7(&$r.header.v1.attributes)) $r.count = 1 $r.lengthRemain = 1 case 1: $r.header.crc = $1 must($r.$f7(&$r.header.v1.attributes)) must($r.$f5(&$r.header.v1.timestamp)) $r.count = 1 $r.lengthRemain = 1 case 2: $r.header.v2.leaderEpoch = $1 must($r.$f6(&$r.header.crc)) must($r.$f8(&$r.header.v2.attributes)) must($r.$f6(&$r.header.v2.lastOffsetDelta)) must($r.$f5(&$r.header.v2.firstTimestamp)) must($r.$f5(&$r.header.v2.lastTimestamp)) must($r.$f5(&$r.header.v2.producerID)) must($r.$f8(&$r.header.v2.producerEpoch)) must($r.$f6(&$r.header.v2.baseSequence)) must($r.$f6(&$r.header.v2.count)) $r.count = int($r.header.v2.count) $r.lengthRemain = int($r.header.length) - 49 if $r.header.v2.attributes&controlBatchMask != 0 { $r.count = 0 $r.batchEnd = $r.header.firstOffset + int64($r.header.v2.lastOffsetDelta) + 1 if $r.lengthRemain > 0 { must($r.$f9($r.lengthRemain)) } } if $r.count == 0 { $r.batchEnd = $r.header.firstOffset + int64($r.header.v2.lastOffsetDelta) + 1 } default: $2 = $r.header.$f4() return } return } ;; $f2 { for $r.readerStack != nil { if $r.remain == 0 { $r.readerStack = $r.parent continue } must($r.$f1()) $1 = $r.header.firstOffset $2 = $r.header.v1.timestamp $3 = must($r.header.$f10()) if $3 != nil { must($r.$f11()) $r.decompressed.Reset() must($r.$f12(func($4 *bufio.Reader, $5 int, $6 int) ($7 int, $8 error) { $r.decompressed.Grow(4 * $6) $9 := io.LimitedReader{R: $4, N: int64($6)} $10 := $3.NewReader(&$9) _, $8 = $r.decompressed.ReadFrom($10) $7 = $5 - ($6 - int($9.N)) $10.Close() return })) $1 = must($f13($1, $r.decompressed.Bytes())) $11 := $r.header.magic == 1 && $r.header.v1.attributes&timestampTypeMask != 0 $r.$f14() $r.readerStack = &readerStack{reader: bufio.NewReaderSize($r.decompressed, 0), remain: $r.decompressed.Len(), base: $1, parent: $r.readerStack, logAppendTime: $2, hasLogAppendTime: $11} continue } $1 += $r.base if $r.hasLogAppendTime { $2 = $r.logAppendTime } if $1 < $12 { must($r.$f11()) must($r.$f11()) $r.$f14() continue } must($r.$f12($13)) must($r.$f12($14)) $r.$f14() return } $8 = errShortRead return } ;; $f3 { must($r.$f1()) if $r.count == int($r.header.v2.count) { $1 = must($r.header.$f10()) if $1 != nil { $2 := int($r.header.length - 49) if $2 > $r.remain { $3 = errShortRead return } if $2 < 0 { $3 = fmt.Errorf(\"batch remain < 0 (%d)\", $2) return } $r.decompressed.Reset() $r.decompressed.Grow(4 * $2) $4 := io.LimitedReader{R: $r.reader, N: int64($2)} $5 := $1.NewReader(&$4) _, $3 = $r.decompressed.ReadFrom($5) $5.Close() if $3 != nil { return } $r.remain -= $2 - int($4.N) $r.readerStack = &readerStack{reader: bufio.NewReaderSize($r.decompressed, 0), remain: $r.decompressed.Len(), base: -1, parent: $r.readerStack, header: $r.header, count: $r.count} $r.readerStack.parent.count = 0 } } $6 := $r.remain must($r.$f15(&$7)) $8 := $6 - $r.remain must($r.$f7(&$9)) must($r.$f15(&$10)) $11 = $r.header.v2.firstTimestamp + $10 if $r.header.v2.attributes&timestampTypeMask != 0 { $11 = $r.header.v2.lastTimestamp } must($r.$f15(&$12)) $13 = $r.header.firstOffset + $12 must($r.$f16($14)) must($r.$f16($15)) must($r.$f15(&$16)) if $16 > 0 { $17 = make([]Header, $16) for $18 := range $17 { must($r.$f17(&$17[$18])) } } $19 = $r.header.firstOffset + int64($r.header.v2.lastOffsetDelta) $r.lengthRemain -= int($7) + $8 if $r.count == 1 { $r.batchEnd = $19 + 1 } $r.$f14() return } ;; $f4 { return fmt.Errorf(\"unsupported magic byte %d in header\", $r.magic) } ;; $f5 { $r.remain, $1 = $f18($r.reader, $r.remain, $2) return } ;; $f6 { $r.remain, $1 = $f19($r.reader, $r.remain, $2) return } ;; $f7 { $r.remain, $1 = $f20($r.reader, $r.remain, $2) return } ;; $f8 { $r.remain, $1 = $f21($r.reader, $r.remain, $2) return } ;; $f9 { $r.remain, $1 = $f22($r.reader, $r.remain, $2) return } ;; $f10 { const $1 = 0x07 switch $r.magic { case 0, 1: $2 = $r.v1.attributes & $1 case 2: $2 = int8($r.v2.attributes & $1) default: $3 = $r.$f4() return } if $2 != 0 { $4, $3 = resolveCodec($2) } return } ;; $f11 { $r.remain, $1 = $f23($r.reader, $r.remain) return } ;; $f12 { $r.remain, $1 = $f24($r.reader, $r.remain, $2) return } ;; $f13 { $1, $2 := bufio.NewReader(bytes.NewReader($3)), len($3) for $2 > 0 { $2 = must($f18($1, $2, &$4)) $2 = must($f19($1, $2, &$5)) $2 = must($f22($1, $2, int($5))) } $4 = $6 - $4 return } ;; $f14 { if $r.count == 0 { panic(\"markRead: negative count\") } $r.count-- $r.$f25() } ;; $f15 { $r.remain, $1 = $f26($r.reader, $r.remain, $2) return } ;; $f16 { must($r.$f15(&$1)) $r.remain = must($2($r.reader, $r.remain, int($1))) return } ;; $f17 { must($r.$f15(&$1)) $2.Key = must($r.$f27(int($1))) must($r.$f15(&$3)) $2.Value = must($r.$f28(int($3))) return nil } ;; $f18 { return $f29($1, $2, 8, func($3 []byte) { *$4 = makeInt64($3) }) } ;; $f19 { return $f29($1, $2, 4, func($3 []byte) { *$4 = makeInt32($3) }) } ;; $f20 { return $f29($1, $2, 1, func($3 []byte) { *$4 = makeInt8($3) }) } ;; $f21 { return $f29($1, $2, 2, func($3 []byte) { *$4 = makeInt16($3) }) } ;; $f22 { if $1 <= $2 { $1, $3 = $4.Discard($1) } else { $1, $3 = $4.Discard($2) if $3 == nil { $3 = errShortRead } } return $2 - $1, $3 } ;; $f23 { return $f24($1, $2, func($1 *bufio.Reader, $2 int, $3 int) (int, error) { if $3 < 0 { return $2, nil } return $f22($1, $2, $3) }) } ;; $f24 { if $1, $2 = $f30($3, $1, &$4); $2 != nil { return $1, $2 } if $4 > $1 { return $1, errShortRead } return $5($3, $1, $4) } ;; $f25 { for $r.count == 0 { if $r.remain == 0 { if $r.parent != nil { $r.readerStack = $r.parent continue } } break } } ;; $f26 { $1, _ := $2.Peek($2.Buffered()) $3 := uint64(0) $4 := uint(0) for { if len($1) > $5 { $1 = $1[:$5] } for $6, $7 := range $1 { if $7 < 0x80 { $3 |= uint64($7) << $4 *$8 = int64($3>>1) ^ -(int64($3) & 1) $9, $10 := $2.Discard($6 + 1) return $5 - $9, $10 } $3 |= uint64($7&0x7f) << $4 $4 += 7 } $9, _ := $2.Discard(len($1)) $5 -= $9 if $5 == 0 { return 0, errShortRead } if _, $10 := $2.Peek(1); $10 != nil { if errors.Is($10, io.EOF) { $10 = errShortRead } return $5, $10 } $1, _ = $2.Peek($2.Buffered()) } } ;; $f27 { $1, $r.remain, $2 = $f31($r.reader, $r.remain, $3) return } ;; $f28 { $1, $r.remain, $2 = readMessageBytes($r.reader, $r.remain, $3) return } ;; $f29 { if $1 > $2 { return $2, errShortRead } $3, $4 := $5.Peek($1) if $4 != nil { return $2, $4 } $6($3) return $f22($5, $2, $1) } ;; $f30 { if $1, $2 = $f19($3, $1, &$4); $2 != nil { return $1, $2 } *$5 = int($4) return $1, nil } ;; $f31 { $1, $2, $3 := $f32($4, $2, $5) return string($1), $2, $3 } ;; $f32 { if $1 > 0 { if $2 < $1 { $1 = $2 $3 = true } $4 = make([]byte, $1) $1, $5 = io.ReadFull($6, $4) $4 = $4[:$1] $2 -= $1 if $5 == nil && $3 { $5 = errShortRead } } return $4, $2, $5 }" := rfl

/-! ## 0. The defects of the pinned code (`Variant.legacy`), kept as theorems about the legacy model

These are the layouts replayed against the real code before the `fix:` commits (seeded/D4-…, D14-…, D15-…). -/

/-- records 100..104 were read, the next response holds only the retained empty batch [105,109] -/
def d4Layout : List Item := [.b2 105 109 false 0 []]

/-- D4: the Conn positioned at 105 ends up at offset **1** (then re-reads the partition from the start) -/
theorem empty_batch_counterexample :
    readAll .legacy false 105 120 (responseTokens d4Layout (-1)) = ([], 1, .eof) := by decide

/-- … `Variant.fixed` moves to the offset after the empty batch -/
theorem empty_batch_fixed :
    readAll .fixed false 105 120 (responseTokens d4Layout (-1)) = ([], 110, .eof) := by decide

def d14Layout : List Item :=
  [.b2 100 101 false 24 [(0, 7, 12), (1, 8, 12)], .b2 102 103 false 0 [], .b2 104 105 false 0 [],
   .b2 106 107 false 24 [(0, 9, 12), (1, 10, 12)]]

/-- D14: `[data][empty][empty][data]` — the second data batch's header is parsed as a record
(`panic: markRead: negative count` in the real code) -/
theorem two_empty_batches_panic_counterexample :
    (readAll .legacy false 100 130 (responseTokens d14Layout (-1))).2.2 = .desync := by decide

theorem two_empty_batches_fixed :
    readAll .fixed false 100 130 (responseTokens d14Layout (-1))
      = ([(100, 7), (101, 8), (106, 9), (107, 10)], 108, .eof) := by decide

/-- a compressed batch [100,109] whose tail 102..109 was compacted away, then a batch that does not fit the budget -/
def d15Layout : List Item :=
  [.b2 100 109 true 49 [(0, 7, 12), (1, 8, 12)], .b2 110 111 false 24 [(0, 9, 12), (1, 10, 12)]]

/-- D15: the legacy Conn stays at 102 — inside the batch it has just consumed — and the same response comes again:
no progress, records 110, 111 are never delivered -/
theorem compacted_tail_stuck_counterexample :
    fetchOnce .legacy d15Layout 112 100 100 = ([(100, 7), (101, 8)], 102, .eof) ∧
    fetchOnce .legacy d15Layout 112 102 100 = ([], 102, .eof) := by decide

theorem compacted_tail_fixed :
    fetchOnce .fixed d15Layout 112 100 100 = ([(100, 7), (101, 8)], 110, .eof) ∧
    fetchOnce .fixed d15Layout 112 110 100 = ([(110, 9), (111, 10)], 112, .eof) := by decide

/-! ## 1. One fetch round (`Conn.ReadBatch`, `ReadMessage` until it fails, `Close`) on `Variant.fixed` -/

/-- `single_fetch`: for every well-formed layout `L` of a log (`LWF`: message formats 0, 1 and 2 in any mixture, plain
and compressed v2 batches, v0/v1 plain messages and compressed wrappers with relative or absolute inner offsets,
compaction holes at the head, inside and at the tail of batches, any number of retained empty batches, whole-batch
gaps), every byte cut (or none), every start offset `o ≥ 0`, deadline expired or not:
the delivered sequence is exactly the completely contained records of `L` with offset ≥ o (hence in increasing order,
each once, digests intact); the decoder never desynchronises/panics; no stored record `r` with
`o ≤ r.offset < connOffset'` is undelivered; everything delivered is below `connOffset'`.

`Safe o L` is the one restriction the code really has: readMessageV1's loop cannot step from a v0/v1 message it
*skipped* into a v2 batch; it holds for every response obeying the fetch contract (`safe_of_contract`), for pure v2
(`safe_of_v2`) and pure v0/v1 (`safe_of_v1`) layouts at any offset. -/
theorem single_fetch (items : List Item) (nb : Int) (hnb : 0 ≤ nb) (hwf : LWF nb items)
    (o hwm : Int) (ho : 0 ≤ o) (hsafe : Safe o items) (hne : hwm ≠ o) (cut : Int) (expired : Bool) :
    let res := readAll .fixed expired o hwm (responseTokens items cut)
    res.1 = (containedRecords items cut).filter (fun r => o ≤ r.1) ∧
    res.2.2 ≠ .desync ∧
    (∀ r ∈ allRecords items, o ≤ r.1 → r.1 < res.2.1 → r ∈ res.1) ∧
    (∀ r ∈ res.1, r.1 < res.2.1) ∧
    res.1.Pairwise (fun a b => a.1 < b.1) := by
  -- both cases of `cut` are the first `n` bytes for some `n`
  obtain ⟨n, htoks, hcont⟩ : ∃ n : Nat,
      responseTokens items cut = truncate (allTokens items) n ∧ containedRecords items cut = contained items n := by
    by_cases hc : cut < 0
    · refine ⟨itemsSize items + totalSize (allTokens items), ?_, ?_⟩ <;> simp only [responseTokens, containedRecords, hc, if_true]
      · exact (truncate_full _ _ (by omega)).symm
      · exact (contained_all _ _ (by omega)).symm
    · exact ⟨cut.toNat, by simp only [responseTokens, hc, if_false], by simp only [containedRecords, hc, if_false]⟩
  have h := readAll_layout expired items nb hnb hwf o hwm ho hsafe hne n
  rw [htoks, hcont]
  exact ⟨h.1, h.2.1, h.2.2.1, fun r hr => (h.2.2.2.1 r hr).2, h.2.2.2.2.1⟩

/-- the hypotheses are met by a mixed log: v1 plain message, v1 wrapper with a hole (relative inner offsets 0,2 of base
98), v2 batch with holes, an empty batch and a compressed batch; start offset inside the wrapper -/
example : LWF 0 [.m 1 97 1 60, .w 1 100 90 [(0, 2), (2, 3)], .b2 101 104 false 36 [(0, 1, 12), (2, 2, 12), (3, 3, 12)],
    .b2 105 109 false 0 [], .b2 112 115 true 40 [(1, 4, 20), (3, 5, 20)]] ∧
    Safe 99 [.m 1 97 1 60, .w 1 100 90 [(0, 2), (2, 3)], .b2 101 104 false 36 [(0, 1, 12), (2, 2, 12), (3, 3, 12)],
    .b2 105 109 false 0 [], .b2 112 115 true 40 [(1, 4, 20), (3, 5, 20)]] := by
  simp [LWF, RecsWF, InnerWF, sumSizes, wrapperBase, hdr1Size, Safe, headB2, isB2, Item.last]

/-- without `Safe` the statement is false of the code: a v1 message below the start offset followed by a v2 batch
(a response no contract-obeying broker sends) makes readMessageV1's loop parse the batch header as a message -/
theorem unsafe_layout_counterexample :
    (readAll .fixed false 8 20 (responseTokens [.m 1 5 1 60, .b2 10 11 false 12 [(0, 2, 12)]] (-1))).2.2 = .desync := by decide

/-- `single_fetch` about **bytes**, for everything the reference encoder (`Spec/RecordBatch.lean`, the published record
batch / message set formats) can put into a message set: uncompressed and compressed v2 batches, v0/v1 messages and
compressed wrappers (`BItem`), in any order, cut at any byte `n`.  The byte-level tokenizer (`Spec/ByteLayout.tokenize`:
fixed headers when all their bytes are there, a record when its length prefix and body are there, a compressed
payload / a message body when it is complete, else `cut`; checksums ignored like the Go decoder does) is proved to
produce exactly the truncated token stream of the layout (`tokenize_items`); on it the decoder delivers exactly the
stored records at or above `o` that lie completely within the first `n` bytes.
Parameters: the compression codec as `enc`/`dec` with `dec ∘ enc = id` and non-empty output, checksum functions below
2³², digests `dg2`/`dg1` of the observable fields. -/
theorem single_fetch_bytes (c : TokCfg) (enc : Int → Bytes → Bytes) (hdec : ∀ k b, c.dec k (enc k b) = some b)
    (hpos : ∀ k b, 0 < (enc k b).length) (h1 : ∀ b, c.crcs.ieee b < RW.M32) (h2 : ∀ b, c.crcs.castagnoli b < RW.M32)
    (its : List BItem) (hitems : ∀ it ∈ its, it.WF c enc) (nb : Int) (hnb : 0 ≤ nb) (hwf : LWF nb (layoutOfItems c enc its))
    (o hwm : Int) (ho : 0 ≤ o) (hsafe : Safe o (layoutOfItems c enc its)) (hne : hwm ≠ o) (expired : Bool) (n : Nat) :
    let toks := tokenize c (n + 1) .hdr ((encItems c enc its).take n)
    (readAll .fixed expired o hwm toks).1 = (contained (layoutOfItems c enc its) n).filter (fun r => o ≤ r.1) ∧
    (readAll .fixed expired o hwm toks).2.2 ≠ .desync ∧
    (∀ r ∈ allRecords (layoutOfItems c enc its), o ≤ r.1 → r.1 < (readAll .fixed expired o hwm toks).2.1 →
      r ∈ (readAll .fixed expired o hwm toks).1) := by
  have h := readAll_layout expired (layoutOfItems c enc its) nb hnb hwf o hwm ho hsafe hne n
  simp only [tokenize_items c enc hdec hpos h1 h2 its hitems n (n + 1) (by omega)]
  exact ⟨h.1, h.2.1, h.2.2.1⟩

/-! ### below the tokens: the byte-level reads of read.go / discard.go / message_reader.go (Model/ByteReader.lean)

`readVarInt`, `peekRead` + `readInt8…64`, `readNewBytes`, `discardN` with the `remain` accounting of messageSetReader,
`runFunc`, `readMessageHeader`, and the record part of `readMessageV2`. -/

/-- `record_bytes`: where the tokenizer of `single_fetch_bytes` decides "complete record → token `r2`, else `cut`" the Go
code decides the same from the bytes: with the whole record inside what is left of the message set (`remain`) it reads
the record's offset delta, timestamp delta, key, value and headers, consumes exactly the record and subtracts its size
from `lengthRemain`; with the record cut anywhere by the end of the set every path ends in errShortRead (never a
wrong message, never a read beyond the set). -/
theorem record_bytes (rec : Spec.RB.RecV2) (rest : Bytes) (remain : Nat) :
    ((Spec.RB.encRec rec).length ≤ remain →
      BR.readRecordV2 ⟨Spec.RB.encRec rec ++ rest, remain⟩ = .ok (BR.viewOf rec, ⟨rest, remain - (Spec.RB.encRec rec).length⟩) ∧
      Spec.RB.readRec ((Spec.RB.encRec rec ++ rest).take remain) = some (rec, rest.take (remain - (Spec.RB.encRec rec).length))) ∧
    (remain < (Spec.RB.encRec rec).length →
      (∃ r', BR.readRecordV2 ⟨Spec.RB.encRec rec ++ rest, remain⟩ = .error (.short, r')) ∧
      Spec.RB.readRec ((Spec.RB.encRec rec ++ rest).take remain) = none) := by
  obtain ⟨h1, h2⟩ := BR.readRecordV2_spec rec rest remain
  refine ⟨fun hle => ⟨h1 hle, ?_⟩, fun hlt => ⟨h2 hlt, readRec_prefix rec rest remain hlt⟩⟩
  rw [List.take_append, List.take_of_length_le hle]
  exact Spec.RB.readRec_encRec rec _

/-- `message_bytes`: key and value of a v0/v1 message (readMessageV1: `readBytesWith(key)`, `readBytesWith(val)` at or above
`min`; `discardBytes` twice below it): with both inside what is left of the message set they are read (skipped) and
exactly their bytes consumed; cut anywhere → errShortRead.  (The tokenizer asks for the whole body at once.) -/
theorem message_bytes (m : Spec.RB.Msg) (hk : RW.InRange RW.M32 (Spec.RB.optLen m.key : Int))
    (hv : RW.InRange RW.M32 (Spec.RB.optLen m.value : Int)) :
    BR.AllOrShort BR.readBodyV1 (encB1 m) (m.key, m.value) ∧ BR.AllOrShort BR.skipBodyV1 (encB1 m) () :=
  ⟨BR.readBodyV1_spec m hk hv, BR.skipBodyV1_spec m hk hv⟩

/-- `wrapper_bytes`: the body of a compressed v0/v1 wrapper message (readMessageV1, `codec != nil`: `discardBytes()`,
`readBytesWith(decompress)`): whatever key the wrapper carries — null as producers write it, or any other; the pinned
code skipped exactly four bytes there (C05-D31) — it is passed over, and what the codec
is handed are exactly the bytes of the compressed inner set; all of the body is consumed, and a body cut anywhere gives
errShortRead. -/
theorem wrapper_bytes (enc : Int → Bytes → Bytes) (crc : Bytes → Nat) (m : Spec.RB.Msg) (codec : Int)
    (inner : List Spec.RB.Msg) (hk : RW.InRange RW.M32 (Spec.RB.optLen m.key : Int))
    (hv : RW.InRange RW.M32 ((enc codec (encMsgs crc inner)).length : Int)) :
    BR.AllOrShort BR.readWrapV1 (encB1 (wrapMsg enc crc m codec inner)) (some (enc codec (encMsgs crc inner))) :=
  BR.readWrapV1_spec (wrapMsg enc crc m codec inner) hk (by simpa [wrapMsg, Spec.RB.optLen] using hv)

/-- `header_bytes`: where the tokenizer reads a fixed-size header (`readH2`: 61 bytes of a v2 batch, `readH1`: 18 / 26
bytes of a v0 / v1 message, plain or wrapper) the Go code (`readHeader`: `r.readInt64(&r.header.firstOffset)`,
`r.readInt32(&r.header.length)`, … through the `remain` wrappers, `switch r.header.magic`) obtains the same fields —
base offset, last offset delta, first timestamp, record count, attributes and the payload size `length − 49`, resp.
offset, magic, attributes and the size of key + value — with the whole header inside what is left of the message set,
consuming exactly the header; with the header cut anywhere by the end of the set every path ends in errShortRead.
With `record_bytes`, `message_bytes`, `wrapper_bytes` and `varint_refill` every token of `tokenize` has its byte-level
counterpart in the statements of message_reader.go / read.go. -/
theorem header_bytes (c : Nat) (hc : c < RW.M32) :
    (∀ f : Spec.RB.FrameV2, f.WF →
      BR.AllOrShort BR.readHeaderB (encH2 c f)
        (.v2 ⟨f.baseOffset, f.lastOffsetDelta, f.firstTs, f.count, f.attributes, f.payload.length⟩) ∧
      ∀ x, readH2 (encH2 c f ++ x)
        = some (⟨f.baseOffset, f.lastOffsetDelta, f.firstTs, f.count, f.attributes, f.payload.length⟩, x)) ∧
    (∀ m : Spec.RB.Msg, m.WF →
      BR.AllOrShort BR.readHeaderB (encH1 c m) (.v1 ⟨m.offset, m.magic, m.attributes, (encB1 m).length⟩ m.ts) ∧
      ∀ x, readH1 (encH1 c m ++ x) = some (⟨m.offset, m.magic, m.attributes, (encB1 m).length⟩, x)) :=
  ⟨fun f hf => ⟨BR.readHeaderB_v2 c f hf, fun x => readH2_encH2 c hc f hf x⟩,
   fun m hm => ⟨BR.readHeaderB_v1 c m hm, fun x => readH1_encH1 c hc m hm x⟩⟩

/-- `reads_within_remain`: no byte-level read of the decoder looks at or consumes a byte beyond `remain`, the unread part
of the current message set.  `BR.Local p`: on two connections that agree on the next `remain` bytes (and hold at least
that many) `p` returns the same value or error, hands back the same `remain` and has consumed the same number of bytes,
at most `remain` — what follows the set on the connection (the next response) is invisible.  Holds for `readHeader`,
the record part of `readMessageV2`, and the three bodies of `readMessageV1` (read, skipped, wrapper); by composition
(`framed_bind`, `framed_guard`, one run at a time: `Framed.local`) from `readInt`, `readVarInt`, `readNewBytes`, `discardN`. -/
theorem reads_within_remain :
    BR.Local BR.readHeaderB ∧ BR.Local BR.readRecordV2 ∧ BR.Local BR.readBodyV1 ∧ BR.Local BR.skipBodyV1 ∧
    BR.Local BR.readWrapV1 :=
  ⟨BR.framed_readHeaderB.local, BR.framed_readRecordV2.local, BR.framed_readBodyV1.local, BR.framed_skipBodyV1.local,
   BR.framed_readWrapV1.local⟩

/-- `cut_then_next_response`: the "cut" clauses of `header_bytes`, `record_bytes`, `message_bytes` about the situation on a
real connection: the broker cut the message set inside a batch header / a record / key + value of a message (only the
first `remain` bytes of it belong to the set) and the connection goes on with `Y`, the next response.  The reader fails
with errShortRead and has not consumed more than what was left of the set. -/
theorem cut_then_next_response (Y : Bytes) (remain : Nat) :
    (∀ (c : Nat) (f : Spec.RB.FrameV2), f.WF → remain < (encH2 c f).length →
      ∃ r', BR.readHeaderB ⟨(encH2 c f).take remain ++ Y, remain⟩ = .error (.short, r') ∧ r'.remain ≤ remain) ∧
    (∀ rec : Spec.RB.RecV2, remain < (Spec.RB.encRec rec).length →
      ∃ r', BR.readRecordV2 ⟨(Spec.RB.encRec rec).take remain ++ Y, remain⟩ = .error (.short, r') ∧ r'.remain ≤ remain) ∧
    (∀ m : Spec.RB.Msg, RW.InRange RW.M32 (Spec.RB.optLen m.key : Int) → RW.InRange RW.M32 (Spec.RB.optLen m.value : Int) →
      remain < (encB1 m).length →
      ∃ r', BR.readBodyV1 ⟨(encB1 m).take remain ++ Y, remain⟩ = .error (.short, r') ∧ r'.remain ≤ remain) :=
  ⟨fun c f hf h => BR.cut_is_short (BR.readHeaderB_v2 c f hf) BR.framed_readHeaderB Y remain h,
   fun rec h => BR.cut_is_short (BR.readRecordV2_spec rec) BR.framed_readRecordV2 Y remain h,
   fun m hk hv h => BR.cut_is_short (BR.readBodyV1_spec m hk hv) BR.framed_readBodyV1 Y remain h⟩

/-- `walk_bytes`: **bytes → tokens as one theorem about the Go reads**, for message sets of uncompressed v2 batches and
uncompressed v0 / v1 messages in any order.  `BR.walk` (Model/ByteWalk.lean) strings the byte-level statements together
the way the decoder runs them over a message set: `readHeaderB` (readHeader field by field, `switch magic`), then
`count` × `readRecordV2` (the record part of readMessageV2) resp. `readBodyV1` (key and value in readMessageV1), each
with `remain` = what is left of the set; errShortRead ends it.  On the reference encoding of any such list of items,
cut at any byte `n`, it emits exactly `truncate (tokens of the layout) n` — the token stream `single_fetch` is about,
and the one `tokenize` produces.  Uses `header_bytes` / `record_bytes` / `message_bytes` for the parts that are complete
and, for the part the cut goes through, that its reader is `BR.Framed` (what `reads_within_remain` is proved from).  `dgv` / `dgm` digest a record / message as the Go code
holds it, `c.dg2` / `c.dg1` as the log stores it; `hdg`, `hdm`: they agree. -/
theorem walk_bytes (dgv : Int → BR.RecView → Nat) (dgm : H1 → Int → Option Bytes → Option Bytes → Nat) (c : TokCfg)
    (enc : Int → Bytes → Bytes) (hdg : ∀ fts r, dgv fts (BR.viewOf r) = c.dg2 fts r)
    (hdm : ∀ m : Spec.RB.Msg, m.WF → dgm ⟨m.offset, m.magic, m.attributes, (encB1 m).length⟩ m.ts m.key m.value = c.dg1 m)
    (its : List BItem) (hits : ∀ it ∈ its, it.WF c enc ∧ BR.PlainItem it) (n : Nat) :
    BR.walk dgv dgm (n + 1) .hdr ((encItems c enc its).take n) = truncate (allTokens (layoutOfItems c enc its)) n :=
  BR.walk_items dgv dgm c enc hdg hdm its hits n (n + 1) (by omega)

/-- the walk and the tokenizer agree (on everything the walk covers) -/
theorem walk_eq_tokenize (dgv : Int → BR.RecView → Nat) (dgm : H1 → Int → Option Bytes → Option Bytes → Nat) (c : TokCfg)
    (enc : Int → Bytes → Bytes) (hdec : ∀ k b, c.dec k (enc k b) = some b) (hpos : ∀ k b, 0 < (enc k b).length)
    (h1 : ∀ b, c.crcs.ieee b < RW.M32) (h2 : ∀ b, c.crcs.castagnoli b < RW.M32)
    (hdg : ∀ fts r, dgv fts (BR.viewOf r) = c.dg2 fts r)
    (hdm : ∀ m : Spec.RB.Msg, m.WF → dgm ⟨m.offset, m.magic, m.attributes, (encB1 m).length⟩ m.ts m.key m.value = c.dg1 m)
    (its : List BItem) (hits : ∀ it ∈ its, it.WF c enc ∧ BR.PlainItem it) (n : Nat) :
    BR.walk dgv dgm (n + 1) .hdr ((encItems c enc its).take n) = tokenize c (n + 1) .hdr ((encItems c enc its).take n) := by
  rw [walk_bytes dgv dgm c enc hdg hdm its hits n,
    tokenize_items c enc hdec hpos h1 h2 its (fun it h => (hits it h).1) n (n + 1) (by omega)]

/-- `single_fetch_walk`: `single_fetch` with the tokens read off the bytes by the Go statements (`BR.walk`) instead of
given, for logs of uncompressed v2 batches and v0 / v1 messages in their reference encoding (`BR.PlainItem`) -/
theorem single_fetch_walk (dgv : Int → BR.RecView → Nat) (dgm : H1 → Int → Option Bytes → Option Bytes → Nat) (c : TokCfg)
    (enc : Int → Bytes → Bytes) (hdg : ∀ fts r, dgv fts (BR.viewOf r) = c.dg2 fts r)
    (hdm : ∀ m : Spec.RB.Msg, m.WF → dgm ⟨m.offset, m.magic, m.attributes, (encB1 m).length⟩ m.ts m.key m.value = c.dg1 m)
    (its : List BItem) (hits : ∀ it ∈ its, it.WF c enc ∧ BR.PlainItem it)
    (nb : Int) (hnb : 0 ≤ nb) (hwf : LWF nb (layoutOfItems c enc its))
    (o hwm : Int) (ho : 0 ≤ o) (hsafe : Safe o (layoutOfItems c enc its)) (hne : hwm ≠ o) (expired : Bool) (n : Nat) :
    let toks := BR.walk dgv dgm (n + 1) .hdr ((encItems c enc its).take n)
    (readAll .fixed expired o hwm toks).1 = (contained (layoutOfItems c enc its) n).filter (fun r => o ≤ r.1) ∧
    (readAll .fixed expired o hwm toks).2.2 ≠ .desync ∧
    (∀ r ∈ allRecords (layoutOfItems c enc its), o ≤ r.1 → r.1 < (readAll .fixed expired o hwm toks).2.1 →
      r ∈ (readAll .fixed expired o hwm toks).1) := by
  have h := readAll_layout expired (layoutOfItems c enc its) nb hnb hwf o hwm ho hsafe hne n
  simp only [walk_bytes dgv dgm c enc hdg hdm its hits n]
  exact ⟨h.1, h.2.1, h.2.2.1⟩

/-- `varint_refill`: the byte-level theorems above know a reader as the bytes it can still deliver.  The one function of
read.go whose control flow depends on where the *buffered* bytes end is `readVarInt` (the fixed-width readers use
`Peek(n)`, which bufio completes across refills): `Model/BufVarInt.lean` is its loop as written, over a bufio.Reader
(`buf`) refilled by reads of the connection (`chunks`, one element per read, then EOF).  For every buffered prefix and
every sequence of reads it returns the value (or errShortRead), leaves the stream and hands back the `remain` that
`BR.readVarInt` defines on the concatenation — so `record_bytes`, `message_bytes`, `wrapper_bytes` and with them the
token-level theorems hold however the network cuts a response, and `remain` always drops by exactly the bytes taken
from the stream (losing the bytes consumed before a refill would let the tail of the batch eat bytes of the next
response). -/
theorem varint_refill (sz : Nat) (b : BV.BufRd) : (BV.readVarIntBuf sz b).abs = BR.readVarInt ⟨b.stream, sz⟩ :=
  BV.readVarIntBuf_eq sz b

/-- a two-byte varint (300 zigzag-encoded = 600 = 0xD8 0x04) whose second byte arrives with the next read, 10 bytes of
the set left: the value, one byte of the next chunk left over, `remain` 8 — the same as with both bytes buffered -/
example : BV.readVarIntBuf 10 ⟨[0xD8], [[0x04, 0x07]]⟩ = .ok (300, ⟨[0x07], []⟩, 8) ∧
    BV.readVarIntBuf 10 ⟨[0xD8, 0x04, 0x07], []⟩ = .ok (300, ⟨[0x07], []⟩, 8) ∧
    BV.readVarIntBuf 10 ⟨[], [[0xD8], [], [0x04], [0x07]]⟩ = .ok (300, ⟨[], [[0x07]]⟩, 8) ∧
    BV.readVarIntBuf 1 ⟨[0xD8], [[0x04, 0x07]]⟩ = .error (.short, ⟨[], [[0x04, 0x07]]⟩, 0) ∧
    BV.readVarIntBuf 10 ⟨[0xD8], []⟩ = .error (.short, ⟨[], []⟩, 9) := by
  refine ⟨?_, ?_, ?_, ?_, ?_⟩ <;> simp [BV.readVarIntBuf, BV.varLoop, BV.round, BV.scan, RW.unzigzag]

/-! ### the decoder as the Go code is written (Model/PullReader.lean) -/

/-- `pull_eq_run`: on *any* token stream — v2 batch headers, records, compressed payloads, v0/v1 messages, wrappers, cut, in
any order, well formed or not (only: a v0/v1 header token carries magic 0 or 1, `allWF`) — whenever the token machine
does not report a desynchronisation the pull parser returns the same messages, the same conn offset and the same
outcome.  The proof is a simulation: in `Lemmas/PullReader.lean` the reader stack and the Batch of the Go code are functions of
a position of the token machine (`Cfg.stack`, `Cfg.msr`, `Cfg.batch`); `v1_loop` is `readMessageV1`'s `for r.readerStack != nil`
loop (skip below `min`, wrapper push, pop of exhausted readers), `yields_flat` the loop over empty batches, `yields_any` with
`call_of_yields` one `(*Batch).readMessage`. -/
theorem pull_eq_run (e : Bool) (o hwm : Int) (toks : List Tok) (hv : allWF toks)
    (hnd : (readAll .fixed e o hwm toks).2.2 ≠ .desync) :
    Pull.readAll e o hwm toks = readAll .fixed e o hwm toks :=
  pull_eq_run_all e o hwm toks hv hnd

/-- `single_fetch` for the pull parser: the code as written -/
theorem single_fetch_pull (items : List Item) (nb : Int) (hnb : 0 ≤ nb) (hwf : LWF nb items) (o hwm : Int) (ho : 0 ≤ o)
    (hsafe : Safe o items) (hne : hwm ≠ o) (cut : Int) (expired : Bool) :
    let res := Pull.readAll expired o hwm (responseTokens items cut)
    res.1 = (containedRecords items cut).filter (fun r => o ≤ r.1) ∧ res.2.2 ≠ .desync ∧
    (∀ r ∈ allRecords items, o ≤ r.1 → r.1 < res.2.1 → r ∈ res.1) ∧
    (∀ r ∈ res.1, r.1 < res.2.1) ∧
    res.1.Pairwise (fun a b => a.1 < b.1) := by
  have h := single_fetch items nb hnb hwf o hwm ho hsafe hne cut expired
  have hv : allWF (responseTokens items cut) := by
    unfold responseTokens
    split
    · exact allWF_tokens items nb hwf
    · exact allWF_truncate _ _ (allWF_tokens items nb hwf)
  rw [pull_eq_run expired o hwm _ hv h.2.1]
  exact h

/-- `single_fetch_bytes` for the pull parser: **bytes in, code as written** — the first `n` bytes of anything the reference
encoder emits, tokenized, then read by the statement-level model of message_reader.go / batch.go -/
theorem single_fetch_bytes_pull (c : TokCfg) (enc : Int → Bytes → Bytes) (hdec : ∀ k b, c.dec k (enc k b) = some b)
    (hpos : ∀ k b, 0 < (enc k b).length) (h1 : ∀ b, c.crcs.ieee b < RW.M32) (h2 : ∀ b, c.crcs.castagnoli b < RW.M32)
    (its : List BItem) (hitems : ∀ it ∈ its, it.WF c enc) (nb : Int) (hnb : 0 ≤ nb) (hwf : LWF nb (layoutOfItems c enc its))
    (o hwm : Int) (ho : 0 ≤ o) (hsafe : Safe o (layoutOfItems c enc its)) (hne : hwm ≠ o) (expired : Bool) (n : Nat) :
    let toks := tokenize c (n + 1) .hdr ((encItems c enc its).take n)
    (Pull.readAll expired o hwm toks).1 = (contained (layoutOfItems c enc its) n).filter (fun r => o ≤ r.1) ∧
    (Pull.readAll expired o hwm toks).2.2 ≠ .desync ∧
    (∀ r ∈ allRecords (layoutOfItems c enc its), o ≤ r.1 → r.1 < (Pull.readAll expired o hwm toks).2.1 →
      r ∈ (Pull.readAll expired o hwm toks).1) := by
  have h := single_fetch_bytes c enc hdec hpos h1 h2 its hitems nb hnb hwf o hwm ho hsafe hne expired n
  have hv : allWF (tokenize c (n + 1) .hdr ((encItems c enc its).take n)) := by
    rw [tokenize_items c enc hdec hpos h1 h2 its hitems n (n + 1) (by omega)]
    exact allWF_truncate _ _ (allWF_tokens _ nb hwf)
  simp only at h ⊢
  rw [pull_eq_run expired o hwm _ hv h.2.1]
  exact h

/-- not a defect: *outside* the fetch contract — a response cut inside its first v2 batch — the
records below the start offset that were read and skipped leave the position below it (103 → 102); a later complete
response would then hand out record 102.  No broker produces this: v2 batches are only sent for fetch v4+, where
(KIP-74) the first batch always comes whole; for fetch v2 the data is v0/v1, whose items are read whole or not at all.
Under the contract `fetch_progress` excludes it. -/
theorem first_batch_cut_moves_back_example :
    readAll .fixed false 103 106 (responseTokens [.b2 99 103 false 73 [(2, 1, 18), (3, 2, 48), (4, 3, 7)]] 81)
      = ([], 102, .eof) := by decide

/-- not a defect, outside `LWF`: an empty batch that still carries a compression attribute and a payload (the log
cleaner writes empty batches as a bare header, `LWF` says so) desynchronises the decoder -/
theorem compressed_empty_batch_desync_example :
    (readAll .fixed false 100 120 (responseTokens [.b2 100 101 true 20 [], .b2 102 103 false 12 [(0, 1, 12)]] (-1))).2.2
      = .desync := by decide

/-! ## 2. Repeated fetches against a broker that obeys the fetch contract -/

/-- `fetch_progress`: when the broker has anything at or after the position (`dropBefore q L ≠ []`) and is not at the
high watermark, one round moves the Conn strictly forward — whatever the byte budget, because the first batch comes
whole.  (This is what D15 broke: `compacted_tail_stuck_counterexample`.)  It never moves backwards. -/
theorem fetch_progress (items : List Item) (nb : Int) (hnb : 0 ≤ nb) (hwf : LWF nb items) (hwm q : Int) (hq : 0 ≤ q)
    (budget : Nat) :
    q ≤ (fetchOnce .fixed items hwm q budget).2.1 ∧
    (hwm ≠ q → dropBefore q items ≠ [] → q < (fetchOnce .fixed items hwm q budget).2.1) :=
  let h := fetch_round items nb hnb hwf hwm q hq budget
  ⟨h.1, h.2.2.2.2.2⟩

/-- `iterated_fetch`: for every well-formed log, every start offset and every sequence of byte budgets (= every sequence
of answers of a broker obeying the fetch contract), the concatenation of what the rounds deliver is exactly the log
between the start offset and the final conn offset: every delivered message is a stored record in that range
(duplicate-free and in order: strictly increasing offsets), and no stored record in that range is missing. -/
theorem iterated_fetch (items : List Item) (nb : Int) (hnb : 0 ≤ nb) (hwf : LWF nb items) (hwm start : Int) (hs : 0 ≤ start)
    (budgets : List Nat) :
    let res := fetchSeq .fixed items hwm start budgets
    start ≤ res.2 ∧
    (∀ r ∈ res.1, r ∈ allRecords items ∧ start ≤ r.1 ∧ r.1 < res.2) ∧
    (∀ r ∈ allRecords items, start ≤ r.1 → r.1 < res.2 → r ∈ res.1) ∧
    res.1.Pairwise (fun a b => a.1 < b.1) :=
  let h := fetchSeq_good items nb hnb hwf hwm budgets start hs
  ⟨h.mono, h.inlog, h.nogap, h.sorted⟩

/-- … so once the conn offset has reached the high watermark everything from the start offset on has been delivered -/
theorem iterated_fetch_complete (items : List Item) (nb : Int) (hnb : 0 ≤ nb) (hwf : LWF nb items) (hwm start : Int)
    (hs : 0 ≤ start) (budgets : List Nat) (hall : ∀ r ∈ allRecords items, r.1 < hwm)
    (hend : (fetchSeq .fixed items hwm start budgets).2 = hwm) :
    ∀ r ∈ allRecords items, start ≤ r.1 → r ∈ (fetchSeq .fixed items hwm start budgets).1 := by
  intro r hr h1
  exact (iterated_fetch items nb hnb hwf hwm start hs budgets).2.2.1 r hr h1 (by rw [hend]; exact hall r hr)

/-- on `d15Layout` two rounds deliver everything from offset 100 on -/
example : (fetchSeq .fixed d15Layout 112 100 [100, 100]).1 = (allRecords d15Layout).filter (fun r => 100 ≤ r.1) := by decide

/-- on the legacy code the same budgets never get past the compacted tail -/
theorem iterated_fetch_legacy_counterexample :
    (fetchSeq .legacy d15Layout 112 100 [100, 100, 100, 100]) = ([(100, 7), (101, 8)], 102) := by decide

/-- `single_fetch` (its first three clauses: what is delivered, no desynchronisation, no stored record jumped over) and
`iterated_fetch` for the variant `Gen/DecoderFacts.lean` describes (`currentVariant`) -/
theorem single_fetch_current (items : List Item) (nb : Int) (hnb : 0 ≤ nb) (hwf : LWF nb items)
    (o hwm : Int) (ho : 0 ≤ o) (hsafe : Safe o items) (hne : hwm ≠ o) (cut : Int) (expired : Bool) :
    let res := readAll currentVariant expired o hwm (responseTokens items cut)
    res.1 = (containedRecords items cut).filter (fun r => o ≤ r.1) ∧ res.2.2 ≠ .desync ∧
    (∀ r ∈ allRecords items, o ≤ r.1 → r.1 < res.2.1 → r ∈ res.1) := by
  rw [current_code_is_fixed]
  have h := single_fetch items nb hnb hwf o hwm ho hsafe hne cut expired
  exact ⟨h.1, h.2.1, h.2.2.1⟩

theorem iterated_fetch_current (items : List Item) (nb : Int) (hnb : 0 ≤ nb) (hwf : LWF nb items) (hwm start : Int)
    (hs : 0 ≤ start) (budgets : List Nat) :
    let res := fetchSeq currentVariant items hwm start budgets
    start ≤ res.2 ∧ (∀ r ∈ res.1, r ∈ allRecords items ∧ start ≤ r.1 ∧ r.1 < res.2) ∧
    (∀ r ∈ allRecords items, start ≤ r.1 → r.1 < res.2 → r ∈ res.1) ∧ res.1.Pairwise (fun a b => a.1 < b.1) := by
  rw [current_code_is_fixed]
  exact iterated_fetch items nb hnb hwf hwm start hs budgets

/-! ## 3. The Reader's loop (reader.go run / initialize / read) -/

/-- every fault (connection cut after any prefix of a response, NotLeaderForPartition,
UnknownTopicOrPartition, time-out) closes the connection and leaves `offset` at last delivered + 1 (unchanged when
nothing was delivered); `restart_offset` below: the next `initialize` seeks there -/
theorem restart_offset_faults (v : Variant) (s : RL) (hwm first last : Int) :
    onAnswer v s hwm first last (.err 6) = .go { s with connOpen := false } ∧
    onAnswer v s hwm first last (.err 3) = .go { s with connOpen := false } ∧
    onAnswer v s hwm first last .hang = .go { s with connOpen := false } ∧
    (∀ toks, ∃ d, onAnswer v s hwm first last (.cutAfter toks) = .go { deliver s d with connOpen := false }) := by
  refine ⟨rfl, rfl, rfl, fun toks => ⟨_, rfl⟩⟩

theorem deliver_offset (s : RL) (d : List Rec) (r : Rec) (h : d.getLast? = some r) : (deliver s d).offset = r.1 + 1 := by
  simp [deliver, h]

theorem deliver_nothing (s : RL) : (deliver s []).offset = s.offset := by simp [deliver]

/-- after a fault (`restart_offset_faults`) the next `initialize` seeks the new connection exactly at `offset` -/
theorem restart_offset (s : RL) (first last : Int) (h0 : 0 ≤ s.offset) (h1 : first ≤ s.offset) (h2 : s.offset ≤ last) :
    initializeRL s first last = some { s with connOpen := true, connOff := s.offset } := by
  have a : ¬ s.offset = -1 := by omega
  have b : ¬ s.offset = -2 := by omega
  have c : ¬ s.offset < first := by omega
  have d : ¬ s.offset > last := by omega
  simp [initializeRL, a, b, c, d]

example : initializeRL { offset := 107 } 100 115 = some { offset := 107, connOpen := true, connOff := 107 } := by rfl

/-- `out_of_range_seeks` (D3): OffsetOutOfRange below the log start moves the position *and the connection*
to the first offset -/
theorem out_of_range_seeks (s : RL) (hwm first last : Int) (h : s.offset < first) :
    onAnswer currentVariant s hwm first last (.err 1) = .go { s with offset := first, connOff := first } := by
  rw [current_code_is_fixed]
  simp [onAnswer, h]

/-- D3 on the legacy code: the connection keeps its stale offset, so the same fetch is repeated forever -/
theorem out_of_range_counterexample :
    onAnswer .legacy { offset := 105, connOpen := true, connOff := 105 } 115 110 115 (.err 1)
      = .go { offset := 110, connOpen := true, connOff := 105 } := by rfl

/-! ### the whole reconnect / backoff loop (Model/ReaderLoopLTS.lean: `rstep`, a total LTS)

`Good` restricts the environment only as far as it is proved for the decoder on what a broker under the fetch contract serves
(`pull_round`, Lemmas/ReaderWorld.lean; `world_good`): a `data` event is a complete round from the conn offset, a `cutAfter`
event delivers an initial segment of the log from the conn offset, and a reported first offset is not above a record that
still exists. -/

/-- `reader_loop_exactly_once`: for **every** event sequence — any interleaving of faults, retries, reconnects, backoff
sleeps, leader changes (= failed reads followed by a new initialize), out-of-range resets — what the loop has pushed
into `r.msgs` is strictly increasing (each record once, in order) and is exactly the stored records between the
resolved start offset and the loop's `offset` (nothing missing, nothing else). -/
theorem reader_loop_exactly_once (cfg : RCfg) (log : List Rec) (o0 : Int) (ho : -2 ≤ o0) (es : List REv)
    (hg : GoodRun cfg log { offset := o0 } es) :
    let s := rrun cfg { offset := o0 } es
    s.msgs.Pairwise (fun a b => a.1 < b.1) ∧
    (s.start = none → s.msgs = []) ∧
    (∀ st, s.start = some st →
      (∀ r ∈ s.msgs, r ∈ log ∧ st ≤ r.1 ∧ r.1 < s.offset) ∧ (∀ r ∈ log, st ≤ r.1 → r.1 < s.offset → r ∈ s.msgs)) := by
  have h := rinv_run cfg log es _ (rinv_init log o0 ho) hg
  exact ⟨h.sorted, fun h0 => (h.nostart h0).1, fun st hst => ⟨(h.bounds st hst).2.2.1, (h.bounds st hst).2.2.2⟩⟩

/-- `restart_offset`, general form: whenever the loop holds a connection — after any history of faults — that
connection is positioned (`connOff`) at or after `offset`, everything delivered lies below `offset`, every stored
record from the start offset below it has been delivered, and no stored record lies between `offset` and the
connection's position: the next fetch can neither repeat nor skip a record. -/
theorem restart_offset_general (cfg : RCfg) (log : List Rec) (o0 : Int) (ho : -2 ≤ o0) (es : List REv)
    (hg : GoodRun cfg log { offset := o0 } es) (hr : (rrun cfg { offset := o0 } es).phase = .reading) :
    let s := rrun cfg { offset := o0 } es
    s.offset ≤ s.connOff ∧ (∀ r ∈ s.msgs, r.1 < s.offset) ∧ (∀ r ∈ log, s.offset ≤ r.1 → r.1 < s.connOff → False) := by
  have h := rinv_run cfg log es _ (rinv_init log o0 ho) hg
  obtain ⟨hst, h1, h2⟩ := h.conn hr
  refine ⟨h1, ?_, h2⟩
  intro r hr'
  cases hs : (rrun cfg { offset := o0 } es).start with
  | none => exact absurd hs hst
  | some st => exact ((h.bounds st hs).2.2.1 r hr').2.2

/-- a successful `initialize` positions the new connection exactly at `offset` (after clamping to the first offset) -/
theorem initialize_seeks_offset (cfg : RCfg) (s : RR) (first last : Int) (hp : s.phase = .top)
    (hs : s.attempt = 0 ∨ s.slept = true) (hle : resolve s.offset first last ≤ last) :
    (rstep cfg s (.initOk first last)).phase = .reading ∧
    (rstep cfg s (.initOk first last)).connOff = resolve s.offset first last ∧
    (rstep cfg s (.initOk first last)).offset = resolve s.offset first last := by
  have hgt : ¬ resolve s.offset first last > last := by omega
  rcases hs with h | h <;> simp [rstep, hp, h, hgt]

/-- a stopped loop stays stopped, whatever events follow (`rstep` is total: every event is accepted in every state) -/
theorem reader_loop_stopped (cfg : RCfg) (s : RR) (hp : s.phase = .stopped) (es : List REv) : rrun cfg s es = s := by
  induction es with
  | nil => rfl
  | cons e es ih => rw [rrun, rstep_stopped cfg s hp e]; exact ih

/-- the hypotheses are met by a run with a lost connection and a re-initialisation -/
example : GoodRun {} [(3, 1), (4, 2), (7, 3)] { offset := -2 }
    [.initOk 3 8, .sleepOk, .data [(3, 1)] 4 .eof, .sleepOk, .cutAfter [(4, 2)], .sleepOk, .initOk 3 8, .sleepOk,
     .data [(7, 3)] 8 .timedOut] ∧
    (rrun {} { offset := -2 }
    [.initOk 3 8, .sleepOk, .data [(3, 1)] 4 .eof, .sleepOk, .cutAfter [(4, 2)], .sleepOk, .initOk 3 8, .sleepOk,
     .data [(7, 3)] 8 .timedOut]).msgs = [(3, 1), (4, 2), (7, 3)] := by
  -- one `Good` per event, each a closed statement about the three records
  refine ⟨⟨⟨by decide, by decide, by decide⟩, trivial, ⟨⟨by decide, by decide, by decide, by decide⟩, by decide⟩, trivial,
    ⟨by decide, by decide, by decide⟩, trivial, ⟨by decide, by decide, by decide⟩, trivial,
    ⟨⟨by decide, by decide, by decide, by decide⟩, by decide⟩, trivial⟩, by decide⟩

/-! ### end to end: the loop, the broker, the bytes, the decoder as written

`Model/ReaderWorld.lean` computes the outcomes of the `read` calls instead of assuming them.  The one assumption left
(`Env.ok`): a first offset reported by the broker is not above a stored record.
The partition may be **written to while it is read**: `fetchSnap m …` is a fetch answered at a moment when only the first
`m` batches / messages of `items` are stored (appends only).  Such an answer is an answer from the final layout cut after
fewer bytes (`serve_take`), so every theorem below speaks about a live partition, `items` being what it will hold in the
end: at every moment the loop has pushed exactly the records of the final log between its start offset and `offset`. -/

/-- `reader_end_to_end`: for every well-formed layout (formats 0/1/2, compression, holes, empty batches), every start
offset and **every** sequence of environment moves — byte budgets, high watermarks, deadline expiries, connections lost
at any byte, partition errors, reconnects, backoff sleeps — what `(*reader).run` has pushed into `r.msgs` is strictly
increasing and is exactly the stored records between the resolved start offset and the loop's `offset`. -/
theorem reader_end_to_end (cfg : RCfg) (items : List Item) (nb : Int) (hnb : 0 ≤ nb) (hwf : LWF nb items) (o0 : Int)
    (ho : -2 ≤ o0) (xs : List Env) (hx : ∀ x ∈ xs, x.ok items) :
    let s := worldRun cfg items { offset := o0 } xs
    s.msgs.Pairwise (fun a b => a.1 < b.1) ∧
    (s.start = none → s.msgs = []) ∧
    (∀ st, s.start = some st →
      (∀ r ∈ s.msgs, r ∈ allRecords items ∧ st ≤ r.1 ∧ r.1 < s.offset) ∧
      (∀ r ∈ allRecords items, st ≤ r.1 → r.1 < s.offset → r ∈ s.msgs)) := by
  have h := rinv_world_run cfg items nb hnb hwf xs _ (rinv_init (allRecords items) o0 ho) hx
  exact ⟨h.sorted, fun h0 => (h.nostart h0).1, fun st hst => ⟨(h.bounds st hst).2.2.1, (h.bounds st hst).2.2.2⟩⟩

/-- … and whenever the loop holds a connection whose position has passed the last stored record, every stored record
from the start offset on has been delivered (nothing can still be skipped): `offset ≤ connOff` with no stored record
in between -/
theorem reader_end_to_end_complete (cfg : RCfg) (items : List Item) (nb : Int) (hnb : 0 ≤ nb) (hwf : LWF nb items) (o0 : Int)
    (ho : -2 ≤ o0) (xs : List Env) (hx : ∀ x ∈ xs, x.ok items)
    (hr : (worldRun cfg items { offset := o0 } xs).phase = .reading)
    (hall : ∀ r ∈ allRecords items, r.1 < (worldRun cfg items { offset := o0 } xs).connOff) :
    ∀ st, (worldRun cfg items { offset := o0 } xs).start = some st →
      ∀ r ∈ allRecords items, st ≤ r.1 → r ∈ (worldRun cfg items { offset := o0 } xs).msgs := by
  obtain ⟨st', hs', hdone⟩ :=
    done_of_passed (rinv_world_run cfg items nb hnb hwf xs _ (rinv_init (allRecords items) o0 ho) hx) hr hall
  intro st hst
  rw [hs'] at hst
  cases hst
  exact hdone

/-- one fetch of the loop makes progress: with an open connection, data at or after its position and a high watermark
different from it, the connection's position moves forward (so finitely many fault-free fetches pass any record) -/
theorem reader_end_to_end_progress (cfg : RCfg) (items : List Item) (nb : Int) (hnb : 0 ≤ nb) (hwf : LWF nb items) (s : RR)
    (hp : s.phase = .reading) (hs : s.slept = true) (hq : 0 ≤ s.connOff) (b : Nat) (hwm : Int) (e : Bool)
    (hne : hwm ≠ s.connOff) (hdata : dropBefore s.connOff items ≠ []) :
    s.connOff < (rstep cfg s (worldEvent items s (.fetch b hwm e))).connOff :=
  world_fetch_progress cfg items nb hnb hwf s hp hs hq b hwm e hne hdata

/-- `reader_loop_is_fetcher`: the front model (§4, `fstep`) lets the fetcher started by `SetOffset(o)` enqueue, as its
`k`-th message, `(feed log o)[k]` — the `k`-th stored record at or above `o`.  The loop does exactly that, end to end:
started at an absolute offset or at FirstOffset, under every environment, the `k`-th message it pushes into `r.msgs` is
the `k`-th stored record at or above the start offset.  (For LastOffset the start is whatever the broker reports as
last offset; `reader_end_to_end` covers it.) -/
theorem reader_loop_is_fetcher (cfg : RCfg) (items : List Item) (nb : Int) (hnb : 0 ≤ nb) (hwf : LWF nb items) (o0 : Int)
    (ho : -2 ≤ o0) (hne : o0 ≠ -1) (xs : List Env) (hx : ∀ x ∈ xs, x.ok items) (k : Nat) (r : Rec)
    (hk : (worldRun cfg items { offset := o0 } xs).msgs[k]? = some r) :
    (feed (allRecords items) o0)[k]? = some r := by
  obtain ⟨t, ht⟩ := world_msgs_prefix cfg items nb hnb hwf o0 ho hne xs hx
  rw [← ht]
  have hlt : k < (worldRun cfg items { offset := o0 } xs).msgs.length := by
    rcases Nat.lt_or_ge k (worldRun cfg items { offset := o0 } xs).msgs.length with h | h
    · exact h
    · rw [List.getElem?_eq_none h] at hk; cases hk
  rw [List.getElem?_append_left hlt]
  exact hk

/-- `reader_no_starvation` (the defects D3, D4/D14, D15 of the pinned code were all of this kind: the loop alive, fetching,
and never getting past a point of the log): after **any** history, whenever the loop holds a connection, `k` fault-free
rounds (backoff sleep, fetch — any byte budgets, deadline passed or not, high watermark above the log) with `k` at least
the number of stored batches / messages (in particular `k ≥ |items|`) leave every stored record from the start offset
on pushed into `r.msgs`. -/
theorem reader_no_starvation (cfg : RCfg) (items : List Item) (nb : Int) (hnb : 0 ≤ nb) (hwf : LWF nb items) (hwm : Int)
    (hh : ∀ it ∈ items, it.last < hwm) (o0 : Int) (ho : -2 ≤ o0) (xs : List Env) (hx : ∀ x ∈ xs, x.ok items)
    (hr : (worldRun cfg items { offset := o0 } xs).phase = .reading) (moves : List (Nat × Bool))
    (hk : items.length ≤ moves.length) :
    let s := worldRun cfg items (worldRun cfg items { offset := o0 } xs)
      (moves.flatMap fun m => [Env.sleepOk, Env.fetch m.1 hwm m.2])
    ∃ st, s.start = some st ∧ ∀ r ∈ allRecords items, st ≤ r.1 → r ∈ s.msgs := by
  have h := rinv_world_run cfg items nb hnb hwf xs _ (rinv_init (allRecords items) o0 ho) hx
  exact catch_up cfg items nb hnb hwf hwm hh moves _ h
    (Or.inr ⟨hr, Nat.le_trans (dropBefore_length_le _ items) hk⟩)

/-- a partition that is being written to: the first fetch sees one batch, the second the next one as well -/
example : (worldRun {} [.b2 3 4 false 24 [(0, 1, 12), (1, 2, 12)], .b2 5 9 true 30 [(0, 3, 20), (4, 4, 20)]] { offset := -2 }
    [.initOk 3 5, .sleepOk, .fetchSnap 1 1000 5 false, .sleepOk, .fetchSnap 1 1000 5 false, .sleepOk,
     .fetchSnap 2 1000 10 false]).msgs = [(3, 1), (4, 2), (5, 3), (9, 4)] := by decide

/-- a run with a connection lost in the middle of a compressed batch and a re-initialisation -/
example : (worldRun {} [.b2 3 4 false 24 [(0, 1, 12), (1, 2, 12)], .b2 5 9 true 30 [(0, 3, 20), (4, 4, 20)]] { offset := -2 }
    [.initOk 3 10, .sleepOk, .fetch 10 10 false, .sleepOk, .lost 70 10 false, .sleepOk, .initOk 3 10, .sleepOk,
     .fetch 1 10 true]).msgs = [(3, 1), (4, 2), (5, 3), (9, 4)] := by decide

/-! ### the executable loop model of the oracle (Model/ReaderLoop.lean `onAnswer`) is this LTS

`toRL` forgets the counters; each broker `Answer` is one event of the LTS. -/

def toRL (s : RR) : RL :=
  { offset := s.offset, connOpen := s.phase == .reading, connOff := s.connOff, out := s.msgs }

theorem onAnswer_data (cfg : RCfg) (s : RR) (hp : s.phase = .reading) (hs : s.slept = true) (hwm first last : Int)
    (toks : List Tok) (hok : (readAll .fixed false s.connOff hwm toks).2.2 ≠ .desync) :
    onAnswer .fixed (toRL s) hwm first last (.data toks)
      = .go (toRL (rstep cfg s (.data (readAll .fixed false s.connOff hwm toks).1 (readAll .fixed false s.connOff hwm toks).2.1
          (readAll .fixed false s.connOff hwm toks).2.2))) := by
  rw [rstep_data cfg s hp hs]
  simp only [onAnswer, toRL]
  cases hoc : (readAll .fixed false s.connOff hwm toks).2.2 with
  | desync => exact absurd hoc hok
  | _ => simp only [hp, deliver, pushMsgs, again, toTop] <;> rfl

theorem onAnswer_faults (cfg : RCfg) (s : RR) (hp : s.phase = .reading) (hs : s.slept = true) (hwm first last : Int) :
    onAnswer .fixed (toRL s) hwm first last (.err 6) = .go (toRL (rstep cfg s (.kerr 6 none))) ∧
    onAnswer .fixed (toRL s) hwm first last (.err 3) = .go (toRL (rstep cfg s (.kerr 3 none))) ∧
    onAnswer .fixed (toRL s) hwm first last (.err 7) = .go (toRL (rstep cfg s (.kerr 7 none))) ∧
    onAnswer .fixed (toRL s) hwm first last .hang = .go (toRL (rstep cfg s .ioErr)) ∧
    (s.offset < first →
      onAnswer .fixed (toRL s) hwm first last (.err 1) = .go (toRL (rstep cfg s (.kerr 1 (some (first, last)))))) := by
  simp only [rstep_kerr cfg s hp hs, rstep_ioErr cfg s hp hs]
  refine ⟨rfl, rfl, ?_, rfl, fun h => ?_⟩
  · simp [onAnswer, toRL, onKerr, again, hp]
  · simp [onAnswer, toRL, onKerr, again, hp, h]

/-! ## 4. The Reader's front (FetchMessage / SetOffset / version tags) -/

/-- `setoffset_next`, hypothesis form (the queue alone, no `SetOffset` event in the statement): whatever stale entries are
still queued, the message `FetchMessage` accepts is the first entry that carries the current tag; given that those entries
are, in order, a prefix of `expected` (`Fed` — for the fetcher `SetOffset(o)` started: the stored records at or above `o`),
it is the first of `expected`.  `setoffset_delivers` / `setoffset_first` below are the LTS form, with `SetOffset`, the tags
and the fetchers in the statement and `Fed` proved instead of assumed. -/
theorem setoffset_next (f : Front) (expected : List Rec) (hfed : Fed f expected) (r : Rec) (f' : Front)
    (h : f.fetchMessage = some (r, f')) : expected.head? = some r := by
  unfold Front.fetchMessage at h
  cases hq : f.queue.dropWhile (fun e => e.1 != f.version) with
  | nil => simp [hq] at h
  | cons e rest =>
    simp only [hq, Option.some.injEq, Prod.mk.injEq] at h
    obtain ⟨t, ht⟩ := hfed
    rw [filter_of_dropWhile hq] at ht
    rw [← ht, ← h.1]
    rfl

/-- stale entries are skipped: after SetOffset the two queued messages of the old fetcher are dropped -/
example : (({ version := 0, queue := [(0, (5, 1)), (0, (6, 2))] } : Front).setOffset.enqueue 1 (3, 9)).fetchMessage
    = some ((3, 9), { version := 1, queue := [] }) := by rfl

/-! ### the front as a transition system (Model/ReaderFront.lean `fstep`): the fetchers of the LTS take the place of `Fed`

The fetchers send, in order, the stored records at or above their start offset (`reader_loop_is_fetcher` for the loop of §3). -/

/-- the invariant (`FInv`, initially `finv_init`) is kept along every run -/
theorem front_invariant (log : List Rec) : ∀ (es : List FEv) (s s' : FS) (ms : List Rec),
    FInv log s → frun log s es = some (s', ms) → FInv log s' :=
  finv_run log

/-- `setoffset_next`, full form: after `SetOffset(o)` returns — in any reachable state of the front, whatever is still
queued and whatever the old fetchers still enqueue — the messages the following FetchMessage calls return are, in
order, the stored records at or above `o`; in particular (`setoffset_first`) the first one is the stored record with the
smallest offset at or above `o`. -/
theorem setoffset_delivers (log : List Rec) (s0 s' : FS) (h0 : FInv log s0) (o : Int) (es : List FEv)
    (hns : ∀ e ∈ es, notSet e) (ms : List Rec) (hr : frun log s0 (.setOffset o :: es) = some (s', ms)) :
    ms = (feed log o).take ms.length := by
  obtain ⟨s1, m, ms', hs, hq, rfl⟩ := frun_cons hr
  simp only [fstep, Option.some.injEq, Prod.mk.injEq] at hs
  obtain ⟨rfl, rfl⟩ := hs
  exact front_run (frun_quiet log es _ s' ms' hns hq) (Fetcher.mk (s0.version + 1) o 0) (finv_setOffset h0 o) List.mem_cons_self rfl

theorem setoffset_first (log : List Rec) (s0 s' : FS) (h0 : FInv log s0) (o : Int) (es : List FEv)
    (hns : ∀ e ∈ es, notSet e) (r : Rec) (ms : List Rec) (hr : frun log s0 (.setOffset o :: es) = some (s', r :: ms)) :
    (feed log o).head? = some r := by
  have := setoffset_delivers log s0 s' h0 o es hns (r :: ms) hr
  cases hf : feed log o with
  | nil => rw [hf] at this; simp at this
  | cons x xs => rw [hf] at this; simp only [List.length_cons, List.take_succ_cons, List.cons.injEq] at this; simp [this.1]

/-- a run: two messages of fetcher 1 are queued, SetOffset(12), the cancelled fetcher still enqueues one more, the new
one enqueues; FetchMessage skips the three stale entries -/
example : (frun [(10, 0), (11, 1), (12, 2), (13, 3)] {}
    [.setOffset 10, .enqueue 1, .enqueue 1, .setOffset 12, .enqueue 1, .enqueue 2, .fetch]).map (·.2) = some [(12, 2)] := by
  decide


/-! ## 5. The whole Reader (Model/ReaderSystem.lean) -/

/-- every reachable state of the system satisfies the invariant the theorems below start from.  `OkRun`: a first offset
the broker reports is not above a stored record (`Env.ok`), and the `l` of a `setOffsetLast l` is what the broker then
reports as log end to that fetcher (`CEv.okAt`). -/
theorem reader_reachable (cfg : RCfg) (items : List Item) (nb : Int) (hnb : 0 ≤ nb) (hwf : LWF nb items) (es : List CEv)
    (hok : OkRun cfg items {} es) (c : CS) (ms : List Rec) (hr : crun cfg items {} es = some (c, ms)) : CInv items c :=
  cinv_iff.mpr (crun_sim cfg items nb hnb hwf es {} c ms (cinvl_init items True) hok hr).1

/-- **C02**: in any reachable state of the Reader, after `SetOffset(o)` (an absolute offset or FirstOffset) the
messages the following `FetchMessage` calls return are — in order, without gap or repetition — the stored records at or
above `o`: `ms = take |ms| (feed log o)`.  For every well-formed layout of the partition (formats 0/1/2, compression,
holes, empty batches), every interleaving of FetchMessage with the loops' steps, every behaviour of broker (under the
fetch contract), network and clock, whatever the superseded fetchers still do and whatever is still queued. -/
theorem reader_delivers (cfg : RCfg) (items : List Item) (nb : Int) (hnb : 0 ≤ nb) (hwf : LWF nb items) (c0 c' : CS)
    (h0 : CInv items c0) (o : Int) (es : List CEv) (hok : OkRun cfg items c0 (.setOffset o :: es))
    (hns : ∀ e ∈ es, e.notSet) (ms : List Rec) (hr : crun cfg items c0 (.setOffset o :: es) = some (c', ms)) :
    ms = (feed (allRecords items) o).take ms.length := by
  exact crun_after_set cfg items nb hnb hwf c0 c' h0 _ o (Or.inl rfl) es hok hns ms hr

/-- … and after `SetOffset(LastOffset)` (or for a Reader configured to start there): the messages returned are, in order,
without gap or repetition, the stored records at or above the log end `l` the broker reported when the fetcher first
connected — through every later fault and reconnect (the loop reconnects at absolute offsets from then on). -/
theorem reader_delivers_last (cfg : RCfg) (items : List Item) (nb : Int) (hnb : 0 ≤ nb) (hwf : LWF nb items) (c0 c' : CS)
    (h0 : CInv items c0) (l : Int) (es : List CEv) (hok : OkRun cfg items c0 (.setOffsetLast l :: es))
    (hns : ∀ e ∈ es, e.notSet) (ms : List Rec) (hr : crun cfg items c0 (.setOffsetLast l :: es) = some (c', ms)) :
    ms = (feed (allRecords items) l).take ms.length := by
  exact crun_after_set cfg items nb hnb hwf c0 c' h0 _ l (Or.inr rfl) es hok hns ms hr

/-- … from the very start: a Reader configured with start offset `o` -/
theorem reader_delivers_from_start (cfg : RCfg) (items : List Item) (nb : Int) (hnb : 0 ≤ nb) (hwf : LWF nb items) (c' : CS)
    (o : Int) (es : List CEv) (hok : OkRun cfg items {} (.setOffset o :: es)) (hns : ∀ e ∈ es, e.notSet)
    (ms : List Rec) (hr : crun cfg items {} (.setOffset o :: es) = some (c', ms)) :
    ms = (feed (allRecords items) o).take ms.length :=
  reader_delivers cfg items nb hnb hwf {} c' (cinv_init items) o es hok hns ms hr

/-- a Reader started at LastOffset: the broker reports log end 5 on the first connection; after a lost connection the
second `initialize` reports 10 — irrelevant, the loop reconnects at its absolute offset; FetchMessage returns 5, 9 -/
example : (crun {} [.b2 3 4 false 24 [(0, 1, 12), (1, 2, 12)], .b2 5 9 true 30 [(0, 3, 20), (4, 4, 20)]] {}
    [.setOffsetLast 5, .env 1 (.initOk 3 5), .env 1 .sleepOk, .env 1 (.lost 70 10 false), .env 1 .sleepOk,
     .env 1 (.initOk 3 10), .env 1 .sleepOk, .env 1 (.fetch 1000 10 false), .fetch, .fetch]).map (·.2)
    = some [(5, 3), (9, 4)] := by decide

/-- a run of the whole system: start at FirstOffset, a fetch round, SetOffset(5) while two messages are queued, the
superseded loop still pushes a round, the new one starts inside the compressed batch; FetchMessage returns 5, 9 -/
example : (crun {} [.b2 3 4 false 24 [(0, 1, 12), (1, 2, 12)], .b2 5 9 true 30 [(0, 3, 20), (4, 4, 20)]] {}
    [.setOffset (-2), .env 1 (.initOk 3 10), .env 1 .sleepOk, .env 1 (.fetch 10 10 false), .setOffset 5,
     .env 1 .sleepOk, .env 1 (.fetch 1000 10 false), .env 2 (.initOk 3 10), .env 2 .sleepOk, .env 2 (.fetch 10 10 true),
     .fetch, .fetch]).map (·.2) = some [(5, 3), (9, 4)] := by decide


/-- **the sequential specification of the Reader's API** (`astep`: `Offset()` is `pos`; `SetOffset(o)` does nothing when
`o == Offset()`, else moves `Offset()` and — if a fetcher was ever started — restarts; `FetchMessage` lazily starts the
first fetcher at `Offset()`): in every reachable state, whatever the loops, the broker, the network and the superseded
fetchers have done and do,
* `FetchMessage` returns **the first stored record at or above `Offset()`**, and `Offset()` becomes its offset + 1;
* `SetOffset(o)` makes `Offset() = o`, a step of a loop leaves it alone;
* after `Close` nothing is handed out any more (FetchMessage = io.EOF, SetOffset = io.ErrClosedPipe: the state does not
  move), whatever is still queued and whatever the loops still push while they wind down.
Exactly-once, in-order, gap-free delivery from the position is the iteration of the first clause. -/
theorem reader_api (cfg : RCfg) (items : List Item) (nb : Int) (hnb : 0 ≤ nb) (hwf : LWF nb items) (o : Int)
    (ho : -2 ≤ o ∧ o ≠ -1) (es : List AEv) (hok : ∀ e ∈ es, e.ok items) (a : AS) (ms : List Rec)
    (hr : arun cfg items { pos := o } es = some (a, ms)) (e : AEv) (he : e.ok items) (a' : AS) (m : Option Rec)
    (hs : astep cfg items a e = some (a', m)) : ASpec items a e a' m :=
  (astep_inv cfg items nb hnb hwf (arun_inv cfg items nb hnb hwf es _ a ms (ainv_init items o ho) hok hr) he hs).2

/-- a run of the API: lazy start at FirstOffset, two messages, a no-op SetOffset(5) (= Offset()), SetOffset(9), the last
message -/
example : (arun {} [.b2 3 4 false 24 [(0, 1, 12), (1, 2, 12)], .b2 5 9 true 30 [(0, 3, 20), (4, 4, 20)]] { pos := -2 }
    [.fetch, .env 1 (.initOk 3 10), .env 1 .sleepOk, .env 1 (.fetch 10 10 false), .fetch, .fetch, .setOffset 5,
     .env 1 .sleepOk, .env 1 (.fetch 1000 10 false), .setOffset 9, .env 2 (.initOk 3 10), .env 2 .sleepOk,
     .env 2 (.fetch 10 10 true), .fetch]).map (fun p => (p.2, p.1.pos)) = some ([(3, 1), (4, 2), (9, 4)], 10) := by decide

/-- a run with Close: two messages, Close, the loop still pushes a round, FetchMessage hands out nothing more -/
example : (arun {} [.b2 3 4 false 24 [(0, 1, 12), (1, 2, 12)], .b2 5 9 true 30 [(0, 3, 20), (4, 4, 20)]] { pos := -2 }
    [.fetch, .env 1 (.initOk 3 10), .env 1 .sleepOk, .env 1 (.fetch 10 10 false), .fetch, .fetch, .close,
     .env 1 .sleepOk, .env 1 (.fetch 1000 10 false), .fetch, .setOffset 3, .fetch]).map (fun p => (p.2, p.1.pos, p.1.closed))
    = some ([(3, 1), (4, 2)], 5, true) := by decide

end KV.C02
