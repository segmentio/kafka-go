/-
Props/C16.lean — "Compression codecs are lossless, interoperable and history-independent": the part that is logic of kafka-go
itself, i.e. the xerial framing of snappy (compress/snappy/xerial.go) and the pool protocol of the codec wrappers, over an
abstract block codec `c` with `c.dec (c.enc b) = some b`.  The theorems quantify over every payload, every split into Write
calls, every sequence of Read buffer sizes (each ≥ 1), every behaviour of the underlying io.Reader and every sequence of pool
operations.
(`xerial_roundtrip_partial` is the round trip through the REFERENCE parser; the suffix does not mean "proved in part".)
gzip / lz4 / zstd: the wrappers only pool and Reset library objects: `lib_history_independent` (conditional on the libraries'
Reset contract) + the pool theorems; the contract itself is sampled by correspondence (`hist`, `cfg`, `ovl`), as is the reader
model against the real `xerialReader` (ops `xr`, `rt`, `in`).
-/
import KafkaVerif.Lemmas.Xerial
import KafkaVerif.Lemmas.Pool
import KafkaVerif.Lemmas.XerialReader
import KafkaVerif.Lemmas.XerialIO
import KafkaVerif.Lemmas.XerialCut
import KafkaVerif.Lemmas.XerialContract
import KafkaVerif.Gen.XerialFacts
import KafkaVerif.Gen.RecordConsts
import KafkaVerif.Gen.CodecClose
import KafkaVerif.Gen.CodecPools
import KafkaVerif.Gen.XerialReset

namespace KV.Props.C16
open KV KV.RW KV.Model.Xerial KV.Spec.Xerial

/-- framed: after Close the flushed blocks concatenate to exactly what was written, in order -/
theorem xerial_writer_conserves (c : Codec) (chunks : List Bytes) :
    (close c (writeAll c (newWriter true) chunks)).blocks.flatten = chunks.flatten :=
  have ⟨hr, hc⟩ := (ready_new c).writeAll chunks
  have ⟨_, _, hblocks⟩ := hr.close
  hblocks.trans hc

/-- framed: every block is non-empty and fits the 32 KiB buffer -/
theorem xerial_blocks_bounded (c : Codec) (chunks : List Bytes) :
    ∀ b ∈ (close c (writeAll c (newWriter true) chunks)).blocks, b ≠ [] ∧ b.length ≤ 32768 :=
  have ⟨hinv, hfr, _⟩ := ((ready_new c).writeAll chunks).1.close
  fun b hb => ⟨hinv.nonempty b hb, hinv.bounded hfr b hb⟩

/-- framed: the output is the Spec framing of the encoded blocks — header once, 4-byte big-endian lengths —
and the reference parser accepts it and finds exactly those blocks -/
theorem xerial_spec_readable (c : Codec) (chunks : List Bytes) (hne : chunks.flatten ≠ [])
    (henc : ∀ b, b.length ≤ 32768 → (c.enc b).length < 256 ^ 4) :
    let w := close c (writeAll c (newWriter true) chunks)
    w.out = frame (w.blocks.map c.enc) ∧ parse w.out = some (w.blocks.map c.enc) := by
  have ⟨hinv, hfr, _⟩ := ((ready_new c).writeAll chunks).1.close
  have hb : (close c (writeAll c (newWriter true) chunks)).blocks ≠ [] := fun h0 =>
    hne (by rw [← xerial_writer_conserves c chunks, h0]; rfl)
  have hout := hinv.out_framed hfr hb
  refine ⟨hout, ?_⟩
  rw [hout]
  apply parse_frame
  intro b hb
  obtain ⟨x, hx, rfl⟩ := List.mem_map.mp hb
  exact henc x (hinv.bounded hfr x hx)

def decodeAll (c : Codec) : List Bytes → Option Bytes
  | [] => some []
  | b :: bs =>
    match c.dec b, decodeAll c bs with
    | some x, some xs => some (x ++ xs)
    | _, _ => none

theorem decodeAll_map_enc (c : Codec) (hdec : ∀ b, c.dec (c.enc b) = some b) (bs : List Bytes) :
    decodeAll c (bs.map c.enc) = some bs.flatten := by
  induction bs with
  | nil => rfl
  | cons b bs ih => simp [decodeAll, hdec, ih]

/-- round trip through the REFERENCE reader: parse the writer's output with the Spec, decode each block:
the payload comes back, for every split into Write calls -/
theorem xerial_roundtrip_partial (c : Codec) (hdec : ∀ b, c.dec (c.enc b) = some b)
    (henc : ∀ b, b.length ≤ 32768 → (c.enc b).length < 256 ^ 4) (chunks : List Bytes) (hne : chunks.flatten ≠ []) :
    (parse (close c (writeAll c (newWriter true) chunks)).out).bind (decodeAll c) = some chunks.flatten := by
  have h := xerial_spec_readable c chunks hne henc
  simp only at h
  rw [h.2]
  simp only [Option.bind]
  rw [decodeAll_map_enc c hdec, xerial_writer_conserves]

/-- READER, framed reference streams with ANY blocks — also empty ones, which `Read` skips by going on to the next
chunk — and any buffer sizes ≥ 1 -/
theorem reads_reference_streams_any_blocks (c : Codec) (hg : Good c) (blocks : List Bytes)
    (hsm : ∀ b ∈ blocks, (c.enc b).length < 256 ^ 4)
    (ks : List Nat) (hks : ∀ k ∈ ks, 1 ≤ k) (hlen : blocks.flatten.length < ks.length) :
    readAllWith c (newReader (frame (blocks.map c.enc))) ks = some blocks.flatten :=
  readAllWith_rep c hg ks _ [] blocks hks hlen ⟨.startFramed _ _ rfl rfl hsm, rfl⟩

/-- the special case for non-empty blocks (the conjunct `b ≠ []` is not needed: `reads_reference_streams_any_blocks`).  In both,
`hlen` asks for enough calls to reach EOF: one more than the number of bytes always suffices, since every call returns at least
one byte. -/
theorem reads_reference_streams (c : Codec) (hg : Good c) (blocks : List Bytes)
    (hne : ∀ b ∈ blocks, b ≠ [] ∧ (c.enc b).length < 256 ^ 4)
    (ks : List Nat) (hks : ∀ k ∈ ks, 1 ≤ k) (hlen : blocks.flatten.length < ks.length) :
    readAllWith c (newReader (frame (blocks.map c.enc))) ks = some blocks.flatten :=
  reads_reference_streams_any_blocks c hg blocks (fun b hb => (hne b hb).2) ks hks hlen

/-- READER, unframed reference stream: one raw block.  Hypothesis: no extension of the block starts with the
8 magic bytes (otherwise the FORMAT cannot tell it from a framed stream; a snappy block starting 0x82 0x53 …
would have to announce a decoded length ≡ 0x2982 (mod 2^14) and continue with "NAPPY\0") -/
theorem reads_reference_unframed (c : Codec) (hg : Good c) (p : Bytes) (hp : p ≠ []) (henc : c.enc p ≠ [])
    (hsm : (c.enc p).length < 256 ^ 4)
    (hmag : ∀ t, (c.enc p ++ t).take 8 ≠ magic)
    (ks : List Nat) (hks : ∀ k ∈ ks, 1 ≤ k) (hlen : p.length < ks.length) :
    readAllWith c (newReader (c.enc p)) ks = some p := by
  have := readAllWith_rep c hg ks (newReader (c.enc p)) [] [p] hks (by simpa using hlen)
    ⟨.startUnframed _ _ rfl rfl henc hmag, rfl⟩
  simpa using this

/-- `(*xerialReader).WriteTo` (the io.Copy path): every framed reference stream — blocks may be EMPTY — is written
out as the concatenation of its blocks -/
theorem writeTo_reference_streams (c : Codec) (hg : Good c) (blocks : List Bytes)
    (hsm : ∀ b ∈ blocks, (c.enc b).length < 256 ^ 4) :
    writeTo c (blocks.length + 1) (newReader (frame (blocks.map c.enc))) = some blocks.flatten :=
  writeTo_rep c hg blocks (blocks.length + 1) _ [] (Nat.lt_succ_self _) ⟨.startFramed _ _ rfl rfl hsm, rfl⟩

/-- Streams that end early (the source is cut, or fails, anywhere after the 16-byte header): whatever buffer sizes
the consumer uses, everything the reader hands out before it reports the end or an error is a PREFIX of the payload —
never other data.  (`readAllOut`: the bytes delivered until the first non-data answer.) -/
theorem truncated_stream_prefix (c : Codec) (hg : Good c) (blocks : List Bytes)
    (hsm : ∀ b ∈ blocks, (c.enc b).length < 256 ^ 4)
    (ks : List Nat) (hks : ∀ k ∈ ks, 1 ≤ k) (hlen : blocks.flatten.length < ks.length) (n : Nat) (hn : 16 ≤ n) :
    readAllOut c (newReader ((frame (blocks.map c.enc)).take n)) ks <+: blocks.flatten := by
  have hp := readAllOut_take_prefix c (frame (blocks.map c.enc)) n hn (frame_length_ge _) (header_take8 _) ks
  rwa [readAllOut_of_readAllWith c ks (newReader (frame (blocks.map c.enc))) _
    (reads_reference_streams_any_blocks c hg blocks hsm ks hks hlen)] at hp

/-- io.Reader contract of `xerialReader.Read`, for every buffer length and capacity: whatever the stream, the state of
the reader and the block codec (as long as its `DecodedLen` is truthful), a data answer of `Read(p)` has at most `len(p)`
bytes — also when `cap(p)` is larger (`buf[:n]`, io.LimitedReader, scratch arrays).  The comparison that decides the
decode-into-the-caller's-buffer shortcut is read off `readChunk` by go/ast (Gen/XerialFacts.directDecodeBound = `len`):
with `cap(dst)` instead, `directBound_len` and this theorem break. -/
theorem read_contract (c : Codec) (ht : Truthful c) (fuel : Nat) (r r' : Reader) (len cap : Nat) (d : Bytes)
    (h : readBuf c fuel r len cap = (r', .data d)) : d.length ≤ len := by
  unfold readBuf at h
  rw [directBound_len] at h
  rcases readB_le c ht fuel r r' len len d h with h1 | h1 <;> exact h1

/-- The capacity of a Read buffer plays no role: `Read` into a buffer of length `len` and any capacity is the `read` of the
other theorems (`reads_reference_streams_any_blocks`, `xerial_roundtrip`, `truncated_stream_prefix`, …: "every partition of
the output into Read buffer sizes" includes buffers with spare capacity) -/
theorem readBuf_eq_read (c : Codec) (fuel : Nat) (r : Reader) (len cap : Nat) :
    readBuf c fuel r len cap = read c fuel r len := by
  unfold readBuf; rw [directBound_len, readB_eq_read]

/-- deciding by the capacity instead: a 3-byte block is "handed out" into a buffer of length 1 -/
theorem cap_bound_counterexample :
    ∃ r' d, readB ⟨id, some, fun b => some b.length⟩ 3 (newReader (Spec.Xerial.frame [[7, 8, 9]])) 1 4 = (r', .data d) ∧
      d.length = 3 := by
  refine ⟨_, _, rfl, rfl⟩

/-- the block encoder installed for every value of the `Compression` option (go/ast on `Codec.NewWriter`, every run) is one
of the functions that emit the SNAPPY block format — `snappy.Encode`, `s2.EncodeSnappy`, `s2.EncodeSnappyBetter`,
`s2.EncodeSnappyBest` (klauspost/compress documents these as compatible with the reference decoder; `s2.Encode`,
`s2.EncodeBetter`, `s2.EncodeBest` emit the S2 extension, which golang/snappy and snappy-java reject).  The
block codec of the model (`Good c`) stands for exactly such an encoder; interoperability of its output is sampled per
option by the ops `out` / `cfg` with the reference decoder.  Last conjunct: every `copy` in `Read(b)` has `b` itself
or a reslice of it as its destination (`copyBound`), the premise of the `take len` in the model's `readB`. -/
theorem gen_snappy_encoders :
    (∀ e ∈ Gen.XerialFacts.snappyEncoders,
      e.2 ∈ ["snappy.Encode", "s2.EncodeSnappy", "s2.EncodeSnappyBetter", "s2.EncodeSnappyBest"]) ∧
    Gen.XerialFacts.snappyEncoders.map (·.1) = ["FasterCompression", "BetterCompression", "BestCompression", "default"] ∧
    Gen.XerialFacts.copyBound = ["param"] := ⟨by decide +kernel, rfl, rfl⟩

/-- Read, then io.Copy: a consumer may read a few buffers (any sizes ≥ 1) and then hand the reader to
`io.Copy`, which calls `WriteTo` because the codec reader exposes it.  On every framed reference stream the bytes the Reads
returned followed by what WriteTo wrote are the payload, each byte once: the rest of a block that a short Read left pending
is written from `output[offset:]` (writing `output` from its start would deliver the consumed prefix twice). -/
theorem read_then_writeTo (c : Codec) (hg : Good c) (blocks : List Bytes)
    (hsm : ∀ b ∈ blocks, (c.enc b).length < 256 ^ 4) (ks : List Nat) (hks : ∀ k ∈ ks, 1 ≤ k) :
    readsThenWriteTo c (newReader (frame (blocks.map c.enc))) ks = some blocks.flatten :=
  readsThenWriteTo_rep c hg ks _ [] blocks hks ⟨.startFramed _ _ rfl rfl hsm, rfl⟩

/-- FULL round trip, framed: every non-empty payload, every split into Write calls, every sequence of Read
buffer sizes: what the reader returns is the payload -/
theorem xerial_roundtrip (c : Codec) (hg : Good c) (henc : ∀ b, b.length ≤ 32768 → (c.enc b).length < 256 ^ 4)
    (chunks : List Bytes) (hne : chunks.flatten ≠ [])
    (ks : List Nat) (hks : ∀ k ∈ ks, 1 ≤ k) (hlen : chunks.flatten.length < ks.length) :
    readAllWith c (newReader (close c (writeAll c (newWriter true) chunks)).out) ks = some chunks.flatten := by
  have h := xerial_spec_readable c chunks hne henc
  simp only at h
  rw [h.1]
  have hb := xerial_blocks_bounded c chunks
  have hc := xerial_writer_conserves c chunks
  have := reads_reference_streams_any_blocks c hg _ (fun b hb' => henc b (hb b hb').2) ks hks (by rw [hc]; exact hlen)
  rw [this, hc]

/-- unframed: Close emits one block holding everything -/
theorem xerial_unframed_single (c : Codec) (chunks : List Bytes) (hne : chunks.flatten ≠ []) :
    (close c (writeAll c (newWriter false) chunks)).out = c.enc chunks.flatten := by
  rw [writeAll_unframed c chunks _ rfl]
  simp [close, flush, newWriter, hne]

/-- FULL round trip, unframed -/
theorem xerial_roundtrip_unframed (c : Codec) (hg : Good c) (chunks : List Bytes) (hne : chunks.flatten ≠ [])
    (henc : c.enc chunks.flatten ≠ []) (hsm : (c.enc chunks.flatten).length < 256 ^ 4) (hmag : ∀ t, (c.enc chunks.flatten ++ t).take 8 ≠ magic)
    (ks : List Nat) (hks : ∀ k ∈ ks, 1 ≤ k) (hlen : chunks.flatten.length < ks.length) :
    readAllWith c (newReader (close c (writeAll c (newWriter false) chunks)).out) ks = some chunks.flatten := by
  rw [xerial_unframed_single c chunks hne]
  exact reads_reference_unframed c hg _ hne henc hsm hmag ks hks hlen

/-! The underlying io.Reader as a parameter (Model/Source, Model/XerialIO): every behaviour io.Reader's contract allows for an
error-free stream — short reads of any size, `(0, nil)` answers, the last bytes returned TOGETHER with io.EOF — is a
`script : List Ans`.  The reader with such a source (`readAllWithIO`) returns what the script-free model returns, hence the
payload. -/

section
open Model.Source

/-- `io.ReadFull` and the unframed read-to-EOF loop deliver the same bytes for every script (incl. data with EOF) -/
theorem source_independent (s : Src) (want cap : Nat) (input : Bytes) (hc : 0 < cap) (hi : input.length ≤ cap) :
    (∃ sc', readFull (fuelFor s) s want [] = (s.data.take want, fullStatus want [] (s.data.take want), ⟨s.data.drop want, sc'⟩)) ∧
    (readToEOF (fuelFor s) s cap input).1 = (if input ++ s.data = [] then none else some (input ++ s.data)) :=
  ⟨readFull_nil s want, (readToEOF_spec _ s cap input (Nat.le_refl _) hc hi).1⟩

/-- framed reference streams, ANY source behaviour, any Read buffer sizes -/
theorem reads_reference_streams_any_source (c : Codec) (hg : Good c) (blocks : List Bytes)
    (hne : ∀ b ∈ blocks, b ≠ [] ∧ (c.enc b).length < 256 ^ 4) (script : List Ans)
    (ks : List Nat) (hks : ∀ k ∈ ks, 1 ≤ k) (hlen : blocks.flatten.length < ks.length) :
    readAllWithIO c ⟨newReader (frame (blocks.map c.enc)), script⟩ ks = some blocks.flatten := by
  rw [readAllWithIO_refines]; exact reads_reference_streams c hg blocks hne ks hks hlen

/-- unframed reference stream, ANY source behaviour (in particular: the last bytes arriving with io.EOF) -/
theorem reads_reference_unframed_any_source (c : Codec) (hg : Good c) (p : Bytes) (hp : p ≠ []) (henc : c.enc p ≠ [])
    (hsm : (c.enc p).length < 256 ^ 4) (hmag : ∀ t, (c.enc p ++ t).take 8 ≠ magic) (script : List Ans)
    (ks : List Nat) (hks : ∀ k ∈ ks, 1 ≤ k) (hlen : p.length < ks.length) :
    readAllWithIO c ⟨newReader (c.enc p), script⟩ ks = some p := by
  rw [readAllWithIO_refines]; exact reads_reference_unframed c hg p hp henc hsm hmag ks hks hlen

/-- the read-to-EOF loop with the input extended only after the error check (`readToEOFLate`): when the source returns
its last bytes together with io.EOF they are dropped — the stream looks empty; the loop as coded keeps them -/
theorem data_with_eof_counterexample :
    (readToEOFLate 5 ⟨[1, 2, 3], [⟨3, true⟩]⟩ 32768 []).1 = none ∧
    (readToEOF 5 ⟨[1, 2, 3], [⟨3, true⟩]⟩ 32768 []).1 = some [1, 2, 3] ∧
    (readToEOFLate 5 ⟨[1, 2, 3], [⟨2, false⟩, ⟨5, true⟩]⟩ 32768 []).1 = some [1, 2] := by decide

/-- `(*xerialWriter).ReadFrom` (the io.Copy path of the record encoder for keys and values), framed: whatever the
source's behaviour (short reads, (0, nil), data with io.EOF), after ReadFrom and Close the flushed blocks concatenate
to what was written before followed by everything the source held; blocks stay non-empty and ≤ 32 KiB and the output
stays the Spec framing (the invariant `WInv`) -/
theorem readFrom_conserves (c : Codec) (chunks : List Bytes) (s : Src) :
    let w := close c (readFromLoop c (fuelFor s) (writeAll c (newWriter true) chunks) s).1
    w.blocks.flatten = chunks.flatten ++ s.data ∧ WInv c w ∧
    (∀ b ∈ w.blocks, b ≠ [] ∧ b.length ≤ 32768) := by
  obtain ⟨h0, hc0⟩ := (ready_new c).writeAll chunks
  obtain ⟨h1, hc1⟩ := readFromLoop_spec c (fuelFor s) _ s h0 (Nat.le_refl _)
  obtain ⟨hinv, hfr, hc⟩ := h1.close
  exact ⟨hc.trans (hc1.trans (congrArg (· ++ s.data) hc0)), hinv, fun b hb => ⟨hinv.nonempty b hb, hinv.bounded hfr b hb⟩⟩

/-- `truncated_stream_prefix` for EVERY behaviour of the underlying io.Reader while it delivers the `n` bytes it has -/
theorem truncated_stream_prefix_any_source (c : Codec) (hg : Good c) (blocks : List Bytes)
    (hsm : ∀ b ∈ blocks, (c.enc b).length < 256 ^ 4) (script : List Ans)
    (ks : List Nat) (hks : ∀ k ∈ ks, 1 ≤ k) (hlen : blocks.flatten.length < ks.length) (n : Nat) (hn : 16 ≤ n) :
    readAllOutIO c ⟨newReader ((frame (blocks.map c.enc)).take n), script⟩ ks <+: blocks.flatten := by
  rw [readAllOutIO_refines]; exact truncated_stream_prefix c hg blocks hsm ks hks hlen n hn

/-- FULL round trip with ANY source behaviour between writer and reader -/
theorem xerial_roundtrip_any_source (c : Codec) (hg : Good c) (henc : ∀ b, b.length ≤ 32768 → (c.enc b).length < 256 ^ 4)
    (chunks : List Bytes) (hne : chunks.flatten ≠ []) (script : List Ans)
    (ks : List Nat) (hks : ∀ k ∈ ks, 1 ≤ k) (hlen : chunks.flatten.length < ks.length) :
    readAllWithIO c ⟨newReader (close c (writeAll c (newWriter true) chunks)).out, script⟩ ks = some chunks.flatten := by
  rw [readAllWithIO_refines]; exact xerial_roundtrip c hg henc chunks hne ks hks hlen

end

/-- pool protocol: `NewReader`/`NewWriter` = Get + Reset, `Close` = Flush + Reset(nil) + Put.  Whatever state
the recycled object was left in (mid-stream, after an error, after EOF), Reset gives the state of a new one. -/
theorem reset_fresh (s : Bytes) (framed : Bool) (r : Reader) (w : Writer) :
    resetReader s r = newReader s ∧ resetWriter framed w = newWriter framed := ⟨rfl, rfl⟩

/-- the premise of `reset_fresh` — the model's `resetReader` / `resetWriter` forget the WHOLE previous state — read off the
source on every run (go/ast, `go/extract resetfields` → Gen/XerialReset): every field of `xerialReader` / `xerialWriter`
that some method may change (assigned, or handed to a call as a slice) is assigned by `Reset`, or by `Codec.NewReader` /
`NewWriter` after the pool Get on every path (`framed`, `encode`: the pool is shared by all snappy Codec values), or is
scratch that is always filled right before it is used (the writer's `header`).  A Reset that stops clearing a field,
or a new mutable field that Reset does not know, breaks this theorem. -/
theorem gen_reset_complete :
    (∀ f ∈ Gen.XerialReset.readerMutated, f ∈ Gen.XerialReset.readerReset ∨ f ∈ Gen.XerialReset.readerCtor ∨
      f ∈ Gen.XerialReset.readerScratch) ∧
    (∀ f ∈ Gen.XerialReset.writerMutated, f ∈ Gen.XerialReset.writerReset ∨ f ∈ Gen.XerialReset.writerCtor ∨
      f ∈ Gen.XerialReset.writerScratch) ∧
    (∀ f ∈ Gen.XerialReset.readerMutated, f ∈ Gen.XerialReset.readerFields) ∧
    (∀ f ∈ Gen.XerialReset.writerMutated, f ∈ Gen.XerialReset.writerFields) := by decide +kernel

/-- the model's block capacity and flush threshold are the constants in compress/snappy/xerial.go
(regenerated by `go/extract records` on every run) -/
theorem gen_xerial_consts :
    blockCap = Gen.RecordConsts.xerialBlockSize ∧ slack = Gen.RecordConsts.xerialSlack := ⟨rfl, rfl⟩

section
open Model.Pool

/-- after EVERY sequence of NewReader/NewWriter, Close (also repeated Close of the same wrapper) and pool drops:
no object is in the pool twice, none is in the pool while a live wrapper uses it, none is used by two wrappers -/
theorem pool_inv (es : List PEv) (s : PState) (hf : faithful es = true) (h : run Model.Pool.init es = some s) : Inv s :=
  (inv_run es _ s hf ⟨inv_init, rfl⟩ h).1

/-- two writers/readers that are open at the same time never share an object; the pool holds no duplicates and
nothing that is in use -/
theorem pool_no_sharing (es : List PEv) (s : PState) (hf : faithful es = true) (h : run Model.Pool.init es = some s) :
    (live s).Nodup ∧ s.pool.Nodup ∧ ∀ x ∈ s.pool, x ∉ live s :=
  (pool_inv es s hf h).no_sharing

/-- "Put is the LAST touch": in every run of the protocol as coded, whenever a wrapper touches its object
(Read / Write / Reset), that object is not in the pool, no other wrapper holds it, and nobody holds a dangling
reference to anything — so no use of an object after its Put exists on any path -/
theorem touch_exclusive (es : List PEv) (s : PState) (hf : faithful es = true) (h : run Model.Pool.init es = some s)
    (hd : Nat) (x : Nat) (hx : s.handles[hd]? = some (some x)) :
    step s (.touch hd) = some s ∧ x ∉ s.pool ∧ (live s).count x = 1 ∧ s.dangling = [] := by
  have hi := inv_run es _ s hf ⟨inv_init, rfl⟩ h
  have ht := hi.1.touch hd x hx
  exact ⟨ht.1, ht.2.1, ht.2.2, hi.2⟩

/-- a Close that Puts before it Resets: after the closer's Put another reader is handed the object, and the
closer's late Reset — a touch through its dangling reference — lands on an object that is in use -/
theorem put_before_reset_counterexample :
    ∃ s, run Model.Pool.init [.acquire none, .putKeep 0, .acquire (some 0), .touchDangling 0] = some s
      ∧ 0 ∈ s.dangling ∧ 0 ∈ live s := by
  refine ⟨_, rfl, ?_, ?_⟩ <;> decide

/-- `Close` is idempotent: closing a wrapper again changes nothing -/
theorem close_idempotent (s s1 : PState) (h : Nat) (h1 : step s (.close h) = some s1) :
    step s1 (.close h) = some s1 := by
  simp only [step] at h1 ⊢
  cases hg : s.handles[h]? with
  | none => simp [hg] at h1
  | some o =>
    cases o with
    | none => simp only [hg, Option.some.injEq] at h1; subst h1; simp [hg]
    | some x =>
      simp only [hg, Option.some.injEq] at h1; subst h1
      have hlt : h < s.handles.length := by
        cases Nat.lt_or_ge h s.handles.length with
        | inl a => exact a
        | inr b => simp [List.getElem?_eq_none b] at hg
      have : (s.handles.set h none)[h]? = some none := by simp [hlt]
      simp only [this]

/-- a Close that does not forget its object makes a second Close put the object into
the pool twice; two writers opened next share it -/
theorem double_close_counterexample :
    ∃ s, run Model.Pool.init [.acquire none, .closeKeep 0, .closeKeep 0, .acquire (some 0), .acquire (some 0)] = some s
      ∧ ¬ (live s).Nodup := by
  refine ⟨_, rfl, ?_⟩
  decide

end

-- the faithful counterpart of `double_close_counterexample`: the second Close does nothing, so the two writers opened next get
-- different objects
open Model.Pool in
example : ∃ s, run Model.Pool.init [.acquire none, .close 0, .close 0, .acquire (some 0), .acquire none] = some s
    ∧ (live s).Nodup := ⟨_, rfl, by decide⟩

/-- extracted on every run from compress/{gzip,snappy,lz4,zstd}: in every Close method of a pooled wrapper the
Put is the last statement touching the object, the wrapper forgets the object, and a Reset precedes the Put —
what makes `close` an atomic, idempotent event of the protocol model above (the three Booleans of a
`Gen.CodecClose.closeFacts` entry, in this order) -/
theorem gen_close_order :
    Gen.CodecClose.closeFacts.length = 8 ∧
    Gen.CodecClose.closeFacts.all (fun f => f.2.1 && f.2.2.1 && f.2.2.2) = true := by decide +kernel

section
open Model.CfgPool

/-- pools and configuration: when every pool either belongs to one configuration (the pool key includes the options a
pooled object keeps) or its users re-apply their options after Get, then after EVERY sequence of acquisitions (from
the pool or fresh) and Closes, every live wrapper works with an object configured exactly as requested — whatever
other configurations of the same codec kind were used before -/
theorem cfg_respected (rp : Nat → Bool) (es : List Ev) (s : St) (hp : policy rp es = true)
    (h : run Model.CfgPool.init es = some s) : ∀ hd ∈ s.handles, hd.obj.baked = hd.cfg :=
  fun hd hm => ((Model.CfgPool.inv_run rp es _ s hp (Model.CfgPool.inv_init rp) h).1 hd hm).1

/-- one package-level pool for writers that keep their construction level: a BestSpeed
wrapper is handed the writer a BestCompression wrapper put back -/
theorem shared_pool_counterexample :
    ∃ s hd, run Model.CfgPool.init [.acquire 0 9 true false, .close 0, .acquire 0 1 true false] = some s
      ∧ hd ∈ s.handles ∧ hd.cfg = 1 ∧ hd.obj.baked = 9 := by
  refine ⟨_, ⟨0, 1, ⟨0, 9⟩⟩, rfl, ?_, rfl, rfl⟩
  decide

end

/-- extracted on every run from NewReader / NewWriter of the 4 pooled codecs: whenever a new object is constructed
from the Codec value's options (gzip level, zstd level), the pool is a field of that Codec value, or the options
are assigned again after Get (snappy framing / encoder): the premise `policy` of `cfg_respected`.  An entry of
`Gen.CodecPools.poolFacts` is (method, pool owned by the Codec value, new objects bake options, options re-applied). -/
theorem gen_pool_keys :
    Gen.CodecPools.poolFacts.length = 8 ∧
    Gen.CodecPools.poolFacts.all (fun f => !f.2.2.1 || f.2.1 || f.2.2.2) = true := by decide +kernel

open Model.LibWrapper in
/-- gzip / lz4 / zstd wrappers (pool + Reset of a library object): GIVEN the library's Reset contract, the result of a
stream processed through a recycled object equals the result through a new object of the same configuration, for
every history of earlier streams (including failed ones — a failure is just a result) -/
theorem lib_history_independent {σ ι ω : Type} (L : Lib σ ι ω) (cfgOf : σ → Nat) (h : ResetContract L cfgOf)
    (c : Nat) (history : List ι) (i : ι) :
    (L.run (L.reset (after L (L.fresh c) history)) i).1 = (L.run (L.fresh c) i).1 := by
  rw [h.reset_fresh, cfg_after L cfgOf h, h.cfg_fresh]

open Model.LibWrapper in
/-- the contract is satisfiable: an object that remembers how many streams it saw but does not let it show -/
example : ResetContract (σ := Nat × Nat) (ι := Nat) (ω := Nat)
    ⟨fun c => (c, 0), fun s => s, fun s i => (s.1 + i, (s.1, s.2 + 1))⟩ (fun s => s.1) :=
  ⟨fun _ => rfl, fun _ => rfl, fun _ _ => rfl, fun _ _ => rfl⟩

/-! hypotheses are satisfiable (identity block codec), and the reader model on concrete reference streams -/

def idCodec : Codec := ⟨id, some, fun b => some b.length⟩

example : Good idCodec := ⟨fun _ => rfl, fun _ => rfl⟩
example : ∀ b : Bytes, b.length ≤ 32768 → (idCodec.enc b).length < 256 ^ 4 := fun b h => by
  show b.length < 256 ^ 4
  omega

example : drain idCodec 5 (newReader (frame [[1, 2], [3]])) = some [1, 2, 3] := by decide
example : drain idCodec 5 (newReader [9, 8, 7]) = some [9, 8, 7] := by decide
example : readSizes idCodec (newReader (frame [[1, 2, 3], [4]])) [2, 2, 2, 2] = [2, 1, 1, 0] := by decide

end KV.Props.C16
