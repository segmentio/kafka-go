/-
Props/C09.lean — Close, cancellation and use-after-close terminate and behave.
-/
import KafkaVerif.Lemmas.WriterTrack
import KafkaVerif.Lemmas.WriterCloseMeasure
import KafkaVerif.Lemmas.ReaderClose
import KafkaVerif.Lemmas.ReaderCloseSilent
import KafkaVerif.Lemmas.GroupRunMeasure
import KafkaVerif.Lemmas.GroupConns
import KafkaVerif.Lemmas.GroupCloseProgress
import KafkaVerif.Lemmas.TransportLife
import KafkaVerif.Lemmas.TransportDeadlines
import KafkaVerif.Gen.CloseFacts

namespace KV.C09
open KV.WriterClose


theorem measure_decreases (cfg : Cfg) (s s' : State) (e : Event)
    (hfix : cfg.fixed = true) (hclosed : s.closed = true) (hint : e.internal = true)
    (hstep : step cfg s e = some s') : mu cfg s' < mu cfg s :=
  mu_decreases cfg s s' e hfix hclosed hint hstep

/-- Writer.Close is never blocked and its waiting is measured: in every reachable state of the repaired protocol in
which Close waits, `CloseReturn` or a progress event (an internal event of the library, or the transport's answer to a
metadata lookup it already holds) is enabled, and every internal event strictly decreases the measure `mu`; calls
arriving meanwhile are refused (`enter_after_close_ErrClosedPipe`).  A bound on whole runs is stated for the detailed
model only (`writer_detail_close_terminates`).
The third disjunct of `progress_core` (`WaitingBlocked`) is excluded by the message-tracking invariant
(`Lemmas/WriterTrack.lean`, `reachable_track`). -/
theorem close_terminates (cfg : Cfg) (hfix : cfg.fixed = true) (s : State) (hr : Reachable cfg s)
    (hwait : s.close = 2) :
    ((step cfg s .closeReturn).isSome ∨ (∃ e, e.progress = true ∧ (step cfg s e).isSome)) ∧
    (∀ e s', e.internal = true → step cfg s e = some s' → mu cfg s' < mu cfg s) := by
  have hclosed : s.closed = true := (reachable_closed_iff cfg s hr).mp (by omega)
  refine ⟨?_, ?_⟩
  · rcases progress_core cfg s hwait (reachable_noOpen cfg hfix s hr hclosed) with h | h | h
    · exact Or.inl h
    · exact Or.inr h
    · exact absurd h (not_waitingBlocked s (reachable_track cfg s hr))
  · intro e s' he hs
    exact measure_decreases cfg s s' e hfix hclosed he hs

/-- when `CloseReturn` fires, every message that `batchMessages` accepted
earlier has had its Completion callback (and its batch was closed) with an outcome `why`; no sender or timer
goroutine is alive and no call is between enter and leave.  (What `why` records is `attemptNext_why`,
Lemmas/WriterTrack.lean: `acked` iff the last attempt was acknowledged, `permanent` iff it failed permanently,
`exhausted` iff it failed temporarily and it was attempt number ≥ MaxAttempts.) -/
theorem all_completed_before_close_return (cfg : Cfg) (s s' : State) (hr : Reachable cfg s)
    (hs : step cfg s .closeReturn = some s') :
    (∀ m ∈ s.accepted, ∃ why, (m, why) ∈ s.completed) ∧
    (∀ p ∈ s.writers, p.live = false) ∧ s.awaiters = [] ∧ (∀ c ∈ s.calls, c.holdsGroup = false) := by
  cases Step.of_step hs with
  | closeReturn h =>
    obtain ⟨hcalls, hdead, haw⟩ := (wg_eq_zero_iff s).mp (of_decide_eq_true (Bool.and_eq_true_iff.mp h).2)
    refine ⟨fun m hm => ?_, hdead, haw, hcalls⟩
    -- an accepted message is completed or held by a live partition writer, and none is alive
    rcases (reachable_track cfg s hr).writers.1 m hm with ⟨x, hx, rfl⟩ | ⟨p, hp, hl, _⟩
    · exact ⟨x.2, hx⟩
    · rw [hdead p hp] at hl; cases hl

/-- in every reachable state in which Close has returned (at that moment and ever
after, whatever calls still arrive) the WaitGroup is 0: no call is between enter and leave, no sender goroutine and no
awaitBatch goroutine of the model is alive — no goroutine started by the Writer outlives its Close. -/
theorem writer_resources_released (cfg : Cfg) (hfix : cfg.fixed = true) (s : State) (hr : Reachable cfg s)
    (h3 : s.close = 3) :
    s.wg = 0 ∧ (∀ p ∈ s.writers, p.live = false) ∧ s.awaiters = [] ∧ (∀ c ∈ s.calls, c.holdsGroup = false) := by
  have h0 := reachable_returned_quiescent cfg hfix s hr h3
  obtain ⟨hcalls, hdead, haw⟩ := (wg_eq_zero_iff s).mp h0
  exact ⟨h0, hdead, haw, hcalls⟩

-- the premise of `close_terminates` is met with work left: Close waits while a call holds the WaitGroup
example : ∃ s, Reachable ⟨3, 2, true, false⟩ s ∧ s.close = 2 ∧ s.wg ≠ 0 :=
  ⟨_, ⟨[.callBegin 1 [(10, 0)] false, .enter 1, .batch 1, .closeBegin, .closeMark], rfl⟩, by decide, by decide⟩

/-! ### D1: the unrepaired protocol has a reachable state in which Close waits forever -/

/-- original code: `batchMessages` does not re-check `w.closed` -/
def d1Cfg : Cfg := ⟨3, 1, false, false⟩

/-- WriteMessages passes enter(), Close runs to its wait while the call is inside its metadata lookup, then the
call creates a partition writer whose queue nobody closes; the message is written and acknowledged, the call
returns nil — and the sender goroutine of the new partition writer waits in `batchQueue.Get` forever. -/
def d1Trace : List Event :=
  [.callBegin 1 [(10, 0)] false, .enter 1, .metaReq 1, .closeBegin, .closeMark, .metaRel 1, .batch 1,
   .timer 0, .get 0, .attempt 0 .ok, .complete 0, .leave 1 .nil, .ret 1]

/-- the state `d1Trace` leads to is stuck: Close waits, `closeReturn` and every internal event are disabled.  (`metaRel`,
the one progress event of `close_terminates` that is not internal, needs a call in phase `entered`: every call has
returned.) -/
theorem close_stuck_counterexample :
    ∃ s, Reachable d1Cfg s ∧ s.close = 2 ∧ step d1Cfg s .closeReturn = none ∧
      (∀ e, e.internal = true → step d1Cfg s e = none) ∧
      (∀ c ∈ s.calls, c.phase = .returned .nil) := by
  have h : (run d1Cfg State.init d1Trace).map
      (fun s => stuck d1Cfg s && s.calls.all (fun c => c.phase = .returned .nil)) = some true := by decide
  cases hr : run d1Cfg State.init d1Trace with
  | none => simp [hr] at h
  | some s =>
    simp only [hr, Option.map_some, Option.some.injEq, Bool.and_eq_true, stuck, decide_eq_true_eq,
      Option.isNone_iff_eq_none, List.all_eq_true] at h
    obtain ⟨⟨⟨h1, h2⟩, h3⟩, h4⟩ := h
    refine ⟨s, ⟨d1Trace, hr⟩, h1, h2, ?_, h4⟩
    intro e he
    cases hs : step d1Cfg s e with
    | none => rfl
    | some s' =>
      have := h3 e (candidates_complete d1Cfg s s' e he hs)
      simp [hs] at this

/-- the repaired protocol refuses the late `batchMessages` of that schedule -/
theorem d1_trace_refused_when_fixed : run { d1Cfg with fixed := true } State.init d1Trace = none := by decide

/-- in the repaired protocol the late call of that schedule returns io.ErrClosedPipe, and Close returns -/
theorem d1_schedule_fixed_close_returns :
    (run { d1Cfg with fixed := true } State.init
      [.callBegin 1 [(10, 0)] false, .enter 1, .metaReq 1, .closeBegin, .closeMark, .metaRel 1, .batch 1,
       .ret 1, .closeReturn]).map (fun s => (s.close, s.calls.map (·.phase))) =
      some (3, [.returned .closedPipe]) := by decide

/-! ### use after close, context cancellation (single steps) -/

/-- `enter` on a closed writer refuses the call with io.ErrClosedPipe (and does not touch the wait group) -/
theorem enter_after_close_ErrClosedPipe (cfg : Cfg) (s s' : State) (c : Nat) (hclosed : s.closed = true)
    (hstep : step cfg s (.enter c) = some s') :
    (∀ x ∈ s.calls, x.id = c → x.phase = .invoked → { x with phase := .left .closedPipe } ∈ s'.calls) ∧
    (∀ y ∈ s'.calls, y.phase = .entered → y ∈ s.calls) := by
  cases Step.of_step hstep with
  | enter =>
    constructor
    · intro x hx hc hp
      simp only [updCalls, List.mem_map]
      exact ⟨x, hx, by simp [hc, hp, hclosed]⟩
    · intro y hy hp
      simp only [updCalls, List.mem_map] at hy
      obtain ⟨x, hx, rfl⟩ := hy
      by_cases hq : (decide (x.id = c) && decide (x.phase = Phase.invoked)) = true
      · rw [if_pos hq] at hp
        simp [hclosed] at hp
      · rw [if_neg hq]
        exact hx

/-- over whole runs: a WriteMessages call invoked once the writer is marked closed
(in particular after Close has returned) can only ever return io.ErrClosedPipe, in every reachable state. -/
theorem after_close_ErrClosedPipe (cfg : Cfg) (s : State) (hr : Reachable cfg s) (x : Call) (hx : x ∈ s.calls)
    (hb : x.bornClosed = true) (r : Res) (hp : x.phase = .returned r ∨ x.phase = .left r) : r = .closedPipe := by
  have := (reachable_born cfg s hr).phase x hx hb
  rcases this with h | h | h <;> rcases hp with h' | h' <;> rw [h] at h' <;> cases h' <;> rfl

/-- a call blocked in its metadata lookup or waiting for its batches can return the context's error as soon as
its context is cancelled -/
theorem ctx_returns (cfg : Cfg) (s : State) (x : Call) (hx : x ∈ s.calls) (hc : x.cancelled = true) :
    (x.phase = .entered → (step cfg s (.early x.id .ctxErr)).isSome) ∧
    (x.phase = .waiting → (step cfg s (.leave x.id .ctxErr)).isSome) := by
  exact ⟨fun hp => (Step.early (cfg := cfg) x.id .ctxErr (hasCall_of_mem hx (by simp [hp, hc, earlyOk]))).enabled,
    fun hp => (Step.leave (cfg := cfg) x.id .ctxErr (hasCall_of_mem hx (by simp [hp, hc, leaveOk]))).enabled⟩

-- the second premise of `ctx_returns` is reachable: a cancelled call waiting for its batches
example : (run ⟨3, 2, true, false⟩ State.init [.callBegin 1 [(10, 0)] false, .enter 1, .batch 1, .ctxCancel 1]).map
    (fun s => s.calls.any fun x => x.cancelled && decide (x.phase = .waiting)) = some true := by decide

end KV.C09

/-! ## Reader / ConsumerGroup part (Model/ReaderClose.lean) -/
namespace KV.C09
open KV.ReaderClose

/-- when Close has returned no fetcher goroutine, no group loop, no generation goroutine
and no connection of the model is alive. -/
theorem resources_released (g : Bool) (s : State) (hr : Reachable g s) (hc : s.close = 3) :
    s.fetchers = 0 ∧ s.loop = 0 ∧ s.gen = false ∧ s.conns = 0 ∧ s.lconns = 0 := by
  have hi := reachable_inv g s hr
  obtain ⟨h1, h2, h3, h4⟩ := hi.done hc
  exact ⟨h1, h2, (hi.loop0 h2).2.1, h3, (hi.loop0 h2).2.2⟩

/-- whenever the group loop is not running (never started, or `run` has returned
— after Close, through whatever path: LeaveGroup answered, rejected, failed, or no member id) no coordinator
connection of the model is open: `coordinator()`, `nextGeneration` and `leaveGroup` close what they opened on
every path. -/
theorem loop_exit_closes_connections (g : Bool) (s : State) (hr : Reachable g s) (hl : s.loop = 0) :
    s.lconns = 0 ∧ (s.member = none ∨ s.leaveFail = true) :=
  ⟨((reachable_inv g s hr).loop0 hl).2.2, ((reachable_inv g s hr).loop0 hl).1⟩

/-- when Close has returned the group loop holds no member id any more (it left the group,
or the id was dropped as below), unless the coordinator lookup that `leaveGroup` needs failed since the last
successful join (an unreachable coordinator cannot be told) -/
theorem left_group_on_close (g : Bool) (s : State) (hr : Reachable g s) (hc : s.close = 3) :
    s.member = none ∨ s.leaveFail = true :=
  (loop_exit_closes_connections g s hr ((reachable_inv g s hr).done hc).2.1).2

/-- a held member id `m` only disappears through `LeaveGroup(m)`, through a new id assigned by a successful
JoinGroup, or through a failed JoinGroup (the residue of D9: `joinGroup` returns "" on error). -/
theorem member_dropped_only_by (s s' : State) (e : Event) (m : Nat) (hs : step s e = some s')
    (hm : s.member = some m) (hm' : s'.member ≠ some m) :
    e = .leave m ∨ e = .joinErr ∨ ∃ m', e = .joinOk m' := by
  cases Step.of_step hs with
  | joinOk m' => exact Or.inr (Or.inr ⟨m', rfl⟩)
  | joinErr => exact Or.inr (Or.inl rfl)
  | leave m' hg =>
    -- LeaveGroup is sent for the member id held
    have hmem := hg.member
    rw [hm] at hmem
    exact Or.inl (by rw [Option.some.inj hmem])
  | _ => exact absurd hm hm'

/-- once Close has returned no fetch, heartbeat, commit, join, sync, offset fetch or
LeaveGroup request and no new connection is possible. -/
theorem nothing_sent_after_close (g : Bool) (s : State) (hr : Reachable g s) (hc : s.close = 3)
    (e : Event) (he : e.sends = true) : step s e = none := by
  obtain ⟨h1, h2, h3, h4, h5⟩ := resources_released g s hr hc
  cases e <;> simp [Event.sends] at he <;> simp [step, h1, h2, h3, h4, h5]

/-- once Close has returned, `close = 3` is never left (no second Close, no re-opening) -/
theorem closed_stays_closed (g : Bool) (s s' : State) (e : Event) (hr : Reachable g s) (hc : s.close = 3)
    (hs : step s e = some s') : s'.close = 3 := by
  -- the three events that move `close` need `close < 3`
  cases Step.of_step hs with
  | closeBegin hg | closeMark hg => omega
  | closeReturn hg => have := hg.marked; omega
  | _ => exact hc

/-- a FetchMessage/ReadMessage call invoked after the reader was marked closed (in particular
after Close returned) can only return io.EOF or its context's error.  (`retOk` of Model/ReaderClose.lean gives the
corresponding cases for CommitMessages and ConsumerGroup.Next; no theorem is stated for them.) -/
theorem eof_after_close (s s' : State) (c : Nat) (r : Res) (hs : step s (.callRet c r) = some s')
    (hb : ∀ x ∈ s.calls, x.id = c → x.born = true ∧ (x.kind = .fetch ∨ x.kind = .read)) :
    r = .eof ∨ r = .ctx := by
  cases Step.of_step hs with
  | callRet _ _ h =>
    obtain ⟨x, hx, hid, hok⟩ := h
    obtain ⟨hborn, hk⟩ := hb x hx hid
    cases r <;> simp [retOk, hborn] at hok ⊢ <;> rcases hk with hk | hk <;> simp [hk] at hok

/-- a call invoked once Close has returned is born closed -/
theorem born_after_close (g : Bool) (s s' : State) (c : Nat) (k : Kind) (hr : Reachable g s) (hc : s.close = 3)
    (hs : step s (.callBegin c k) = some s') : ⟨c, k, false, true⟩ ∈ s'.calls := by
  have hcl := (reachable_inv g s hr).marked (by omega)
  cases Step.of_step hs with
  | callBegin => simp [hcl]

/-- a pending Reader / ConsumerGroup call whose context ended can return the context's error -/
theorem reader_ctx_returns (s : State) (x : Call) (hx : x ∈ s.calls) (hc : x.cancelled = true) :
    (step s (.callRet x.id .ctx)).isSome :=
  (Step.callRet x.id .ctx ⟨x, hx, rfl, by simp [retOk, hc]⟩).enabled

/-- progress on the counter model: while Close waits, one of the library's own steps or
CloseReturn is enabled, provided the coordinator/broker connections still open get closed by their owners
(`connClose`): the full termination measure needs the per-generation phases of `ConsumerGroup.run`, which are
C15's model (GroupRun); here the loop is one counter. -/
theorem reader_close_progress_partial (g : Bool) (s : State) (hr : Reachable g s) (hc : s.close = 2) :
    ∃ e, (e = .closeReturn ∨ e = .closeMsgs ∨ e = .fetcherExit ∨ e = .genEnd ∨ e = .loopExit ∨ e = .connClose ∨
      e = .coordClose ∨ (∃ m, e = .leave m) ∨ e = .coordOpen) ∧ (step s e).isSome := by
  have hi := reachable_inv g s hr
  have hcl := hi.marked (by omega)
  by_cases hf' : ¬ s.fetchers = 0
  · exact ⟨.fetcherExit, by simp, (Step.fetcherExit (by omega)).enabled⟩
  have hf : s.fetchers = 0 := Decidable.of_not_not hf'
  by_cases hl : s.loop = 0
  · by_cases hm : s.msgsClosed = true
    · by_cases hcn : s.conns = 0
      · exact ⟨.closeReturn, by simp, (Step.closeReturn ⟨hc, hm, hcn, (hi.loop0 hl).2.2⟩).enabled⟩
      · exact ⟨.connClose, by simp, (Step.connClose (by omega)).enabled⟩
    · exact ⟨.closeMsgs, by simp, (Step.closeMsgs ⟨hc, hf, hl, by simpa using hm⟩).enabled⟩
  · -- the group loop runs: end the generation, leave the group (over a coordinator connection), exit
    have h1 : s.loop = 1 := by have := hi.lp; omega
    by_cases hgen : s.gen = true
    · exact ⟨.genEnd, by simp, (Step.genEnd hgen).enabled⟩
    · cases hmem : s.member with
      | none =>
        by_cases hlc : s.lconns = 0
        · exact ⟨.loopExit, by simp, (Step.loopExit ⟨h1, hcl, by simpa using hgen, Or.inl hmem, hlc⟩).enabled⟩
        · exact ⟨.coordClose, by simp, (Step.coordClose (by omega)).enabled⟩
      | some m =>
        by_cases hcn : 0 < s.lconns
        · exact ⟨.leave m, by simp, (Step.leave m ⟨h1, by simpa using hgen, hmem, hcn⟩).enabled⟩
        · exact ⟨.coordOpen, by simp, (Step.coordOpen h1).enabled⟩

end KV.C09

/-! ## Termination of Reader / ConsumerGroup close -/
namespace KV.C09
open KV.ReaderClose

/-- work left on the closing side of a Reader -/
def closeNu (s : State) : Nat :=
  s.fetchers + s.conns + s.lconns + s.loop + (if s.gen then 1 else 0) + (if s.member.isSome then 1 else 0) +
  (if s.msgsClosed then 0 else 1) + (3 - s.close)

/-- the steps by which a Reader shuts down -/
def closingStep : Event → Bool
  | .closeMark | .closeMsgs | .closeReturn | .fetcherExit | .connClose | .coordClose | .genEnd | .leave _ | .loopExit => true
  | _ => false

/-- every shut-down step of `Reader.Close` (stop mark, fetcher exit,
connection close (fetcher and coordinator), generation end, LeaveGroup, exit of the group loop, close of `msgs`, return) strictly decreases
`closeNu`, and while Close waits one of them (or the opening of the connection LeaveGroup needs) is enabled
(`reader_close_progress_partial`).  The events that can increase `closeNu` after the mark are `dial` by a fetcher
that is still alive (bounded by `fetchers`: a cancelled fetcher does not redial) and steps of the group loop while it
still runs (`coordOpen`, `joinOk`, `genStart`); the loop's own steps are bounded by `group_run_terminates` below. -/
theorem reader_close_terminates (s s' : State) (e : Event) (he : closingStep e = true) (hs : step s e = some s')
    (hcl : s.close ≤ 3) : closeNu s' < closeNu s := by
  cases Step.of_step hs with
  | closeMark | fetcherExit | connClose | coordClose => simp only [closeNu]; omega
  | closeReturn hg => have := hg.marked; simp only [closeNu]; omega
  | loopExit hg => have := hg.loop; simp only [closeNu]; omega
  | closeMsgs hg =>
    simp only [closeNu, hg.msgsOpen, if_true, Bool.false_eq_true, if_false]; omega
  | genEnd hg => simp only [closeNu, hg, if_true, Bool.false_eq_true, if_false]; omega
  | leave m hg =>
    simp only [closeNu, hg.member, Option.isSome_some, Option.isSome_none, if_true, Bool.false_eq_true, if_false]; omega
  | _ => cases he

-- the measure at the start of a group reader: loop, no message channel closed yet, three Close phases to go
example : closeNu (State.init true) = 5 := by decide

end KV.C09

namespace KV.C09
open KV.Group

/-- `ConsumerGroup.run` (Model/GroupRun.lean: phases of
`nextGeneration`, `leaveGroup`, error delivery, back-off): every step of the `run` goroutine strictly decreases
`runMu = nextWaiting · (nWatch+40) + rank pc`, and no other event except a new `Next` call of the application
increases it.  After `Close` a `Next` call returns ErrGroupClosed, so the goroutine makes at most
`runMu` further steps before it is `exited` — the only state in which `closeRet` is enabled. -/
theorem group_run_terminates (c : Group.Cfg) (s s' : St) (e : Ev) (h : Group.step c s e = some s') :
    (e.runLoop = true → runMu c s' < runMu c s) ∧ (e ≠ .nextCall → runMu c s' ≤ runMu c s) ∧
    (e = .closeRet → s.pc = .exited) := by
  refine ⟨fun he => runMu_decreases c s s' e he h, fun hn => runMu_le c s s' e hn h, ?_⟩
  rintro rfl
  simp only [Group.step, Option.ite_none_right_eq_some, Bool.and_eq_true, beq_iff_eq] at h
  exact h.1.1

/-- once the group is closed, in every *reachable* state whose pc is not `exited`
and not inside `gen.close()` the `run` goroutine has an enabled step of its own: a coordinator answer it waits for
(every network call returns), the start of the generation's next internal function, or a step of its loop.  The
structural facts this needs (coordinator stage ≤ 2, a generation exists while the pc is inside one, the generation is
untouched until its heartbeat function is started) are the inductive invariant `Inv3` (`Lemmas/GroupRunStruct.lean`).
Partial: inside `gen.close()` (pc `waiting`) `run` waits for the generation's functions to run their exit sections —
C15's `close_returns_after_all_exits` says it returns once they have; that each of them can (heartbeat loop, watchers,
the Reader's commit loop and unsubscribe function react to the cancelled generation context) is per-function
reasoning in C15/C03, not repeated here. -/
theorem group_run_progress_partial (c : Group.Cfg) (s : St) (hr : Group.Reachable c s) (hc : s.closedCG = true)
    (hx : s.pc ≠ .exited) (hw : ∀ ret r, s.pc ≠ .waiting ret r) :
    ∃ e, (e.runLoop = true ∨ ∃ g acc, e = .gStart g acc) ∧ (Group.step c s e).isSome :=
  GroupClose.run_progress c s hr hc hx hw

end KV.C09

/-! ## Transport connections (Model/TransportConnC17.lean: the LTS over the T.* hook events of transport.go) -/
namespace KV.C09
open KV.TransportConn

/-- when `releaseConn` refuses a connection (its group was closed by
`CloseIdleConnections` / `Writer.Close` / a metadata update while a request was in flight) the connection is
`closing` and the only event it can still take is `Exit` (its `run` loop returns, the network connection is closed). -/
theorem transport_released_refused_exits (f : TFacts) (s s' : TransportConn.State) (c : Nat)
    (h : TransportConn.step f s (.release c false) = some s') :
    get s' c = some .closing ∧
    ∀ e s'', TransportConn.step f s' e = some s'' → connOf e = some c → e = .exit c ∧ get s'' c = some .exited :=
  released_refused_exits f s s' c h

/-- a closing connection (release refused, idle timer, group closed while idle) stays closing until it exits, and an
exited one stays exited: no goroutine or connection of the model comes back after the pool was closed -/
theorem transport_closing_only_exits (f : TFacts) (s s' : TransportConn.State) (e : Ev) (c : Nat)
    (hcl : get s c = some .closing) (h : TransportConn.step f s e = some s') :
    get s' c = some .closing ∨ (e = .exit c ∧ get s' c = some .exited) :=
  closing_only_exits f s s' e c hcl h

theorem transport_exited_is_final (f : TFacts) (s s' : TransportConn.State) (e : Ev) (c : Nat)
    (hx : get s c = some .exited) (h : TransportConn.step f s e = some s') : get s' c = some .exited :=
  exited_is_final f s s' e c hx h

example : (TransportConn.run ⟨true⟩ [] [.new 1 1, .recv 1, .closeIdle 1, .done 1 true false, .release 1 false, .exit 1]).map
    (fun s => get s 1) = some (some .exited) := by decide

end KV.C09

/-! ## Regenerated tie: the structural facts of the source the models take for granted
(`go/extract/closeproto` → `Gen/CloseFacts.lean`, re-extracted from /repo on every run) -/
namespace KV.C09
open KV.WriterClose

/-- every structural fact extracted from writer.go / reader.go / consumergroup.go / transport.go holds: enter checks
`closed` under the mutex before `group.Add`; `spawn` brackets the goroutine with Add/Done; `batchMessages` re-checks
`closed`; `Close` marks, closes and removes every partition writer and then waits; a partition writer's close flushes
before it closes the queue; FetchMessage answers io.EOF when closed; Reader.Close order; `run` leaves the group before
every exit; `leaveGroup`/`nextGeneration`/`coordinator` close their connections on every path; `conn.run` leaves its
loop when `releaseConn` refuses; the waits of WriteMessages / FetchMessage / CommitMessages / `await` /
`grabConnOrConnect` select on the context; the fetcher's `initialize` closes its connection when reading the offsets or
the seek fails; ReadLag closes its probe connection and its loop ends with the context; `run`, `Next`, `sleep`, the
heartbeat and partition-watcher loops select on done / their context; `Generation.close` waits for its goroutines; a
connect that completes after its caller left is released or closed; the pool's last `unref` closes and cancels;
Writer.Close closes its own transport. -/
theorem close_protocol_facts_hold : Gen.CloseFacts.all.all (·.2) = true := by decide

/-- the Writer protocol of the source: `Cfg.fixed` is the extracted fact `batchRechecksClosed` -/
def sourceCfg (maxAttempts batchSize : Nat) (async : Bool) : Cfg :=
  ⟨maxAttempts, batchSize, Gen.CloseFacts.batchRechecksClosed, async⟩

/-- `close_terminates` for the protocol of the source (the extracted fact is `true`), for every MaxAttempts, BatchSize,
sync/async -/
theorem close_terminates_for_source (ma bs : Nat) (async : Bool) (s : State) (hr : Reachable (sourceCfg ma bs async) s)
    (hwait : s.close = 2) :
    ((step (sourceCfg ma bs async) s .closeReturn).isSome ∨
      (∃ e, e.progress = true ∧ (step (sourceCfg ma bs async) s e).isSome)) ∧
    (∀ e s', e.internal = true → step (sourceCfg ma bs async) s e = some s' →
      mu (sourceCfg ma bs async) s' < mu (sourceCfg ma bs async) s) :=
  close_terminates (sourceCfg ma bs async) (show Gen.CloseFacts.batchRechecksClosed = true by decide) s hr hwait

end KV.C09

/-! ## Partition fetchers: `(*reader).run` (Model/FetcherLife.lean, events = the RL.* hook points) -/
namespace KV.C09
open KV.FetcherLife

/-- once the fetcher's context is done (`Reader.Close`, `SetOffset`,
unsubscribe) every control step strictly decreases `rank`: the fetcher returns after at most 10 further control steps
(the hand-overs `msg`/`sendErr` of the fetch response being processed do not change the control state). -/
theorem fetcher_terminates_after_cancel (s s' : FetcherLife.State) (e : FetcherLife.Event) (hc : s.cancelled = true)
    (he : e.control = true) (h : FetcherLife.step s e = some s') :
    FetcherLife.rank s' < FetcherLife.rank s ∧ s'.cancelled = true :=
  FetcherLife.terminates_after_cancel s s' e hc he h

/-- a cancelled fetcher is never blocked: while not exited a control step is enabled (the dial fails or succeeds, the
read returns — every network call returns — or the pending `sleep` sees the context done) -/
theorem fetcher_progress_after_cancel (s : FetcherLife.State) (hc : s.cancelled = true) (hx : s.pc ≠ .exited) :
    ∃ e, e.control = true ∧ (FetcherLife.step s e).isSome :=
  FetcherLife.progress_after_cancel s hc hx

/-- in every reachable state the fetcher owns a connection only inside its read
loop; in particular a fetcher that has returned has closed its connection (every exit path, cancelled or not). -/
theorem fetcher_exit_closes_conn (s : FetcherLife.State) (hr : FetcherLife.Reachable s) :
    (s.connOpen = true → s.pc = .inLoop ∨ s.pc = .iterating ∨ s.pc = .oor ∨ s.pc = .afterOffsets) ∧
    (s.pc = .exited → s.connOpen = false) := by
  have h1 := FetcherLife.conn_owned s hr
  refine ⟨h1, fun hx => ?_⟩
  cases hco : s.connOpen with
  | false => rfl
  | true => have := h1 hco; rw [hx] at this; simp at this

example : (FetcherLife.run {} [.top 0, .init true, .iter, .msg, .read .cont, .ctxCancel, .iter, .cancel]).map
    (fun s => (s.pc, s.connOpen)) = some (.exited, false) := by decide

end KV.C09

/-! ## Coordinator connections of ConsumerGroup.run (Model/GroupConns.lean over Model/GroupRun.lean) -/
namespace KV.C09
open KV.GroupConns

/-- in every reachable state of `run` with its dialer journal: the connections
journalled as opened, plus successful connects not yet journalled, equal the connections journalled as closed, plus
closes the code has performed but the journal has not shown yet, plus the connections held at the current program
point (bootstrap connection inside `coordinator()`, coordinator connection of `nextGeneration` / `leaveGroup`). -/
theorem group_connections_accounted (c : Group.Cfg) (cs : CS) (h : ReachableC c cs) :
    cs.opened + cs.owedOpen = cs.closed + cs.owedClose + held cs.g.pc :=
  (k_reachable c cs h).acct

/-- once `run` has returned (the only state in which `ConsumerGroup.Close`
returns) every coordinator connection it ever opened has been closed, on every path — LeaveGroup answered, rejected
or failed, the coordinator lookup failed, join / sync / offset-fetch errors, rebalances. -/
theorem group_connections_closed_at_exit (c : Group.Cfg) (cs : CS) (h : ReachableC c cs) (hx : cs.g.pc = .exited) :
    cs.opened = cs.closed ∧ cs.owedOpen = 0 ∧ cs.owedClose = 0 := by
  have k := k_reachable c cs h
  obtain ⟨h1, h2⟩ := k.gone hx
  have := k.acct
  simp [hx, held, bootPC, connPC, b2n, h1, h2] at this
  exact ⟨this, h1, h2⟩

example : (runC ⟨0, true⟩ {} [.ev (.connectRes none), .copen, .ev (.findRes none), .ev (.connectRes none), .copen, .cclose,
    .ev (.joinErr "" .kafka), .cclose, .ev (.nextGenRet "" (some .kafka)), .ev (.leave ""), .ev .closeCall,
    .ev (.errDeliver .kafka false), .ev (.leave ""), .ev .runExit]).map (fun s => (s.opened, s.closed)) = some (2, 2) := by
  decide

end KV.C09

/-! ## Reader.Close as a system of its components (Model/ReaderCloseSystem.lean) -/
namespace KV.C09
open KV

/-- `Reader.Close` over its components (fetchers = Model/FetcherLife, the group's
`run` goroutine = Model/GroupRun, glued as in `(*Reader).Close`): in every state satisfying the
system invariant (after the mark every fetcher's context is done, the group is closed and its state reachable), every
internal step of any component, `closeMsgs` and `closeReturn` strictly lower
`mu` = Σ fetcher ranks + runMu(group) + pending close steps. -/
theorem reader_system_close_terminates (c : Group.Cfg) (s s' : ReaderCloseSystem.State) (e : ReaderCloseSystem.Event)
    (hi : ReaderCloseSystem.Inv c s) (hm : s.close = 2) (he : ReaderCloseSystem.internal e = true)
    (h : ReaderCloseSystem.step c s e = some s') : ReaderCloseSystem.mu c s' < ReaderCloseSystem.mu c s :=
  ReaderCloseSystem.mu_decreases c s s' e hi hm he h

/-- the invariant holds initially and is preserved by every step of the system -/
theorem reader_system_invariant (c : Group.Cfg) (grp : Bool) :
    ReaderCloseSystem.Inv c { group := if grp then some {} else none } ∧
    ∀ s s' e, ReaderCloseSystem.Inv c s → ReaderCloseSystem.step c s e = some s' → ReaderCloseSystem.Inv c s' :=
  ⟨ReaderCloseSystem.inv_init c grp, fun s s' e hi h => ReaderCloseSystem.inv_step c s s' e hi h⟩

/-- while Close waits after the mark, a control step of a fetcher, a step of the
group's `run` goroutine (or the start of a generation's internal function), `closeMsgs` or `closeReturn` is enabled —
except while `run` is inside `gen.close()` (C15 `close_returns_after_all_exits`). -/
theorem reader_system_close_progress (c : Group.Cfg) (s : ReaderCloseSystem.State) (hi : ReaderCloseSystem.Inv c s)
    (hm : s.close = 2) (hw : ∀ g, s.group = some g → ∀ ret r, g.pc ≠ .waiting ret r) :
    ∃ e, (ReaderCloseSystem.internal e = true ∨ ∃ gi acc, e = .group (.gStart gi acc)) ∧
      (ReaderCloseSystem.step c s e).isSome :=
  ReaderCloseSystem.system_progress c s hi hm hw

end KV.C09

/-! ## Writer.Close on the detailed Writer model (Model/Writer.lean, tied deterministically by C01/C07/C08) -/
namespace KV.C09

/-- on the 25-event Writer LTS of Model/Writer.lean (every hook event of
writer.go is one model event; C01/C07/C08 replay the recorded hook traces through it one-to-one): in every reachable
state in which `Close` may return (`closeReturn` enabled: closed, WaitGroup counter zero, every partition writer's
goroutine exited)
* every WriteMessages call that ever began has returned,
* every batch ever created is done, and with a Completion callback configured the callback ran exactly once for it,
  with the batch's final error code,
* every message of every call that got through `batchMessages` (result ok / async / ctx / write errors) sits in such
  a batch: it was sent, or its attempts were exhausted, before Close returned.
This is `all_completed_before_close_return` restated on the model whose tie is deterministic; progress and termination
of Close on this model are `writer_detail_close_progress` and `writer_detail_close_terminates` below. -/
theorem writer_detail_close_return_complete (cfg : KV.Writer.Cfg) (s s' : KV.Writer.State)
    (hr : KV.Writer.Reachable cfg s) (hs : KV.Writer.step cfg s .closeReturn = some s') :
    (∀ c C, s.calls c = some C → C.phase = .returned) ∧
    (∀ b B, s.batches b = some B → ∃ code, B.done = some code ∧
       (cfg.completion = true → B.ncompl = 1 ∧ B.cbCode = some code) ∧ (cfg.completion = false → B.ncompl = 0)) ∧
    (∀ c C, s.calls c = some C → KV.WriterCloseDetail.accepted C = true → ∀ i, i < C.msgs.length →
       ∃ b B code, C.place i = some b ∧ s.batches b = some B ∧ (∃ m ∈ B.msgs, m.msg = (c, i)) ∧ B.done = some code) :=
  KV.WriterCloseDetail.close_return_complete cfg s s' hr hs

/-- the invariants behind it hold in every reachable state of the detailed model -/
theorem writer_detail_close_invariants (cfg : KV.Writer.Cfg) (s : KV.Writer.State) (hr : KV.Writer.Reachable cfg s) :
    KV.WriterCloseDetail.DI s ∧ KV.WriterCloseDetail.CI s ∧ KV.WriterCloseDetail.AI s :=
  ⟨KV.WriterCloseDetail.di_reachable cfg s hr, KV.WriterCloseDetail.ci_reachable cfg s hr,
   KV.WriterCloseDetail.ai_reachable cfg s hr⟩

/-- Close cannot get stuck on the detailed Writer model: in every reachable state
with the writer closed in which `closeReturn` is not yet enabled, some driven event is enabled — a step of Close (detach
the open batch, queue it, close a queue, release the mutex), of a partition writer's goroutine (take a batch, attempt,
broker decision, Completion, complete, exit on the closed empty queue), or of a call already inside WriteMessages (next
balancing step, ErrClosedPipe, return).  No new caller and no context cancellation is needed (`driven`); that no batch
timer is needed either is `close_progress'` in Lemmas/WriterCloseProgress.lean, where the event is also `closing`.
(`MaxAttempts ≥ 1` is the library's own normalisation.)  The original D1 window is excluded by the model's guards
`batch` / `newPW` requiring `closed = false`, which C01/C07/C08 tie to the code trace by trace. -/
theorem writer_detail_close_progress (cfg : KV.Writer.Cfg) (hmax : 1 ≤ cfg.maxAttempts) (s : KV.Writer.State)
    (hr : KV.Writer.Reachable cfg s) (hc : s.closed = true) (hn : KV.Writer.step cfg s .closeReturn = none) :
    ∃ e, KV.WriterCloseDetail.driven e = true ∧ (KV.Writer.step cfg s e).isSome = true :=
  KV.WriterCloseDetail.close_progress cfg hmax s hr hc hn

/-- the invariants `writer_detail_close_progress` rests on beside those above -/
theorem writer_detail_progress_invariants (cfg : KV.Writer.Cfg) (s : KV.Writer.State) (hr : KV.Writer.Reachable cfg s) :
    KV.WriterCloseDetail.PI s ∧ KV.WriterCloseDetail.QI s ∧ KV.WriterCloseDetail.CS cfg s :=
  ⟨KV.WriterCloseDetail.pi_reachable cfg s hr, KV.WriterCloseDetail.qi_reachable cfg s hr,
   KV.WriterCloseDetail.cs_reachable cfg s hr⟩

/-- on the detailed Writer model every *closing* event (a step of Close after
its begin, of a partition writer's goroutine, of the broker, of a call already past `enter()`) strictly lowers
`closeMu` = [Close holds the mutex] + calls between `enter()` and their identification + Σ partition writers (sender
steps left, queued / pending / open batches, queue still open, goroutine not exited) + Σ calls (steps to their return),
in every reachable state — except that a call identifying itself (`begin_`) first brings its own work (`evCost`). -/
theorem writer_detail_close_measure_decreases (cfg : KV.Writer.Cfg) (hmax : 1 ≤ cfg.maxAttempts) (s s' : KV.Writer.State)
    (hr : KV.Writer.Reachable cfg s) (e : KV.Writer.Event) (hcl : KV.WriterCloseDetail.closing s e = true)
    (hs : KV.Writer.step cfg s e = some s') :
    KV.WriterCloseDetail.closeMu cfg s' < KV.WriterCloseDetail.closeMu cfg s + KV.WriterCloseDetail.evCost e :=
  KV.WriterCloseDetail.closing_decreases cfg hmax s s' hr e hcl hs

/-- Close terminates on the detailed Writer model in every schedule: from a
reachable state with the writer closed, every run of closing events has at most `closeMu` + `runCost` steps (`runCost`:
the work of the calls that passed `enter()` before Close and identify themselves during the run), and
a run that cannot be extended ends in a state in which `closeReturn` is enabled.  With
`writer_detail_close_return_complete` this is the whole Writer clause of C09 on the model that C01/C07/C08 replay hook
traces through one event at a time. -/
theorem writer_detail_close_terminates (cfg : KV.Writer.Cfg) (hmax : 1 ≤ cfg.maxAttempts) (s : KV.Writer.State)
    (hr : KV.Writer.Reachable cfg s) (hc : s.closed = true) (es : List KV.Writer.Event)
    (s' : KV.Writer.State) (hrun : KV.WriterCloseDetail.closingRun cfg s es = some s') :
    es.length ≤ KV.WriterCloseDetail.closeMu cfg s + KV.WriterCloseDetail.runCost es ∧
    ((∀ e, KV.WriterCloseDetail.closing s' e = true → KV.Writer.step cfg s' e = none) →
      (KV.Writer.step cfg s' .closeReturn).isSome = true) :=
  KV.WriterCloseDetail.close_terminates_detail cfg hmax s hr hc es s' hrun

/-- the configuration of the two runs below -/
def detailCfg : KV.Writer.Cfg :=
  { batchSize := 1, batchBytes := 100, maxAttempts := 1, async := false, completion := true, topic := "t",
    retriable := fun _ => false }

/-- not vacuous: a run of the detailed model in which Close begins while a batch is still queued, the batch is then
sent, its Completion runs, the call returns, the sender exits and Close returns -/
example : KV.Writer.accepts detailCfg
    [.enter true, .begin_ 1 [{ size := 1, topic := "" }], .assign 1 0 ("t", 0), .batch 1,
     .newPW 1 1 ("t", 0), .newBatch 1 1, .add 1 1 1 0 1, .detach 1 1 .full 0, .qput 1 1 true, .batched 1,
     .closeBegin, .qclose 1, .closeMarked 1,
     .qget 1 (some 1), .attempt 1 1 0, .produce 1 ("t", 0) [(1, 0)] .acked, .attemptDone 1 1 0 0,
     .completion 1 1 0, .complete 1 1 0, .ret 1 .ok, .qget 1 none, .closeReturn] = true := by decide

/-- everything between CloseBegin and CloseReturn in that run is a closing event -/
example : ((KV.Writer.run detailCfg KV.Writer.State.init
    [.enter true, .begin_ 1 [{ size := 1, topic := "" }], .assign 1 0 ("t", 0), .batch 1,
     .newPW 1 1 ("t", 0), .newBatch 1 1, .add 1 1 1 0 1, .detach 1 1 .full 0, .qput 1 1 true, .batched 1,
     .closeBegin]).bind (fun s => KV.WriterCloseDetail.closingRun detailCfg s
    [.qclose 1, .closeMarked 1, .qget 1 (some 1), .attempt 1 1 0, .produce 1 ("t", 0) [(1, 0)] .acked,
     .attemptDone 1 1 0 0, .completion 1 1 0, .complete 1 1 0, .ret 1 .ok, .qget 1 none])).isSome = true := by decide

end KV.C09

/-! ## inside `gen.close()` (Lemmas/GroupCloseProgress.lean) -/
namespace KV.C09

/-- while the `run` goroutine waits inside `(*Generation).close` (`<-g.joined`), in
every reachable state either `close()` can return or one of the generation's functions can take a step towards its
exit: a pending exit section, the heartbeat loop, a partition watcher (their coordinator calls return; they see the
cancelled generation context), or an application function still inside its body (`Generation.Start`'s contract; for
the Reader: the commit loop and the unsubscribe function).  Rests on the accounting invariant `routines` = pending exit
sections + live heartbeat + live accounted watchers + application functions inside their body. -/
theorem group_close_wait_progress (c : Group.Cfg) (s : Group.St) (hr : Group.Reachable c s) (ret : Option Group.Err)
    (r : Nat) (hp : s.pc = .waiting ret r) :
    ∃ e, GroupClose.genEv e = true ∧ (Group.step c s e).isSome = true :=
  GroupClose.waiting_progress c s hr ret r hp

/-- `group_run_progress_partial` without its exception: once the group is closed the `run`
goroutine (or, inside `gen.close()`, a function of the generation it waits for) has an enabled step in every reachable
state until `run` has exited. -/
theorem group_run_progress (c : Group.Cfg) (s : Group.St) (hr : Group.Reachable c s) (hc : s.closedCG = true)
    (hx : s.pc ≠ .exited) :
    ∃ e, (e.runLoop = true ∨ (∃ g acc, e = .gStart g acc) ∨ GroupClose.genEv e = true) ∧
      (Group.step c s e).isSome = true :=
  GroupClose.run_progress_full c s hr hc hx

/-- `reader_system_close_progress` without its exception: while Reader.Close
waits after the mark some component can always move. -/
theorem reader_system_close_progress_full (c : Group.Cfg) (s : ReaderCloseSystem.State)
    (hi : ReaderCloseSystem.Inv c s) (hm : s.close = 2) :
    ∃ e, (ReaderCloseSystem.internal e = true ∨ (∃ gi acc, e = .group (.gStart gi acc)) ∨
          ∃ ge, e = .group ge ∧ GroupClose.genEv ge = true) ∧ (ReaderCloseSystem.step c s e).isSome = true :=
  GroupClose.system_progress_full c s hi hm

end KV.C09

/-! ## Blocking network operations of a fetcher and their deadlines (Model/FetcherDeadlines.lean) -/
namespace KV.C09
open KV.FetcherLife

/-- the deadline facts of the source: regenerated by go/extract closeproto from reader.go on every run -/
def sourceNet : NetFacts :=
  ⟨Gen.CloseFacts.fetcherOffsetRequestsHaveDeadline, Gen.CloseFacts.fetcherReadHasDeadline⟩

/-- with a deadline on every blocking network operation of `(*reader).run`
(the offsets requests of `initialize` and of the OffsetOutOfRange recovery: `SetDeadline`; the fetch: `SetReadDeadline`)
a cancelled fetcher that has not exited always has an enabled control step even when the broker has stopped answering
(`stepSilent`: the return of an operation is possible only through its deadline); it is `cancel` only when the pending
sleep really sees the context done, inside a network operation it is that operation's failed return.  Every such step
lowers `rank` (≤ 10 steps). -/
theorem fetcher_never_blocked_silent_broker (f : NetFacts) (ho : f.offsets = true) (hr : f.read = true)
    (s : FetcherLife.State) (hc : s.cancelled = true) (hx : s.pc ≠ .exited) :
    (∃ e, e.control = true ∧ (stepSilent f s e).isSome = true ∧ (e = .cancel → s.sampled = true)) ∧
    (∀ e s', e.control = true → stepSilent f s e = some s' → FetcherLife.rank s' < FetcherLife.rank s) :=
  ⟨progress_after_cancel_silent f ho hr s hc hx,
   fun e s' he h => (terminates_after_cancel_silent f s s' e hc he h).1⟩

/-- the same for the code as it is: the two deadline facts are the ones
extracted from reader.go, so replacing `r.readOffsets(conn)` by a bare `conn.ReadOffsets()`, or dropping a
`SetDeadline` / `SetReadDeadline`, breaks this theorem. -/
theorem fetcher_never_blocked_for_source (s : FetcherLife.State) (hc : s.cancelled = true) (hx : s.pc ≠ .exited) :
    ∃ e, e.control = true ∧ (stepSilent sourceNet s e).isSome = true ∧ (e = .cancel → s.sampled = true) :=
  progress_after_cancel_silent sourceNet (by decide) (by decide) s hc hx

/-- the converse: blocked in a network operation that no deadline bounds, against a silent broker the operation never
returns (its context being cancelled changes nothing: a blocked socket read does not observe it), so `Reader.Close`
waits in `r.join.Wait()` for ever.  `cancel` is exempted outside `oor`: the model does not tell a `sleep` that is still
pending before the operation (which the cancelled context ends) from the operation itself. -/
theorem fetcher_blocked_without_deadline (f : NetFacts) (s : FetcherLife.State) (b : NetFacts → Bool)
    (hb : blockedIn s = some b) (hf : b f = false) (e : FetcherLife.Event) (he : e.control = true)
    (hne : e ≠ .cancel ∨ s.pc = .oor) : stepSilent f s e = none :=
  blocked_without_deadline f s b hb hf e he hne

/-- a fetch answered OffsetOutOfRange, the follow-up offsets request unanswered, the
context cancelled by Close — with the helper's deadline the request fails and the fetcher exits; without it nothing
is enabled -/
example : (FetcherLife.run {} [.top 0, .init true, .iter, .read .outOfRange, .ctxCancel]).bind
    (fun s => (stepSilent ⟨true, true⟩ s (.offsets false)).bind fun s1 => (stepSilent ⟨true, true⟩ s1 (.top 1)).bind
      fun s2 => (stepSilent ⟨true, true⟩ s2 .cancel).map (·.pc)) = some .exited := by decide
example : (FetcherLife.run {} [.top 0, .init true, .iter, .read .outOfRange, .ctxCancel]).bind
    (fun s => stepSilent ⟨false, true⟩ s (.offsets false)) = none := by decide

end KV.C09

/-! ## Coordinator requests and their deadlines (Model/GroupDeadlines.lean) -/
namespace KV.C09

/-- `group_run_progress` against a coordinator that accepts connections and
reads requests but never answers (`stepSilentG`: an answer is impossible, a request fails locally only through its
deadline): with a deadline on every coordinator request the `run` goroutine of a closed group — or, inside
`gen.close()`, a function of the generation it waits for — still has an enabled step in every reachable state until
`run` has exited; where it waits for the coordinator, the step is the request's failure. -/
theorem group_run_progress_silent_coordinator (c : Group.Cfg) (s : Group.St) (hr : Group.Reachable c s)
    (hc : s.closedCG = true) (hx : s.pc ≠ .exited) :
    ∃ e, (e.runLoop = true ∨ (∃ g acc, e = .gStart g acc) ∨ GroupClose.genEvS e = true) ∧
      (Group.stepSilentG true c s e).isSome = true :=
  GroupClose.run_progress_full_silent c s hr hc hx

/-- the same with the deadline fact extracted from consumergroup.go (every request
method of `timeoutCoordinator` arms `conn.SetDeadline` before it delegates): dropping one of them breaks this theorem. -/
theorem group_run_progress_for_source (c : Group.Cfg) (s : Group.St) (hr : Group.Reachable c s)
    (hc : s.closedCG = true) (hx : s.pc ≠ .exited) :
    ∃ e, (e.runLoop = true ∨ (∃ g acc, e = .gStart g acc) ∨ GroupClose.genEvS e = true) ∧
      (Group.stepSilentG Gen.CloseFacts.coordinatorCallsHaveDeadline c s e).isSome = true := by
  have h : Gen.CloseFacts.coordinatorCallsHaveDeadline = true := by decide
  rw [h]
  exact GroupClose.run_progress_full_silent c s hr hc hx

/-- the converse: waiting for the answer of FindCoordinator, JoinGroup,
SyncGroup or LeaveGroup without a deadline, against a silent coordinator `run` has no step left; `ConsumerGroup.Close`
(and `Reader.Close` behind it) waits for ever. -/
theorem group_run_blocked_without_deadline (c : Group.Cfg) (s : Group.St)
    (hp : (∃ lv, s.pc = .coord 1 lv) ∨ s.pc = .joining ∨ s.pc = .syncing ∨ ∃ a, s.pc = .leaveCall a)
    (e : Group.Ev) (he : e.runLoop = true) : Group.stepSilentG false c s e = none :=
  GroupClose.run_blocked_without_deadline c s (by rcases hp with ⟨lv, h⟩ | h | h | ⟨a, h⟩ <;> rw [h] <;> rfl) e he

end KV.C09

/-! ## Reader.Close as a system against a silent broker and coordinator (Lemmas/ReaderCloseSilent.lean) -/
namespace KV.C09

/-- `reader_system_close_progress_full` when broker and coordinator have
stopped answering (`stepSilentSys`: a network operation returns only through its deadline, and then as a failure), for
the code as it is: the fetchers' deadline facts and the coordinator's are the ones extracted from reader.go /
consumergroup.go.  While Reader.Close waits after the mark some component can always move — a cancelled fetcher leaves
its blocked request at the deadline, `run` leaves its coordinator request at the deadline, and so do the generation's
functions.  Any request that loses its deadline breaks this theorem. -/
theorem reader_system_close_progress_for_source (c : Group.Cfg) (s : ReaderCloseSystem.State)
    (hi : ReaderCloseSystem.Inv c s) (hm : s.close = 2) :
    ∃ e, (ReaderCloseSystem.internal e = true ∨ (∃ gi acc, e = .group (.gStart gi acc)) ∨
          ∃ ge, e = .group ge ∧ GroupClose.genEvS ge = true) ∧
      (GroupClose.stepSilentSys sourceNet Gen.CloseFacts.coordinatorCallsHaveDeadline c s e).isSome = true := by
  have h : Gen.CloseFacts.coordinatorCallsHaveDeadline = true := by decide
  rw [h]
  exact GroupClose.system_progress_silent sourceNet (by decide) (by decide) c s hi hm

end KV.C09

/-! ## A Transport connection whose exchange is never answered (Model/TransportDeadlines.lean) -/
namespace KV.C09
open KV.TransportConn

/-- a connection serving one of the requests the pool queues for itself
(the background metadata refresh of `connPool.discover`) against a broker that never answers it: the exchange fails at
the request's deadline and the connection exits (goroutine gone, socket closed).  `bounded` is the regenerated fact
`poolOwnRequestsAreBounded` ∧ `connRoundTripArmsDeadlineFromContext` (the request carries the MetadataTTL-bounded context
and `(*conn).roundTrip` arms the socket deadline from it); a pool request without that bound breaks this theorem. -/
theorem transport_pool_request_reclaimed_for_source (f : TFacts) (s : TransportConn.State) (c : Nat)
    (hs : get s c = some .serving) :
    ∃ s1 s2, stepSilentT f (fun _ => Gen.CloseFacts.poolOwnRequestsAreBounded && Gen.CloseFacts.connRoundTripArmsDeadlineFromContext)
               s (.done c false false) = some s1 ∧
      stepSilentT f (fun _ => Gen.CloseFacts.poolOwnRequestsAreBounded && Gen.CloseFacts.connRoundTripArmsDeadlineFromContext)
               s1 (.exit c) = some s2 ∧ get s2 c = some .exited :=
  serving_bounded_exits f _ s c hs (by decide)

/-- the converse (the leak of any round trip whose context
has no deadline): the connection stays `serving` under every event possible against a silent broker — neither the
caller's cancellation nor `CloseIdleConnections` / `Writer.Close` reclaims it. -/
theorem transport_unbounded_request_stranded (f : TFacts) (bounded : Nat → Bool) (s s' : TransportConn.State) (c : Nat)
    (e : TransportConn.Ev) (hs : get s c = some .serving) (hb : bounded c = false)
    (h : stepSilentT f bounded s e = some s') : get s' c = some .serving :=
  serving_unbounded_stranded f bounded s s' c e hs hb h

end KV.C09
