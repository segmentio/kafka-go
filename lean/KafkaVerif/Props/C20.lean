/-
Props/C20.lean — "Malformed length fields from the network cannot crash or balloon the client".

Model: the decoder of Model/Codec.lean run on ARBITRARY bytes.  Outcomes: `ok` (a message), `error`, `panic` (a Go run-time panic:
negative `make`, slice bounds) and `balloon` (an allocation request — `make([]byte, n)` in `decoder.read`, `makeArray(t, n)` in
`decodeArray`/`decodeCompactArray` — out of proportion to what can still be received for it: larger than the number of bytes left in
the frame, or, for a decoder that allocates the announced amount upfront (`cfg.growing = false`), more than 64 KiB / 1024 elements
beyond the bytes that the connection delivers).  The hypotheses `Guarded cfg` (`cfg.bounded`, `cfg.growing`) and the guards of the
record-set reader (Model/RecordScan.lean, plugged in through `Cfg.recs`) are facts extracted from the source into Gen/DecoderCfg.lean
and Gen/RecordCfg.lean on every run; no well-formedness of the schema is needed, id-tagged fields are included.  The theorems are
read off one walk over the decoder (`walk_all` / `readResponse_walk`, Lemmas/CodecAccount.lean) and one over the record-set reader
(`readSet_outcome`, Lemmas/RecordScanOutcome.lean); a decoder without a guard violates them (`*_counterexample`).
Not covered (partial, see docs/notes/C20.md): CPU time — the model short-circuits on the first error, so a busy loop over a
huge tagged field count is invisible to it (the driver observes it as `timeout`).
-/
import KafkaVerif.Gen.DecoderCfg
import KafkaVerif.Lemmas.RecordScanOutcome
import KafkaVerif.Model.CodecRecords
import KafkaVerif.Lemmas.CodecAccount
import KafkaVerif.Gen.RecordCfg
import KafkaVerif.Lemmas.GrowthSource

namespace KV.C20
open KV KV.Wire KV.Codec

/-- the outcome is a decoded message or an error, nothing else -/
def Safe {α : Type} : Res α → Prop
  | .ok _ _ => True
  | .error => True
  | .panic => False
  | .balloon => False

/-- the two facts the safety theorems need of the decoder: lengths and counts are checked against `remain` before anything is
allocated (G1–G5), and what is allocated follows the data that ARRIVES (G8, G9) — `remain` is only what the size prefix announces -/
def Guarded (cfg : Cfg) : Prop := cfg.bounded = true ∧ cfg.growing = true

theorem safe_of_post {α : Type} {guards : Prop} {Q : α → Dec → Prop} {r : Res α} (g : guards) (h : Post guards Q r) :
    Safe r := by
  cases r with
  | ok _ _ => trivial
  | error => trivial
  | panic => exact h g
  | balloon => exact h g

/-- an allocation that is granted never exceeds what is left of the frame -/
theorem readLen_le_remain (cfg : Cfg) (hb : Guarded cfg) (n : Int) (d d' : Dec) (bs : Bytes)
    (h : readLen cfg n d = .ok bs d') : 0 ≤ n ∧ n.toNat ≤ d.remain ∧ bs.length = n.toNat := by
  obtain ⟨h0, hr, hl, rfl, _⟩ := (readLen_exact cfg (guards := Guarded cfg) id n d).ok h
  exact ⟨h0, hr, by rw [List.length_take]; omega⟩

theorem allocElems_le_remain (cfg : Cfg) (hb : Guarded cfg) (n : Int) (d d' : Dec) (k : Nat)
    (h : allocElems cfg n d = .ok k d') : k ≤ d.remain :=
  ((allocElems_exact cfg (guards := Guarded cfg) id n d).ok h).1

def DS (cfg : Cfg) (t : Ty) : Prop := ∀ d, Safe (decode cfg t d)

def RecsSafe (cfg : Cfg) : Prop := ∀ h, cfg.recs = some h → ∀ d, Safe (h d)

/-- nothing is assumed of the accounting of a record-set reader that is only known to be safe -/
theorem RecsSafe.walk {cfg : Cfg} {guards : Prop} (hr : RecsSafe cfg) : ∀ f, cfg.recs = some f → Walk False guards f := by
  intro f e d0 d _
  have := hr f e d
  cases h : f d with
  | ok _ _ => exact False.elim
  | error => trivial
  | panic => rw [h] at this; exact this.elim
  | balloon => rw [h] at this; exact this.elim

theorem ds_all (cfg : Cfg) (hb : Guarded cfg) (hr : RecsSafe cfg) (t : Ty) : DS cfg t :=
  fun d => safe_of_post hb (walk_all cfg id hr.walk t (d0 := d) False.elim)

theorem ds_list (cfg : Cfg) (hb : Guarded cfg) (hr : RecsSafe cfg) (ts : List Ty) : ∀ t ∈ ts, DS cfg t :=
  fun t _ => ds_all cfg hb hr t

/-- For every schema type, every decoder state (arbitrary bytes, arbitrary frame size): the
bounded decoder returns a message or an error — no panic, no allocation beyond the bytes left in the frame. -/
theorem decode_total_bounded (cfg : Cfg) (hb : Guarded cfg) (hr : RecsSafe cfg) (t : Ty) (inp : Bytes) (remain : Nat) :
    Safe (decode cfg t ⟨inp, remain⟩) := ds_all cfg hb hr t ⟨inp, remain⟩

/-- `ReadResponse` on an arbitrary byte stream, for every response schema: the size prefix
(negative, huge, lying), the header tag buffer and the body cannot make it panic or balloon. -/
theorem readResponse_total_bounded (cfg : Cfg) (hb : Guarded cfg) (hr : RecsSafe cfg) (flex : Bool) (t : Ty) (stream : Bytes) :
    Safe (readResponse cfg flex t stream) :=
  safe_of_post hb (readResponse_walk cfg id hr.walk flex t stream)

/-- the decoder of the source tree is the bounded one (fact re-extracted on every run) -/
theorem source_decoder_is_bounded : Gen.decoderCfg.bounded = true := by decide

/-- … and allocates as the data arrives (facts G8 ∧ G9) -/
theorem source_decoder_guarded : Guarded Gen.decoderCfg := ⟨source_decoder_is_bounded, by decide⟩

/-- the decoder allocates arrays as their elements arrive (fact G8, re-extracted on every run): a count inside the ANNOUNCED
frame size but beyond the bytes received (e.g. size prefix 2^31-1 and count 2^27 in 12 bytes) does not allocate ahead of the
data.  In the model this is `Cfg.growing` (`Gen.decoderCfg.growing`, half of `Guarded`); `lying_count_counterexample` shows the
decoder without it. -/
theorem source_arrays_grow : Gen.arraysGrow = true := by decide

/-- the same for strings and bytes (fact G9: `decoder.read` allocates at most 64 KiB ahead of the data received) -/
theorem source_reads_grow : Gen.readsGrow = true := by decide

/-- the tagged-field loops stop at the first decoder error (fact G10): the model's short-circuit at the first error
(`Res.bind`) is what the code does, also for a count inside a lying frame size -/
theorem source_tag_loops_stop : Gen.tagLoopsStop = true := by decide

/-- C20 for the decoder configuration extracted from the source tree -/
theorem readResponse_total_source (flex : Bool) (t : Ty) (stream : Bytes) :
    Safe (readResponse Gen.decoderCfg flex t stream) :=
  readResponse_total_bounded _ source_decoder_guarded (fun h hh => by simp [Gen.decoderCfg] at hh) flex t stream

/-- Request frames (`ReadRequest`, the other place a frame size is taken from the wire): arbitrary bytes — size
prefix, client-id length, header tag buffer, body — give a request or an error. -/
theorem readRequest_total_bounded (cfg : Cfg) (hb : Guarded cfg) (hr : RecsSafe cfg) (flex : Bool) (t : Ty) (stream : Bytes) :
    Safe (readRequest cfg flex t stream) := by
  refine safe_of_post (Q := fun _ _ => True) hb ?_
  unfold readRequest
  refine (readInt_exact 4 _).bind fun size d _ => Post.ite (Post.guard And.left id) ?_
  refine (readInt_walk (acct := False) (d0 := d) False.elim 2).bind fun _ _ h => (readInt_walk h 2).bind fun _ _ h =>
    (readInt_walk h 4).bind fun _ _ h => (walk_all cfg id hr.walk _ h).bind fun _ _ h =>
    Post.bind (Q := fun _ _ => True) ?_ fun _ _ _ => trivial
  unfold readRequestBody discardAll
  exact (headerTags_walk cfg id flex h).bind fun _ _ h => (walk_all cfg id hr.walk t h).bind fun _ _ _ =>
    Post.bind (Q := fun _ _ => True) (Post.ite trivial trivial) fun _ _ _ => trivial

theorem readRequest_total_source (flex : Bool) (t : Ty) (stream : Bytes) :
    Safe (readRequest Gen.decoderCfg flex t stream) :=
  readRequest_total_bounded _ source_decoder_guarded (fun h hh => by simp [Gen.decoderCfg] at hh) flex t stream

/-- The un-framed SASL token (`protocol.Conn.RoundTrip` → `RawExchange` when the broker speaks SaslHandshake v0): whatever the
4-byte length says — negative, 2^31-1 — the outcome is the token or an error. -/
theorem saslReadResp_safe (c : SaslCfg) (h1 : c.negChecked = true) (h2 : c.grows = true) (stream : Bytes) :
    Safe (saslReadResp c stream) := by
  refine safe_of_post (guards := True) (Q := fun _ _ => True) trivial ?_
  unfold saslReadResp
  exact (readInt_exact 4 _).bind fun n d _ =>
    Post.ite (Post.guard (fun _ => h1) id) (Post.ite (Post.guard (fun _ => h2) id) trivial)

theorem source_sasl_guards : Gen.saslCfg.negChecked = true ∧ Gen.saslCfg.grows = true := by decide

theorem saslReadResp_safe_source (stream : Bytes) : Safe (saslReadResp Gen.saslCfg stream) :=
  saslReadResp_safe _ source_sasl_guards.1 source_sasl_guards.2 stream

/-- the record-set reader behind `Cfg.recs` is one more step of the decoder's walk: it accounts when `rn` is computed after
`discardAll`, and crashes only if one of its own guards is off -/
theorem recsHandler_walk (rc : KV.RecordScan.RCfg) (crcI crcC : Bytes → Nat) (dcmp : Int → Bytes → Option Bytes) :
    Walk (rc.accountAfterDiscard = true) (KV.RecordScan.Guards rc) (recsHandler rc crcI crcC dcmp) := by
  intro d0 d h
  have ho := KV.RecordScan.readSet_outcome rc crcI crcC dcmp d.inp d.remain
  unfold recsHandler
  generalize KV.RecordScan.readSet rc crcI crcC dcmp d.inp d.remain = r at ho ⊢
  cases r with
  | ok newRemain s =>
    refine Post.byCases (fun _ => Post.guard (fun g => g.read) id) fun hneg ha => ?_
    obtain ⟨n, hn, hi, hr, _⟩ := ho ha
    exact (h ha).trans ⟨n, hn, hi, by simp only []; omega⟩
  | error => trivial
  | panic => exact ho
  | balloon => exact ho

theorem recsHandler_safe (rc : KV.RecordScan.RCfg) (hg : rc.allGuards = true) (crcI crcC : Bytes → Nat)
    (dcmp : Int → Bytes → Option Bytes) (d : Dec) : Safe (recsHandler rc crcI crcC dcmp d) :=
  safe_of_post (.of_all hg) (recsHandler_walk rc crcI crcC dcmp fun _ => DAdv.refl d)

section
variable (cfg : Cfg) (rc : KV.RecordScan.RCfg) (crcI crcC : Bytes → Nat) (dcmp : Int → Bytes → Option Bytes)

theorem withRecords_walk : ∀ f, (withRecords cfg rc crcI crcC dcmp).recs = some f →
    Walk (rc.accountAfterDiscard = true) (Guarded cfg ∧ KV.RecordScan.Guards rc) f := by
  intro f e
  obtain rfl : recsHandler rc crcI crcC dcmp = f := Option.some.inj e
  exact fun h => (recsHandler_walk rc crcI crcC dcmp h).weaken And.right

/-- **ReadResponse with record sets, on any byte stream**: a message, for which exactly the announced frame left the connection
(given `accountAfterDiscard`), or an error; a crash only if a guard of the decoder or of the record-set reader is off -/
theorem readResponse_outcome_with_records (flex : Bool) (t : Ty) (stream : Bytes) :
    Post (Guarded cfg ∧ KV.RecordScan.Guards rc)
      (fun _ d' => rc.accountAfterDiscard = true → OneFrame stream d')
      (readResponse (withRecords cfg rc crcI crcC dcmp) flex t stream) :=
  readResponse_walk (withRecords cfg rc crcI crcC dcmp) (fun g => g.1) (withRecords_walk cfg rc crcI crcC dcmp) flex t stream

end

/-- **C20 including record-batch and message lengths.**  For every response schema, every byte stream, every CRC
and decompression function: `ReadResponse` with the record-set reader whose guards are all present returns a
message or an error — the frame size, every reflective length/count, the record-set size, message sizes, key and
value lengths of v0/v1 messages, `batchLength`, `numRecords`, and every record / key / value / header varint of v2
batches cannot make it panic or allocate beyond the bytes that hold the data. -/
theorem readResponse_total_with_records (cfg : Cfg) (hb : Guarded cfg) (rc : KV.RecordScan.RCfg)
    (hg : rc.allGuards = true) (crcI crcC : Bytes → Nat) (dcmp : Int → Bytes → Option Bytes)
    (flex : Bool) (t : Ty) (stream : Bytes) :
    Safe (readResponse (withRecords cfg rc crcI crcC dcmp) flex t stream) :=
  safe_of_post ⟨hb, .of_all hg⟩ (readResponse_outcome_with_records cfg rc crcI crcC dcmp flex t stream)

/-- the guards of the source tree are all present (facts re-extracted on every run) -/
theorem source_record_guards : Gen.recordCfg.allGuards = true := by decide

/-- C20 (with record sets) for the configurations extracted from the source tree -/
theorem readResponse_total_source_with_records (crcI crcC : Bytes → Nat) (dcmp : Int → Bytes → Option Bytes)
    (flex : Bool) (t : Ty) (stream : Bytes) :
    Safe (readResponse (withRecords Gen.decoderCfg Gen.recordCfg crcI crcC dcmp) flex t stream) :=
  readResponse_total_with_records _ source_decoder_guarded _ source_record_guards crcI crcC dcmp flex t stream

theorem recsHandler_acc (rc : KV.RecordScan.RCfg) (hacc : rc.accountAfterDiscard = true) (crcI crcC : Bytes → Nat)
    (dcmp : Int → Bytes → Option Bytes) : Acc (recsHandler rc crcI crcC dcmp) :=
  fun d _ _ e => (recsHandler_walk rc crcI crcC dcmp fun _ => DAdv.refl d).ok e hacc

/-- **Exactly one frame leaves the connection** whenever ReadResponse returns a message — for every byte stream
and every schema, record sets included (stumps after the last batch, batches that fail after others were decoded,
unknown magic bytes …): the bytes consumed are the size prefix and precisely the bytes it announces.  With
`readResponse_total_source_with_records`: error or message, and a message never eats into the next frame. -/
theorem readResponse_consumes_frame_with_records (cfg : Cfg) (rc : KV.RecordScan.RCfg)
    (hacc : rc.accountAfterDiscard = true) (crcI crcC : Bytes → Nat) (dcmp : Int → Bytes → Option Bytes)
    (flex : Bool) (t : Ty) (stream : Bytes) (x : Int × Val) (d' : Dec)
    (h : readResponse (withRecords cfg rc crcI crcC dcmp) flex t stream = .ok x d') :
    ∃ size : Nat, 4 + size ≤ stream.length ∧ toS 32 (fromBE (stream.take 4)) = size ∧
      d'.inp = stream.drop (4 + size) ∧ d'.remain = 0 :=
  (readResponse_outcome_with_records cfg rc crcI crcC dcmp flex t stream).ok h hacc

/-- … for the configurations extracted from the source tree (guard `accountAfterDiscard`: record.go) -/
theorem readResponse_consumes_frame_source (crcI crcC : Bytes → Nat) (dcmp : Int → Bytes → Option Bytes)
    (flex : Bool) (t : Ty) (stream : Bytes) (x : Int × Val) (d' : Dec)
    (h : readResponse (withRecords Gen.decoderCfg Gen.recordCfg crcI crcC dcmp) flex t stream = .ok x d') :
    ∃ size : Nat, 4 + size ≤ stream.length ∧ toS 32 (fromBE (stream.take 4)) = size ∧
      d'.inp = stream.drop (4 + size) ∧ d'.remain = 0 :=
  readResponse_consumes_frame_with_records _ _ (by decide) crcI crcC dcmp flex t stream x d' h

/-! ### what each guard is for: without it the model panics, balloons or miscounts on a concrete input (CRC function constantly 0) -/

section Counter
open KV.RecordScan

def allOn : RCfg := ⟨true, true, true, true, true, true, true⟩
def z : Bytes → Nat := fun _ => 0
def nod : Int → Bytes → Option Bytes := fun _ _ => none

def rPanic {α : Type} : RRes α → Bool | .panic => true | _ => false
def rBalloon {α : Type} : RRes α → Bool | .balloon => true | _ => false
def rRemain : RRes Int → Option Int | .ok r _ => some r | _ => none

/-- a v2 batch header (61 bytes, no records) with the given numRecords bytes; crc field 0 -/
def batch (n : Bytes) : Bytes :=
  [0,0,0,0,0,0,0,0, 0,0,0,49, 0,0,0,0, 2, 0,0,0,0, 0,0, 0,0,0,0, 0,0,0,0,0,0,0,0, 0,0,0,0,0,0,0,0,
   0,0,0,0,0,0,0,0, 0,0, 0,0,0,0] ++ n

/-- a magic-1 message (34 bytes): null key, null value -/
def msg1 : Bytes := [0,0,0,0,0,0,0,0, 0,0,0,22, 0,0,0,0, 1,0, 0,0,0,0,0,0,0,0, 255,255,255,255, 255,255,255,255]
/-- … whose key length (2 → 40) runs past the message into the next one -/
def msgLongKey : Bytes := [0,0,0,0,0,0,0,0, 0,0,0,24, 0,0,0,0, 1,0, 0,0,0,0,0,0,0,0, 0,0,0,40, 7,7, 255,255,255,255]

/-- `numRecords = -1` reaches `make([]optimizedRecord, numRecords)` -/
theorem numRecords_negative_counterexample :
    rPanic (readSet { allOn with countsBounded := false } z z nod ([0,0,0,61] ++ batch [255,255,255,255]) 65) = true := by decide
theorem numRecords_huge_counterexample :
    rBalloon (readSet { allOn with countsBounded := false } z z nod ([0,0,0,61] ++ batch [127,255,255,255]) 65) = true := by decide
/-- the stream ends 3 bytes into a batch although frame and record-set sizes promise 40 -/
theorem peek_counterexample :
    rPanic (readSet { allOn with peekChecked := false } z z nod [0,0,0,40, 1,2,3] 100) = true := by decide
/-- a negative message size leaves the nested decoder's remain negative: the next read slices out of range -/
theorem negative_message_size_counterexample :
    rPanic (readSet { allOn with readGuard := false } z z nod
      ([0,0,0,34] ++ [0,0,0,0,0,0,0,0, 255,255,255,240] ++ List.replicate 22 0) 38) = true := by decide
/-- without the `n < limit` test in `writeTo` an over-long key leaves remain negative — a panic unless `Read` treats a
non-positive remain as end of input (guard `readGuard`: then it is a plain error) -/
theorem writeTo_counterexample :
    rPanic (readSet { allOn with writeToGuard := false, readGuard := false } z z nod
      ([0,0,0,72] ++ msgLongKey ++ msg1 ++ [0,0]) 76) = true := by decide
/-- a 2-byte stump after the last message is skipped on the stream but not accounted for: the frame decoder
believes 2 more bytes belong to it than do (with the guard the remaining count is 3, as it must be) -/
theorem accounting_counterexample :
    rRemain (readSet { allOn with accountAfterDiscard := false } z z nod ([0,0,0,36] ++ msg1 ++ [0,0] ++ [9,9,9]) 43) = some 5 ∧
    rRemain (readSet allOn z z nod ([0,0,0,36] ++ msg1 ++ [0,0] ++ [9,9,9]) 43) = some 3 := by decide
/-- a record set announcing more than the frame has left drives the frame's remain negative -/
theorem set_size_counterexample :
    rRemain (readSet { allOn with sizeChecked := false } z z nod ([0,0,0,34] ++ msg1) 10) = some (-28) := by decide

end Counter

def unbounded : Cfg := { bounded := false }

/-- a metadata-v0-shaped response (`brokers []{int32,string,int32}` first): 12 bytes announcing 2^31−1 brokers -/
def brokersTy : Ty := .struct false [.array false false (.struct false [.int32, .string false false, .int32] [] [])] [] []

def isBalloon {α : Type} : Res α → Bool | .balloon => true | _ => false
def isPanic {α : Type} : Res α → Bool | .panic => true | _ => false

/-- SASL raw exchange: without the negative test, `ff ff ff ff` panics; with an allocation sized by the length, 6 bytes ask for 2 GiB -/
theorem sasl_negative_counterexample : isPanic (saslReadResp ⟨false, true⟩ [0xff, 0xff, 0xff, 0xff]) = true := by decide
theorem sasl_alloc_counterexample : isBalloon (saslReadResp ⟨true, false⟩ [0x7f, 0xff, 0xff, 0xff, 1, 2]) = true := by decide

/-- **announced is not received**: a decoder that checks every count and length against `remain` but allocates
the announced amount upfront balloons on 12 resp. 14 bytes whose size prefix lies too -/
def upfront : Cfg := { bounded := true, growing := false }
theorem lying_count_counterexample :
    isBalloon (readResponse upfront false brokersTy [0x7f,0xff,0xff,0xff, 0,0,0,7, 0x08,0,0,0]) = true := by decide
theorem lying_length_counterexample :
    isBalloon (readResponse upfront false (.struct false [.bytes false false] [] []) [0x7f,0xff,0xff,0xff, 0,0,0,7, 0x7f,0,0,0, 1,2]) = true := by decide

theorem alloc_counterexample :
    isBalloon (readResponse unbounded false brokersTy [0,0,0,8, 0,0,0,7, 0x7f,0xff,0xff,0xff]) = true := by decide

theorem negative_size_counterexample :
    isPanic (readResponse unbounded false brokersTy [0xff,0xff,0xff,0xff, 0,0,0,7, 0,0,0,0]) = true := by decide

/-- a compact string whose varint length is 2^31 in a 10-byte frame -/
theorem compact_len_counterexample :
    isBalloon (readResponse unbounded true (.struct true [.string true false] [] [])
      [0,0,0,10, 0,0,0,7, 0, 0x80,0x80,0x80,0x80,0x08]) = true := by decide

def isError {α : Type} : Res α → Bool | .error => true | _ => false
/-- the inputs of `lying_count_`, `lying_length_`, `alloc_` and `negative_size_counterexample` are plain errors for the decoder that
checks the bounds and allocates as the data arrives -/
example : isError (readResponse { bounded := true } false brokersTy [0x7f,0xff,0xff,0xff, 0,0,0,7, 0x08,0,0,0]) = true := by decide
example : isError (readResponse { bounded := true } false (.struct false [.bytes false false] [] []) [0x7f,0xff,0xff,0xff, 0,0,0,7, 0x7f,0,0,0, 1,2]) = true := by decide
example : isError (readResponse { bounded := true } false brokersTy [0,0,0,8, 0,0,0,7, 0x7f,0xff,0xff,0xff]) = true := by decide
example : isError (readResponse { bounded := true } false brokersTy [0xff,0xff,0xff,0xff, 0,0,0,7, 0,0,0,0]) = true := by decide

/-- **every allocation `decodeElems` makes follows the data**: while `k` elements of an array announced as `n` arrive, each
buffer has at most `arrayChunk` slots (the first) or at most twice the elements that have arrived — whatever `n` claims.
`arrayInit` / `arrayGrow` are the statements of the current decode.go, executed symbolically by the extractor. -/
theorem array_allocations_follow_data (n k : Nat) :
    ∀ c ∈ KV.Growth.allocs KV.GrowthSource.arrayPolicy n k, (c ≤ Gen.arrayChunk ∨ c ≤ 2 * k) ∧ c ≤ n :=
  KV.Growth.allocs_follow_data _ _ KV.GrowthSource.arrayPolicy_ok n k

/-- **every allocation `(*decoder).read` makes follows the data**: while `k` bytes of a string / bytes value announced as `n`
arrive, each buffer has at most `readChunk` bytes or at most twice the bytes received -/
theorem read_allocations_follow_data (n k : Nat) :
    ∀ c ∈ KV.Growth.allocs KV.GrowthSource.readPolicy n k, (c ≤ Gen.readChunk ∨ c ≤ 2 * k) ∧ c ≤ n :=
  KV.Growth.allocs_follow_data _ _ KV.GrowthSource.readPolicy_ok n k

/-- the policy `m := 2 * n` clamped to n (the whole announced length as soon as the first chunk is full) is what the theorem
excludes: 256 MiB for 65537 bytes received -/
example : (KV.Growth.allocs ⟨Gen.readInit, fun _ n => if 2 * n > n then n else 2 * n⟩ (2 ^ 28) 65537) = [65536, 2 ^ 28] := by
  decide

end KV.C20
