/-
Props/C08.lean — property C08: Writer batches respect the size limits and are flushed without further input.

Model: Model/Writer.lean (one LTS for writer.go).  All theorems quantify over every configuration `cfg`
(BatchSize, BatchBytes, MaxAttempts, sync/async, Completion, topic, retry classification, linger) and every reachable
state / accepted event, i.e. every finite event sequence the LTS accepts (any number of callers, partitions,
message sizes, faults, timer firings, Close).  The theorems about progress assume `1 ≤ cfg.maxAttempts`, which
`maxAttempts()` guarantees.
-/
import KafkaVerif.Lemmas.WriterInv
import KafkaVerif.Lemmas.WriterPlace
import KafkaVerif.Lemmas.WriterQuiesce
import KafkaVerif.Lemmas.WriterAge
import KafkaVerif.Lemmas.WriterCloseDetail
import KafkaVerif.Gen.WriterConsts

namespace KV.C08
open KV KV.Writer

/-- every produce request the broker sees (`produce` is enabled only for the batch of an
in-flight attempt) carries exactly the messages of one batch, at most BatchSize of them, at most BatchBytes
bytes in the `Message.totalSize` measure, for the single topic-partition of that batch's partition writer, and
every one of these messages was assigned to that topic-partition. -/
theorem batch_limits (cfg : Cfg) (s s' : State) (hr : Reachable cfg s) (pw : Nat) (tp : TP) (msgs : List Msg) (out : BrOut)
    (hs : step cfg s (.produce pw tp msgs out) = some s') :
    ∃ b B P k, s.pws pw = some P ∧ P.sender = .attempting b k none ∧ s.batches b = some B ∧
      B.msgs.map (·.msg) = msgs ∧ B.tp = tp ∧ P.tp = tp ∧
      msgs.length ≤ cfg.batchSize ∧ (B.msgs.map (·.size)).sum ≤ cfg.batchBytes ∧
      (∀ m ∈ B.msgs, ∃ C, s.calls m.msg.1 = some C ∧ C.assign[m.msg.2]? = some tp) := by
  have hI := inv08 cfg s hr
  have hPl := invPlace cfg s hr
  cases Step.of_step hs with | @produce _ b k _ _ _ P B hP hsend hBq hg => ?_
  have ⟨hl, hb, hsum⟩ := hI _ _ hBq
  refine ⟨b, B, P, k, hP, hsend, hBq, hg.carries, hg.batchTp, hg.pwTp, ?_, ?_, ?_⟩
  · rw [← hg.carries, List.length_map]; exact hl
  · rw [← hsum]; exact hb
  · intro m hm
    obtain ⟨C, hC, ha, -⟩ := hPl.batchTP b B hBq m hm
    exact ⟨C, hC, hg.batchTp ▸ ha⟩

/-- every batch, at every moment, is within the limits (the invariant behind `batch_limits`) -/
theorem batch_limits_always (cfg : Cfg) (s : State) (hr : Reachable cfg s) (b : Nat) (B : Batch) (hB : s.batches b = some B) :
    B.msgs.length ≤ cfg.batchSize ∧ B.bytes ≤ cfg.batchBytes ∧ B.bytes = (B.msgs.map (·.size)).sum :=
  inv08 cfg s hr b B hB

/-- validation: a call that contains a message larger than BatchBytes, or a message whose
topic conflicts with / is missing besides the writer-level topic, never gets any message into any batch — in no
reachable state, so nothing of it can ever be sent. -/
theorem reject_before_send (cfg : Cfg) (s : State) (hr : Reachable cfg s) (c : Nat) (C : Call) (hC : s.calls c = some C)
    (hbad : ∃ m ∈ C.msgs, cfg.batchBytes < m.size ∨ chooseTopic cfg m = none) :
    (∀ i, C.place i = none) ∧ (∀ b B, s.batches b = some B → ∀ m ∈ B.msgs, m.msg.1 ≠ c) := by
  have hF := invFit cfg s hr c C hC
  have hPl := invPlace cfg s hr
  have hnone : ∀ i, C.place i = none := by
    intro i
    cases hp : C.place i with
    | none => rfl
    | some b =>
      exfalso
      obtain ⟨hfit, hlen⟩ := hF.placed (Or.inr (Or.inr ⟨i, by simp [hp]⟩))
      obtain ⟨m, hm, hbad⟩ := hbad
      obtain ⟨j, hj, hjm⟩ := List.getElem_of_mem hm
      have hjm' : C.msgs[j]? = some m := by rw [List.getElem?_eq_getElem hj, hjm]
      rcases hbad with hbig | htopic
      · have := allFit_elim hfit hjm'
        omega
      · have hja : j < C.assign.length := hlen ▸ hj
        obtain ⟨m', hm', hch⟩ := hF.assigned j _ (List.getElem?_eq_getElem hja)
        rw [hjm'] at hm'; cases hm'
        rw [htopic] at hch; cases hch
  exact ⟨hnone, hPl.unplaced hC hnone⟩

/-- outcome: whenever a call ended in a rejection (oversize message, topic conflict,
metadata failure, or io.ErrClosedPipe because the Writer was closed before batchMessages), nothing of the call
was placed in any batch. -/
theorem rejected_nothing_queued (cfg : Cfg) (s : State) (hr : Reachable cfg s) (c : Nat) (C : Call) (hC : s.calls c = some C)
    (r : Result) (hres : C.result = some r) (hrej : r.isReject = true) :
    (∀ i, C.place i = none) ∧ (∀ b B, s.batches b = some B → ∀ m ∈ B.msgs, m.msg.1 ≠ c) := by
  have hR := (invCall cfg s hr c C hC).rej
  have hPl := invPlace cfg s hr
  have hnone : ∀ i, C.place i = none := by
    obtain ⟨h1, h2⟩ := hR
    have hph := h2 r hres
    rcases h1 with (h | h | ⟨-, r', hr', hn⟩) | h
    · rw [hph] at h; cases h
    · rw [hph] at h; cases h
    · rw [hres] at hr'; cases hr'; rw [hrej] at hn; cases hn
    · exact h
  exact ⟨hnone, hPl.unplaced hC hnone⟩

/-- outside the critical section of batchMessages (w.mutex not held by a call) no partition
writer has a full batch attached: a batch that reaches BatchSize messages or BatchBytes bytes is detached and
queued before writeMessages' caller releases the lock; and inside the section `add` is not enabled on a full batch
(`full_batch_takes_nothing`), so the only thing that can happen to a full attached batch is its `detach`. -/
theorem closed_when_full (cfg : Cfg) (s : State) (hr : Reachable cfg s) (hlock : s.wlock.isCall = false)
    (pw b : Nat) (P : PW) (B : Batch) (hP : s.pws pw = some P) (hc : P.curr = some b) (hB : s.batches b = some B) :
    B.full cfg = false ∧ B.detached = none := by
  have hS := invSched cfg s hr
  refine ⟨hS.notFull hlock pw P b B hP hc hB, ?_⟩
  obtain ⟨B0, hB0, -, hd⟩ := hS.currOpen pw P hP b hc
  rw [hB] at hB0; cases hB0; exact hd

/-- `add` is enabled only on a batch that is not full, still has room for the message and has not been detached — the
guard of `(*writeBatch).add` / `full` in writeMessages. -/
theorem full_batch_takes_nothing (cfg : Cfg) (s s' : State) (pw b c i size : Nat)
    (hs : step cfg s (.add pw b c i size) = some s') :
    ∃ B, s.batches b = some B ∧ B.full cfg = false ∧ B.nofit cfg size = false ∧ B.detached = none := by
  cases Step.of_step hs with
  | add hP hB hC hg =>
    exact ⟨_, hB, hg.full, hg.nofit, hg.detached⟩

/-- a batch leaves its partition writer (and is handed to the queue) only for one
of four reasons, each checked when it happens: it is full; the next message does not fit; its timer fired; Close.
The recorded reason of every detached batch keeps holding, and everything in the queue / in the sender's hands is a
detached batch. -/
theorem queued_when_full_or_timer (cfg : Cfg) (s : State) (hr : Reachable cfg s) :
    (∀ b B, s.batches b = some B →
      (B.detached = some .full → B.full cfg = true) ∧ (B.detached = some .timer → B.timerFired = true) ∧
      (B.detached = some .close → s.closed = true)) ∧
    (∀ pw P, s.pws pw = some P → ∀ b ∈ P.sender.batch?.toList ++ P.queue ++ P.pending.toList, ∀ B, s.batches b = some B →
      B.detached.isSome = true) :=
  ⟨(invSched cfg s hr).why, (invLife cfg s hr).sentDet (invOrd cfg s hr)⟩

/-- a batch is detached only for a reason that holds at that moment (`whyOk`), and it becomes the pending batch of its
partition writer. -/
theorem detach_reason (cfg : Cfg) (s s' : State) (pw b : Nat) (why : Why) (size : Nat)
    (hs : step cfg s (.detach pw b why size) = some s') :
    ∃ P B, s.pws pw = some P ∧ s.batches b = some B ∧ P.curr = some b ∧ whyOk cfg s B why size = true ∧
      s'.pws pw = some { P with curr := none, pending := some b } := by
  cases Step.of_step hs with
  | detach hP hB hg =>
    exact ⟨_, _, hP, hB, hg.curr, hg.reason, upd_same ..⟩

/-- outside the batchMessages critical section no batch is in the window "created, first add still to come" -/
theorem fresh_none_outside_batchMessages (cfg : Cfg) (s : State) (hr : Reachable cfg s) (hlock : s.wlock.isCall = false) :
    s.fresh = none :=
  (invFresh cfg s hr).fresh_none hlock

/-- enabledness: an attached batch needs no further input to get queued: in every reachable state in which no
batchMessages section is open, for every partition writer with an attached batch, the three steps "timer fires — detach
— queue.Put" are enabled one after the other, whatever the callers do, and leave the batch at the tail of the queue
(`enq … (!P.qclosed)`: a partition writer with an attached batch has an open queue, `InvClosedQ.closedQ`). -/
theorem flushed_by_timer (cfg : Cfg) (s : State) (hr : Reachable cfg s) (hlock : s.wlock.isCall = false) (pw b : Nat) (P : PW)
    (hP : s.pws pw = some P) (hc : P.curr = some b) (hpend : P.pending = none) :
    ∃ s1 s2 s3, step cfg s (.timerFire pw b true) = some s1 ∧ step cfg s1 (.detach pw b .timer 0) = some s2 ∧
      step cfg s2 (.qput P.q b (!P.qclosed)) = some s3 ∧
      s3.pws pw = some { P with curr := none, pending := none, queue := enq P.queue b (!P.qclosed) } := by
  have hS := invSched cfg s hr
  obtain ⟨B, hB, hBpw, hdet⟩ := hS.currOpen pw P hP b hc
  have hfr : s.fresh ≠ some b := by rw [fresh_none_outside_batchMessages cfg s hr hlock]; nofun
  -- the three steps, each built from its constructor on the state the one before left
  have h1 := Step.timerFire (cfg := cfg) (att := true) hP hB ⟨hpend, hBpw, by simp [hc]⟩
  have h2 := Step.detach (cfg := cfg) (s := { s with batches := upd s.batches b (some { B with timerFired := true }) })
    (why := .timer) (size := 0) hP (upd_same ..) ⟨hc, hpend, hdet, rfl, hfr⟩
  have h3 := Step.qput (cfg := cfg) (acc := !P.qclosed) (b := b) (hS.qOfInv pw P hP) (upd_same ..) ⟨rfl, rfl, rfl⟩
    (s := { s with pws := upd s.pws pw (some { P with curr := none, pending := some b }),
                   batches := upd (upd s.batches b (some { B with timerFired := true })) b
                     (some { B with timerFired := true, detached := some .timer }) })
  exact ⟨_, _, _, h1.to_step, h2.to_step, h3.to_step, upd_same ..⟩

/-- no produce request is empty: a batch is handed to the queue only with at least one message
(newWriteBatch and the first add happen in one partition-mutex section). -/
theorem produce_nonempty (cfg : Cfg) (s s' : State) (hr : Reachable cfg s) (pw : Nat) (tp : TP) (msgs : List Msg) (out : BrOut)
    (hs : step cfg s (.produce pw tp msgs out) = some s') : msgs ≠ [] :=
  Writer.produce_nonempty hr (.of_step hs)

/-! ### progress without fairness assumptions: enabledness + measure

"Every accepted message is scheduled for sending without waiting for further writes … and is produced as soon as
the earlier batches of that partition have completed."  The model has no scheduler (its clock only bounds the age of
an attached batch, see `attached_batch_age_bounded`), so the liveness side is stated the way C09 states termination of
Close: the partition writer's own events (its batch timer, its
hand-over to the queue, its sender goroutine, the broker's answers — `internalFor`) are (1) always enabled while
anything is left in its pipeline, without any caller event, and (2) each of them strictly decreases the natural
number `pwCost`; hence (3) at most `pwCost` of them empty the pipeline, completing every batch that was in it. -/

/-- while a partition writer has anything attached, pending, queued or in the sender's hands,
one of its internal events is enabled, provided no batchMessages critical section is open (a caller inside it holds the
partition mutex and leaves by itself); MaxAttempts ≥ 1, as `maxAttempts()` guarantees. -/
theorem progress_enabled (cfg : Cfg) (hmax : 1 ≤ cfg.maxAttempts) (s : State) (hr : Reachable cfg s)
    (hlock : s.wlock.isCall = false) (pw : Nat) (P : PW) (hP : s.pws pw = some P) (hne : P.pipe ≠ []) :
    ∃ e, internalFor s pw e = true ∧ (step cfg s e).isSome = true :=
  internal_enabled cfg hmax s hr (fresh_none_outside_batchMessages cfg s hr hlock) pw P hP hne

/-- every internal event of the partition writer strictly decreases `pwCost`
(3·(MaxAttempts − k) + … for the batch being sent, 3·MaxAttempts + 3 per queued batch, 3·MaxAttempts + 4 for a pending
one, 3·MaxAttempts + 5 for the attached one and one more while its timer has not fired). -/
theorem progress_measure (cfg : Cfg) (hmax : 1 ≤ cfg.maxAttempts) (s s' : State) (hr : Reachable cfg s) (pw : Nat) (P : PW)
    (hP : s.pws pw = some P) (e : Event) (hint : internalFor s pw e = true) (hs : step cfg s e = some s') :
    ∃ P', s'.pws pw = some P' ∧ pwCost cfg s'.batches P' < pwCost cfg s.batches P :=
  (internal_step (invPos cfg s hr) (invClosedQ cfg s hr) hP hint (.of_step hs)).imp fun _ h => ⟨h.1, h.2.1⟩

/-- from every reachable state, for every partition writer, there is a
continuation consisting only of that writer's internal events, of length ≤ `pwCost`, after which its pipeline is
empty and every batch that was in it — in particular the attached one holding the most recently accepted messages —
is completed: acknowledged, or failed permanently / after MaxAttempts attempts. -/
theorem flushed_without_further_input (cfg : Cfg) (hmax : 1 ≤ cfg.maxAttempts) (s : State) (hr : Reachable cfg s)
    (hlock : s.wlock.isCall = false) (pw : Nat) (P : PW) (hP : s.pws pw = some P) :
    ∃ es s' P', internalRun cfg pw s es = some s' ∧ run cfg s es = some s' ∧ s'.pws pw = some P' ∧ P'.pipe = [] ∧
      es.length ≤ pwCost cfg s.batches P ∧
      ∀ b ∈ P.pipe, ∃ B' code, s'.batches b = some B' ∧ B'.done = some code := by
  obtain ⟨es, s', P', h1, h2, h3, h4, h5⟩ :=
    flush_completes cfg hmax _ s hr (fresh_none_outside_batchMessages cfg s hr hlock) pw P hP (Nat.le_refl _)
  exact ⟨es, s', P', h1, internalRun_is_run cfg pw es s s' h1, h2, h3, h4, h5⟩

/-- the sender goroutine takes a batch only from the head of its FIFO queue and only
when it is idle, i.e. after every earlier batch of the partition has completed (with all its attempts). -/
theorem sent_after_predecessors (cfg : Cfg) (s s' : State) (q b : Nat) (hs : step cfg s (.qget q (some b)) = some s') :
    ∃ pw P, s.qOf q = some pw ∧ s.pws pw = some P ∧ P.sender = .idle ∧ P.queue.head? = some b := by
  cases Step.of_step hs with
  | qgetSome hq hP hg => exact ⟨_, _, hq, hP, hg.idle, hg.head⟩

/-- the queue only grows at its tail -/
theorem queue_put_at_tail (cfg : Cfg) (s s' : State) (q b : Nat) (acc : Bool) (hs : step cfg s (.qput q b acc) = some s') :
    ∃ pw P, s.qOf q = some pw ∧ s.pws pw = some P ∧ P.pending = some b ∧ acc = !P.qclosed ∧
      s'.pws pw = some { P with pending := none, queue := enq P.queue b acc } := by
  cases Step.of_step hs with
  | qput hq hP hg => exact ⟨_, _, hq, hP, hg.pending, hg.accepted, upd_same ..⟩

/-- a batch that has not been completed is in the pipeline of its partition writer: still
attached, detached and about to be queued, in the queue, or with the sender goroutine.  Nothing is lost between
writeMessages and the sender; in particular a closed queue is never handed a batch. -/
theorem no_batch_dropped (cfg : Cfg) (s : State) (hr : Reachable cfg s) (b : Nat) (B : Batch) (hB : s.batches b = some B)
    (hd : B.done = none) : ∃ P, s.pws B.pw = some P ∧ b ∈ P.pipe :=
  invLive cfg s hr b B hB hd

/-- once a call is past batchMessages (it waits for its batches, or it has returned
with anything but a rejection: nil, a WriteErrors, the Async nil, or ctx.Err()), every one of its messages sits in a
batch, and that batch is either completed or in the pipeline of its partition writer. -/
theorem accepted_messages_all_queued (cfg : Cfg) (s : State) (hr : Reachable cfg s) (c : Nat) (C : Call) (hC : s.calls c = some C)
    (hph : C.phase = .batched ∨ (C.phase = .returned ∧ ∃ r, C.result = some r ∧ r.isReject = false))
    (i : Nat) (hi : i < C.msgs.length) :
    ∃ b B, C.place i = some b ∧ s.batches b = some B ∧ (∃ m ∈ B.msgs, m.msg = (c, i)) ∧
      ((∃ code, B.done = some code) ∨ ∃ P, s.pws B.pw = some P ∧ b ∈ P.pipe) := by
  obtain ⟨b, hb⟩ := placedAll_elim (invQueued cfg s hr c C hC hph) i hi
  obtain ⟨B, hB, hm, -⟩ := (invPlace cfg s hr).placed c C hC i b hb
  refine ⟨b, B, hb, hB, hm, ?_⟩
  cases hd : B.done with
  | some code => exact Or.inl ⟨code, rfl⟩
  | none => exact Or.inr (invLive cfg s hr b B hB hd)

/-- the per-message form of `flushed_without_further_input`: for every message of
such a call there is a continuation made only of internal events of one partition writer (timer, queue, sender,
broker answers — no further WriteMessages, no Close) after which the batch holding the message is completed. -/
theorem accepted_message_completes (cfg : Cfg) (hmax : 1 ≤ cfg.maxAttempts) (s : State) (hr : Reachable cfg s)
    (hlock : s.wlock.isCall = false) (c : Nat) (C : Call) (hC : s.calls c = some C)
    (hph : C.phase = .batched ∨ (C.phase = .returned ∧ ∃ r, C.result = some r ∧ r.isReject = false))
    (i : Nat) (hi : i < C.msgs.length) :
    ∃ b pw es s' B' code, C.place i = some b ∧ internalRun cfg pw s es = some s' ∧ run cfg s es = some s' ∧
      s'.batches b = some B' ∧ B'.done = some code := by
  obtain ⟨b, B, hb, hB, -, hdone | ⟨P, hP, hmem⟩⟩ := accepted_messages_all_queued cfg s hr c C hC hph i hi
  · obtain ⟨code, hc⟩ := hdone
    exact ⟨b, B.pw, [], s, B, code, hb, rfl, rfl, hB, hc⟩
  · obtain ⟨es, s', P', hint, hrun, -, -, -, hall⟩ := flushed_without_further_input cfg hmax s hr hlock B.pw P hP
    obtain ⟨B', code, hB', hc⟩ := hall b hmem
    exact ⟨b, B.pw, es, s', B', code, hb, hint, hrun, hB', hc⟩

/-- WriteMessages returning ctx.Err() withdraws nothing: the return changes no
batch, no partition writer and no log, every message of the cancelled call is in a batch, and each of these batches is
completed by internal events alone — the messages of a cancelled call are sent exactly like those of any other. -/
theorem cancelled_call_still_flushed (cfg : Cfg) (hmax : 1 ≤ cfg.maxAttempts) (s s' : State) (hr : Reachable cfg s) (c : Nat)
    (hs : step cfg s (.ret c .ctx) = some s') (hlock : s.wlock.isCall = false) :
    s'.batches = s.batches ∧ s'.pws = s.pws ∧ s'.log = s.log ∧
    ∃ C, s'.calls c = some C ∧ C.result = some .ctx ∧ ∀ i, i < C.msgs.length →
      ∃ b pw es s'' B' code, C.place i = some b ∧ internalRun cfg pw s' es = some s'' ∧ run cfg s' es = some s'' ∧
        s''.batches b = some B' ∧ B'.done = some code := by
  have hr' := hr.step hs
  cases Step.of_step hs with | @ret _ _ C hC hg => ?_
  refine ⟨rfl, rfl, rfl, { C with phase := .returned, result := some .ctx, endSeq := some s.seq }, by simp, rfl, ?_⟩
  intro i hi
  exact accepted_message_completes cfg hmax _ hr' hlock c
    { C with phase := .returned, result := some .ctx, endSeq := some s.seq } (by simp) (Or.inr ⟨rfl, .ctx, rfl, rfl⟩) i hi

/-- the whole-writer form of `flushed_without_further_input`: from every reachable
state in which no call is inside batchMessages there is a continuation made only of internal events (timer expiries,
queue hand-overs, sender steps, broker answers; no WriteMessages step, no Close step) after which every batch of
every partition writer is completed — acknowledged, or failed permanently / after MaxAttempts attempts — and no call
record has changed. -/
theorem quiesces_without_further_input (cfg : Cfg) (hmax : 1 ≤ cfg.maxAttempts) (s : State) (hr : Reachable cfg s)
    (hlock : s.wlock.isCall = false) :
    ∃ es s', run cfg s es = some s' ∧ es.all Event.internal = true ∧ s'.calls = s.calls ∧
      ∀ b B, s'.batches b = some B → ∃ code, B.done = some code := by
  obtain ⟨es, s', h1, h2, h3, -, h5⟩ := drains cfg hmax s hr (fresh_none_outside_batchMessages cfg s hr hlock)
  exact ⟨es, s', h1, h2, h3, h5⟩

/-- Close can return only when every batch the writer ever created is
completed: all senders have exited, an exited sender's queue is empty and closed, a closed queue's writer has nothing
attached or pending, and a batch that is not completed would have to be in one of these places (`no_batch_dropped`).
So nothing accepted is left unsent behind a returned Close. -/
theorem everything_completed_when_close_returns (cfg : Cfg) (hmax : 1 ≤ cfg.maxAttempts) (s s' : State) (hr : Reachable cfg s)
    (hs : step cfg s .closeReturn = some s') :
    ∀ b B, s.batches b = some B → ∃ code, B.done = some code :=
  WriterCloseDetail.all_done_at_closeReturn cfg s s' hr hs

/-- a message is appended only to the batch that is attached to its partition writer
and has not been detached: once a batch is handed to the queue (full, timer, Close) nothing is added to it.  (In the
source the append loop of writeMessages and the timer goroutine exclude each other through ptw.mutex:
`C07.events_inside_their_sections`; on traces: monitor `noAddAfterDetach`.) -/
theorem detached_batch_takes_nothing (cfg : Cfg) (s s' : State) (pw b c i size : Nat)
    (hs : step cfg s (.add pw b c i size) = some s') :
    ∃ P B, s.pws pw = some P ∧ s.batches b = some B ∧ P.curr = some b ∧ B.detached = none := by
  cases Step.of_step hs with
  | add hP hB hC hg =>
    exact ⟨_, _, hP, hB, hg.curr, hg.detached⟩

/-- in every reachable state of a timed run, a batch that is still attached and whose
linger timer has not fired is at most `linger` (= BatchTimeout + the slack granted to the timer goroutine) old:
`now ≤ openedAt + linger`.  The bound refers to the creation of the batch, not to the last append. -/
theorem attached_batch_age_bounded (cfg : Cfg) (s : State) (hr : Reachable cfg s) (pw : Nat) (P : PW) (hP : s.pws pw = some P)
    (b : Nat) (hc : P.curr = some b) (B : Batch) (hB : s.batches b = some B) :
    B.timerFired = true ∨ cfg.linger = 0 ∨ s.now ≤ s.openedAt b + cfg.linger :=
  invAge cfg s hr pw P hP b hc B hB

/-- a message is appended only to a batch that is younger than `linger` (or whose timer
has just fired and is about to detach it): a steady trickle of messages cannot keep a batch open. -/
theorem add_only_to_young_batch (cfg : Cfg) (s s' : State) (hr : Reachable cfg s) (pw b c i size : Nat)
    (hs : step cfg s (.add pw b c i size) = some s') :
    ∃ B, s.batches b = some B ∧ (B.timerFired = true ∨ cfg.linger = 0 ∨ s.now ≤ s.openedAt b + cfg.linger) := by
  have hA := invAge cfg s hr
  cases Step.of_step hs with
  | add hP hB hC hg => exact ⟨_, hB, hA pw _ hP b hg.curr _ hB⟩

/-- appending a message moves neither the clock nor the opening time of any batch: the
deadline `openedAt + BatchTimeout` of a batch is fixed when it is created. -/
theorem append_does_not_rearm (cfg : Cfg) (s s' : State) (pw b c i size : Nat)
    (hs : step cfg s (.add pw b c i size) = some s') : s'.openedAt = s.openedAt ∧ s'.now = s.now := by
  cases Step.of_step hs with
  | add => exact ⟨rfl, rfl⟩

/-- the opening time of a batch is the clock value at its creation. -/
theorem opened_at_creation (cfg : Cfg) (s s' : State) (pw b : Nat) (hs : step cfg s (.newBatch pw b) = some s') :
    s'.openedAt b = s.now := by
  cases Step.of_step hs with
  | newBatch => exact upd_same ..

/-- in the source as it stands the linger timer of a batch is armed in exactly one
place, `newWriteBatch`; nothing re-arms it (regenerated on every run by go/extract/writer). -/
theorem timer_armed_only_at_creation : Gen.timerArmSites = ["newWriteBatch"] := by decide

/-- the model's `effBatchSize / effBatchBytes / effMaxAttempts` (applied by the oracle to
the options as configured) are `(*Writer).batchSize / batchBytes / maxAttempts` as they stand in writer.go; an unset
option means 100 messages / 1048576 bytes / 10 attempts.  (`validation_matches_source`: the up-front size check compares
with `batchBytes()`, the limit in force, not with the raw field.) -/
theorem defaults_match_source (n : Nat) :
    Gen.effBatchSize n = Writer.effBatchSize n ∧ Gen.effBatchBytes n = Writer.effBatchBytes n ∧
    Gen.effMaxAttempts n = Writer.effMaxAttempts n := by
  unfold Gen.effBatchSize Gen.effBatchBytes Gen.effMaxAttempts Writer.effBatchSize Writer.effBatchBytes Writer.effMaxAttempts
  by_cases h : n = 0
  · subst h; simp
  · have : n > 0 := Nat.pos_of_ne_zero h
    simp [h, this]

/-- the deprecated constructor `NewWriter(WriterConfig)` takes every option the model
depends on from the WriterConfig field of the same name (regenerated field by field from the Writer literal in
NewWriter): a Writer built through it has the limits its configuration names. -/
theorem newWriter_copies_options :
    ∀ f ∈ ["BatchSize", "BatchBytes", "BatchTimeout", "MaxAttempts", "Async", "Topic", "Balancer", "RequiredAcks",
      "WriteTimeout", "ReadTimeout"], Gen.newWriterMap.lookup f = some f := by decide +kernel

theorem default_limits : Writer.effBatchSize 0 = 100 ∧ Writer.effBatchBytes 0 = 1048576 ∧ Writer.effMaxAttempts 0 = 10 := by
  decide

/-- every piece of decision logic that the `*_matches_source` theorems compare with the model could be read from the source -/
theorem source_logic_translated : Gen.untranslatedPieces = [] := by decide

/-- the model's `Batch.full` is `(*writeBatch).full` as it stands in writer.go -/
theorem full_matches_source (cfg : Cfg) (B : Batch) :
    Gen.batchFull B.msgs.length B.bytes cfg.batchSize cfg.batchBytes = B.full cfg := by
  simp [Gen.batchFull, Batch.full]

/-- the model's `Batch.nofit` is the refusal condition of `(*writeBatch).add` -/
theorem nofit_matches_source (cfg : Cfg) (B : Batch) (size : Nat) :
    Gen.batchNoFit B.msgs.length B.bytes size cfg.batchSize cfg.batchBytes = B.nofit cfg size := by
  simp [Gen.batchNoFit, Batch.nofit]

/-- `allFit` is the negation of WriteMessages' `messageTooLarge` condition for every message -/
theorem validation_matches_source (cfg : Cfg) (msgs : List MsgSpec) :
    allFit cfg msgs = msgs.all (fun m => !Gen.tooLarge m.size cfg.batchBytes) := by
  unfold allFit
  congr 1
  funext m
  simp only [Gen.tooLarge, gt_iff_lt]
  by_cases h : m.size ≤ cfg.batchBytes
  · simp [h, Nat.not_lt.mpr h]
  · simp [h, Nat.lt_of_not_le h]

/-- the model's topic rule is `(*Writer).chooseTopic` as it stands in writer.go -/
theorem chooseTopic_matches_source (cfg : Cfg) (m : MsgSpec) :
    Gen.chooseTopic cfg.topic m.topic = Writer.chooseTopic cfg m := by
  unfold Gen.chooseTopic Writer.chooseTopic
  by_cases hw : cfg.topic = "" <;> by_cases hm : m.topic = "" <;> simp [hw, hm]

/-! ### non-vacuity: BatchSize 2, BatchBytes 100; three messages of 50, 50, 60 bytes: the first batch closes when
full (2 messages = 100 bytes exactly), the third message waits for the timer -/

def exCfg : Cfg :=
  { batchSize := 2, batchBytes := 100, maxAttempts := 1, async := true, completion := false, topic := "t",
    retriable := fun _ => false }

def exTrace : List Event :=
  [ .enter true, .begin_ 1 [{ size := 50, topic := "" }, { size := 50, topic := "" }, { size := 60, topic := "" }],
    .assign 1 0 ("t", 0), .assign 1 1 ("t", 0), .assign 1 2 ("t", 0), .batch 1, .newPW 1 1 ("t", 0),
    .newBatch 1 1, .add 1 1 1 0 50, .add 1 1 1 1 50, .detach 1 1 .full 0, .qput 1 1 true,
    .newBatch 1 2, .add 1 2 1 2 60, .batched 1, .ret 1 .async,
    .qget 1 (some 1), .attempt 1 1 0, .produce 1 ("t", 0) [(1, 0), (1, 1)] .acked, .attemptDone 1 1 0 0, .complete 1 1 0,
    .timerFire 1 2 true, .detach 1 2 .timer 0, .qput 1 2 true,
    .qget 1 (some 2), .attempt 1 2 0, .produce 1 ("t", 0) [(1, 2)] .acked, .attemptDone 1 2 0 0, .complete 1 2 0 ]

example : ((run exCfg State.init exTrace).map (fun s => (s.log ("t", 0)).map (fun e => (e.msg, e.batch)))) =
    some [((1, 0), 1), ((1, 1), 1), ((1, 2), 2)] := by decide

/-- a call with an oversize message can only be rejected: `assign` is not enabled -/
example : (run exCfg State.init
    [ .enter true, .begin_ 1 [{ size := 50, topic := "" }, { size := 101, topic := "" }], .assign 1 0 ("t", 0) ]).isSome = false := by decide

example : (run exCfg State.init
    [ .enter true, .begin_ 1 [{ size := 50, topic := "" }, { size := 101, topic := "" }], .reject 1 .toolarge 1 ]).isSome = true := by decide

/-- a cancelled synchronous call: WriteMessages returns ctx.Err() while its only batch is still attached; timer, queue
and sender then produce the message all the same (non-vacuity of `cancelled_call_still_flushed`) -/
example : ((run { exCfg with async := false } State.init
    [ .enter true, .begin_ 1 [{ size := 50, topic := "" }], .assign 1 0 ("t", 0), .batch 1, .newPW 1 1 ("t", 0),
      .newBatch 1 1, .add 1 1 1 0 50, .batched 1, .ret 1 .ctx,
      .timerFire 1 1 true, .detach 1 1 .timer 0, .qput 1 1 true, .qget 1 (some 1), .attempt 1 1 0,
      .produce 1 ("t", 0) [(1, 0)] .acked, .attemptDone 1 1 0 0, .complete 1 1 0 ]).map
        (fun s => ((s.log ("t", 0)).map (·.msg), (s.calls 1).map (·.result)))) =
    some ([(1, 0)], some (some .ctx)) := by decide

/-- timed run (linger = 100): the batch is opened at clock 10; the clock may reach 110 while the batch is attached, not
111 — unless its timer has fired (then it is being detached) -/
def exTimed : List Event :=
  [ .enter true, .begin_ 1 [{ size := 50, topic := "" }], .assign 1 0 ("t", 0), .batch 1, .newPW 1 1 ("t", 0),
    .tick 10, .newBatch 1 1, .add 1 1 1 0 50, .batched 1, .ret 1 .async, .tick 110 ]

example : (run { exCfg with linger := 100 } State.init exTimed).isSome = true := by decide
example : (run { exCfg with linger := 100 } State.init (exTimed ++ [.tick 111])).isSome = false := by decide
example : (run { exCfg with linger := 100 } State.init (exTimed ++ [.timerFire 1 1 true, .tick 500])).isSome = true := by decide

end KV.C08
