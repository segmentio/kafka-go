/-
Props/C12.lean — Transport routes requests to the right broker at a mutually supported version.

Everything is stated over Model/Routing.lean (with Model/Discover, Split, RoundTrip) applied to the tables and decision
trees regenerated from /repo in Gen/Routing.lean and Gen/Mappings.lean; the reference side is Spec/Routing.lean.
-/
import KafkaVerif.Lemmas.Routing
import KafkaVerif.Lemmas.Discover
import KafkaVerif.Model.Split
import KafkaVerif.Model.RoundTrip
import KafkaVerif.Spec.FieldMaps
import KafkaVerif.Gen.Mappings

namespace KV.Props.C12
open KV.Routing KV.Gen.Routing
open KV.Lemmas.Routing (SortedTopics ConnsInv)

section routing
open KV.Spec.Routing (RClass routingClass accepts overlap bestVersion versionOK)

/-- When the client's range `[cmin,cmax]` and the range `[bmin,bmax]` advertised by the broker share a
version, `SelectVersion` returns the highest common one, and it lies inside both ranges. -/
theorem selectVersion_optimal (cmin cmax bmin bmax : Int)
    (hc : cmin ≤ cmax) (hb : bmin ≤ bmax) (hov : cmin ≤ bmax ∧ bmin ≤ cmax) :
    selectVersion cmin cmax bmin bmax = min cmax bmax ∧
    bmin ≤ selectVersion cmin cmax bmin bmax ∧ selectVersion cmin cmax bmin bmax ≤ bmax ∧
    cmin ≤ selectVersion cmin cmax bmin bmax ∧ selectVersion cmin cmax bmin bmax ≤ cmax := by
  rw [Lemmas.Routing.selectVersion_eq, if_neg (Int.not_lt.mpr hov.1)]
  omega

example : selectVersion 1 5 0 3 = 3 ∧ (1:Int) ≤ 3 ∧ (0:Int) ≤ 5 := by decide +kernel

/-- no upper bound above the result is common to both sides -/
theorem selectVersion_highest (cmin cmax bmin bmax v : Int)
    (hc : cmin ≤ cmax) (hb : bmin ≤ bmax) (hov : cmin ≤ bmax ∧ bmin ≤ cmax)
    (hv : cmin ≤ v ∧ v ≤ cmax ∧ bmin ≤ v ∧ v ≤ bmax) :
    v ≤ selectVersion cmin cmax bmin bmax := by
  have := (selectVersion_optimal cmin cmax bmin bmax hc hb hov).1
  omega

/-- The monitor of Spec/Routing agrees: the model's choice always satisfies the version clause. -/
theorem selectVersion_versionOK (cmin cmax bmin bmax : Int) (_hc : cmin ≤ cmax) (hb : bmin ≤ bmax) :
    versionOK cmin cmax bmin bmax (selectVersion cmin cmax bmin bmax) = true := by
  by_cases hov : cmin ≤ bmax ∧ bmin ≤ cmax
  · rw [Lemmas.Routing.selectVersion_eq, if_neg (Int.not_lt.mpr hov.1)]
    simp only [versionOK, bestVersion, Bool.or_eq_true, Bool.and_eq_true, decide_eq_true_eq, beq_iff_eq]
    right
    split <;> omega
  · have : overlap cmin cmax bmin bmax = false := by simp only [overlap, Bool.and_eq_false_iff, decide_eq_false_iff_not]; omega
    simp [versionOK, this]

/-- Ranges that do not overlap: the code answers the client bound nearest to the broker's range
(the property demands nothing here; the request then fails at the broker, not in the client). -/
theorem selectVersion_disjoint (cmin cmax bmin bmax : Int) (hc : cmin ≤ cmax) (hb : bmin ≤ bmax) :
    (bmax < cmin → selectVersion cmin cmax bmin bmax = cmin) ∧
    (cmax < bmin → selectVersion cmin cmax bmin bmax = cmax) := by
  rw [Lemmas.Routing.selectVersion_eq]
  exact ⟨fun h => if_pos h, fun h => by rw [if_neg (by omega)]; omega⟩

/-- Through the connection's version map: if the ApiVersions answer lists `key` exactly once with range
`[bmin,bmax]` overlapping the client's, the request is written at the highest common version. -/
theorem negotiated_optimal (client : Nat → Int × Int) (pre post : List (Nat × Int × Int)) (key : Nat) (bmin bmax : Int)
    (hpost : ∀ e ∈ post, e.1 ≠ key)
    (hc : (client key).1 ≤ (client key).2) (hb : bmin ≤ bmax)
    (hov : (client key).1 ≤ bmax ∧ bmin ≤ (client key).2) :
    requestVersion client (negotiate client (pre ++ (key, bmin, bmax) :: post)) key
      = some (min (client key).2 bmax) := by
  have hv := Lemmas.Routing.negotiate_lookup client pre post key bmin bmax hpost
  obtain ⟨ho, -, -, h3, h4⟩ := selectVersion_optimal _ _ bmin bmax hc hb hov
  simp only [requestVersion, hv]
  rw [if_neg (by simp; omega), ho]

example : requestVersion (fun _ => (1, 5)) (negotiate (fun _ => (1, 5)) [(3, 0, 9), (2, 0, 3), (1, 4, 4)]) 2 = some 3 := by
  decide +kernel

/-- an API the broker does not list at all: the connection's version map has no entry, the request is written at
version 0 when the client supports version 0 and refused client-side otherwise (no range was advertised, so the
property demands nothing) -/
theorem negotiated_unlisted (client : Nat → Int × Int) (table : List (Nat × Int × Int)) (key : Nat)
    (h : ∀ e ∈ table, e.1 ≠ key) :
    requestVersion client (negotiate client table) key
      = if 0 < (client key).1 ∨ (client key).2 < 0 then none else some 0 := by
  have hv : negotiatedVersion (negotiate client table) key = 0 := by
    rw [negotiatedVersion, lookupD, Lemmas.Routing.negotiate_unlisted client table key h]
    rfl
  simp [requestVersion, hv]

/-! ## routing class (regenerated table × Kafka's designation) -/

/-- Every registered request type is routed by `sendRequest` to the class of broker the Kafka protocol
designates for its API (audited APIs; `Spec.routingClass = none` states nothing).  The statement is about the
classification `classOf` of the regenerated method sets and switch order; what a class means for the target is the definition
of `route` (the `.group` and `.transaction` arms send to `r.coordinator`, the `.broker` arm to what `brokerMethod` names),
which the leader and split theorems below are about. -/
theorem route_class :
    ∀ a ∈ apis, ∀ c, routingClass a.apiKey = some c →
      ∃ m, classOf sendRequestCases a = some m ∧ accepts c m = true := by
  decide +kernel

example : apis.length ≥ 30 ∧ (apis.filter (fun a => (routingClass a.apiKey).isSome)).length ≥ 25 := by decide +kernel

/-- produce / fetch: if `Broker()` accepts the request and names broker `b`, then `b` leads every
requested topic-partition in the layout the transport cached. -/
theorem route_leader (c : Cluster) (tps : List (String × List Int)) (b : Int)
    (hwf : BrokersWF c) (h : leaderAll c tps (-1) = .ok b) :
    ∀ tn ps, (tn, ps) ∈ tps → ∀ p ∈ ps, LedBy c tn p b :=
  (Lemmas.Routing.leaderAll_sound c hwf tps (-1) b h).2

/-- consequently two requested partitions with different leaders make `Broker()` refuse the request -/
theorem route_leader_mismatch (c : Cluster) (tps : List (String × List Int))
    (hwf : BrokersWF c) (t1 t2 : String) (ps1 ps2 : List Int) (p1 p2 b1 b2 : Int)
    (h1 : (t1, ps1) ∈ tps) (h2 : (t2, ps2) ∈ tps) (hp1 : p1 ∈ ps1) (hp2 : p2 ∈ ps2)
    (l1 : LedBy c t1 p1 b1) (l2 : LedBy c t2 p2 b2) (hne : b1 ≠ b2) :
    ∀ b, leaderAll c tps (-1) ≠ .ok b := by
  intro b hb
  have a1 := route_leader c tps b hwf hb t1 ps1 h1 p1 hp1
  have a2 := route_leader c tps b hwf hb t2 ps2 h2 p2 hp2
  exact hne ((Lemmas.Routing.ledBy_unique c l1 a1).trans (Lemmas.Routing.ledBy_unique c a2 l2))

/-- `sendRequest` for a produce / fetch request: whenever it hands the request to a connection of broker `b`'s group, `b`
leads every requested partition.  (That the pool has a group for every broker of the layout is `conns_invariant`; that the
request gets there, `route_follows_update`.) -/
theorem route_leader_target (a : ApiMethods) (c : Cluster) (conns : List (Int × Addr)) (r : ReqInfo) (b : Int) (addr : Addr)
    (ha : firstCase sendRequestCases a = some .broker) (hb : a.broker = .leaderAll)
    (hwf : BrokersWF c) (h : route sendRequestCases a c conns r = .broker b addr) :
    ∀ tn ps, (tn, ps) ∈ r.tps → ∀ p ∈ ps, LedBy c tn p b := by
  simp only [Lemmas.Routing.route_broker ha, brokerMethod, hb] at h
  cases hl : leaderAll c r.tps (-1) with
  | error e => rw [hl] at h; cases h
  | ok id =>
    rw [hl] at h
    obtain rfl := Lemmas.Routing.sendTarget_broker_inv h
    exact route_leader c r.tps id hwf hl

/-- A split ListOffsets part (one topic, one partition) goes to that partition's leader. -/
theorem route_listoffsets_leader (c : Cluster) (tn : String) (p : Int) (t : Topic) (part : Partition) (br : Broker)
    (ht : c.topics.lookup tn = some t)
    (hp : t.partitions.find? (fun e => e.2.id == p) = some (p, part))
    (hl : c.brokers.lookup part.leader = some br) :
    leaderFirst c [(tn, [p])] = .ok br.id := by
  simp [leaderFirst, listOffsetsBroker, lookupD, ht, hp, hl]

/-- A ListOffsets part is never sent to a broker the layout does not designate: the target is the listed
leader of the part's partition, or −1 (the control connection; any broker then answers with the error code)
when the topic, the partition or the leader is unknown (an unknown leader does not read the zero `Broker` value). -/
theorem route_listoffsets_designated (c : Cluster) (tn : String) (p : Int) (ps : List Int)
    (rest : List (String × List Int)) (b : Int) (h : leaderFirst c ((tn, p :: ps) :: rest) = .ok b) :
    b = -1 ∨ ∃ e br, (lookupD c.topics tn Topic.zero).partitions.find? (fun e => e.2.id == p) = some e ∧
      c.brokers.lookup e.2.leader = some br ∧ br.id = b := by
  simp only [leaderFirst, listOffsetsBroker] at h
  cases he : (lookupD c.topics tn Topic.zero).partitions.find? (fun e => e.2.id == p) with
  | none => simp [he] at h; exact Or.inl h.symm
  | some e =>
    cases hbr : c.brokers.lookup e.2.leader with
    | none => simp [he, hbr] at h; exact Or.inl h.symm
    | some br => simp [he, hbr] at h; exact Or.inr ⟨e, br, rfl, hbr, h⟩

/-- a partition whose leader (7) is not a listed broker: the part goes over the control connection -/
example : (match leaderFirst ⟨0, [(0, ⟨0, "b0", 9092, ""⟩), (1, ⟨1, "b1", 9092, ""⟩)],
    [("t", ⟨"t", 0, [(0, ⟨0, 0, 7, [], [], []⟩)]⟩)]⟩ [("t", [0])] with | .ok b => b | .error _ => 0) = -1 := by decide +kernel

/-! ## the leader loops regenerated by symbolic execution -/

theorem leaderParts_src (c : Cluster) (t : Topic) (ps : List Int) (cur : Int) :
    leaderPartsWith leaderStep_produce c t ps cur = leaderParts c t ps cur := by
  induction ps generalizing cur with
  | nil => rfl
  | cons p ps ih =>
    simp only [leaderPartsWith, leaderParts, leaderStep_produce]
    cases hp : t.partitions.lookup p with
    | none => simp [toRouteErr]
    | some part =>
      simp only [Option.map_some]
      cases hb : c.brokers.lookup part.leader with
      | none => simp [toRouteErr]
      | some b =>
        simp only [Option.map_some]
        by_cases h1 : cur < 0
        · simp [h1, ih]
        · by_cases h2 : b.id = cur
          · simp [h1, h2, ih]
          · simp [h1, h2, toRouteErr]

theorem leaderAll_src (c : Cluster) (tps : List (String × List Int)) (cur : Int) :
    leaderAllWith leaderTopic_produce leaderStep_produce c tps cur = leaderAll c tps cur := by
  induction tps generalizing cur with
  | nil => rfl
  | cons tp rest ih =>
    obtain ⟨tn, ps⟩ := tp
    simp only [leaderAllWith, leaderAll, leaderTopic_produce]
    cases ht : c.topics.lookup tn with
    | none => simp [toRouteErr]
    | some t =>
      simp only [Option.isSome_some, ↓reduceIte, Option.getD_some, leaderParts_src]
      cases leaderParts c t ps cur with
      | error e => rfl
      | ok cur' => exact ih cur'

/-- fetch and rawproduce use the very same iteration, prologue and initial value -/
theorem leader_loops_agree :
    leaderStep_fetch = leaderStep_produce ∧ leaderStep_rawproduce = leaderStep_produce ∧
    leaderTopic_fetch = leaderTopic_produce ∧ leaderTopic_rawproduce = leaderTopic_produce ∧
    leaderInit_fetch = leaderInit_produce ∧ leaderInit_rawproduce = leaderInit_produce ∧ leaderInit_produce = -1 :=
  ⟨rfl, rfl, rfl, rfl, rfl, rfl, rfl⟩

/-- `route_leader` over the regenerated loops and their initial value: whatever produce / fetch / rawproduce `Broker()`
accepts, its target leads every requested partition -/
theorem route_leader_src (c : Cluster) (tps : List (String × List Int)) (b : Int) (hwf : BrokersWF c)
    (h : leaderAllWith leaderTopic_produce leaderStep_produce c tps leaderInit_produce = .ok b) :
    ∀ tn ps, (tn, ps) ∈ tps → ∀ p ∈ ps, LedBy c tn p b := by
  rw [leaderAll_src] at h
  exact route_leader c tps b hwf h

/-- A topic-filtered metadata request answered from the cache returns, for every
requested name in request order, the topic entry of the cached answer with that name (or the
UnknownTopicOrPartition placeholder) — i.e. the restriction of what the brokers answered at the last refresh;
everything else of the answer (brokers, controller, cluster id) is passed through.  The cache is sorted by
topic name (`update` normalises it), which is what the bisection needs. -/
theorem filter_eq_last_refresh (res : MResponse) (names : List String) (hs : SortedTopics res.topics) :
    filterMetadata (some names) res =
      { res with topics := names.map fun n => (res.topics.find? (fun t => t.name == n)).getD (unknownTopic n) } := by
  simp only [filterMetadata]
  congr 1
  apply List.map_congr_left
  intro n _
  exact Lemmas.Routing.findTopic_correct res.topics hs n

/-- the topics of the normalised answer are exactly the answer's topics, each with its partitions sorted -/
theorem normalize_topics_mem (m : MResponse) (t : MTopic) :
    t ∈ (normalize m).topics ↔
      ∃ t0 ∈ m.topics, t = { t0 with partitions := sortBy (fun a b => decide (a.index < b.index)) t0.partitions } := by
  simp only [normalize, List.mem_map, Lemmas.Routing.mem_sortBy]
  constructor
  · rintro ⟨t0, h0, rfl⟩; exact ⟨t0, h0, rfl⟩
  · rintro ⟨t0, h0, rfl⟩; exact ⟨t0, h0, rfl⟩

/-- `filter_eq_last_refresh` with its sortedness hypothesis discharged (the topic names of the answer `m` pairwise distinct,
as brokers answer): the sortedness the bisection needs is established by `update` itself.  First conjunct: what the cache
holds after the refresh; second: what a filtered request gets from exactly that. -/
theorem cached_filter_exact (s : PoolState) (m : MResponse) (names : List String)
    (hnd : (m.topics.map (·.name)).Nodup) :
    (update s (some m) false).metadata = some (normalize m) ∧
    filterMetadata (some names) (normalize m) =
      { normalize m with topics := names.map fun n =>
          ((normalize m).topics.find? (fun t => t.name == n)).getD (unknownTopic n) } :=
  ⟨congrArg PoolState.metadata (Lemmas.Routing.update_ok s (some m)),
    filter_eq_last_refresh (normalize m) names (Lemmas.Routing.normalize_sorted m hnd)⟩

theorem filter_all (res : MResponse) : filterMetadata none res = res := rfl

example : SortedTopics [⟨0, "a", false, []⟩, ⟨0, "ab", false, []⟩, ⟨0, "b", false, []⟩] := by
  unfold SortedTopics; decide +kernel

/-- the bisection finds exactly the entries a linear scan finds (concrete instance, incl. a missing name) -/
example :
    (filterMetadata (some ["b", "zz", "a"]) ⟨0, [], "", 0, [⟨0, "a", false, []⟩, ⟨0, "ab", false, []⟩, ⟨0, "b", true, []⟩]⟩).topics
      = [⟨0, "b", true, []⟩, unknownTopic "zz", ⟨0, "a", false, []⟩] := by decide +kernel

/-- the source compares the cached and the new broker entry as whole structs (id, host, port, rack) — regenerated
fact; comparing fewer fields (e.g. only the host) would leave a re-registered broker's group at its old address -/
theorem update_compares_whole_broker : updateCompare = .whole := rfl

/-- the source applies the delete set before the add set (a changed broker is in both and must end up with its new
group) -/
theorem update_deletes_before_adding : updateApplyOrder = [.del, .add] := rfl

/-- the source sends over a broker's own connection group exactly for ids ≥ 0 (0 is a valid broker id); the regenerated
guard `id ≥ 0` is `0 ≤ id` by notation -/
theorem broker_conn_guard (id : Int) : usesBrokerConn id = decide (0 ≤ id) := rfl

/-- After a successful refresh with answer `m` the cached answer is `m` (normalised), the
layout is the one built from it, and the pool has a connection group for exactly the brokers of `m`, each
dialling the host:port that `m` gives for its broker (`ConnsInv`; given it held for the previous layout) — so
every later route is computed from `m`, including the address a moved or re-registered broker now has. -/
theorem update_follows (s : PoolState) (m : MResponse) (h : ConnsInv s) :
    (update s (some m) false).metadata = some (normalize m) ∧
    (update s (some m) false).layout = makeLayout (normalize m) ∧
    (update s (some m) false).err = false ∧
    ConnsInv (update s (some m) false) := by
  have hc := Lemmas.Routing.update_connsInv update_compares_whole_broker update_deletes_before_adding s (some m) false h
  rw [Lemmas.Routing.update_ok] at hc ⊢
  exact ⟨rfl, rfl, rfl, hc⟩

theorem update_error_keeps_known (s : PoolState) (m : Option MResponse) (h : s.metadata.isSome = true) :
    update s m true = s := by
  rw [Lemmas.Routing.update_failed, if_pos h]

/-- Along every history of refreshes (successful or failed, any answers) the connection
groups are exactly the brokers of the cached layout: a request routed to a broker of the layout always finds
its group, and no group outlives its broker's removal. -/
theorem conns_invariant (hist : List (Option MResponse × Bool)) :
    ConnsInv (hist.foldl (fun s e => update s e.1 e.2) {}) :=
  List.foldlRecOn (motive := ConnsInv) hist _ (fun id => by simp [Cluster.zero]) fun s hs e _ =>
    Lemmas.Routing.update_connsInv update_compares_whole_broker update_deletes_before_adding s e.1 e.2 hs

/-- after a leader moved (or a broker re-registered at another host/port) and the refresh delivered `m`, a
produce/fetch request for partitions that `m` says are led by broker `b` is sent to `b` at the address `m` gives -/
theorem route_follows_update (a : ApiMethods) (s : PoolState) (m : MResponse) (r : ReqInfo) (b : Int) (br : Broker)
    (h : ConnsInv s) (ha : firstCase sendRequestCases a = some .broker) (hb : a.broker = .leaderAll)
    (hl : leaderAll (makeLayout (normalize m)) r.tps (-1) = .ok b) (hb0 : 0 ≤ b)
    (hin : (makeLayout (normalize m)).brokers.lookup b = some br) :
    route sendRequestCases a (update s (some m) false).layout (update s (some m) false).conns r
      = .broker b (br.host, br.port) := by
  have hf := update_follows s m h
  have hc : (update s (some m) false).conns.lookup b = some (br.host, br.port) := by
    rw [hf.2.2.2 b, hf.2.1, hin]; rfl
  simp only [Lemmas.Routing.route_broker ha, brokerMethod, hb, hf.2.1, hl, KV.Routing.ofExcept]
  exact Lemmas.Routing.sendTarget_broker hb0 hc

/-- a broker that keeps id and host but re-registers on another port gets a new group at the new port -/
example :
    let m1 : MResponse := ⟨0, [⟨1, "h1", 9092, ""⟩, ⟨2, "h2", 9092, ""⟩], "", 1, []⟩
    let m2 : MResponse := ⟨0, [⟨1, "h1", 9093, ""⟩, ⟨2, "h2", 9092, ""⟩], "", 1, []⟩
    (update (update {} (some m1) false) (some m2) false).conns = [(2, ("h2", 9092)), (1, ("h1", 9093))] := by
  decide +kernel

end routing

/-! ## the refresh loop (transport.go discover) -/

open KV.Discover
open KV.Lemmas.Discover

theorem discover_exits_safe : SafeGuards discoverExits := by
  unfold SafeGuards; decide

theorem discover_stays_on_wake : exitsOnWake discoverExits = false := by decide

theorem safe_flags (guards : List ExitGuard) (h : SafeGuards guards) :
    ExitGuard.errIsOtherCtx ∉ guards ∧ ExitGuard.other ∉ guards ∧ ExitGuard.otherChan ∉ guards := by
  refine ⟨?_, ?_, ?_⟩ <;>
  · intro hc
    rcases h _ hc with h | h <;> cases h

theorem step_survives (guards : List ExitGuard) (h : SafeGuards guards) (s s' : DState) (e : DEvent)
    (hs : step guards s e = some s') (halive : s.alive = true) (hne : e.isClose = false) : s'.alive = true := by
  obtain ⟨h1, h2, h3⟩ := safe_flags guards h
  rw [(step_effect hs).2]
  cases e with
  | close => cases hne
  | answer m => exact halive
  | tick | connFail | reqError | timeout => simp [aliveAfter, exitsOnWake, exitsOnError, h1, h2, h3]

/-- For every sequence of refresh outcomes — answers, failed dials, i/o
errors, dropped connections, requests that are never answered and run into the per-request deadline, in any
number and order — the refresh goroutine is still in its loop, unless the pool itself was closed. -/
theorem refresh_loop_survives_faults (es : List DEvent) (s s' : DState)
    (hrun : run discoverExits s es = some s') (halive : s.alive = true)
    (hnoclose : ∀ e ∈ es, e.isClose = false) : s'.alive = true :=
  Run.invariant_mem (P := fun s => s.alive = true)
    (fun s e s' he ha hs => step_survives _ discover_exits_safe s s' e hs ha (hnoclose e he)) (run_eq _ s es ▸ hrun) halive

theorem step_connsInv (guards : List ExitGuard) (s s' : DState) (e : DEvent)
    (hs : step guards s e = some s') (h : ConnsInv s.pool) : ConnsInv s'.pool := by
  rw [(step_effect hs).1]
  cases e with
  | tick | close => exact h
  | answer _ | connFail | reqError | timeout =>
    exact Lemmas.Routing.update_connsInv update_compares_whole_broker update_deletes_before_adding _ _ _ h

theorem run_connsInv (guards : List ExitGuard) (es : List DEvent) (s s' : DState)
    (hrun : run guards s es = some s') (h : ConnsInv s.pool) : ConnsInv s'.pool :=
  Run.invariant (P := fun s => ConnsInv s.pool) (fun s e s' h hs => step_connsInv guards s s' e hs h)
    (run_eq guards s es ▸ hrun) h

/-- `update_follows` composed over the loop: after any fault history without `close`
that leaves the loop waiting, the next timer tick / forced wake followed by an answer `m` is accepted, and then
the cached layout is `m`'s and every connection group dials the address `m` gives — so a leader move reported by
`m` is followed however many refreshes failed before. -/
theorem refresh_after_faults (es : List DEvent) (s s' : DState) (m : MResponse)
    (hrun : run discoverExits s es = some s') (halive : s.alive = true) (hopen : s'.closed = false)
    (hphase : s'.phase = .waiting) (hnoclose : ∀ e ∈ es, e.isClose = false) (hinv : ConnsInv s.pool) :
    ∃ s'', run discoverExits s' [.tick, .answer m] = some s'' ∧ s''.alive = true ∧
      s''.pool.layout = makeLayout (normalize m) ∧ s''.pool.metadata = some (normalize m) ∧ ConnsInv s''.pool := by
  have ha := refresh_loop_survives_faults es s s' hrun halive hnoclose
  obtain ⟨hm, hl, _, hc⟩ := update_follows s'.pool m (run_connsInv discoverExits es s s' hrun hinv)
  exact ⟨_, run_tick_answer discover_stays_on_wake s' m ha hopen hphase, rfl, hl, hm, hc⟩

/-- a refresh that fails (dial error, i/o error, timeout) never replaces a known cluster view -/
theorem faults_keep_known_view (s s' : DState) (e : DEvent) (hs : step discoverExits s e = some s')
    (hknown : s.pool.metadata.isSome = true) (hfault : ∀ m, e ≠ .answer m) :
    s'.pool = s.pool := by
  rw [(step_effect hs).1]
  cases e with
  | answer m => exact absurd rfl (hfault m)
  | tick | close => rfl
  | connFail | reqError | timeout => exact update_error_keeps_known s.pool none hknown

/-- a stalled request followed by a late leader move: the loop is alive and the move is picked up -/
example : (run discoverExits {} [.tick, .answer ⟨0, [⟨1, "b1", 9092, ""⟩], "", 1, []⟩, .tick, .timeout, .connFail,
    .tick, .reqError, .tick]).map (fun s => (s.alive, s.phase)) = some (true, .requesting) := by decide +kernel

/-- with a guard on the per-request context one timeout ends the loop -/
example : (run [.errIsOtherCtx, .poolDone] {} [.tick, .timeout]).map (·.alive) = some false := by decide +kernel

section recovery
open KV.RoundTrip KV.Discover

/-- what `update` writes to the cached state (regenerated from transport.go) -/
theorem update_state_writes :
    updateErrorKeepsKnown = true ∧ updateErrorStoresErr = true ∧ updateSuccessSetsMetadata = true ∧
    updateSuccessSetsLayout = true ∧ updateSuccessClearsErr = true := ⟨rfl, rfl, rfl, rfl, rfl⟩

/-- a failed refresh while nothing is cached yet makes metadata requests fail with that error -/
theorem failed_first_refresh_is_reported (s : PoolState) (hm : s.metadata = none) (q : MetaReq) :
    metadataDecision (update s none true) q = .cacheError := by
  rw [Lemmas.Routing.update_failed, hm]
  rfl

/-- The error of a failed first refresh is reported only until the next successful refresh: whatever state the pool was in,
after `update(m)` a metadata request is answered from `m` again (and never with the stale error) -/
theorem metadata_after_recovery (s : PoolState) (m : MResponse) (names : Option (List String)) :
    metadataDecision (update s (some m) false) ⟨names, false⟩ = .fromCache (filterMetadata names (normalize m)) := by
  rw [Lemmas.Routing.update_ok]
  rfl

/-- over the refresh loop: any history of faults (also before the first success), then a tick and an answer `m`:
the loop is alive, the error is gone and metadata requests are served from `m` -/
theorem refresh_recovers (es : List DEvent) (s s' : DState) (m : MResponse) (names : Option (List String))
    (hrun : run discoverExits s es = some s') (halive : s.alive = true) (hopen : s'.closed = false)
    (hphase : s'.phase = .waiting) (hnoclose : ∀ e ∈ es, e.isClose = false) (hinv : ConnsInv s.pool) :
    ∃ s'', run discoverExits s' [.tick, .answer m] = some s'' ∧ s''.alive = true ∧ s''.pool.err = false ∧
      metadataDecision s''.pool ⟨names, false⟩ = .fromCache (filterMetadata names (normalize m)) := by
  have ha := refresh_loop_survives_faults es s s' hrun halive hnoclose
  exact ⟨_, run_tick_answer discover_stays_on_wake s' m ha hopen hphase, rfl,
    congrArg PoolState.err (Lemmas.Routing.update_ok s'.pool (some m)), metadata_after_recovery s'.pool m names⟩

/-- the very scenario: the first refresh fails (dial error), the second succeeds -/
example : (run discoverExits {} [.connFail, .tick, .answer ⟨0, [⟨1, "b1", 9092, ""⟩], "", 1, []⟩]).map
    (fun s => (s.alive, s.pool.err, s.pool.metadata.isSome)) = some (true, false, true) := by decide +kernel

end recovery

/-! ## split requests (transport.go roundTrip, `case protocol.Splitter`) -/

section splits
open KV.Split

/-- every request type that implements Splitter in the source has a split model (nothing is left untranslated),
and no other type is split -/
theorem parts_cover_splitters :
    ∀ a ∈ apis, (parts roundTripCases a Cluster.zero [] {}).isSome = a.split := by decide +kernel

/-- DescribeConfigs: the parts carry every resource exactly once — each broker resource alone in its own part
(in request order), all other resources together in one last part -/
theorem split_resources_partition (rs : List (Int × String × Option Int)) :
    (splitResources rs).flatMap (·.resources) = rs.filter isBrokerResource ++ rs.filter (fun r => !isBrokerResource r) ∧
    ((splitResources rs).flatMap (·.resources)).Perm rs ∧
    (∀ p ∈ splitResources rs, (∃ r, isBrokerResource r = true ∧ p.resources = [r]) ∨
      (∀ r ∈ p.resources, isBrokerResource r = false)) := by
  have h1 : (splitResources rs).flatMap (·.resources)
      = rs.filter isBrokerResource ++ rs.filter (fun r => !isBrokerResource r) := by
    unfold splitResources
    rw [List.flatMap_append]
    congr 1
    · simp [List.flatMap_map]
    · split
      · next h => simp [List.isEmpty_iff.mp h]
      · simp
  refine ⟨h1, h1 ▸ List.filter_append_perm _ _, ?_⟩
  intro p hp
  unfold splitResources at hp
  rcases List.mem_append.mp hp with hp | hp
  · obtain ⟨r, hr, rfl⟩ := List.mem_map.mp hp
    exact Or.inl ⟨r, (List.mem_filter.mp hr).2, rfl⟩
  · right
    split at hp
    · cases hp
    · rcases List.mem_singleton.mp hp with rfl
      intro r hr
      simpa using (List.mem_filter.mp hr).2

/-- a broker-resource part is sent to the broker it names (when that broker is listed) -/
theorem split_resources_target (c : Cluster) (id : Int) (b : Broker) (hb : c.brokers.lookup id = some b) :
    resourceBroker c [(4, some id)] = .ok b.id := by
  simp [resourceBroker, lookupD, hb]

/-- ListGroups: as many parts as the layout has brokers; with a well-formed layout and the pool invariant the part carrying
a broker's id reaches that broker at the metadata's address -/
theorem split_brokers_cover (a : ApiMethods) (c : Cluster) (conns : List (Int × Addr))
    (ha : firstCase sendRequestCases a = some .broker) (hf : a.broker = .field)
    (hwf : BrokersWF c) (hinv : ∀ id, conns.lookup id = (c.brokers.lookup id).map Broker.addr) :
    (splitBrokers c).length = c.brokers.length ∧
    ∀ k b, c.brokers.lookup k = some b →
      route sendRequestCases a c conns { field := b.id } = .broker k b.addr := by
  refine ⟨by simp [splitBrokers], ?_⟩
  intro k b hkb
  obtain ⟨hid, hk0⟩ := hwf k b hkb
  simp only [Lemmas.Routing.route_broker ha, brokerMethod, hf, KV.Routing.ofExcept, hid, lookupD, hkb, Option.getD]
  exact Lemmas.Routing.sendTarget_broker hk0 (by rw [hinv k, hkb]; rfl)

end splits

/-! ## metadata requests through roundTrip -/

section roundtrip
open KV.RoundTrip

/-- Without AllowAutoTopicCreation a metadata request never reaches a broker:
it is answered with the cached (last refreshed) answer restricted to the requested topics. -/
theorem metadata_served_from_cache (s : PoolState) (cached : MResponse) (names : Option (List String))
    (herr : s.err = false) (hm : s.metadata = some cached) :
    metadataDecision s ⟨names, false⟩ = .fromCache (filterMetadata names cached) := by
  simp [metadataDecision, herr, hm]

/-- with AllowAutoTopicCreation the broker is asked exactly when a requested topic is unknown to the cache
(or cached with UnknownTopicOrPartition) -/
theorem metadata_autocreate_decision (s : PoolState) (cached : MResponse) (names : Option (List String))
    (herr : s.err = false) (hm : s.metadata = some cached) :
    (metadataDecision s ⟨names, true⟩ = .askBroker ↔
      ∃ t ∈ (filterMetadata names cached).topics, t.error = errUnknownTopic) ∧
    ((¬ ∃ t ∈ (filterMetadata names cached).topics, t.error = errUnknownTopic) →
      metadataDecision s ⟨names, true⟩ = .fromCache (filterMetadata names cached)) := by
  simp only [metadataDecision, herr, hm, Bool.false_eq_true, ↓reduceIte, Bool.true_and]
  have hany : ((filterMetadata names cached).topics.any fun t => t.error == errUnknownTopic) = true ↔
      ∃ t ∈ (filterMetadata names cached).topics, t.error = errUnknownTopic := by simp
  by_cases h : ∃ t ∈ (filterMetadata names cached).topics, t.error = errUnknownTopic
  · simp [hany.mpr h, h]
  · simp [mt hany.mp h, h]

/-- a requested name that is not in the (sorted) cache makes an auto-creating request go to the broker -/
theorem metadata_autocreate_unknown (s : PoolState) (cached : MResponse) (names : List String) (n : String)
    (herr : s.err = false) (hm : s.metadata = some cached) (hs : SortedTopics cached.topics)
    (hn : n ∈ names) (habs : ∀ t ∈ cached.topics, t.name ≠ n) :
    metadataDecision s ⟨some names, true⟩ = .askBroker := by
  apply (metadata_autocreate_decision s cached (some names) herr hm).1.mpr
  rw [filter_eq_last_refresh cached names hs]
  refine ⟨unknownTopic n, ?_, rfl⟩
  simp only [List.mem_map]
  refine ⟨n, hn, ?_⟩
  have : cached.topics.find? (fun t => t.name == n) = none := by
    apply List.find?_eq_none.mpr
    intro t ht
    simpa using habs t ht
  simp [this]

/-- only topics that were created without error are waited for (issues 672 / 806 of the library) -/
theorem topicsToRefresh_spec (topics : List (String × Int)) (t : String) :
    t ∈ topicsToRefresh topics ↔ (t, 0) ∈ topics := by
  simp only [topicsToRefresh, List.mem_map, List.mem_filter]
  constructor
  · rintro ⟨⟨n, e⟩, ⟨hm, he⟩, rfl⟩
    have : e = 0 := by simpa using he
    subst this; exact hm
  · intro h; exact ⟨(t, 0), ⟨h, by simp⟩, rfl⟩

theorem refreshDone_spec (layout : Cluster) (expect : List String) :
    refreshDone layout expect = true ↔ ∀ t ∈ expect, ∃ x, layout.topics.lookup t = some x := by
  simp only [refreshDone, List.all_eq_true, Option.isSome_iff_exists]

theorem layout_topics_lookup_none (m : MResponse) (k : String)
    (h : ∀ t ∈ m.topics, t.internal = false → t.name ≠ k) : (makeLayout m).topics.lookup k = none := by
  refine KV.AssocList.lookup_foldl_other _ m.topics [] k fun acc t ht => ?_
  cases hi : t.internal
  · exact Lemmas.Ainsert.lookup_ainsert_other acc t.name k _ (h t ht hi).symm
  · rfl

/-- the layout never lists an internal topic (makeLayout skips `IsInternal`), so `refreshMetadata` can never see
one appear: a CreateTopics / auto-creating Metadata answer that names an internal topic without error makes roundTrip
wait until the caller's context ends (observed on the real code; not one of C12's clauses) -/
theorem layout_omits_internal (m : MResponse) (t : MTopic) (_ht : t ∈ m.topics) (_hint : t.internal = true)
    (hnd : ∀ u ∈ m.topics, u.internal = false → u.name ≠ t.name) :
    (makeLayout m).topics.lookup t.name = none ∧ refreshDone (makeLayout m) [t.name] = false := by
  have h1 := layout_topics_lookup_none m t.name hnd
  exact ⟨h1, by simp [refreshDone, h1]⟩

end roundtrip

/-! ## regenerated field copies of makeLayout / makePartitions -/

section fieldmaps
open KV.Spec.FieldMaps KV.Gen.Mappings

/-- makeLayout / makePartitions copy each routing-relevant field from the metadata field the model's `makeLayout`
copies it from (tables regenerated from transport.go; tolerant to locals, see Spec/FieldMaps.lean) -/
theorem layout_sources :
    allAgree makeLayout_Broker layoutBroker = true ∧ allAgree makeLayout_Cluster layoutCluster = true ∧
    allAgree makeLayout_Topic layoutTopic = true ∧ allAgree makePartitions_Partition layoutPartition = true ∧
    allAgree filterMetadataResponse_ResponseTopic filterPlaceholder = true := by decide +kernel

end fieldmaps

/-! ## encoded with the negotiated version: the body parts `Prepare` derives from it -/

section prepare
open KV.Spec.Routing (magicOK leaveGroupBodyOK)

/-- For EVERY API version the record format `Prepare` picks (regenerated from
protocol/produce/produce.go) is the one Kafka accepts in a Produce request of that version: message sets (magic 1)
below v3, record batches (magic 2) from v3 on -/
theorem produce_record_format (v : Int) : magicOK v (produceMagic v 0) = true := by
  unfold magicOK produceMagic produceRecordVersion
  by_cases h : v < 3 <;> simp [h]

/-- The record format is applied to every partition of every topic, and with the version that goes into the request header
(protocol/conn.go RoundTrip), i.e. the connection's negotiated version of the Produce key -/
theorem prepare_uses_request_version :
    produceCoversEveryPartition = true ∧ preparedWithRequestVersion = true ∧
    preparedPackages = ["leavegroup", "produce"] := ⟨rfl, rfl, rfl⟩

/-- `produce_record_format` at the negotiated version (the hypothesis only names where `v` comes from). -/
theorem produce_encoded_for_negotiated_version (client : Nat → Int × Int) (table : List (Nat × Int × Int)) (v : Int)
    (_ : requestVersion client (negotiate client table) 0 = some v) : magicOK v (produceMagic v 0) = true :=
  produce_record_format v

/-- an explicit record format of the caller is left alone (documented override in Prepare) -/
theorem produce_explicit_format_kept (v g : Int) (h : g ≠ 0) : produceMagic v g = g := by
  simp [produceMagic, produceKeepsExplicitVersion, h]

/-- At every version the LeaveGroup body names the leaving member(s) in the field that version
has: the first of `Members` moves to `MemberID` below v3 -/
theorem leave_group_body (v : Int) (members : List String) :
    leaveGroupBodyOK v members (leaveGroupWire v "" members).1 (leaveGroupWire v "" members).2 = true := by
  unfold leaveGroupBodyOK leaveGroupWire leaveGroupCopiesFirstMember
  by_cases h : v < 3
  · cases members <;> simp [h]
  · simp [h]

end prepare

section splitfields
open KV.Spec.Routing (optionOK optionSince)

/-- For every protocol package with a `Split` method (regenerated: wire fields of
Request, fields set by each sub-request literal of Split), every sub-request sets every wire field of the request —
nothing the caller put into the request is lost on the way to the designated brokers -/
theorem split_parts_carry_request_fields :
    (splitSubrequests.all fun (_, fields, subs) => subs.all fun s => fields.all fun f => s.any (·.1 == f)) = true := by
  decide +kernel

/-- An option switched on by the caller arrives switched on at every version that has it -/
theorem split_options_arrive (v : Int) :
    optionOK 32 "IncludeSynonyms" v (optionArrives "describeconfigs" "IncludeSynonyms" 1 v) = true ∧
    optionOK 32 "IncludeDocumentation" v (optionArrives "describeconfigs" "IncludeDocumentation" 3 v) = true ∧
    optionOK 15 "IncludeAuthorizedOperations" v (optionArrives "describegroups" "IncludeAuthorizedOperations" 3 v) = true := by
  -- per option: the version the reference gives for it, and that every sub-request of the package's Split sets it
  exact ⟨Lemmas.Routing.optionOK_arrives (by decide +kernel) (by decide +kernel) v,
    Lemmas.Routing.optionOK_arrives (by decide +kernel) (by decide +kernel) v,
    Lemmas.Routing.optionOK_arrives (by decide +kernel) (by decide +kernel) v⟩

end splitfields

/-- The dial address: for every host / port the metadata may list — IPv6 literals included — the address the
pool dials for the broker (regenerated from newBrokerConnGroup) is the one a dialer can take apart again -/
theorem broker_dial_address (host : String) (port : Int) :
    dialAddress (host, port) = KV.Spec.Routing.hostPort host port := by
  simp [dialAddress, brokerDialAddress, KV.Spec.Routing.hostPort]

end KV.Props.C12
