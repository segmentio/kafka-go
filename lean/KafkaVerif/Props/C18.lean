/-
Props/C18.lean — property C18: with SASL configured, nothing is sent before authentication succeeds.

Model: Model/Auth.lean (`Dialer.connect/authenticateSASL`, `connGroup.connect/authenticateSASL`,
`Conn.saslHandshake/saslAuthenticate`, `protocol.Conn.RoundTrip` raw/framed, `sasl/plain`).
Reference side: Spec/SaslPlain.lean (RFC 4616 message, ordering monitor `orderHolds`).

The theorems about runs quantify over EVERY environment script `es : List Env` (broker answers, mechanism
outcomes, application requests) and both paths; there is no bound on the number of authentication
rounds.  SCRAM's cryptography is not modelled (the mechanism is an arbitrary source of `mechStart` /
`mechNext` events): the message format is proved for PLAIN only, of SCRAM only that the library's adaptor adds nothing
to its conversation and takes nothing away.

Each part ends with the shape facts re-read from the Go source that tie it to the code; the decision tables re-extracted by
symbolic execution come last.
-/
import KafkaVerif.Lemmas.Auth
import KafkaVerif.Model.AuthPlainGen
import KafkaVerif.Spec.SaslPlain
import KafkaVerif.Gen.MuxFacts

namespace KV.C18
open KV KV.Auth KV.Spec.Sasl

/-- the broker-side view of a log item -/
def seenOf : Item → Seen
  | .wrote .apiVersions => .apiVersions
  | .wrote (.saslHandshake _) => .saslHandshake
  | .wrote (.saslAuthenticate _ _) => .saslAuthenticate
  | .wrote (.rawToken _) => .rawToken
  | .wrote (.other k) => .other k
  | .verdict => .verdict

/-- environment events that are failures of the exchange: error code in an answer, connection closed,
any other I/O failure, a failing mechanism step -/
def bad : Env → Bool
  | .versions err _ _ => err != 0
  | .reply err _ _ => err != 0
  | .eof => true
  | .ioerr => true
  | .mechStart none => true
  | .mechNext none => true
  | _ => false

/-- everything written so far is ApiVersions / SaslHandshake / SaslAuthenticate / raw token -/
def AuthOnly (log : List Item) : Prop := ∀ w, Item.wrote w ∈ log → w.isAuth = true

/-- the broker's final positive answer -/
def isFinalOk : Env → Bool
  | .reply err _ final => err == 0 && final
  | _ => false

def isDone : Env → Bool
  | .mechNext (some (completed, _)) => completed
  | _ => false

/-- hypothesis on the mechanism (relative to the broker it talks to): it reports `completed` only on
the broker's final positive answer.  (`prev` = the previous event was such an answer.) -/
def mechSound : Bool → List Env → Bool
  | _, [] => true
  | prev, e :: es => (!isDone e || prev) && mechSound (isFinalOk e) es

-- `react_cases` takes `react` arm by arm; no proof of this file calls it: it is for a fact about what `Auth.Reaction` forgets (the
-- handshake version negotiated at `versions`).  The `react_*` facts below need nothing of that: each opens with
-- `cases Reaction.of_react h` (Lemmas/Auth.lean), but `react_ready`, which is read off `react_ready_event`
/-- break `h : react c ph e = some a` into its arms -/
macro "react_cases" h:ident : tactic =>
  `(tactic| (unfold react at $h:ident
             split at $h:ident <;> (try split at $h:ident) <;> (try split at $h:ident) <;>
               (try split at $h:ident) <;> (try split at $h:ident) <;>
               simp only [Option.some.injEq, reduceCtorEq, failWith] at $h:ident <;> (try subst $h:ident)))

theorem react_write_auth {c : Cfg} {ph : Phase} {e : Env} {a : Act} (h : react c ph e = some a)
    (hp : ph ≠ .ready) : ∀ w, a.write = some w → w.isAuth = true := by
  intro w hw
  cases Reaction.of_react h <;> cases hw <;> first | rfl | exact authWire_isAuth .. | exact absurd rfl hp

theorem react_err {c : Cfg} {ph : Phase} {e : Env} {a : Act} (h : react c ph e = some a) :
    (a.next = .failed → ∃ x, a.err = some x) ∧ (a.next ≠ .failed → a.err = none) := by
  cases Reaction.of_react h <;> simp [failWith]

theorem react_bad {c : Cfg} {ph : Phase} {e : Env} {a : Act} (h : react c ph e = some a)
    (hb : bad e = true) : a.next = .failed := by
  cases Reaction.of_react h <;> simp_all [bad, failWith]

theorem react_verdict {c : Cfg} {ph : Phase} {e : Env} {a : Act} (h : react c ph e = some a) :
    a.verdict = isFinalOk e := by
  cases Reaction.of_react h with
  | @fail _ e x _ he => cases e <;> simp_all [isFinalOk, failWith]
  | _ => simp [isFinalOk]

theorem react_awaitNext {c : Cfg} {ph : Phase} {e : Env} {a : Act} (h : react c ph e = some a)
    {v av : Nat} (hn : a.next = .awaitNext v av) : ∃ d f, e = .reply 0 d f := by
  cases Reaction.of_react h <;> simp_all [failWith]

theorem react_ready_event {c : Cfg} {ph : Phase} {e : Env} {a : Act} (h : react c ph e = some a)
    (hr : a.next = .ready) :
    (ph = .ready ∧ ∃ k, e = .use k) ∨ ((∃ v av, ph = .awaitNext v av) ∧ ∃ tok, e = .mechNext (some (true, tok))) ∨
      c.sasl = false := by
  cases Reaction.of_react h <;> simp_all [failWith]

theorem react_ready {c : Cfg} {ph : Phase} {e : Env} {a : Act} (h : react c ph e = some a)
    (hr : a.next = .ready) : ph = .ready ∨ (isDone e = true ∧ ∃ v av, ph = .awaitNext v av) ∨ c.sasl = false := by
  rcases react_ready_event h hr with ⟨hp, _⟩ | ⟨hp, tok, rfl⟩ | hs
  · exact .inl hp
  · exact .inr (.inl ⟨rfl, hp⟩)
  · exact .inr (.inr hs)

theorem react_from_ready {c : Cfg} {e : Env} {a : Act} (h : react c .ready e = some a) :
    a.next = .ready ∧ a.err = none ∧ a.verdict = false ∧ ∃ k, e = .use k ∧ a.write = some (.other k) := by
  cases Reaction.of_react h <;> simp_all

theorem step_log_prefix {c : Cfg} {s s' : State} {e : Env} (h : step c s e = some s') : s.log <+: s'.log := by
  obtain ⟨a, _, rfl⟩ := step_eq_some.mp h
  simp only [State.apply, List.append_assoc]
  exact List.prefix_append _ _

def isUse : Env → Bool
  | .use _ => true
  | _ => false

/-- what the phase reached says of the script `hist` consumed so far (no failure event unless `failed`; in `awaitNext` the
last event is a positive answer; in `ready` the script ends in such an answer, `completed`, and application requests) and of
the outcome of the dial (in `failed` the connection is closed and there is an error result; otherwise there is none) -/
structure Hist (c : Cfg) (hist : List Env) (s : State) : Prop where
  noBad : s.phase ≠ .failed → ∀ e ∈ hist, bad e = false
  lastReply : ∀ v av, s.phase = .awaitNext v av → ∃ h0 d f, hist = h0 ++ [.reply 0 d f]
  accepted : s.phase = .ready → c.sasl = true →
    ∃ h0 d f tok us, hist = h0 ++ [.reply 0 d f, .mechNext (some (true, tok))] ++ us ∧ ∀ u ∈ us, isUse u = true
  failedClosed : s.phase = .failed → s.closed = true ∧ s.result.isSome = true
  okOpen : s.phase ≠ .failed → s.result = none

/-- the environment event is a response read off the wire -/
def isAnswer : Env → Bool
  | .versions _ _ _ => true
  | .reply _ _ _ => true
  | _ => false

/-- requests of the set-up exchange in a journal (ApiVersions, SaslHandshake, tokens) -/
def setupWrites (l : List Item) : Nat :=
  l.countP (fun i => match i with | .wrote w => w.isAuth | .verdict => false)

/-- responses the client is waiting for in a phase -/
def outstanding : Phase → Nat
  | .awaitVersions => 1
  | .awaitHandshake _ _ => 1
  | .awaitAuth _ _ => 1
  | _ => 0

def actWrites (a : Act) : Nat :=
  match a.write with
  | some w => if w.isAuth then 1 else 0
  | none => 0

theorem react_balance {c : Cfg} {ph : Phase} {e : Env} {a : Act} (h : react c ph e = some a)
    (hn : a.next ≠ .failed) :
    outstanding ph + actWrites a = outstanding a.next + (if isAnswer e then 1 else 0) := by
  cases Reaction.of_react h <;> simp_all [outstanding, actWrites, isAnswer, authWire_isAuth, failWith] <;> rfl

theorem setupWrites_apply (s : State) (a : Act) : setupWrites (s.apply a).log = setupWrites s.log + actWrites a := by
  unfold State.apply setupWrites actWrites
  cases a.write <;> cases a.verdict <;> simp [List.countP_append, List.countP_cons, List.countP_nil]

theorem authOnly_apply {s : State} {a : Act} (hl : AuthOnly s.log) (hw : ∀ w, a.write = some w → w.isAuth = true) :
    AuthOnly (s.apply a).log := by
  intro w hm
  simp only [State.apply, List.mem_append] at hm
  rcases hm with (hm | hm) | hm
  · exact hl w hm
  · split at hm <;> simp at hm
  · split at hm
    · next w' hw' => simp at hm; subst hm; exact hw w hw'
    · simp at hm

/-- the invariant of a run (`setup_run`): `Hist`, and what the phase says of the journal — only authentication requests in
it before `ready`; as many set-up requests in it as answers consumed plus the one outstanding -/
structure Setup (c : Cfg) (hist : List Env) (s : State) : Prop extends Hist c hist s where
  authOnly : s.phase ≠ .ready → AuthOnly s.log
  balanced : s.phase ≠ .failed → setupWrites s.log = hist.countP isAnswer + outstanding s.phase

theorem setup_start (c : Cfg) : Setup c [] (start c) := by
  rcases start_cases c with ⟨_, h⟩ | h | h <;> rw [h] <;> refine ⟨by constructor <;> simp [*], ?_, ?_⟩ <;>
    simp [AuthOnly, Wire.isAuth, setupWrites, outstanding]

theorem setup_step {c : Cfg} {hist : List Env} {s s' : State} {e : Env}
    (hi : Setup c hist s) (h : step c s e = some s') : Setup c (hist ++ [e]) s' := by
  obtain ⟨a, hr, rfl⟩ := step_eq_some.mp h
  have hnf : s.phase ≠ .failed := by
    intro hf; rw [hf, react_failed] at hr; cases hr
  refine ⟨⟨?_, ?_, ?_, ?_, ?_⟩, ?_, ?_⟩
  · intro hn e' he'
    rcases List.mem_append.mp he' with he' | he'
    · exact hi.noBad hnf e' he'
    · cases List.mem_singleton.mp he'
      exact Bool.eq_false_iff.mpr fun hb => hn (react_bad hr hb)
  · intro v av hv
    simp only [State.apply] at hv
    obtain ⟨d, f, he⟩ := react_awaitNext hr hv
    exact ⟨hist, d, f, by rw [he]⟩
  · intro hrd hs
    simp only [State.apply] at hrd
    rcases react_ready_event hr hrd with ⟨hp, k, hk⟩ | ⟨⟨v, av, hv⟩, tok, ht⟩ | hns
    · obtain ⟨h0, d, f, tok, us, hh, hu⟩ := hi.accepted hp hs
      refine ⟨h0, d, f, tok, us ++ [e], by rw [hh]; simp, ?_⟩
      intro u hu'
      rcases List.mem_append.mp hu' with hu' | hu'
      · exact hu u hu'
      · simp at hu'; subst hu'; rw [hk]; rfl
    · obtain ⟨h0, d, f, hh⟩ := hi.lastReply v av hv
      exact ⟨h0, d, f, tok, [], by rw [hh, ht]; simp, by simp⟩
    · rw [hs] at hns; cases hns
  · intro hf
    obtain ⟨x, hx⟩ := (react_err hr).1 hf
    simp [State.apply, hx]
  · intro hn
    simp [State.apply, (react_err hr).2 hn, hi.okOpen hnf]
  · -- `ready` is left by no event, so the connection was not handed out before either
    intro hn
    have hph : s.phase ≠ .ready := fun hrd => by rw [hrd] at hr; exact hn (react_from_ready hr).1
    exact authOnly_apply (hi.authOnly hph) (react_write_auth hr hph)
  · intro hf'
    have hbal := react_balance hr hf'
    have := hi.balanced hnf
    rw [setupWrites_apply, List.countP_append, List.countP_singleton]
    simp only [State.apply]
    omega

theorem setup_run {c : Cfg} {es : List Env} {s : State} (h : run c es = some s) : Setup c es s :=
  run_induction (setup_start c) (fun _ _ _ _ => setup_step) h

/-- At every moment of every run — i.e. for every prefix `pre` of every script the model accepts —
as long as the client has not reached `ready` (it has not yet seen a positive answer that completed
the mechanism), everything it has written is ApiVersions / SaslHandshake / SaslAuthenticate / raw
token; and what is written later only extends that log. -/
theorem only_auth_before_success (c : Cfg) (pre post : List Env) (s : State)
    (h : run c (pre ++ post) = some s) :
    ∃ s', run c pre = some s' ∧ s'.log <+: s.log ∧ (s'.phase ≠ .ready → AuthOnly s'.log) := by
  obtain ⟨s', h1, h2⟩ := Run.append_eq_some.mp ((runFrom_eq c _ _).symm.trans h)
  have h1 : run c pre = some s' := (runFrom_eq c _ _).trans h1
  exact ⟨s', h1, Run.invariant (P := fun t => s'.log <+: t.log)
    (fun t e t' hp hs => List.IsPrefix.trans hp (step_log_prefix hs)) h2 (List.prefix_refl _), (setup_run h1).authOnly⟩

/-- the connection is handed out (`ready`) only if no answer in the whole script was a failure and the
script contains a positive answer of the broker immediately followed by the mechanism reporting
`completed`; after that point the script consists of application requests only. -/
theorem ready_only_after_success (c : Cfg) (es : List Env) (s : State) (h : run c es = some s)
    (hs : c.sasl = true) (hr : s.phase = .ready) :
    (∀ e ∈ es, bad e = false) ∧
    ∃ h0 d f tok us, es = h0 ++ [.reply 0 d f, .mechNext (some (true, tok))] ++ us ∧ ∀ u ∈ us, isUse u = true :=
  ⟨(setup_run h).noBad (by rw [hr]; simp), (setup_run h).accepted hr hs⟩

/-- requests other than the authentication ones are written only on a connection that was handed out -/
theorem other_only_when_ready (c : Cfg) (es : List Env) (s : State) (h : run c es = some s) (k : Nat)
    (hk : Item.wrote (.other k) ∈ s.log) : s.phase = .ready :=
  Decidable.by_contra fun hp => absurd ((setup_run h).authOnly hp (.other k) hk) (by simp [Wire.isAuth])

/-! ## Set-up leaves the connection balanced: when connect hands the connection out, every request written during
set-up has had its answer consumed.  This is the premise under which the C06 models start a connection
(`ConnMux.init`, `TransportConn.Event.new`: nothing written that is not answered, no response bytes outstanding);
there it is an assumption ("set-up exchanges abstracted"), here a theorem about the set-up model. -/

/-- a connection handed out by `Dialer.connect` / `connGroup.connect` has consumed exactly one
answer per set-up request it wrote: no response to a set-up request is outstanding, none was consumed twice -/
theorem setup_is_balanced (c : Cfg) (es : List Env) (s : State) (h : run c es = some s) (hr : s.phase = .ready) :
    setupWrites s.log = es.countP isAnswer := by
  simpa [hr, outstanding] using (setup_run h).balanced (by simp [hr])

/-- while the set-up is in progress at most one answer is outstanding: set-up requests are never pipelined (so an answer
cannot be attributed to a later set-up request) -/
theorem setup_never_pipelines (c : Cfg) (es : List Env) (s : State) (h : run c es = some s) (hf : s.phase ≠ .failed) :
    setupWrites s.log = es.countP isAnswer + outstanding s.phase ∧ outstanding s.phase ≤ 1 := by
  refine ⟨(setup_run h).balanced hf, ?_⟩
  unfold outstanding; split <;> simp

/-- rejected mechanism / error code in any answer, a failing mechanism step, the broker closing the
connection or any other I/O failure: the dial returns an error, the connection is closed, and (since
`failed` takes no further event) nothing is ever written afterwards. -/
theorem failure_closes (c : Cfg) (es : List Env) (s : State) (h : run c es = some s)
    (hb : ∃ e ∈ es, bad e = true) : s.phase = .failed ∧ s.closed = true ∧ s.result.isSome = true := by
  have hi := setup_run h
  have hf : s.phase = .failed := Decidable.by_contra fun hp => by
    obtain ⟨e, he, hbe⟩ := hb
    rw [hi.noBad hp e he] at hbe; cases hbe
  exact ⟨hf, hi.failedClosed hf⟩

theorem failed_is_final (c : Cfg) (s : State) (e : Env) (hf : s.phase = .failed) : step c s e = none := by
  unfold step; rw [hf, react_failed]; rfl

/-- the dial returns an error exactly when it ends in `failed`; a handed-out connection has no error -/
theorem result_iff_failed (c : Cfg) (es : List Env) (s : State) (h : run c es = some s) :
    (s.result.isSome = true ↔ s.phase = .failed) := by
  have hi := setup_run h
  refine ⟨fun hr => Decidable.by_contra fun hp => ?_, fun hf => (hi.failedClosed hf).2⟩
  rw [hi.okOpen hp] at hr; cases hr

theorem seenOf_allowed (w : Wire) (h : w.isAuth = true) : (seenOf (.wrote w)).allowedBeforeVerdict = true := by
  cases w <;> simp_all [seenOf, Seen.allowedBeforeVerdict, Wire.isAuth]

theorem orderHolds_cons (y : Seen) (l : List Seen) :
    orderHolds (y :: l) = (decide (y = .verdict) || (y.allowedBeforeVerdict && orderHolds l)) := by
  cases y <;> rfl

theorem orderHolds_of_allowed {l : List Seen} (h : ∀ x ∈ l, x.allowedBeforeVerdict = true) : orderHolds l = true := by
  induction l with
  | nil => rfl
  | cons y l ih =>
    rw [orderHolds_cons, h y List.mem_cons_self, ih fun x hx => h x (List.mem_cons_of_mem _ hx)]
    exact Bool.or_true _

/-- past a verdict everything is allowed -/
theorem orderHolds_append_of_verdict {l : List Seen} (r : List Seen) (h : orderHolds l = true) (hv : Seen.verdict ∈ l) :
    orderHolds (l ++ r) = true := by
  induction l with
  | nil => cases hv
  | cons y l ih =>
    rw [List.cons_append, orderHolds_cons]
    rw [orderHolds_cons] at h
    by_cases hy : y = .verdict
    · rw [decide_eq_true hy]; rfl
    · rw [decide_eq_false hy, Bool.false_or, Bool.and_eq_true] at h ⊢
      exact ⟨h.1, ih h.2 ((List.mem_cons.mp hv).resolve_left (Ne.symm hy))⟩

/-- the monitor looks at every adjacent pair of a script -/
theorem mechSound_pair {h0 : List Env} {a b : Env} {us : List Env} {p : Bool}
    (h : mechSound p (h0 ++ a :: b :: us) = true) : (!isDone b || isFinalOk a) = true := by
  induction h0 generalizing p with
  | nil => simp only [List.nil_append, mechSound, Bool.and_eq_true] at h; exact h.2.1
  | cons e h0 ih => simp only [List.cons_append, mechSound, Bool.and_eq_true] at h; exact ih h.2

theorem allowed_of_authOnly {log : List Item} (ha : AuthOnly log) :
    ∀ x ∈ log.map seenOf, x.allowedBeforeVerdict = true := by
  intro x hx
  obtain ⟨i, hi, rfl⟩ := List.mem_map.mp hx
  cases i with
  | wrote w => exact seenOf_allowed w (ha w hi)
  | verdict => rfl

/-- Broker-side statement of the property.  If the mechanism reports `completed` only on the answer the
broker itself regards as its final positive one (`mechSound`), then on every run the journal of the
connection — the client's writes in order, with the broker's verdict — satisfies the monitor: no request
other than ApiVersions / SaslHandshake / SaslAuthenticate / raw token precedes the verdict. -/
theorem only_auth_before_broker_verdict (c : Cfg) (hs : c.sasl = true) (es : List Env) (s : State)
    (hsound : mechSound false es = true) (h : run c es = some s) :
    orderHolds (s.log.map seenOf) = true := by
  by_cases hr : s.phase = .ready
  · -- the script is `h0 ++ [answer, done] ++ uses`, and the mechanism is done only on a final answer
    obtain ⟨_, h0, d, f, tok, us, rfl, _⟩ := ready_only_after_success c es s h hs hr
    rw [List.append_assoc, List.cons_append, List.cons_append, List.nil_append] at hsound h
    have hf : f = true := by simpa [isDone, isFinalOk] using mechSound_pair hsound
    subst hf
    -- at that answer the client is not ready yet, and notes the verdict
    obtain ⟨s', h1, ⟨rest, hrest⟩, ha⟩ := only_auth_before_success c (h0 ++ [.reply 0 d true]) (.mechNext (some (true, tok)) :: us) s
      (by rw [List.append_assoc]; exact h)
    obtain ⟨t, _, ht⟩ := Run.snoc_eq_some.mp ((runFrom_eq c _ _).symm.trans h1)
    obtain ⟨a, hra, rfl⟩ := step_eq_some.mp ht
    have hv : Item.verdict ∈ (t.apply a).log := by simp [State.apply, react_verdict hra, isFinalOk]
    have hnr : (t.apply a).phase ≠ .ready := fun hrd => by
      rcases react_ready_event hra hrd with ⟨_, k, hk⟩ | ⟨_, tok, ht⟩ | hns
      · cases hk
      · cases ht
      · rw [hs] at hns; cases hns
    rw [← hrest, List.map_append]
    exact orderHolds_append_of_verdict _ (orderHolds_of_allowed (allowed_of_authOnly (ha hnr)))
      (List.mem_map.mpr ⟨_, hv, rfl⟩)
  · exact orderHolds_of_allowed (allowed_of_authOnly ((setup_run h).authOnly hr))

/-- the hypothesis cannot be dropped: a mechanism that declares itself complete on a non-final answer
lets a normal request out before the broker's verdict -/
theorem unsound_mechanism_counterexample :
    let c : Cfg := { path := .dialer, sasl := true }
    let es : List Env := [.versions 0 (some (0, 1)) (some (0, 1)), .reply 0 [] false, .mechStart (some [1]),
                          .reply 0 [2] false, .mechNext (some (true, [])), .use 3]
    (run c es).map (fun s => orderHolds (s.log.map seenOf)) = some false := by decide

/-- `sasl/plain` builds the RFC 4616 message with an empty authorization identity -/
theorem plain_format (user pass : Bytes) : plainStart user pass = plainMessage [] user pass := by
  simp [plainStart, plainMessage]

/-- the same for the format string as re-extracted from sasl/plain/plain.go on this run -/
theorem plain_format_extracted (user pass : Bytes) :
    plainStartGen user pass = some (plainMessage [] user pass) := by
  simp [plainStartGen, Gen.plainFmt, renderPlain, plainMessage]

/-- `Mechanism.Next` as extracted reports `completed` at once, as the model's `plainNext` does -/
theorem plain_next_extracted : Gen.plainNextCompleted = (plainNext []).1 := by decide

/-- the order of the authentication-relevant calls in the four functions the model follows, as
re-extracted on this run: dial → wrap → (close if host/port cannot be computed, /repo d0aad9c) → authenticate →
(close on error); handshake → Start → authenticate → Next; Transport: dial → (deferred close) → ApiVersions round trip → versions →
authenticate → only then the connection's `run` loop is started. -/
theorem call_order_extracted :
    Gen.dialerConnectCalls = ["dialContext", "NewConnWith", "Close", "authenticateSASL", "Close"] ∧
    Gen.dialerAuthCalls = ["saslHandshake", "Start", "saslAuthenticate", "Next"] ∧
    Gen.transportConnectCalls = ["dial", "Close", "RoundTrip", "SetVersions", "authenticateSASL", "run"] ∧
    Gen.transportAuthCalls = ["saslHandshakeRoundTrip", "Start", "saslAuthenticateRoundTrip", "Next"] := by
  decide +kernel

theorem splitNul_append (u rest : Bytes) (hu : ∀ b ∈ u, b ≠ 0) : splitNul (u ++ 0 :: rest) = some (u, rest) := by
  induction u with
  | nil => simp [splitNul]
  | cons b u ih =>
    have hb : b ≠ 0 := hu b (by simp)
    have := ih (fun x hx => hu x (by simp [hx]))
    simp [splitNul, hb, this]

/-- an RFC 4616 server recovers exactly (no authzid, user, password) from what PLAIN sends, provided
user name and password contain no NUL (which RFC 4616 forbids; `plain.go` does not check it) -/
theorem plain_parses (user pass : Bytes) (hu : ∀ b ∈ user, b ≠ 0) (hp : ∀ b ∈ pass, b ≠ 0) :
    parsePlain (plainStart user pass) = some ([], user, pass) := by
  have h1 : splitNul (plainStart user pass) = some ([], user ++ 0 :: pass) := by
    simp [plainStart, splitNul]
  have h2 := splitNul_append user pass hu
  simp [parsePlain, h1, h2]
  exact fun h => hp 0 h rfl

/-- the hypothesis is needed: a NUL inside the user name is not caught by `plain.go`, and the message it
builds is then not a well-formed RFC 4616 message for those credentials -/
theorem plain_nul_counterexample : parsePlain (plainStart [97, 0, 98] [99]) = none := by decide

/-- PLAIN end to end on both paths and both handshake versions: against a broker that accepts, the
script is taken, the mechanism is sound, the connection is handed out, and the journal is exactly
ApiVersions, SaslHandshake, one token carrying the RFC 4616 message, verdict, then the application's
requests. -/
theorem plain_accepts (c : Cfg) (hs : c.sasl = true) (ha : c.addrOk = true) (hsv auv : Option (Int × Int)) (v : Nat)
    (hv : (match c.path with | .dialer => negotiateConn hsv | .transport => some (selectTransport hsv)) = some v)
    (user pass d mechs : Bytes) (k : Nat) :
    let es := [Env.versions 0 hsv auv, .reply 0 mechs false] ++ plainEvents user pass (.reply 0 d true) ++ [.use k]
    mechSound false es = true ∧
    run c es = some { phase := .ready, closed := false, result := none,
                      log := [.wrote .apiVersions, .wrote (.saslHandshake v),
                              .wrote (authWire v (authVersion c.path auv) (plainMessage [] user pass)), .verdict, .wrote (.other k)] } := by
  obtain ⟨path, sasl, addrOk⟩ := c
  simp at hs ha; subst hs; subst ha
  cases path <;> simp at hv <;>
    simp [run, runFrom, start, step, react, hv, plainEvents, plainNext, State.apply, mechSound, isDone, isFinalOk,
          plain_format]

example : run { path := .transport, sasl := true } [.versions 0 (some (0, 1)) (some (0, 0)), .reply 33 [] false] =
    some { phase := .failed, closed := true, result := some (.kafka 33),
           log := [.wrote .apiVersions, .wrote (.saslHandshake 1)] } := by decide

example : run { path := .dialer, sasl := true } [.versions 0 (some (0, 0)) none, .reply 0 [] false, .mechStart (some [7]), .eof] =
    some { phase := .failed, closed := true, result := some (.kafka 58),
           log := [.wrote .apiVersions, .wrote (.saslHandshake 0), .wrote (.rawToken [7])] } := by decide

/-- an address whose port is not a number (`splitHostPortNumber` fails inside the SASL branch): the dial
fails, the freshly opened connection is closed, and a Dialer has written nothing at all -/
example : run { path := .dialer, sasl := true, addrOk := false } [] =
    some { phase := .failed, closed := true, result := some .other, log := [] } := by decide

example : run { path := .transport, sasl := true, addrOk := false } [.versions 0 none none] =
    some { phase := .failed, closed := true, result := some .other, log := [.wrote .apiVersions] } := by decide

/-- Kafka 1.0/1.1 shape: SaslHandshake 0..1 but SaslAuthenticate 0..0.  The handshake goes out as v1, so
the token is FRAMED (a SaslAuthenticate v0 request) on both paths — the range advertised for
SaslAuthenticate never makes the client fall back to raw bytes. -/
theorem framing_follows_handshake (p : Path) (au : Option (Int × Int)) (tok : Bytes) :
    (run { path := p, sasl := true } [.versions 0 (some (0, 1)) au, .reply 0 [] false, .mechStart (some tok)]).map
      (fun s => s.log.getLast?) = some (some (.wrote (.saslAuthenticate (authVersion p au) tok))) := by
  cases p <;> simp [run, runFrom, start, step, react, negotiateConn, selectTransport, authWire, State.apply]

/-- and after a v0 handshake the token is raw, whatever is advertised for SaslAuthenticate -/
theorem raw_follows_handshake_v0 (p : Path) (au : Option (Int × Int)) (tok : Bytes) :
    (run { path := p, sasl := true } [.versions 0 (some (0, 0)) au, .reply 0 [] false, .mechStart (some tok)]).map
      (fun s => s.log.getLast?) = some (some (.wrote (.rawToken tok))) := by
  cases p <;> simp [run, runFrom, start, step, react, negotiateConn, selectTransport, authWire, State.apply]

/-- structural facts re-read from the source on every run (`go/extract/muxfacts`, shapes not spellings):
`(*Conn).saslAuthenticate` negotiates on the HANDSHAKE api key and `saslauthenticate.(*Request).Required` looks at
`versions[SaslHandshake]` (what `authWire` / `framing_follows_handshake` model); `connGroup.connect` closes the
dialled socket through its deferred guard unless the conn was handed out (`failWith` sets `closed`). -/
theorem auth_structural_facts_hold :
    Gen.MuxFacts.connAuthFramingByHandshake = true ∧ Gen.MuxFacts.transportAuthFramingByHandshake = true ∧
    Gen.MuxFacts.transportConnectClosesUnlessHandedOut = true := by decide

/-! ## SCRAM adaptor: `completed` is the conversation's verdict on THIS challenge

For SCRAM `mechSound` (the mechanism completes only on a validated final answer) rests on the contract of the
dependency: `ConvSound cv V` — the conversation is done without error after a step only if the
challenge it was just given verifies (`V`, e.g. "is a server-final whose signature matches").  The adaptor adds nothing
to that and takes nothing away: -/

def ConvSound {σ : Type} (cv : Conv σ) (V : σ → Bytes → Prop) : Prop :=
  ∀ s ch, (cv.step s ch).2.2 = false → cv.done (cv.step s ch).1 = true → V s ch

/-- the adaptor reports `completed` for a challenge only if the conversation verified that very challenge -/
theorem scram_completed_only_if_verified {σ : Type} (cv : Conv σ) (V : σ → Bytes → Prop) (hc : ConvSound cv V)
    (s : σ) (ch out : Bytes) (h : (scramNext cv s ch).2 = some (true, out)) : V s ch := by
  unfold scramNext at h
  cases hf : (cv.step s ch).2.2 with
  | true => simp [hf] at h
  | false =>
    simp [hf] at h
    exact hc s ch hf h.1

/-- a step the conversation refuses (e.g. a forged server signature) is a failing `Next`: the dial fails (with
`failure_closes`: error result, connection closed, nothing written afterwards) -/
theorem scram_refusal_fails_the_dial {σ : Type} (cv : Conv σ) (s : σ) (ch : Bytes) (hf : (cv.step s ch).2.2 = true)
    (c : Cfg) (v av : Nat) :
    (scramNext cv s ch).2 = none ∧
      (react c (.awaitNext v av) (.mechNext ((scramNext cv s ch).2))).map (·.next) = some .failed := by
  unfold scramNext
  simp [hf, react, failWith]

/-- the adaptor as written in sasl/scram/scram.go is `scramStart` / `scramNext` (facts re-extracted this run) -/
theorem scram_adaptor_extracted :
    Gen.scramNextCompletedIsDoneAfterStep = true ∧ Gen.scramNextReturnsStepError = true ∧
    Gen.scramNextReturnsStepOutput = true ∧ Gen.scramNextStepsOnChallenge = true ∧
    Gen.scramStartReturnsStepError = true ∧ Gen.scramStartStepsOnEmpty = true := by decide

/-! ## TLS layering: the ClientHello is the only thing ever in clear, and a failed handshake closes the socket

`socketView` / `startTls` (Model/Auth.lean).  The statements are small — the content is in the tie: the fake broker
behind TLS notes what reaches its raw socket first (`S` = a TLS handshake record, `C:<hex>` = protocol bytes in clear),
and the shape facts below re-read where the two dial paths put the wrap. -/

/-- with TLS the broker's socket sees the ClientHello first and then exactly the journal of the plain model, inside the
channel: every theorem about the journal (only authentication requests before success, nothing after a failure, …)
holds for what travels inside, and nothing else travels -/
theorem tls_hello_then_journal (c : Cfg) (es : List Env) (s : State) (_h : runTls c true true es = some s) :
    socketView true s = .hello :: s.log.map .inner := rfl

theorem tls_success_is_plain_run (c : Cfg) (es : List Env) : runTls c true true es = run c es := by
  simp [runTls, run, startTls]

/-- a failed handshake: the dial has failed, the socket is closed, nothing was written and nothing can be
(`failed_is_final`) -/
theorem tls_handshake_failure_closes (c : Cfg) (es : List Env) (s : State) (h : runTls c true false es = some s) :
    s.phase = .failed ∧ s.closed = true ∧ s.result.isSome = true ∧ s.log = [] ∧ es = [] := by
  cases es with
  | nil =>
    simp [runTls, startTls, runFrom] at h; subst h; simp
  | cons e es =>
    simp only [runTls, startTls, Bool.not_false, Bool.and_self, ↓reduceIte, runFrom] at h
    rw [failed_is_final c _ e rfl] at h
    cases h

/-- where the wrap sits, re-read from dialer.go / transport.go this run -/
theorem tls_wrap_facts_hold :
    Gen.transportTlsWrapsBeforeProtocolConn = true ∧ Gen.dialerHandshakesInDialContext = true ∧
    Gen.dialerConnUsesDialContextResult = true ∧ Gen.dialerFailedHandshakeCloses = true := by decide

/-- the third connection path — `kafka.NewWriter(WriterConfig{Dialer: d})` builds a Transport out of the pre-0.4
Dialer: `Cfg.sasl` of the Transport model is `d.SASLMechanism != nil` only if the constructor copies the mechanism
(and the TLS config) whatever the other settings are (not, say, only under `if d.TLS != nil`) -/
theorem new_writer_keeps_security_settings : Gen.newWriterCopiesSaslAndTlsUnconditionally = true := by decide

/-! ## error codes are signed: every non-zero code is a refusal

Kafka error codes are int16 and −1 (UNKNOWN_SERVER_ERROR) is a real one — a broker whose credential back-end throws
answers a SaslAuthenticate step with it.  A test `res.ErrorCode > 0` in `saslAuthenticateRoundTrip` would take the −1
for acceptance and, with a single-step mechanism, hand the connection out.  The model's `reply err` has `err : Int` and
refuses on `err ≠ 0`. -/

theorem any_nonzero_code_is_a_refusal (c : Cfg) (err : Int) (h : err ≠ 0) (d : Bytes) (hs au : Option (Int × Int))
    (v av : Nat) (hv : v ≠ 0) :
    react c .awaitVersions (.versions err hs au) = some (failWith (.kafka err)) ∧
    react c (.awaitHandshake v av) (.reply err d false) = some (failWith (.kafka err)) ∧
    react c (.awaitAuth v av) (.reply err d false) = some (failWith (.kafka err)) := by
  refine ⟨?_, ?_, ?_⟩ <;> simp [react, h, hv]

/-- −1 at the token step of a framed PLAIN exchange: the dial fails, closed, and the connection is never handed out -/
theorem unknown_server_error_refuses :
    (run { path := .transport, sasl := true }
        [.versions 0 (some (0, 1)) (some (0, 1)), .reply 0 [] false, .mechStart (some [0, 97, 0, 98]), .reply (-1) [] false]).map
      (fun s => (s.phase, s.closed, s.result)) = some (.failed, true, some (.kafka (-1))) := by decide

/-! ## the control flow of the two `authenticateSASL` functions, re-extracted by symbolic execution

`go/extract/saslplain/authflow.go` runs both functions symbolically over scenarios of call outcomes (handshake,
`Mechanism.Start`, authenticate, `StateMachine.Next`: ok / EOF / other error, completed or not) — following if /
switch / for / return and the conditions on `err`, `errors.Is(err, io.EOF)` and `completed`, whatever the spelling —
and writes, per scenario, the calls made in order and the value returned (`Gen.dialerAuthFlow`,
`Gen.transportAuthFlow`).  `modelFlow` computes the same from Model/Auth.lean (`react`), and the theorem says the
extracted tables ARE the model's behaviour. -/

def envOfToken : String → Option Env
  | "hs:ok" => some (.reply 0 [] false)
  | "hs:err" => some (.reply 33 [] false)
  | "hs:eof" => some .eof
  | "start:ok" => some (.mechStart (some [1]))
  | "start:err" => some (.mechStart none)
  | "auth:ok" => some (.reply 0 [] false)
  | "auth:eof" => some .eof
  | "auth:err" => some .ioerr
  | "next:more" => some (.mechNext (some (false, [2])))
  | "next:done" => some (.mechNext (some (true, [])))
  | "next:err" => some (.mechNext none)
  | "next:errdone" => some (.mechNext none)      -- an error from Next wins over its `completed` result
  | _ => none

def roleOfPhase : Phase → String
  | .awaitHandshake _ _ => "hs"
  | .awaitStart _ _ => "start"
  | .awaitAuth _ _ => "auth"
  | .awaitNext _ _ => "next"
  | _ => "?"

/-- the calls the model makes (one per environment answer it consumes) and what the function returns -/
def modelFlowFrom (c : Cfg) : State → List String → List String → List String × String
  | s, [], acc =>
    (acc.reverse, match s.phase, s.result with
      | .ready, _ => "nil"
      | .failed, some (.kafka 58) => "SASLAuthenticationFailed"
      | .failed, _ => "err"
      | _, _ => "pending")
  | s, t :: ts, acc =>
    match envOfToken t with
    | none => (acc.reverse, "bad-token")
    | some e =>
      match step c s e with
      | none => (acc.reverse, "rejected")
      | some s' => modelFlowFrom c s' ts (roleOfPhase s.phase :: acc)

/-- the broker advertises SaslHandshake 0..0, so the exchange is un-framed and EOF maps to SASLAuthenticationFailed on
both paths -/
def modelFlow (p : Path) (tokens : List String) : List String × String :=
  let c : Cfg := { path := p, sasl := true }
  match step c (start c) (.versions 0 (some (0, 0)) none) with
  | some s => modelFlowFrom c s tokens []
  | none => ([], "rejected")

/-- the extracted control flow of `(*Dialer).authenticateSASL` and of transport.go `authenticateSASL` is the
model's, scenario by scenario (every failure position, one to three rounds) -/
theorem auth_control_flow_extracted :
    Gen.dialerAuthFlow.all (fun (sc, calls, ret) => modelFlow .dialer sc == (calls, ret)) = true ∧
    Gen.transportAuthFlow.all (fun (sc, calls, ret) => modelFlow .transport sc == (calls, ret)) = true := by
  decide +kernel

/-! ## every way out of the two `connect` functions, re-extracted by symbolic execution

`Gen.MuxFacts.dialerConnectFlow` / `transportConnectFlow` (go/extract/muxfacts/symflow.go): for every combination
of "dial failed / ApiVersions round trip failed / error code in it / SASL configured / host:port unusable /
authentication failed" the calls made in order, whether the connection is closed (`close`, or the deferred guard
registered and not cleared) and what is returned.  `*ConnectModelRow` computes the same row from Model/Auth.lean:
the scenario becomes a configuration and an answer script, and the row is read off the state `run` ends in. -/

/-- the scenario `sc` of a table row sets the predicate `p` (the same reading of a row as `C06.flag`) -/
def cflag (sc : List String) (p : String) : Bool := sc.contains (p ++ "=true")

def okScript : List Env :=
  [.versions 0 (some (0, 1)) (some (0, 1)), .reply 0 [] false, .mechStart (some [1]), .reply 0 [] true, .mechNext (some (true, []))]

def wroteHandshake (s : State) : Bool :=
  s.log.any fun i => match i with | .wrote (.saslHandshake _) => true | _ => false

def dialerConnectModelRow (sc : List String) : List String :=
  if cflag sc "dialFailed" then ["dial", "return:error"]
  else
    let sasl := cflag sc "sasl"
    let c : Cfg := { path := .dialer, sasl := sasl, addrOk := !(cflag sc "splitFailed") }
    let script : List Env :=
      if !sasl || !c.addrOk then []
      else if cflag sc "authFailed" then [.versions 0 (some (0, 1)) (some (0, 1)), .reply 33 [] false] else okScript
    match run c script with
    | none => ["model: script rejected"]
    | some s =>
      ["dial", "wrap"] ++ (if sasl then ["split"] else []) ++ (if !s.log.isEmpty then ["auth"] else []) ++
      (if s.closed then ["close"] else []) ++ [if s.phase == .ready then "return:conn" else "return:error"]

def transportConnectModelRow (sc : List String) : List String :=
  if cflag sc "dialFailed" then ["dial", "return:error"]
  else
    let sasl := cflag sc "sasl"
    let c : Cfg := { path := .transport, sasl := sasl, addrOk := !(cflag sc "splitFailed") }
    let versions : List Env :=
      if cflag sc "apiVersionsFailed" then [.ioerr]
      else if cflag sc "versionsErrorCode" then [.versions 35 (some (0, 1)) (some (0, 1))]
      else [.versions 0 (some (0, 1)) (some (0, 1))]
    match run c versions with
    | none => ["model: script rejected"]
    | some s1 =>
      -- the ApiVersions answer itself was good (the model also fails at this event when host:port is unusable)
      let versionsOk := s1.phase != .failed || (sasl && !c.addrOk && !(cflag sc "apiVersionsFailed") && !(cflag sc "versionsErrorCode"))
      let rest : List Env :=
        if !versionsOk || !sasl || !c.addrOk then []
        else if cflag sc "authFailed" then [.reply 33 [] false] else okScript.drop 1
      match runFrom c s1 rest with
      | none => ["model: script rejected"]
      | some s =>
        ["dial", "defer:closeUnlessCleared", "apiVersions"] ++ (if versionsOk then ["setVersions"] else []) ++
        (if versionsOk && sasl then ["split"] else []) ++ (if wroteHandshake s then ["auth"] else []) ++
        -- the guard is cleared (and the run loop started) exactly when the model does not close the connection
        (if s.closed then [] else ["startRun", "clearGuard"]) ++
        [if s.phase == .ready then "return:conn" else "return:error"]

/-- the deadline bookkeeping of the two connect functions is the subject of `connect_flows_run_under_the_time_limit` -/
def noTimeLimit (eff : List String) : List String :=
  eff.filter (fun e => !(e == "setDeadline" || e == "clearDeadline"))

/-- the extracted exit structure of `(*Dialer).connect` and `(*connGroup).connect` is the model's: same calls,
closed on exactly the same paths, a connection returned exactly when the model reaches `ready` -/
theorem connect_flows_are_the_model :
    Gen.MuxFacts.dialerConnectFlow.all (fun (sc, eff) => dialerConnectModelRow sc == noTimeLimit eff) = true ∧
    Gen.MuxFacts.transportConnectFlow.all (fun (sc, eff) => transportConnectModelRow sc == noTimeLimit eff) = true := by
  decide +kernel

/-- the set-up runs under the dial's time limit: walking a row of the two connect functions, every exchange with the
broker (`apiVersions`, `auth` = the whole SASL exchange) happens while a deadline is set on the connection, and the
deadline is cleared before the connection is handed out.  (A Dialer's ApiVersions exchange is part of `auth`: it is the
lazy negotiation inside `saslHandshake`.)  The model's `Env.ioerr` — "the pending exchange fails: timeout, …" — is an
event the code can actually produce only under this discipline: with no deadline on the connection a broker that falls
silent produces no event at all (finding C18-D33). -/
def underTimeLimit (effs : List String) : Bool :=
  (effs.foldl (fun (st : Bool × Bool) (e : String) =>
      -- st = (deadline set, ok so far)
      if e == "setDeadline" then (true, st.2)
      else if e == "clearDeadline" then (false, st.2)
      else if e == "apiVersions" || e == "auth" then (st.1, st.2 && st.1)
      else if e == "return:conn" then (st.1, st.2 && !st.1)
      else st) (false, true)).2

theorem connect_flows_run_under_the_time_limit :
    Gen.MuxFacts.dialerConnectFlow.all (fun (sc, eff) => !cflag sc "ctxHasDeadline" || underTimeLimit eff) = true ∧
    Gen.MuxFacts.transportConnectFlow.all (fun (_, eff) => underTimeLimit eff) = true := by
  decide +kernel

/-- **the time limit decides nothing else** (were the SASL exchange under `if deadline, ok := ctx.Deadline()`, then with
`Timeout == 0`, a zero `Deadline` and a context without deadline the Conn would go out unauthenticated).  Model: a run
does not depend on `Cfg.limit`.  Code: `connect_flows_are_the_model` compares EVERY row of `dialerConnectFlow` — the
table has `ctxHasDeadline` as a dimension of its own — with a model row that does not look at that flag, so the
calls made (`split`, `auth`, `close`) and the value returned are the same with and without a deadline
(`dialer_rows_agree_across_the_time_limit` below). -/
theorem time_limit_decides_nothing (c : Cfg) (b : Bool) (es : List Env) :
    run { c with limit := b } es = run c es := by
  have hstep : ∀ (s : State) (e : Env), step { c with limit := b } s e = step c s e := by
    intro s e; unfold step react; rfl
  have hstart : start { c with limit := b } = start c := by unfold start; rfl
  rw [run, run, hstart, runFrom_congr hstep]

/-- the configuration flags that only say whether (and how) the dial is limited in time -/
def isLimitFlag (x : String) : Bool :=
  x == "ctxHasDeadline=true" || x == "ctxHasDeadline=false" || x == "hasTimeout=true" || x == "hasTimeout=false" ||
  x == "noDeadline=true" || x == "noDeadline=false"

/-- rows of `dialerConnectFlow` that differ only in the limit flags differ only by the deadline bookkeeping -/
theorem dialer_rows_agree_across_the_time_limit :
    Gen.MuxFacts.dialerConnectFlow.all (fun (sc, eff) =>
      Gen.MuxFacts.dialerConnectFlow.all (fun (sc', eff') =>
        !(sc.filter (fun x => !isLimitFlag x) == sc'.filter (fun x => !isLimitFlag x)) ||
        noTimeLimit eff == noTimeLimit eff')) = true := by
  -- the model row reads four flags, none of them a limit flag, and by `connect_flows_are_the_model` the effects of
  -- every row (deadline bookkeeping aside) are its model row
  have hflag : ∀ (sc : List String) (p : String), isLimitFlag (p ++ "=true") = false →
      cflag (sc.filter fun x => !isLimitFlag x) p = cflag sc p := by
    intro sc p hp
    rw [cflag, cflag, Bool.eq_iff_iff]
    simp only [List.contains_iff_mem, List.mem_filter, hp, Bool.not_false, and_true]
  have hrow : ∀ sc, dialerConnectModelRow (sc.filter fun x => !isLimitFlag x) = dialerConnectModelRow sc := by
    intro sc
    simp only [dialerConnectModelRow, hflag sc "dialFailed" (by decide +kernel), hflag sc "sasl" (by decide +kernel),
      hflag sc "splitFailed" (by decide +kernel), hflag sc "authFailed" (by decide +kernel)]
  have hmodel := connect_flows_are_the_model.1
  simp only [List.all_eq_true, Bool.or_eq_true, Bool.not_eq_true', beq_eq_false_iff_ne, beq_iff_eq] at hmodel ⊢
  intro (sc, eff) h (sc', eff') h'
  refine Decidable.not_or_of_imp fun heq => ?_
  rw [← hmodel _ h, ← hmodel _ h', ← hrow sc, heq, hrow]

/-! ## raw versus framed: the two places that decide it, re-extracted -/

def isRawWire : Wire → Bool
  | .rawToken _ => true
  | _ => false

/-- `(*Conn).saslAuthenticate`: what is negotiated, which exchange is used (from `authWire`), and how the un-framed
exchange ends on each failure — including a negative length, which is rejected (finding C18-D30) -/
def connSaslAuthenticateModelRow (sc : List String) : List String :=
  let neg := "negotiate:saslHandshake"          -- the HANDSHAKE key: `negotiateVersion(saslHandshake, v0, v1)`
  if cflag sc "negotiateFailed" then [neg, "return:error"]
  else if !isRawWire (authWire (if cflag sc "handshakeWasV1" then 1 else 0) 0 []) then
    -- the framed answer: a failed exchange is returned as it is; an error code in a well-formed answer is the model's
    -- `reply err` with err ≠ 0 (`failWith (.kafka err)`)
    let kafka := !cflag sc "framedExchangeFailed" && cflag sc "errorCodeInAnswer" &&
      (react { path := .dialer, sasl := true } (.awaitAuth 1 0) (.reply 58 [] false)).map (·.err) == some (some (.kafka 58))
    [neg, "framedExchange"] ++ (if kafka then ["kafkaError"] else []) ++ ["return:data,err"]
  else
    [neg, "rawLength", "rawWrite"] ++
    (if cflag sc "writeFailed" then ["return:error"]
     else ["rawFlush"] ++
      (if cflag sc "flushFailed" then ["return:error"]
       else ["rawReadLength"] ++
        (if cflag sc "lengthReadFailed" || cflag sc "negativeLength" then ["return:error"]
         else ["rawReadBody", "return:data,err"])))

/-- `protocol.(*Conn).RoundTrip`: a fresh id, then the raw exchange exactly for a message that is a RawExchanger
and says it is required (`Required` = "the handshake went out as v0", fact `transportAuthFramingByHandshake`) -/
def protocolConnRoundTripModelRow (sc : List String) : List String :=
  ["nextId"] ++ (if cflag sc "isPrepared" then ["prepare"] else []) ++
  [if cflag sc "isRawExchanger" && isRawWire (authWire (if cflag sc "rawRequired" then 0 else 1) 0 []) then "rawExchange"
   else "framedRoundTrip"]

/-- the three small wrappers around one exchange: a transport failure is passed on, an error code in a well-formed
answer becomes a `kafka.Error` (`react`'s `failWith (.kafka err)`), otherwise the exchange succeeded -/
def wrapperModelRow (ph : Phase) (pre : List String) (sc : List String) : List String :=
  if cflag sc "negotiateFailed" then pre ++ ["return"]
  else
    let e : Env := if cflag sc "exchangeFailed" then .ioerr else if cflag sc "errorCodeInAnswer" then .reply 33 [] false else .reply 0 [] false
    match react { path := .dialer, sasl := true } ph e with
    | none => ["model: event not enabled"]
    | some a =>
      pre ++ ["exchange"] ++ (match a.err with | some (.kafka _) => ["kafkaError"] | _ => []) ++ ["return"]

theorem wrapper_flows_are_the_model :
    Gen.MuxFacts.connSaslHandshakeFlow.all
      (fun (sc, eff) => wrapperModelRow (.awaitHandshake 1 0) ["negotiate:saslHandshake"] sc == eff) = true ∧
    Gen.MuxFacts.saslHandshakeRoundTripFlow.all (fun (sc, eff) => wrapperModelRow (.awaitHandshake 1 0) [] sc == eff) = true ∧
    Gen.MuxFacts.saslAuthenticateRoundTripFlow.all (fun (sc, eff) => wrapperModelRow (.awaitAuth 1 0) [] sc == eff) = true := by
  decide +kernel

theorem framing_flows_are_the_model :
    Gen.MuxFacts.connSaslAuthenticateFlow.all (fun (sc, eff) => connSaslAuthenticateModelRow sc == eff) = true ∧
    Gen.MuxFacts.protocolConnRoundTripFlow.all (fun (sc, eff) => protocolConnRoundTripModelRow sc == eff) = true := by
  decide +kernel

end KV.C18
