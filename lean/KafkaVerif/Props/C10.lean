/-
Props/C10.lean — property C10: types documented as goroutine-safe are free of data races.

Model: Model/Lockset.lean (abstract lock semantics, happens-before, access table, `raceFree`).
Table: Gen/Accesses.lean — REGENERATED from /repo by go/extract/accesses/accesses.go on every run
(one row per read/write site of a field of a goroutine-safe type, with the must-lockset).
Skeletons (§4, §5): Model/LockProg.lean (run semantics `Run` and must-lockset analysis `an` of control skeletons) over
Gen/Skeletons.lean, with the entry locksets and row index of Gen/LockFacts.lean — both regenerated on every run as well.

Level: a proof over an extracted abstraction.  The final statements `repo_no_race_of_conformance(_tokens,_barriers)` assume
`Conforms`, that every access is a table row, the annotated holds (`AsmOk`) and the token protocols (`TokenOrdered` /
`BarrierProtocol`).  What the extractor claims (table complete, skeletons faithful) is what the race-detector runs of
go/cmd/c10 sample.  See docs/notes/C10.md.
-/
import KafkaVerif.Lemmas.LockCompose
import KafkaVerif.Lemmas.LockEval
import KafkaVerif.Lemmas.NameBytes
import KafkaVerif.Gen.Accesses
import KafkaVerif.Gen.Skeletons
import KafkaVerif.Gen.LockFacts

namespace KV.C10
open KV.Lockset

/-! ## 1. The lockset discipline is sound (generic, for every table and every execution) -/

/-! ### tokens as what they are: ordering assumptions

A token (`own:writeBatch`, `once:Writer.once`, …) is not a mutex: no acquire/release event of it exists in a real
execution.  Instead of pretending (hypothesis "the token is held"), the following variant takes the claim of a token
annotation literally: two conflicting accesses whose rows share the token are ordered by the hand-off it names. -/

def TokenOrdered (tokens : List Mutex) (tr : List Ev) : Prop :=
  ∀ (i j : Nat) t u a b, i < j → tr[i]? = some (Ev.acc t a) → tr[j]? = some (Ev.acc u b) → t ≠ u → conflict a b = true →
    (∃ h, h ∈ a.locks ∧ ∃ k, k ∈ b.locks ∧ h.m = k.m ∧ tokens.contains h.m = true) → HB tr i j

/-- every access is a table row performed while its recorded REAL locks are held -/
def RespectsReal (tokens : List Mutex) (tbl : List Access) (tr : List Ev) : Prop :=
  ∀ (i : Nat) t a, tr[i]? = some (Ev.acc t a) → a ∈ tbl ∧ ∀ h, h ∈ a.locks → tokens.contains h.m = false → HoldsAtLeast tr i t h

theorem lockset_orders {tbl : List Access} {tr : List Ev} (tokens : List Mutex) (hrf : raceFree tbl = true)
    (hres : RespectsReal tokens tbl tr) (htok : TokenOrdered tokens tr)
    {i j : Nat} {t u : Tid} {a b : Access} (hij : i < j)
    (hi : tr[i]? = some (.acc t a)) (hj : tr[j]? = some (.acc u b)) (htu : t ≠ u)
    (hc : conflict a b = true) : HB tr i j := by
  obtain ⟨hat, hal⟩ := hres i t a hi
  obtain ⟨hbt, hbl⟩ := hres j u b hj
  obtain ⟨h, hh, k, hk, hm, hx⟩ := common_hold hrf hat hbt hc
  cases htk : tokens.contains h.m with
  | true => exact htok i j t u a b hij hi hj htu hc ⟨h, hh, k, hk, hm, htk⟩
  | false => exact hb_of_common_lock hij hi hj htu (hal h hh htk) (hbl k hk (hm ▸ htk)) hm hx

/-- The lockset discipline with tokens read as ordering assumptions. -/
theorem lockset_sound_tokens {tbl : List Access} (tokens : List Mutex) (hrf : raceFree tbl = true) :
    ∀ tr : List Ev, WF tr → RespectsReal tokens tbl tr → TokenOrdered tokens tr → ¬ Race tr := by
  intro tr _ hres htok ⟨i, j, t, u, a, b, hij, hi, hj, htu, hc, hn⟩
  exact hn (lockset_orders tokens hrf hres htok hij hi hj htu hc)

theorem lockset_sound {tbl : List Access} (hrf : raceFree tbl = true) :
    ∀ tr : List Ev, WF tr → Respects tbl tr → ¬ Race tr := fun tr hwf hres =>
  -- the case of no tokens
  lockset_sound_tokens [] hrf tr hwf (fun i t a hi => ⟨(hres i t a hi).1, fun h hh _ => (hres i t a hi).2 h hh⟩)
    (fun _ _ _ _ _ _ _ _ _ _ _ ⟨_, _, _, _, _, hk⟩ => nomatch hk)

/-- **closed-flag barrier.**  `t` performs an access at `i` inside a critical section of `m` (exclusive, or shared);
    a different goroutine `u` later enters an exclusive critical section of `m` at `c > i` (the section that sets the
    `closed` flag) and performs an access at `j > c` — possibly after leaving the section, holding nothing.  Then the
    two accesses are ordered by happens-before: `t`'s release of `m`, `u`'s acquisition at or before `c`, program order. -/
theorem barrier_orders {tr : List Ev} (hwf : WF tr) {i c j : Nat} {t u : Tid} {a b : Access} {m : Mutex} {mode : Mode}
    (hi : tr[i]? = some (.acc t a)) (hj : tr[j]? = some (.acc u b)) (htu : t ≠ u)
    (hh : HoldsAt tr i t ⟨m, mode⟩)
    (hic : i < c) (hcj : c < j) (hc : tr[c]? = some (.acq u m .excl)) : HB tr i j :=
  hb_of_holds (Nat.lt_succ_of_lt hic) hcj hi hj rfl htu hh (holdsAt_after_acq hwf hc) (Or.inr rfl)

/-! ### barrier tokens: the ordering claim reduced to lock events

A `barrier:` / `order:` token stands for the *closed-flag barrier*: guarded accesses (`wg.Add`, `r.cancel = …`) are
performed under the guard mutex `g` and only while `!closed`; the closing goroutine sets `closed` in an exclusive
critical section of `g` and performs its access (`wg.Wait()`, the read of `r.cancel`) afterwards, holding nothing.  In
terms of events: for two conflicting accesses that share the token, either both sit in critical sections of `g` (two
guarded accesses), or the earlier one does and the later one's goroutine entered an exclusive section of `g` in
between (guarded, then closing).  The remaining order — closing access first, guarded access later — is what the
guard excludes; `BarrierProtocol` claims that it does not occur.  (The first case asks for one exclusive side; in the
second the closing goroutine's exclusive acquisition is that side: `barrier_orders`.) -/
def BarrierProtocol (tok g : Mutex) (tr : List Ev) : Prop :=
  ∀ (i j : Nat) t u a b, i < j → tr[i]? = some (Ev.acc t a) → tr[j]? = some (Ev.acc u b) → t ≠ u → conflict a b = true →
    (∃ h, h ∈ a.locks ∧ ∃ k, k ∈ b.locks ∧ h.m = k.m ∧ h.m = tok) →
    (∃ m₁ m₂, HoldsAt tr i t ⟨g, m₁⟩ ∧ HoldsAt tr j u ⟨g, m₂⟩ ∧ (m₁ = .excl ∨ m₂ = .excl)) ∨
    ((∃ m₁, HoldsAt tr i t ⟨g, m₁⟩) ∧ ∃ c, i < c ∧ c < j ∧ tr[c]? = some (Ev.acq u g .excl))

/-- the ordering claim of a barrier token follows from the lock events: no assumption about "hand-offs" is left,
    only the shape of the critical sections -/
theorem tokenOrdered_of_barrier {tok g : Mutex} {tr : List Ev} (hwf : WF tr) (hb : BarrierProtocol tok g tr) :
    TokenOrdered [tok] tr := by
  intro i j t u a b hij hi hj htu hc ⟨h, hh, k, hk, hm, htk⟩
  have htok : h.m = tok := by simpa using htk
  rcases hb i j t u a b hij hi hj htu hc ⟨h, hh, k, hk, hm, htok⟩ with ⟨m₁, m₂, h₁, h₂, hx⟩ | ⟨⟨m₁, h₁⟩, c, hic, hcj, hcq⟩
  · exact hb_of_holds hij (Nat.le_refl j) hi hj rfl htu h₁ h₂ hx
  · exact barrier_orders hwf hi hj htu h₁ hic hcj hcq

theorem tokenOrdered_mem {toks : List Mutex} {tr : List Ev} (h : TokenOrdered toks tr) {x : Mutex} (hx : x ∈ toks) :
    TokenOrdered [x] tr := by
  intro i j t u a b hij hi hj htu hc ⟨p, hp, k, hk, hm, htk⟩
  have : p.m = x := by simpa using htk
  exact h i j t u a b hij hi hj htu hc ⟨p, hp, k, hk, hm, by rw [this]; simpa using hx⟩

theorem tokenOrdered_of_forall {toks : List Mutex} {tr : List Ev} (h : ∀ x, x ∈ toks → TokenOrdered [x] tr) :
    TokenOrdered toks tr := by
  intro i j t u a b hij hi hj htu hc ⟨p, hp, k, hk, hm, htk⟩
  have hmem : p.m ∈ toks := by simpa using htk
  exact h p.m hmem i j t u a b hij hi hj htu hc ⟨p, hp, k, hk, hm, by simp⟩

/-- Construction before publication: what a constructor does before it starts a goroutine
    happens-before everything that goroutine does (why `ctor`-phase rows are exempt). -/
theorem ctor_before_spawned {tr : List Ev} {i s j : Nat} {t c : Tid} {a : Access} {b : Ev}
    (his : i < s) (hsj : s < j) (hi : tr[i]? = some (.acc t a)) (hs : tr[s]? = some (.spawn t c))
    (hj : tr[j]? = some b) (hb : b.tid = c) : HB tr i j :=
  HB.trans (HB.po his hi hs rfl) (HB.go hsj hs hj hb)

/-- Hand-off (what an ownership *token* stands for): what `t` does before it signals on a channel-like
    object (close(ch), send, end of the once.Do body, wg.Done) happens-before what `u` does after the
    matching wait (receive, return of once.Do, wg.Wait) that follows the signal. -/
theorem handoff_orders {tr : List Ev} {i s w j : Nat} {t u : Tid} {c : Nat} {a : Access} {b : Ev}
    (his : i < s) (hsw : s < w) (hwj : w < j) (hi : tr[i]? = some (.acc t a)) (hs : tr[s]? = some (.signal t c))
    (hw : tr[w]? = some (.wait u c)) (hj : tr[j]? = some b) (hb : b.tid = u) : HB tr i j :=
  HB.trans (HB.po his hi hs rfl) (HB.trans (HB.chan hsw hs hw) (HB.po hwj hw hj hb.symm))

theorem raceFree_iff_no_racyPairs (tbl : List Access) : raceFree tbl = true ↔ racyPairs tbl = [] := by
  simp [raceFree, racyPairs, List.flatMap_eq_nil_iff, List.filter_eq_nil_iff]

/-! ## 2. Non-vacuity and sharpness on concrete executions -/

/-- rows: field 0 written under mutex 7 (exclusive); read under mutex 7 (shared); written with no lock -/
def exW : Access := { field := 0, write := true, atomic := false, locks := [⟨7, .excl⟩], phase := .published, site := 0 }
def exR : Access := { field := 0, write := false, atomic := false, locks := [⟨7, .shared⟩], phase := .published, site := 1 }
def exU : Access := { field := 0, write := true, atomic := false, locks := [], phase := .published, site := 2 }

/-- thread 1 writes under Lock, thread 2 reads under RLock -/
def exTrace : List Ev :=
  [.spawn 0 1, .spawn 0 2, .acq 1 7 .excl, .acc 1 exW, .rel 1 7 .excl, .acq 2 7 .shared, .acc 2 exR, .rel 2 7 .shared]

example : raceFree [exW, exR] = true := by decide
example : wfB exTrace = true := by decide
/-- the hypotheses of `lockset_sound` are met by a concrete non-trivial execution … -/
example : WF exTrace := ⟨_, rfl⟩
example : Respects [exW, exR] exTrace := respectsB_sound (by decide)
/-- … whose two accesses conflict, so the conclusion says something -/
example : conflict exW exR = true := by decide

/-- Sharpness: the table with the unlocked writer is rejected. -/
theorem unlocked_rejected : raceFree [exW, exU] = false := by decide

/-- two goroutines performing the unlocked write, nothing else -/
def racyTrace : List Ev := [.acc 1 exU, .acc 2 exU]

theorem racyTrace_quiet : Quiet racyTrace := by
  intro i e h
  have he : e = .acc 1 exU ∨ e = .acc 2 exU := by simpa [racyTrace] using List.mem_of_getElem? h
  rcases he with rfl | rfl <;> exact ⟨nofun, nofun, nofun⟩

/-- A table with the unlocked write row really has a racy execution in the model: `racyTrace` is well formed, respects
    the table, and its two writes are not ordered by happens-before.  What the discipline rejects here is a race, not
    an artefact. -/
theorem unlocked_pair_races : WF racyTrace ∧ Respects [exU] racyTrace ∧ Race racyTrace := by
  refine ⟨⟨_, rfl⟩, fun i t a h => ?_, 0, 1, 1, 2, exU, exU, by decide, rfl, rfl, by decide, by decide, fun hb => ?_⟩
  · have : a = exU := by
      have := List.mem_of_getElem? h
      simp only [racyTrace, List.mem_cons, Ev.acc.injEq, List.not_mem_nil, or_false] at this
      rcases this with ⟨_, h⟩ | ⟨_, h⟩ <;> exact h
    subst this
    exact ⟨List.mem_singleton.2 rfl, fun h hh => nomatch hh⟩
  · -- no release, `go` or signal in the execution: happens-before stays within a goroutine
    obtain ⟨a, b, ha, hb', hab⟩ := hb_same_tid_of_quiet racyTrace_quiet hb
    cases ha; cases hb'
    exact absurd hab (by decide)

/-- shared/shared does not protect a write: two RLock holders, one of them writing, is rejected -/
theorem shared_shared_rejected :
    raceFree [{ exW with locks := [⟨7, .shared⟩] }, exR] = false := by decide

/-- an atomic pair is accepted without locks; atomic against plain is not -/
theorem atomic_pair_ok : raceFree [{ exU with atomic := true }] = true := by decide
theorem atomic_plain_rejected : raceFree [{ exU with atomic := true }, { exU with write := false }] = false := by decide

/-- `sync.WaitGroup` reuse contract ("an `Add` that starts from zero must happen before `Wait`").  The
    WaitGroup's own methods are internally synchronised (rows of `T.f`, atomic), but the *contract* is a discipline of
    the caller: the extractor emits `Add`/`Go` as a plain write and `Wait` as a plain read of the virtual field
    `T.f/reuse`, so `Add ∥ Wait` is a conflicting pair like any other.  The rows below have the shape of a `Reader.join`
    whose generation goroutine waits outside the barrier: `start` adds under the mutex (7) inside the closed-flag
    barrier (token 22), `Close` waits behind the barrier, and the generation goroutine's `unsubscribe` waits holding
    nothing — rejected; without that row, accepted. -/
def wgAdd : Access := { field := 1, write := true, atomic := false, locks := [⟨7, .excl⟩, ⟨22, .excl⟩], phase := .published, site := 10 }
def wgWaitClose : Access := { field := 1, write := false, atomic := false, locks := [⟨22, .excl⟩], phase := .published, site := 11 }
def wgWaitGen : Access := { field := 1, write := false, atomic := false, locks := [], phase := .published, site := 12 }
theorem waitgroup_reuse_rejected : raceFree [wgAdd, wgWaitClose, wgWaitGen] = false := by decide
theorem waitgroup_barrier_ok : raceFree [wgAdd, wgWaitClose] = true := by decide

/-- a concrete execution of the protocol: goroutine 1 adds inside a critical section of mutex 7, goroutine 2 closes
    (critical section of 7) and then waits holding nothing; the two accesses share no lock at the moment they are
    performed, and are ordered. -/
def barrierTrace : List Ev :=
  [.acq 1 7 .excl, .acc 1 wgAdd, .rel 1 7 .excl, .acq 2 7 .excl, .rel 2 7 .excl, .acc 2 wgWaitClose]

theorem barrierTrace_ordered : HB barrierTrace 1 5 :=
  barrier_orders (m := 7) (mode := .excl) (c := 3) ⟨_, rfl⟩ rfl rfl (by decide) ⟨_, rfl, rfl⟩ (by decide) (by decide) rfl

/-- A row the extractor emits for "write to the pointee after publication" / "use after Pool.Put" / "object
    retained in a field after Put" is a published, non-atomic write with no lock: such a row conflicts with
    itself (the same statement run by two goroutines, or by the new owner of the object), so **every** table
    containing one is rejected — this is what makes those extractor patterns proof-visible. -/
theorem unlocked_write_row_rejected {tbl : List Access} {a : Access} (hmem : a ∈ tbl)
    (hw : a.write = true) (hna : a.atomic = false) (hp : a.phase = .published) (hl : a.locks = []) :
    raceFree tbl = false := by
  have hbad : pairOk a a = false := by
    simp [pairOk, conflict, sharesLock, hw, hna, hp, hl]
  cases h : raceFree tbl with
  | false => rfl
  | true => rw [raceFree_mem h hmem hmem] at hbad; cases hbad

/-! ## 3. The regenerated access table of /repo -/

/-- the grouped table emitted by the extractor passes the grouped check (per-field pair checks, keys strictly
    increasing, every row filed under its own field); evaluated in the form `groupsOkFast`: a group all of whose rows
    hold one lock of its first published write needs no pair checks -/
theorem repo_groups_ok : groupsOk Gen.groups = true := groupsOk_of_fast (by decide +kernel)

/-- The access table regenerated from the working tree satisfies the lockset
    discipline.  Rows that a recorded finding excludes are not in `Gen.accesses` but in `Gen.excluded`
    (see `repo_excluded_are_racy`); with no exclusions this is the full statement. -/
theorem repo_race_free : raceFree Gen.accesses = true := groupsOk_raceFree repo_groups_ok

theorem repo_no_race : ∀ tr : List Ev, WF tr → Respects Gen.accesses tr → ¬ Race tr :=
  lockset_sound repo_race_free

/-- Exclusions are not padding: every excluded row is in an unprotected conflicting pair with an excluded row or with
    a row of the table filed under its field.  (`repo_race_free` speaks of the rows of `Gen.accesses` only.) -/
theorem repo_excluded_are_racy :
    Gen.excluded.all (fun a => (Gen.excluded ++ rowsOf Gen.groups a.field).any (fun b => !pairOk a b || !pairOk b a)) = true := by
  decide +kernel

/-! ## 4. The locksets of the table are re-derived by a verified analysis of the program skeletons

`Gen/Skeletons.lean` (regenerated) holds the control structure of every function that matters for locksets;
`Lemmas/LockProg.lean` proves the must-lockset analysis `an` sound for all runs of such skeletons
(`an_sound`, `prog_sound`).  Here the analysis is *evaluated by the kernel* on the regenerated skeletons: the side
conditions of the soundness theorem hold, and every lockset the extractor wrote into the access table — except the
rows listed in `Gen.unjustifiedOcc` / `Gen.exemptOcc` — is contained in what the analysis derives for that site. -/

open KV.LockProg

-- here and below the kernel evaluates the forms of Lemmas/LockEval.lean and NameBytes.lean (`Trie.getR` for the lookups);
-- a proof whose checker reads a trie first unfolds it as far as `Trie.get`, so that the rewrite with `Trie.get_eq_getR` finds it
theorem repo_skeleton_rel_ok : relOkB Gen.skeletons Gen.skRel = true := by
  unfold relOkB; simp only [all_relSet]; unfold getL; rw [Trie.get_eq_getR]; decide +kernel

/-- one kernel evaluation of the analysis over all skeletons: the entry locksets hold at every call site and the
    indexed copy `Gen.skRowsT` of the rows agrees with the analysis -/
theorem repo_skeleton_check : checkAllB Gen.skeletons Gen.skRel Gen.skEntryR Gen.skRowsT = true := by
  rw [checkAllB_eq_anChk]; unfold getL getLS; rw [Trie.get_eq_getR]; decide +kernel

theorem repo_skeleton_entry_ok : entryOkB Gen.skeletons Gen.skRel Gen.skEntryR = true := checkAll_entry repo_skeleton_check

theorem repo_rows_indexed : rowsIndexedB (allRows Gen.skeletons Gen.skRel Gen.skEntryR) Gen.skRowsT = true :=
  checkAll_rows repo_skeleton_check

/-- the skeletons are numbered consecutively and every call names one of them; read as a proposition by
    `LockProg.targets_resolve` (every call target of every body has a body), which nothing below applies.
    Not a hypothesis of the theorems of §5 but a guard on what `Conforms` means: a call without a body has no `Run`, so
    a goroutine that reaches one could not conform. -/
theorem repo_calls_resolve : indexedB Gen.skeletons = true ∧ targetsOkB Gen.skeletons = true := by
  unfold targetsOkB; simp only [all_targets]; decide +kernel

/-- only function literals and functions with an unexported name start from a non-empty entry lockset: whatever can be
    entered from another package is analysed from ∅ (`Conforms` lets a goroutine run only a skeleton whose entry lockset
    is empty; this check says that every exported function is such a skeleton) -/
theorem repo_entry_roots_ok : entryRootsOkB Gen.skeletonNames Gen.skEntryR = true :=
  -- evaluated on the UTF-8 bytes of the names: the kernel decodes a string literal very slowly (Lemmas/NameBytes.lean)
  (entryRootsOkB_eq_bytes _ _).trans (by unfold entryRootsOkBytes getLS; rw [Trie.get_eq_getR]; decide +kernel)

/-- every table row outside the two listed sets is justified by the analysis -/
theorem repo_table_justified :
    Gen.accesses.all (fun a => justT Gen.skRowsT Gen.tokenIds a || Gen.exemptOcc.contains a.site ||
      Gen.unjustifiedOcc.contains a.site) = true := by
  unfold justT; rw [Trie.get_eq_getR]; decide +kernel

/-- The accesses of a run are those in the body and in callees, closures called in place among them; a spawned closure is
    a run of its own and has no event in this one.
    This is the clause "the recorded locks are held" of the `Respects` hypothesis of `repo_no_race`, for the real (non-token)
    locks of the rows outside the two listed sets and for a `Run` of the skeleton semantics, proved instead of assumed; §5
    carries it to global executions. -/
theorem repo_locks_held {g : Nat} {body : Cmd} (hb : envOf Gen.skeletons g = some body)
    {h h' : LS} {obs : List LEv} {t : Out}
    (hs : Sub (getLS Gen.skEntryR g) h) (hrun : Run (envOf Gen.skeletons) body h obs h' t)
    {a : Access} (ha : a ∈ Gen.accesses) (hnu : Gen.unjustifiedOcc.contains a.site = false)
    (hne : Gen.exemptOcc.contains a.site = false) {hk : LS} (hobs : LEv.acc a.site hk ∈ obs) :
    Sub (realLocks Gen.tokenIds a) hk := by
  obtain ⟨L, hrow, hsub⟩ := prog_sound repo_skeleton_rel_ok repo_skeleton_entry_ok hb hs hrun a.site hk hobs
  have hj := (List.all_eq_true.1 repo_table_justified) a ha
  rw [hnu, hne] at hj
  exact justT_held repo_rows_indexed (by simpa using hj) hrow hsub

/-! ## 5. From goroutines that follow the skeletons to `Respects`, and to race freedom

`Respects Gen.accesses tr` is the assumption of `repo_no_race`.  Its clause "the recorded locks are held" is a
theorem for every well-formed global execution whose goroutines follow skeletons (`Conforms`): simulation of the
global lock state by the per-goroutine runs (`Lemmas/LockCompose.lean: sim`) + `repo_locks_held`.  What stays
assumed is stated as hypotheses: every access event is a table row (completeness of the table), the tokens
(ordering protocols) are respected, and the annotated assumptions `asm` (func_holds, call_acquires) hold where the
execution marks them (`AsmOk`). -/

/-- goroutine `t` of `tr` follows a skeleton: its events (Lock = an exclusive + a shared hold, Unlock/RUnlock = release,
    access = site of the row) are a prefix of the events of a run of a function body entered with no lock held.
    A prefix: a goroutine that is still running conforms.  One run of one skeleton per goroutine id: a goroutine is
    the execution of a single spawned body — a caller's goroutine that enters two exported methods in turn is no run of
    any skeleton.  The run is of `body` itself, not of a call of it, and deferred unlocks are events of a call only
    (`Run.call` appends `(dfrs body).map .rel`): a goroutine whose root body defers an unlock conforms up to its return,
    not beyond. -/
def Conforms (tr : List Ev) (t : Tid) : Prop :=
  ∃ g body evs h' o, envOf Gen.skeletons g = some body ∧ getLS Gen.skEntryR g = [] ∧
    Run (envOf Gen.skeletons) body [] evs h' o ∧ projT t tr <+: evs.map shapeOf

/-- `mu.Lock(); x.f++; mu.Unlock()` as a skeleton.  The two examples below: it has a run, and the global execution
    `Lock; access; Unlock` of one goroutine projects onto the shapes of that run's events (over `[(0, exBody)]`;
    `Conforms` itself speaks of `Gen.skeletons`). -/
def exBody : Cmd := .seq (.acq ⟨7, .excl⟩) (.seq (.acq ⟨7, .shared⟩) (.seq (.acc 0) (.rel 7)))

example : Run (envOf [(0, exBody)]) exBody []
    [.acq ⟨7, .excl⟩, .acq ⟨7, .shared⟩, .acc 0 [⟨7, .shared⟩, ⟨7, .excl⟩], .rel 7] (dropM 7 [⟨7, .shared⟩, ⟨7, .excl⟩]) .normal :=
  .seqN .acq (.seqN .acq (.seqN .acc .rel))

example : projT 1 [.acq 1 7 .excl, .acc 1 exW, .rel 1 7 .excl] =
    ([.acq ⟨7, .excl⟩, .acq ⟨7, .shared⟩, .acc 0 [⟨7, .shared⟩, ⟨7, .excl⟩], .rel 7] : List LEv).map shapeOf := by decide

/-- a row whose locks are not re-derived from the skeletons: listed as unjustified (the check fails then) or exempt.
    For such rows the Go-side lockset is an assumption of the theorems below (`hext`).  Exempt are rows whose lock is held
    only on the paths where a local still aliases the field's object (`pointee:` rows under an alias guard) —
    path-sensitive in a way the skeletons do not express; which rows the regenerated tables exempt: docs/notes/C10.md.
    With both lists empty `hext` would be vacuous; the check reports a non-empty `unjustifiedOcc` as a broken obligation
    and a non-empty `exemptOcc` as a note in the evidence. -/
def NotRederived (a : Access) : Prop := Gen.unjustifiedOcc.contains a.site = true ∨ Gen.exemptOcc.contains a.site = true

theorem repo_real_locks_held {tr : List Ev} (hwf : WF tr) {t : Tid} (hconf : Conforms tr t)
    (hasm : AsmOk t LState.init tr) {i : Nat} {a : Access} (hi : tr[i]? = some (Ev.acc t a)) (ha : a ∈ Gen.accesses)
    (hre : ¬ NotRederived a) :
    ∀ x, x ∈ a.locks → Gen.tokenIds.contains x.m = false → HoldsAtLeast tr i t x := by
  obtain ⟨g, body, evs, h', o, hb, he, hrun, hpre⟩ := hconf
  obtain ⟨sj, hk, hr, hmem, hheld⟩ := sim t hwf hrun hpre hasm hi
  have hnu : Gen.unjustifiedOcc.contains a.site = false := Bool.eq_false_iff.2 fun h => hre (Or.inl h)
  have hne : Gen.exemptOcc.contains a.site = false := Bool.eq_false_iff.2 fun h => hre (Or.inr h)
  have hsub : Sub (realLocks Gen.tokenIds a) hk :=
    repo_locks_held hb (by rw [he]; exact sub_nil _) hrun ha hnu hne hmem
  intro x hx hnt
  exact holdsAtLeast_of_holdsAL hr (hheld x (hsub x (mem_realLocks.2 ⟨hx, hnt⟩)))

/-- What both final forms rest on; table membership and the rows that are not re-derived stay hypotheses. -/
theorem repo_respectsReal_of_conformance {tr : List Ev} (hwf : WF tr)
    (hconf : ∀ t, Conforms tr t) (hasm : ∀ t, AsmOk t LState.init tr)
    (hrows : ∀ (i : Nat) t a, tr[i]? = some (Ev.acc t a) → a ∈ Gen.accesses)
    (hext : ∀ (i : Nat) t a, tr[i]? = some (Ev.acc t a) → NotRederived a → ∀ h, h ∈ a.locks → HoldsAtLeast tr i t h) :
    RespectsReal Gen.tokenIds Gen.accesses tr := by
  intro i t a hi
  refine ⟨hrows i t a hi, fun h hh hnt => ?_⟩
  by_cases hre : NotRederived a
  · exact hext i t a hi hre h hh
  · exact repo_real_locks_held hwf (hconf t) (hasm t) hi (hrows i t a hi) hre h hh hnt

theorem respects_of_real {tokens : List Mutex} {tbl : List Access} {tr : List Ev} (h : RespectsReal tokens tbl tr)
    (htok : ∀ (i : Nat) t a, tr[i]? = some (Ev.acc t a) → ∀ h, h ∈ a.locks → tokens.contains h.m = true → HoldsAtLeast tr i t h) :
    Respects tbl tr := fun i t a hi =>
  ⟨(h i t a hi).1, fun x hx => by
    cases htk : tokens.contains x.m with
    | true => exact htok i t a hi x hx htk
    | false => exact (h i t a hi).2 x hx htk⟩

/-- `Respects` for executions whose goroutines follow the skeletons; the tokens stay hypotheses. -/
theorem repo_respects_of_conformance {tr : List Ev} (hwf : WF tr)
    (hconf : ∀ t, Conforms tr t) (hasm : ∀ t, AsmOk t LState.init tr)
    (hrows : ∀ (i : Nat) t a, tr[i]? = some (Ev.acc t a) → a ∈ Gen.accesses)
    (htok : ∀ (i : Nat) t a, tr[i]? = some (Ev.acc t a) → ∀ h, h ∈ a.locks → Gen.tokenIds.contains h.m = true → HoldsAtLeast tr i t h)
    (hext : ∀ (i : Nat) t a, tr[i]? = some (Ev.acc t a) → NotRederived a → ∀ h, h ∈ a.locks → HoldsAtLeast tr i t h) :
    Respects Gen.accesses tr :=
  respects_of_real (repo_respectsReal_of_conformance hwf hconf hasm hrows hext) htok

/-- No data race in any well-formed execution whose goroutines follow the
    regenerated skeletons, whose accesses are table rows, and in which tokens and annotated assumptions hold. -/
theorem repo_no_race_of_conformance {tr : List Ev} (hwf : WF tr)
    (hconf : ∀ t, Conforms tr t) (hasm : ∀ t, AsmOk t LState.init tr)
    (hrows : ∀ (i : Nat) t a, tr[i]? = some (Ev.acc t a) → a ∈ Gen.accesses)
    (htok : ∀ (i : Nat) t a, tr[i]? = some (Ev.acc t a) → ∀ h, h ∈ a.locks → Gen.tokenIds.contains h.m = true → HoldsAtLeast tr i t h)
    (hext : ∀ (i : Nat) t a, tr[i]? = some (Ev.acc t a) → NotRederived a → ∀ h, h ∈ a.locks → HoldsAtLeast tr i t h) :
    ¬ Race tr :=
  repo_no_race tr hwf (repo_respects_of_conformance hwf hconf hasm hrows htok hext)

/-- As `repo_no_race_of_conformance`, with the tokens read as ordering assumptions (no fictitious token events). -/
theorem repo_no_race_of_conformance_tokens {tr : List Ev} (hwf : WF tr)
    (hconf : ∀ t, Conforms tr t) (hasm : ∀ t, AsmOk t LState.init tr)
    (hrows : ∀ (i : Nat) t a, tr[i]? = some (Ev.acc t a) → a ∈ Gen.accesses)
    (htok : TokenOrdered Gen.tokenIds tr)
    (hext : ∀ (i : Nat) t a, tr[i]? = some (Ev.acc t a) → NotRederived a → ∀ h, h ∈ a.locks → HoldsAtLeast tr i t h) :
    ¬ Race tr :=
  lockset_sound_tokens Gen.tokenIds repo_race_free tr hwf (repo_respectsReal_of_conformance hwf hconf hasm hrows hext) htok

/-- No `Lock`/`Unlock` of the tracked code operates on a by-value copy of its mutex (a method with a value receiver, a
    struct passed by value: `func (h ReferenceHash) Balance` locks a fresh copy of `h.lock` on every call).  The
    skeletons identify a mutex by `Type.field`; an `acq` event of that identity is an acquisition of the one mutex the
    instance owns only if the operand is not a copy — this fact is what makes `Conforms` meaningful for lock events.
    The extractor drops such operations from the locksets (the rows they were meant to protect then fail
    `repo_groups_ok`) and counts them here. -/
theorem repo_no_copied_locks : Gen.copiedLockOps = 0 := by decide

/-- Every object a tracked struct refers to through a field (interface value, pointer to an untracked type) is
    accounted for: either its type is declared not safe for concurrent use — then every call through the field, or
    through a local that still refers to it, is a `pointee:` write row of the table and subject to `repo_groups_ok` —
    or it is declared safe by its own documented contract.  The table's claim is about the fields of the tracked
    structs *and the objects behind them*. -/
theorem repo_reference_fields_classified : Gen.unclassifiedRefFields = 0 := by decide

/-- every token of the table is a plain (assumed) token or a barrier token with its guard mutex -/
theorem repo_tokens_covered :
    Gen.tokenIds.all (fun x => Gen.plainTokenIds.contains x || Gen.barrierTokens.any (fun p => p.1 == x)) = true := by
  decide

/-- As `repo_no_race_of_conformance_tokens`, with the ordering claim of the
    closed-flag barrier tokens (`order:Reader.cancel`, `barrier:Reader.closed`, `barrier:Writer.closed`) not
    assumed but derived from the lock events of the execution (`BarrierProtocol`: shape of the critical sections of the
    guard mutex); only the ownership / `sync.Once` tokens remain ordering assumptions. -/
theorem repo_no_race_of_conformance_barriers {tr : List Ev} (hwf : WF tr)
    (hconf : ∀ t, Conforms tr t) (hasm : ∀ t, AsmOk t LState.init tr)
    (hrows : ∀ (i : Nat) t a, tr[i]? = some (Ev.acc t a) → a ∈ Gen.accesses)
    (hbar : ∀ p, p ∈ Gen.barrierTokens → BarrierProtocol p.1 p.2 tr)
    (htok : TokenOrdered Gen.plainTokenIds tr)
    (hext : ∀ (i : Nat) t a, tr[i]? = some (Ev.acc t a) → NotRederived a → ∀ h, h ∈ a.locks → HoldsAtLeast tr i t h) :
    ¬ Race tr := by
  refine repo_no_race_of_conformance_tokens hwf hconf hasm hrows (tokenOrdered_of_forall ?_) hext
  intro x hx
  have hc := List.all_eq_true.1 repo_tokens_covered x hx
  simp only [Bool.or_eq_true, List.any_eq_true] at hc
  rcases hc with hp | ⟨p, hp, hpx⟩
  · exact tokenOrdered_mem htok (by simpa using hp)
  · have hpx' : p.1 = x := by simpa using hpx
    rw [← hpx']
    exact tokenOrdered_of_barrier hwf (hbar p hp)

end KV.C10
