/-
Props/C04.lean — "Every frame on the wire is the canonical Kafka encoding; decoding inverts it".

Model: Model/Codec.lean (encode.go, decode.go, request.go, response.go of /repo/protocol).
All theorems are for EVERY schema type `t` with `t.wf` and every well-typed value — no bound on sizes, nesting or versions; no
theorem here mentions a registered schema: the oracle (lean/Oracle/C04.lean) resolves the raw struct tags of Gen/Schemas.lean with
Model/Resolve.lean and evaluates `t.wf` on every registered API × version on every run (`wfT` of Oracle/C04.lean, part of the
verdict of the `enc` op).
Tagged fields: the kafka-go tree under test declares no `tag=N` field (only the zero-size `_ struct{}` markers), and `Ty.wf` demands
that; the codec's support for them is covered by `skip_unknown_tags` and `decode_encode_tagged`, tied to the code by a
driver-registered test type with real tag=N fields.
The hand-written Conn codec is covered by Gen/Legacy.lean (per type `T.legacy_size`, `T.legacy_model`, `T.read_write`),
Gen/LegacyGolden.lean (`T.legacy_eq_spec_vK`, `T.legacy_read_spec_vK` per type and version, through Lemmas/LegacyFlat.lean and
Lemmas/LegacyFrame.lean over `encode_eq_spec` below) and the c04conn correspondence (see docs/notes/C04.md).
Two lemma developments stand in this file because the definitions they are about do: the tag buffer (`encExtra`, `encExtras`,
`TaggedOk`; what it uses of `tagLookup` and of one turn of the loop is in Lemmas/CodecRT.lean) and model = reference (`ES`, `es_all`).
-/
import KafkaVerif.Lemmas.CodecRT
import KafkaVerif.Spec.KafkaWire
import KafkaVerif.Lemmas.GrowthSource
import KafkaVerif.Gen.Routing
import KafkaVerif.Gen.DecoderCfg

namespace KV.C04
open KV KV.Wire KV.Codec

theorem pw_list (ts : List Ty) : ∀ t ∈ ts, PW t := fun t _ => pw_all t

/-- For every resolved schema type and every well-typed value, decoding the encoding
(followed by any further bytes `r`, inside a frame with at least that many bytes left) returns the same
value up to `norm` (nil slices of non-nullable fields come back empty) and consumes exactly the encoding.
One theorem for all message types and versions; it holds for the decoder with and without the length
bounds (`cfg`). -/
theorem decode_encode (cfg : Cfg) (hrec : cfg.recs = none) (t : Ty) (v : Val) (hwf : t.wf = true) (hwt : wt t v = true)
    (r : Bytes) (rem : Nat) (hrem : (encode t v).length ≤ rem) :
    decode cfg t ⟨encode t v ++ r, rem⟩ = .ok (norm t v) ⟨r, rem - (encode t v).length⟩ :=
  rt_all cfg t hrec hwf v hwt r rem hrem

/-- the 4-byte size prefix of a response frame is the number of bytes that follow -/
theorem frame_size_response (flex : Bool) (corr : Int) (t : Ty) (v : Val)
    (h : (frameResponse flex corr t v).length - 4 < 2 ^ 31) :
    fromBE ((frameResponse flex corr t v).take 4) = (frameResponse flex corr t v).length - 4 := sizePrefix_fromBE _ h

/-- the 4-byte size prefix of a request frame is the number of bytes that follow -/
theorem frame_size_request (flex : Bool) (key ver corr : Int) (cid : Bytes) (t : Ty) (v : Val)
    (h : (frameRequest flex key ver corr cid t v).length - 4 < 2 ^ 31) :
    fromBE ((frameRequest flex key ver corr cid t v).take 4) = (frameRequest flex key ver corr cid t v).length - 4 :=
  sizePrefix_fromBE _ h

/-- header fields of a request frame at their offsets: api key, version, correlation id -/
theorem request_header (flex : Bool) (key ver corr : Int) (cid : Bytes) (t : Ty) (v : Val)
    (hk : inRange 16 key = true) (hv : inRange 16 ver = true) (hc : inRange 32 corr = true) :
    let f := frameRequest flex key ver corr cid t v
    toS 16 (fromBE ((f.drop 4).take 2)) = key ∧ toS 16 (fromBE ((f.drop 6).take 2)) = ver ∧
    toS 32 (fromBE ((f.drop 8).take 4)) = corr := by
  rw [inRange_iff] at hk hv hc
  have e2 : ∀ i, (encInt 2 i).length = 2 := fun i => encInt_length 2 i
  have e4 : ∀ i, (encInt 4 i).length = 4 := fun i => encInt_length 4 i
  have b4 : ∀ n, (be 4 n).length = 4 := fun n => be_length 4 n
  simp only [frameRequest, List.append_assoc]
  refine ⟨?_, ?_, ?_⟩
  · rw [List.drop_left' (b4 _), List.take_left' (e2 _)]
    exact decInt_encInt 2 key (by decide) hk.1 hk.2
  · rw [show (6 : Nat) = 4 + 2 by rfl, ← List.drop_drop, List.drop_left' (b4 _), List.drop_left' (e2 _), List.take_left' (e2 _)]
    exact decInt_encInt 2 ver (by decide) hv.1 hv.2
  · rw [show (8 : Nat) = 4 + (2 + 2) by rfl, ← List.drop_drop, List.drop_left' (b4 _), ← List.drop_drop,
      List.drop_left' (e2 _), List.drop_left' (e2 _), List.take_left' (e4 _)]
    exact decInt_encInt 4 corr (by decide) hc.1 hc.2

/-- **A framed response decodes to what was encoded and exactly one frame is consumed**: `ReadResponse` on
`frame ++ rest` returns the correlation id and the (normalised) value and leaves exactly `rest`. -/
theorem frame_decode_consumes_one (cfg : Cfg) (hrec : cfg.recs = none) (flex : Bool) (corr : Int) (t : Ty) (v : Val) (rest : Bytes)
    (hwf : t.wf = true) (hwt : wt t v = true) (hc : inRange 32 corr = true)
    (hsz : (frameResponse flex corr t v).length - 4 < 2 ^ 31) :
    readResponse cfg flex t (frameResponse flex corr t v ++ rest) = .ok (corr, norm t v) ⟨rest, 0⟩ := by
  simp only [readResponse, frameResponse]
  rw [sizePrefix_read _ rest (by simpa only [frameResponse, List.length_append, be_length, Nat.add_sub_cancel_left] using hsz),
    if_neg (Int.not_lt.2 (Int.natCast_nonneg _)), Int.toNat_natCast]
  simp only [List.append_assoc, List.length_append]
  rw [(readInt_reads 4 (by decide) corr hc).run_add]
  exact frameBody_decode cfg hrec flex t v hwf hwt rest _ _ rfl

/-- **A framed request decodes to what was encoded and exactly one frame is consumed** (`ReadRequest` on
`WriteRequest`'s output followed by anything): api key, version, correlation id, client id and the (normalised) body. -/
theorem frame_request_decode (cfg : Cfg) (hrec : cfg.recs = none) (flex : Bool) (key ver corr : Int) (cid : Bytes)
    (t : Ty) (v : Val) (rest : Bytes) (hwf : t.wf = true) (hwt : wt t v = true)
    (hk : inRange 16 key = true) (hv : inRange 16 ver = true) (hc : inRange 32 corr = true) (hcid : cid.length < 2 ^ 15)
    (hsz : (frameRequest flex key ver corr cid t v).length - 4 < 2 ^ 31) :
    readRequest cfg flex t (frameRequest flex key ver corr cid t v ++ rest) = .ok (key, ver, corr, cid, norm t v) ⟨rest, 0⟩ := by
  have hcw : wt (.string false flex) (.str cid) = true := by simp [wt]; omega
  -- the client id is the model encoding of a (nullable iff flexible) string, followed by the header's tag buffer
  have henc : (if flex then encString false true cid ++ uvarint 0 else encString false false cid) =
      encode (.string false flex) (.str cid) ++ (if flex then uvarint 0 else []) := by
    cases flex <;> simp [encode]
  simp only [readRequest, frameRequest, henc]
  rw [sizePrefix_read _ rest (by simpa only [frameRequest, henc, List.length_append, be_length, Nat.add_sub_cancel_left] using hsz),
    if_neg (Int.not_lt.2 (Int.natCast_nonneg _)), Int.toNat_natCast]
  simp only [List.append_assoc, List.length_append]
  rw [(readInt_reads 2 (by decide) key hk).run_add, (readInt_reads 2 (by decide) ver hv).run_add,
    (readInt_reads 4 (by decide) corr hc).run_add, ((rt_string cfg false flex).reads hrec rfl hcw).run_add]
  unfold readRequestBody
  rw [frameBody_decode cfg hrec flex t v hwf hwt rest (fun v d => .ok v d) _ rfl, Res.bind_ok]
  simp only [norm]

/-- a tagged field as a (newer) broker writes it: tag id, size, payload -/
def encExtra (e : Nat × Bytes) : Bytes := uvarint e.1 ++ (uvarint e.2.length ++ e.2)

def encExtras : List (Nat × Bytes) → Bytes
  | [] => []
  | e :: es => encExtra e ++ encExtras es

theorem encExtras_length_ge : ∀ es : List (Nat × Bytes), es.length ≤ (encExtras es).length
  | [] => by simp [encExtras]
  | e :: es => by
    have := encExtras_length_ge es
    have := uvarint_length_pos e.1
    simp only [encExtras, encExtra, List.length_append, List.length_cons]
    omega

section
variable (lookup : Int → Option (Nat × (Dec → Res Val)))

/-- what one tagged field (id, payload) does to the slots: a known id hands the payload to its decoder and stores the value, an
unknown one is skipped -/
inductive TagTurn : Nat × Bytes → List Val → List Val → Prop
  | known {id : Nat} {payload : Bytes} {slots : List Val} {idx : Nat} {dec : Dec → Res Val} {v : Val} :
      lookup (toI64 id) = some (idx, dec) → Reads dec payload v → TagTurn (id, payload) slots (slots.set idx v)
  | unknown {id : Nat} {payload : Bytes} {slots : List Val} : lookup (toI64 id) = none → TagTurn (id, payload) slots slots

/-- what a whole tag buffer does to the slots, field by field in the order of the buffer -/
inductive TagRun : List (Nat × Bytes) → List Val → List Val → Prop
  | nil {slots : List Val} : TagRun [] slots slots
  | cons {e : Nat × Bytes} {es : List (Nat × Bytes)} {s s' out : List Val} : e.1 < 2 ^ 64 → e.2.length < 2 ^ 31 →
      TagTurn lookup e s s' → TagRun es s' out → TagRun (e :: es) s out

variable {lookup}

theorem taggedLoop_reads (cfg : Cfg) : ∀ {es : List (Nat × Bytes)} {slots out : List Val}, TagRun lookup es slots out →
    Reads (taggedLoop cfg lookup es.length slots) (encExtras es) out
  | _, _, _, .nil => Reads.nil _
  | _, _, _, .cons (e := (id, payload)) hid hp turn rest => by
    have ih := taggedLoop_reads cfg rest
    replace hid : id < 2 ^ 64 := hid
    replace hp : payload.length < 2 ^ 31 := hp
    rw [List.length_cons, taggedLoop_succ, encExtras, encExtra, List.append_assoc, List.append_assoc]
    refine (readUvarint_reads id hid).bind ((readUvarint_reads payload.length (by omega)).bind ?_)
    cases turn with
    | known hl hd => simp only [hl]; exact hd.bind ih
    | unknown hl => simp only [hl, lenOfU_small cfg _ hp]; exact (readLen_reads cfg payload).bind ih

theorem tagRun_skips : ∀ (es : List (Nat × Bytes)) (slots : List Val),
    (∀ e ∈ es, e.1 < 2 ^ 64 ∧ e.2.length < 2 ^ 31 ∧ lookup (toI64 e.1) = none) → TagRun lookup es slots slots
  | [], _, _ => .nil
  | e :: es, slots, h =>
    .cons (h e (List.mem_cons_self ..)).1 (h e (List.mem_cons_self ..)).2.1 (.unknown (h e (List.mem_cons_self ..)).2.2)
      (tagRun_skips es slots fun e' he' => h e' (List.mem_cons_of_mem _ he'))

end

theorem decode_tagBuffer (cfg : Cfg) (hrec : cfg.recs = none) (fs : List Ty) (ids : List Int) (ts : List Ty) (vs : List Val)
    (hwfl : wfList fs = true) (hreg : fs.all regularOk = true) (hv : wtFields fs vs = true)
    (es : List (Nat × Bytes)) (hn : es.length < 2 ^ 31) (tvs : List Val)
    (hrun : TagRun (tagLookup cfg ids ts 0) es (zeros ts) tvs) :
    Reads (decode cfg (.struct true fs ids ts)) (encodeFields fs vs ++ (uvarint es.length ++ encExtras es))
      (.struct (normFields fs vs) tvs) :=
  flexStruct_reads cfg hrec fs ids ts (fun t _ => rt_all cfg t) hwfl hreg vs hv es.length hn _ tvs (encExtras_length_ge es)
    (taggedLoop_reads cfg hrun)

/-- **skip_unknown_tags.**  A flexible struct whose tag buffer carries any number of tagged fields with ids the
schema does not declare (as sent by a newer broker) decodes to exactly the value it decodes to without them,
and consumes all of them. -/
theorem skip_unknown_tags (cfg : Cfg) (hrec : cfg.recs = none) (fs : List Ty) (ids : List Int) (ts : List Ty) (vs tvs : List Val)
    (es : List (Nat × Bytes)) (r : Bytes) (rem : Nat)
    (hwf : (Ty.struct true fs ids ts).wf = true) (hwt : wt (.struct true fs ids ts) (.struct vs tvs) = true)
    (hes : ∀ e ∈ es, e.1 < 2 ^ 64 ∧ e.2.length < 2 ^ 31 ∧ ∀ i ∈ ids, i ≠ toI64 e.1)
    (hn : es.length < 2 ^ 31)
    (hrem : (encodeFields fs vs).length + ((uvarint es.length).length + (encExtras es).length) ≤ rem) :
    decode cfg (.struct true fs ids ts) ⟨encodeFields fs vs ++ (uvarint es.length ++ (encExtras es ++ r)), rem⟩
      = .ok (norm (.struct true fs ids ts) (.struct vs tvs))
          ⟨r, rem - ((encodeFields fs vs).length + ((uvarint es.length).length + (encExtras es).length))⟩ := by
  obtain ⟨hwfl, hreg, hmark⟩ := wf_struct hwf
  simp only [wt, Bool.and_eq_true] at hwt
  have := decode_tagBuffer cfg hrec fs ids ts vs hwfl hreg hwt.1 es hn _
    (tagRun_skips es _ fun e he => ⟨(hes e he).1, (hes e he).2.1, tagLookup_none cfg ids ts 0 _ (hes e he).2.2⟩) r rem
    (by simpa only [List.length_append] using hrem)
  simpa only [List.append_assoc, List.length_append, norm, normFields_markers ts tvs hmark hwt.2] using this


/-- the side conditions on the tagged part of a struct: every tagged field is a real (non zero-size) well-formed
type, values are well-typed with payloads below 2^31 bytes, ids are in `[0, 2^63)` -/
def TaggedOk (cfg : Cfg) : List Int → List Ty → List Val → Prop
  | [], [], [] => True
  | i :: is, t :: ts, v :: vs =>
    (0 ≤ i ∧ i < 2 ^ 63 ∧ t.zeroSize = false ∧ t.wf = true ∧ wt t v = true ∧ (encode t v).length < 2 ^ 31 ∧ RT cfg t) ∧
      TaggedOk cfg is ts vs
  | _, _, _ => False

/-- the tag map sends the `p`-th of the ids to slot `k + p` and to the decoder of the `p`-th type -/
def Finds (cfg : Cfg) (lookup : Int → Option (Nat × (Dec → Res Val))) : Nat → List Int → List Ty → Prop
  | k, i :: is, t :: ts => lookup i = some (k, decode cfg t) ∧ Finds cfg lookup (k + 1) is ts
  | _, _, _ => True

theorem Finds.mono {cfg : Cfg} {l l' : Int → Option (Nat × (Dec → Res Val))} (h : ∀ id r, l id = some r → l' id = some r) :
    ∀ (k : Nat) (is : List Int) (ts : List Ty), Finds cfg l k is ts → Finds cfg l' k is ts
  | k, i :: is, t :: ts, hf => ⟨h _ _ hf.1, Finds.mono h (k + 1) is ts hf.2⟩
  | _, [], _, _ => by simp [Finds]
  | _, _ :: _, [], _ => by simp [Finds]

/-- distinct ids, in any order: the tag map of `i :: is` extends that of `is`, and finds `i` itself because `is` does not -/
theorem finds_tagLookup (cfg : Cfg) : ∀ (is : List Int) (ts : List Ty) (k : Nat), is.Nodup →
    Finds cfg (tagLookup cfg is ts k) k is ts
  | i :: is, t :: ts, k, hnd => by
    obtain ⟨hni, hnd⟩ := List.nodup_cons.1 hnd
    refine ⟨?_, (finds_tagLookup cfg is ts (k + 1) hnd).mono (fun id r h => ?_) ..⟩
    · simp [tagLookup, tagLookup_none cfg is ts (k + 1) i fun j hj e => hni (e ▸ hj)]
    · simp only [tagLookup, h]
  | [], _, _, _ => by simp [Finds]
  | _ :: _, [], _, _ => by simp [Finds]

/-- the tagged fields of a struct value as the entries (id, payload) of a tag buffer, in declaration order -/
def tagEntries : List Int → List Ty → List Val → List (Nat × Bytes)
  | i :: is, t :: ts, v :: vs => (toU64 i, encode t v) :: tagEntries is ts vs
  | _, _, _ => []

/-- what the encoder writes for the tagged fields is the tag buffer `tagEntries`, which fills the slots after `pre` in declaration
order -/
theorem tagRun_declared (cfg : Cfg) (hrec : cfg.recs = none) (lookup : Int → Option (Nat × (Dec → Res Val))) :
    ∀ (is : List Int) (ts : List Ty) (vs pre : List Val), TaggedOk cfg is ts vs → Finds cfg lookup pre.length is ts →
      encodeTagged is ts vs = encExtras (tagEntries is ts vs) ∧ countTagged ts = (tagEntries is ts vs).length ∧
        TagRun lookup (tagEntries is ts vs) (pre ++ zeros ts) (pre ++ normFields ts vs)
  | [], [], [], pre, _, _ =>
    ⟨by simp [encodeTagged, encExtras, tagEntries], by simp [countTagged, tagEntries],
      by simpa [zeros, normFields, tagEntries] using TagRun.nil⟩
  | i :: is, t :: ts, v :: vs, pre, hok, hf => by
    obtain ⟨⟨h0, h1, hz, hwf, hwt, hlen, hrt⟩, hrest⟩ := hok
    obtain ⟨hlook, hf⟩ := hf
    obtain ⟨he, hc, hrun⟩ := tagRun_declared cfg hrec lookup is ts vs (pre ++ [norm t v]) hrest (by simpa using hf)
    refine ⟨?_, ?_, ?_⟩
    · simp only [encodeTagged, hz, Bool.false_eq_true, if_false, he, tagEntries, encExtras, encExtra, List.append_assoc]
    · simp only [countTagged, hz, Bool.false_eq_true, if_false, hc, tagEntries, List.length_cons, Nat.add_comm]
    · refine .cons (toU_lt 64 i) hlen (.known (v := norm t v) (by rw [toI64_toU64 i h0 h1]; exact hlook) (hrt.reads hrec hwf hwt)) ?_
      simpa only [zeros, normFields, set_append_mid, List.append_assoc, List.singleton_append] using hrun
  | [], _ :: _, vs, _, h, _ => by cases vs <;> simp [TaggedOk] at h
  | _ :: _, [], vs, _, h, _ => by cases vs <;> simp [TaggedOk] at h
  | [], [], _ :: _, _, h, _ => by simp [TaggedOk] at h
  | _ :: _, _ :: _, [], _, h, _ => by simp [TaggedOk] at h

/-- **Round trip of a flexible struct with id-tagged fields** (`kafka:"…,tag=N"`; the kafka-go tree under test declares none,
the codec supports them): regular fields as in `decode_encode`, every tagged field written as (id, size, payload)
in declaration order and read back through the tag map, whatever the order of distinct ids. -/
theorem decode_encode_tagged (cfg : Cfg) (hrec : cfg.recs = none) (fs : List Ty) (ids : List Int) (ts : List Ty) (vs tvs : List Val)
    (r : Bytes) (rem : Nat)
    (hwfl : wfList fs = true) (hreg : fs.all regularOk = true) (hfs : wtFields fs vs = true)
    (hnd : ids.Nodup) (hok : TaggedOk cfg ids ts tvs) (hn : (encodeTagged ids ts tvs).length < 2 ^ 31)
    (hrem : (encode (.struct true fs ids ts) (.struct vs tvs)).length ≤ rem) :
    decode cfg (.struct true fs ids ts) ⟨encode (.struct true fs ids ts) (.struct vs tvs) ++ r, rem⟩
      = .ok (.struct (normFields fs vs) (normFields ts tvs))
          ⟨r, rem - (encode (.struct true fs ids ts) (.struct vs tvs)).length⟩ := by
  obtain ⟨he, hc, hrun⟩ := tagRun_declared cfg hrec _ ids ts tvs [] hok (finds_tagLookup cfg ids ts 0 hnd)
  have hge := encExtras_length_ge (tagEntries ids ts tvs)
  rw [encode, if_pos rfl, hc, he] at hrem ⊢
  rw [he] at hn
  exact decode_tagBuffer cfg hrec fs ids ts vs hwfl hreg hfs _ (by omega) _ hrun r rem hrem

/-- the hypotheses are satisfiable: two tagged fields declared in non-ascending id order -/
example : TaggedOk { bounded := true } [5, 0] [.string true false, .int32] [.str [104, 105], .int (-2)] := by
  have h3 := uvarint_length_le10 (0 + 1 + 1 + 1) (by decide)
  refine ⟨⟨by decide, by decide, rfl, rfl, by simp [wt], ?_, rt_all _ _⟩, ⟨by decide, by decide, rfl, rfl, by simp [wt, inRange], ?_, rt_all _ _⟩, trivial⟩
  · simp only [encode, encString, Bool.false_eq_true, Bool.false_and, if_false, if_true, List.length_append, List.length_cons, List.length_nil]
    omega
  · simp [encode, encInt_length]

theorem be_eq_unsignedBE (k n : Nat) : be k n = Spec.unsignedBE k n := by
  induction k generalizing n with
  | zero => simp [be, Spec.unsignedBE]
  | succ k ih =>
    rw [be, ih]
    simp only [Spec.unsignedBE, List.range_succ, List.map_append, List.map_cons, List.map_nil]
    congr 1
    · apply List.map_congr_left
      intro i hi
      have hi' : i < k := List.mem_range.1 hi
      simp only [Spec.byteAt]
      congr 1
      have : k + 1 - 1 - i = (k - 1 - i) + 1 := by omega
      rw [this, Nat.pow_succ, Nat.mul_comm, ← Nat.div_div_eq_div_mul]
    · simp [Spec.byteAt]

theorem toU_eq_twos (k : Nat) (i : Int) (lo : -(2 ^ (8 * k) : Nat) ≤ i) (hi : i < (2 ^ (8 * k) : Nat)) :
    toU (8 * k) i = Spec.twos k i % 2 ^ (8 * k) := by
  unfold toU Spec.twos
  generalize (2 ^ (8 * k) : Nat) = m at *
  by_cases hneg : i < 0
  · rw [if_pos hneg, ← Int.add_mul_emod_self_left i (m : Int) 1, Int.mul_one, Int.emod_eq_of_lt (by omega) (by omega),
      Nat.mod_eq_of_lt (by omega)]
  · rw [if_neg hneg, Int.emod_eq_of_lt (by omega) hi, Nat.mod_eq_of_lt (by omega)]

theorem uvarint_eq_uvar (n : Nat) : uvarint n = Spec.uvar n := by
  induction n using Nat.strongRecOn with
  | _ n ih =>
    unfold uvarint Spec.uvar
    split
    · rfl
    · rw [ih (n / 128) (by omega), Nat.add_comm]

theorem encInt_eq_sint (k : Nat) (i : Int) (lo : -(2 ^ (8 * k) : Nat) ≤ i) (hi : i < (2 ^ (8 * k) : Nat)) :
    encInt k i = Spec.sint k i := by
  unfold encInt Spec.sint
  rw [be_eq_unsignedBE, toU_eq_twos k i lo hi]

theorem encInt_eq_sint_of_inRange (k : Nat) (hk : 0 < k) (i : Int) (h : inRange (8 * k) i = true) :
    encInt k i = Spec.sint k i := by
  rw [inRange_iff] at h
  have : (2 ^ (8 * k) : Nat) = 2 * 2 ^ (8 * k - 1) := by
    have : 8 * k = (8 * k - 1) + 1 := by omega
    rw [this, Nat.pow_succ]; simp; omega
  apply encInt_eq_sint <;> omega

def ES (t : Ty) : Prop := ∀ v, wt t v = true → encode t v = Spec.encode t v

theorem es_int {t : Ty} {k : Nat} (h : IntTy t k) : ES t := by
  intro v hv
  obtain ⟨i, rfl, hi⟩ := wt_int h hv
  have hs : Spec.encode t (.int i) = Spec.sint k i := by cases h <;> simp only [Spec.encode]
  rw [h.encode, hs, encInt_eq_sint_of_inRange k h.pos i hi]

theorem es_string (c n : Bool) : ES (.string c n) := by
  intro v hv
  obtain ⟨s, rfl, hs, hsc⟩ := wt_string hv
  simp only [encode, Spec.encode, encString, Spec.kString]
  cases c <;> cases hn : (n && s.isEmpty) <;> simp only [Bool.false_eq_true, if_false, if_true]
  · rw [encInt_eq_sint 2 _ (by omega) (by have := hsc rfl; omega)]
  · rw [encInt_eq_sint 2 _ (by omega) (by omega)]
  · rw [uvarint_eq_uvar]
  · rw [uvarint_eq_uvar]

theorem es_bytes (c n : Bool) : ES (.bytes c n) := by
  intro v hv
  obtain ⟨b, rfl, hb⟩ := wt_bytes hv
  simp only [encode, Spec.encode, encBytes, Spec.kBytes]
  cases b <;> cases n <;> cases c <;> simp only [Bool.false_eq_true, if_false, if_true, Option.getD] at hb ⊢ <;>
    first
    | rw [uvarint_eq_uvar]
    | rw [encInt_eq_sint 4 _ (by omega) (by omega)]

theorem es_elems (t : Ty) (ht : ES t) : ∀ vs, wtElems t vs = true → encodeElems t vs = Spec.encodeAll t vs
  | [], _ => by simp [encodeElems, Spec.encodeAll]
  | v :: vs, h => by
    simp only [wtElems, Bool.and_eq_true] at h
    simp [encodeElems, Spec.encodeAll, ht v h.1, es_elems t ht vs h.2]

theorem es_array (c n : Bool) (t : Ty) (ht : ES t) : ES (.array c n t) := by
  intro v hv
  obtain ⟨a, rfl, ha, hw⟩ := wt_array hv
  have he := es_elems t ht _ hw
  cases a <;> cases n <;> cases c <;>
    simp only [encode, Spec.encode, encArrayLen, Bool.false_eq_true, if_false, if_true, Option.getD] at ha he ⊢ <;>
    rw [he] <;>
    first
    | (rw [uvarint_eq_uvar]; try simp [Spec.encodeAll])
    | (rw [encInt_eq_sint 4 _ (by omega) (by omega)]; try simp [Spec.encodeAll])

theorem es_fields : ∀ (fs : List Ty), (∀ t ∈ fs, ES t) → ∀ vs, wtFields fs vs = true →
    encodeFields fs vs = Spec.encodeFields fs vs
  | [], _, vs, _ => by cases vs <;> simp [encodeFields, Spec.encodeFields]
  | t :: ts, h, vs, hv => by
    cases vs with
    | nil => simp [wtFields] at hv
    | cons v vs =>
      simp only [wtFields, Bool.and_eq_true] at hv
      simp only [encodeFields, Spec.encodeFields]
      rw [h t (by simp) v hv.1, es_fields ts (fun t' ht' => h t' (by simp [ht'])) vs hv.2]

theorem countTagged_eq : ∀ ts, countTagged ts = Spec.numTagged ts
  | [] => rfl
  | t :: ts => by simp [countTagged, Spec.numTagged, countTagged_eq ts]

theorem spec_encodeTagged_markers : ∀ (ids : List Int) (ts : List Ty) (tvs : List Val), ts.all isMarker = true →
    Spec.encodeTagged ids ts tvs = []
  | [], _, _, _ => by simp [Spec.encodeTagged]
  | _ :: _, [], _, _ => by simp [Spec.encodeTagged]
  | _ :: _, _ :: _, [], _ => by simp [Spec.encodeTagged]
  | i :: is, t :: ts, v :: vs, h => by
    simp only [List.all_cons, Bool.and_eq_true] at h
    simp [Spec.encodeTagged, marker_zeroSize t h.1, spec_encodeTagged_markers is ts vs h.2]

theorem es_struct (flex : Bool) (fs : List Ty) (ids : List Int) (ts : List Ty) (hfs : ∀ t ∈ fs, ES t)
    (hm : ts.all isMarker = true) : ES (.struct flex fs ids ts) := by
  intro v hv
  obtain ⟨vs, tvs, rfl, hvs, _⟩ := wt_struct hv
  simp only [encode, Spec.encode]
  rw [es_fields fs hfs vs hvs, countTagged_eq, uvarint_eq_uvar, encodeTagged_markers ids ts tvs hm,
    spec_encodeTagged_markers ids ts tvs hm]

theorem es_bool : ES .bool := fun v hv => by
  obtain ⟨b, rfl⟩ := wt_bool hv; simp [encode, Spec.encode, encBool]

theorem es_float64 : ES .float64 := fun v hv => by
  obtain ⟨i, rfl, hi⟩ := wt_float64 hv
  simp only [encode, Spec.encode]
  exact encInt_eq_sint 8 _ (by omega) hi.2

theorem es_unit (flex : Bool) : ES (.unit flex) := fun v _ => by simp [encode, Spec.encode, uvarint_eq_uvar]

theorem es_records : ES .records := fun v hv => by
  obtain ⟨s, rfl, hs⟩ := wt_records hv
  simp only [encode, Spec.encode]
  rw [encInt_eq_sint 4 _ (by omega) (by omega)]

theorem es_all : ∀ t : Ty, t.wf = true → ES t :=
  Ty.ind (bool := fun _ => es_bool) (int := fun i _ => es_int i) (float64 := fun _ => es_float64)
    (string := fun c n _ => es_string c n) (bytes := fun c n _ => es_bytes c n)
    (array := fun c n t ht h => es_array c n t (ht (wf_array h).2))
    (struct := fun flex fs ids ts hfs _ h =>
      es_struct flex fs ids ts (fun t ht => hfs t ht (wfList_mem (wf_struct h).1 t ht)) (wf_struct h).2.2)
    (unit := fun flex _ => es_unit flex) (records := fun _ => es_records)

theorem es_list (ts : List Ty) (hwf : wfList ts = true) : ∀ t ∈ ts, ES t :=
  fun t ht => es_all t (wfList_mem hwf t ht)

/-- **The model's bytes are the canonical Kafka encoding** (protocol-guide reference encoder) of the value
under the resolved schema, for every well-formed schema type and well-typed value. -/
theorem encode_eq_spec (t : Ty) (v : Val) (hwf : t.wf = true) (hwt : wt t v = true) :
    encode t v = Spec.encode t v := es_all t hwf v hwt

theorem frame_eq_spec (body : Bytes) (h : body.length < 2 ^ 31) : be 4 body.length ++ body = Spec.frame body := by
  rw [Spec.frame, be_eq_encInt 4 _ (by omega), encInt_eq_sint 4 _ (by omega) (by omega)]

/-- … and so is the whole response frame -/
theorem frameResponse_eq_spec (flex : Bool) (corr : Int) (t : Ty) (v : Val) (hwf : t.wf = true) (hwt : wt t v = true)
    (hc : inRange 32 corr = true) (hsz : (frameResponse flex corr t v).length - 4 < 2 ^ 31) :
    frameResponse flex corr t v = Spec.frameResponse flex corr (Spec.encode t v) := by
  have hc' : inRange (8 * 4) corr = true := hc
  simp only [frameResponse, List.length_append, be_length, Nat.add_sub_cancel_left] at hsz
  rw [frameResponse, frame_eq_spec _ (by simpa only [List.length_append] using hsz), Spec.frameResponse,
    ← encode_eq_spec t v hwf hwt, ← uvarint_eq_uvar, ← encInt_eq_sint_of_inRange 4 (by decide) corr hc']

/-- **a decoded array has exactly the announced number of elements**: `decodeElems` of the current source allocates
`arrayInit n` slots and regrows by `arrayGrow` while elements keep arriving; when all `n` elements have arrived the array in use
has `n` slots — not the next power-of-two multiple of the chunk (the model's `decodeElems` returns `n` values; this is the part of
the real function the model abstracts, regenerated from the source) -/
theorem array_decodes_to_announced_length (n : Nat) :
    KV.Growth.finalCap KV.GrowthSource.arrayPolicy n n = n :=
  KV.Growth.finalCap_complete _ _ KV.GrowthSource.arrayPolicy_ok n

/-- the same for strings and byte sequences read by `(*decoder).read` -/
theorem bytes_decode_to_announced_length (n : Nat) :
    KV.Growth.finalCap KV.GrowthSource.readPolicy n n = n :=
  KV.Growth.finalCap_complete _ _ KV.GrowthSource.readPolicy_ok n

/-- **a version no higher than the broker advertised** (and no lower, and within the library's own range) whenever the two
ranges overlap: `ApiKey.SelectVersion`, the function `transport.go` stamps every request of the Transport/Client path with
(`Gen.Routing.selectVersionSrc`, regenerated statement by statement from protocol/protocol.go) -/
theorem request_version_within_advertised (cmin cmax bmin bmax : Int)
    (hc : cmin ≤ cmax) (hb : bmin ≤ bmax) (hov : cmin ≤ bmax ∧ bmin ≤ cmax) :
    KV.Gen.Routing.selectVersionSrc cmin cmax bmin bmax ≤ bmax ∧ bmin ≤ KV.Gen.Routing.selectVersionSrc cmin cmax bmin bmax ∧
      cmin ≤ KV.Gen.Routing.selectVersionSrc cmin cmax bmin bmax ∧ KV.Gen.Routing.selectVersionSrc cmin cmax bmin bmax ≤ cmax := by
  -- the result is `cmax` or `bmax`, whichever is smaller (`hov` rules out the branch `cmin`)
  simp only [KV.Gen.Routing.selectVersionSrc]
  (repeat' split) <;> omega

/-- without a common version the library's own bound nearest to the broker's range is used (the broker will refuse it; there is
nothing canonical to send) -/
theorem request_version_disjoint (cmin cmax bmin bmax : Int) (hc : cmin ≤ cmax) (h : bmax < cmin) :
    KV.Gen.Routing.selectVersionSrc cmin cmax bmin bmax = cmin := by
  simp only [KV.Gen.Routing.selectVersionSrc]
  (repeat' split) <;> omega

/-- the model skips an unknown tagged field by reading its `size` bytes (`tagLookup = none → readLen`, theorem `skip_unknown_tags`);
so does the code: fact G11, re-extracted — the unknown branch of `structDecodeFuncOf` is `d.read(size)`, and `decoder.discard`, whose
fallback for readers without a `Discard` method drains the frame, is only asked for the whole rest of the frame.  This is what makes
the result independent of the KIND of io.Reader handed to ReadResponse / ReadRequest (the correspondence decodes through three kinds) -/
theorem source_unknown_tags_are_read : KV.Gen.unknownTagsRead = true := by decide

/-- **the body of a Produce request is in the record format of the negotiated version**: `Prepare` (called by
protocol.Conn.RoundTrip with the version that goes into the header — C12's `prepare_uses_request_version`) picks message sets
(magic 1) below v3 and record batches (magic 2) from v3 on, which is what Kafka's Produce layout of that version carries.
`Gen.Routing.produceRecordVersion` is the symbolic execution of protocol/produce (*Request).Prepare by go/extract/routing. -/
theorem produce_body_format_for_version (v : Int) :
    KV.Gen.Routing.produceRecordVersion v = (if v < 3 then 1 else 2) := by
  unfold KV.Gen.Routing.produceRecordVersion
  (repeat' split) <;> omega

end KV.C04
