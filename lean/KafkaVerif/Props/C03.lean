/-
Props/C03.lean — "Consumer group: commits never pass undelivered records; resume at the commit".

Theorems are over every event sequence of the commit-loop LTS (`Model/Commit.lean`: any interleaving of
CommitMessages calls, generation begin/end, ticks, coordinator answers to OffsetCommit incl. failures and retries,
reader close during a retry), and over every OffsetFetch answer for the start offsets (`Model/GroupStart.lean`).

Group level (`section GroupHistory`): an abstract multi-member history of one partition
(`Model/Group.lean`) whose steps are justified by the component theorems — `assign` by `start_at_committed`,
`commit` by `commit_le_handed` + the stated hypothesis that applications commit only what they were handed, `deliver`
by C02's iterated-fetch contract (taken as a HYPOTHESIS: it is the definition of the step).  Hypotheses of
`delivered_before_covered` / `quiescent_all_delivered`: StartOffset = FirstOffset and no truncation of the log
(`last_offset_counterexample` shows why), contiguous stored offsets.
-/
import KafkaVerif.Lemmas.CommitTwo
import KafkaVerif.Model.GroupStart
import KafkaVerif.Gen.GroupFacts
import KafkaVerif.Lemmas.Group
import KafkaVerif.Lemmas.GroupFront
import KafkaVerif.Lemmas.ReaderRun
import KafkaVerif.Lemmas.GroupLog
import KafkaVerif.Lemmas.GroupResp
import KafkaVerif.Lemmas.GroupReq

namespace KV.Commit.C03
open KV.Commit

/-- `makeCommit` adds the extracted literal (1), `commitOffsetsWithRetry` is called with the extracted number of
retries, `offsetStash.merge` keeps the greater offset (`c.offset > offset`), `fetchOffsets` replaces exactly the
negative offsets (`offset < 0`) by StartOffset. -/
theorem model_matches_source :
    (∀ m : TP × Int, (makeCommit m).offset = m.2 + KV.Gen.Group.makeCommitAddend) ∧
    retries = KV.Gen.Group.commitRetries ∧
    KV.Gen.Group.mergeOp = ">" ∧
    KV.Gen.Group.fetchNegativeTest = ("<", "0") := by
  refine ⟨fun m => rfl, by decide, by decide, by decide⟩

/-- History invariant: every offset ever sent to the coordinator for a partition is at most one plus an offset the
application passed to CommitMessages for that partition. -/
theorem commit_le_handed (s : CState) (h : CReachable s) :
    ∀ x ∈ s.sent, ∀ e ∈ x.1, ∃ m, (e.1, m) ∈ s.passed ∧ e.2 ≤ m + 1 :=
  (inv2_reachable s h.two).cov.sent

/-- The same at the moment the request is issued ("so far"): an OffsetCommit request accepted in state `s` only
carries offsets covered by the messages passed before that moment. -/
theorem commit_le_handed_so_far (s s' : CState) (h : CReachable s) (offs : Stash) (ok : Bool)
    (hs : cstep s (.attempt offs ok) = some s') :
    ∀ e ∈ offs, ∃ m, (e.1, m) ∈ s.passed ∧ e.2 ≤ m + 1 := by
  obtain ⟨_, _, _, _, hsame, _⟩ := cstep_attempt hs
  exact fun e he => (inv2_reachable s h.two).cov.stash e ((sameMap_mem hsame e).mp he)

/-- the stash itself never runs ahead of the application -/
theorem stash_le_handed (s : CState) (h : CReachable s) :
    ∀ e ∈ s.stash, ∃ m, (e.1, m) ∈ s.passed ∧ e.2 ≤ m + 1 :=
  (inv2_reachable s h.two).cov.stash

/-- non-vacuity: a run with two calls, a failed and a successful attempt -/
def sample : List CEv :=
  [.call 0 [(("t", 0), 4), (("t", 1), 7)], .begin true, .deq [⟨("t", 0), 5⟩, ⟨("t", 1), 8⟩] false,
   .attempt [(("t", 1), 8), (("t", 0), 5)] false, .call 1 [(("t", 0), 2)],
   .attempt [(("t", 0), 5), (("t", 1), 8)] true, .replied, .deq [⟨("t", 0), 3⟩] false,
   .attempt [(("t", 0), 3)] true, .replied, .genEnd, .endLoop]

example : (crun {} sample).map (fun s => (s.sent.length, s.replied.map (fun r => (r.1.id, r.2)), s.pc))
    = some (3, [(0, true), (1, true)], .none) := by decide

/-- a request beyond what was handed is not a behaviour of the model -/
example : crun {} [.call 0 [(("t", 0), 4)], .begin true, .deq [⟨("t", 0), 5⟩] false, .attempt [(("t", 0), 6)] true] = none := by
  decide

/-- `offsetStash.merge` only produces offsets that were in the stash or are a commit's offset (= message offset + 1) -/
theorem merge_sound (s : Stash) (cs : List Commit) (e : TP × Int) (h : e ∈ s.merge cs) :
    e ∈ s ∨ ∃ c ∈ cs, e = (c.tp, c.offset) := merge_mem cs s e h

theorem makeCommit_offset (m : TP × Int) : (makeCommit m).offset = m.2 + 1 ∧ (makeCommit m).tp = m.1 := ⟨rfl, rfl⟩

/-- History level: whenever the commit loop has answered a synchronous CommitMessages request `r` with nil
(`(r, true) ∈ replied` — the only way `CommitMessages` returns nil in sync mode), then for every commit of the request
there is an *acknowledged* OffsetCommit request in the history, issued after the call began (`sentAtCall ≤ i`: at
least as many requests were issued before it as at the moment of the call), carrying for that partition an offset
≥ the commit's offset. -/
theorem sync_commit_recorded (s : CState) (h : CReachable s) (r : Req) (hr : (r, true) ∈ s.replied) :
    ∀ c ∈ r.commits, ∃ i offs, s.sent[i]? = some (offs, true) ∧ r.sentAtCall ≤ i ∧
      ∃ o, (c.tp, o) ∈ offs ∧ c.offset ≤ o :=
  (inv2_reachable s h.two).sinv.recr (r, true) hr rfl

/-- in terms of the messages: requests are built by `makeCommit`, so the recorded offset is ≥ m.Offset + 1 -/
theorem sync_commit_recorded_msgs (s : CState) (h : CReachable s) (r : Req) (hr : (r, true) ∈ s.replied)
    (m : TP × Int) (hm : makeCommit m ∈ r.commits) :
    ∃ i offs, s.sent[i]? = some (offs, true) ∧ r.sentAtCall ≤ i ∧ ∃ o, (m.1, o) ∈ offs ∧ m.2 + 1 ≤ o :=
  sync_commit_recorded s h r hr (makeCommit m) hm

/-- The statement of the property itself: when a SYNCHRONOUS `CommitMessages` call returns nil (`(id, true) ∈ rets`), it
was the call of some request `r` with that id, and for every message of it the coordinator has acknowledged — in a request
issued after the call began — an offset ≥ message offset + 1 for its partition. -/
theorem sync_commitMessages_nil_recorded (s : CState) (h : CReachable s) (id : Nat) (hr : (id, true) ∈ s.rets) :
    ∃ r : Req, r.id = id ∧ ∀ c ∈ r.commits, ∃ i offs, s.sent[i]? = some (offs, true) ∧ r.sentAtCall ≤ i ∧
      ∃ o, (c.tp, o) ∈ offs ∧ c.offset ≤ o := by
  obtain ⟨r, h1, h2⟩ := (inv2_reachable s h.two).ret (id, true) hr
  exact ⟨r, h1, sync_commit_recorded s h r h2⟩

/-- the stash is a map: its keys stay unique under every event sequence -/
theorem stash_keys_unique (s : CState) (h : CReachable s) : Uniq s.stash := (inv2_reachable s h.two).sinv.uniq

/-- non-vacuity: in `sample` both requests were answered nil, and e.g. request 1 (called after one request had been
issued) is recorded by the third request -/
example : (crun {} sample).map (fun s => (s.replied.map (fun x => (x.1.id, x.1.sentAtCall, x.2)), s.sent.map (·.2)))
    = some ([(0, 0, true), (1, 1, true)], [false, true, true]) := by decide

/-- State-level step lemma: a successful attempt carries the whole stash, is appended to the history as acknowledged and
leads to the answering state. -/
theorem acked_attempt_enters_done (s s' : CState) (offs : Stash)
    (h : cstep s (.attempt offs true) = some s') :
    (∃ rs' f, s'.pc = .done rs' true f) ∧ s'.sent = s.sent ++ [(offs, true)] ∧ sameMap offs s.stash = true := by
  obtain ⟨rs, _, final, _, hsame, rfl⟩ := cstep_attempt h
  exact ⟨⟨rs, final, rfl⟩, rfl, hsame⟩

/-! ### two commit loops at once (a late-started loop of the previous generation, D8 shape) -/

/-- `commit_le_handed` when a late-started commit loop of an ended generation runs concurrently with the current
generation's loop (both drain the same channel, each with its own stash): every offset either of them sends is covered -/
theorem commit_le_handed_two_loops (s : CState) (h : CReachable2 s) :
    ∀ x ∈ s.sent, ∀ e ∈ x.1, ∃ m, (e.1, m) ∈ s.passed ∧ e.2 ≤ m + 1 :=
  (inv2_reachable s h).cov.sent

/-- With two loops running, whichever of them answers a synchronous CommitMessages with nil: the request is recorded by
an acknowledged OffsetCommit issued after the call began -/
theorem sync_commit_recorded_two_loops (s : CState) (h : CReachable2 s) (id : Nat) (hr : (id, true) ∈ s.rets) :
    ∃ r : Req, r.id = id ∧ ∀ c ∈ r.commits, ∃ i offs, s.sent[i]? = some (offs, true) ∧ r.sentAtCall ≤ i ∧
      ∃ o, (c.tp, o) ∈ offs ∧ c.offset ≤ o := by
  obtain ⟨r, h1, h2⟩ := (inv2_reachable s h).ret (id, true) hr
  exact ⟨r, h1, (inv2_reachable s h).sinv.recr (r, true) h2 rfl⟩

/-- non-vacuity: the late loop drains request 0 and its first attempt is refused (stale generation) while the current
loop takes request 1 and gets it acknowledged; then the late loop's retry is acknowledged too -/
example : (crun2 {} [.main (.call 0 [(("t", 0), 4)]), .late (.begin true), .late .genEnd, .late (.deq [⟨("t", 0), 5⟩] true),
    .main (.begin true), .main (.call 1 [(("t", 0), 6)]), .late (.attempt [(("t", 0), 5)] false),
    .main (.deq [⟨("t", 0), 7⟩] false), .main (.attempt [(("t", 0), 7)] true), .main .replied, .main (.ret 1 true),
    .late (.attempt [(("t", 0), 5)] true), .late (.reply true), .late .endLoop, .main (.ret 0 true)]).map
    (fun s => (s.sent.map (·.2), s.rets, s.lpc, s.pc)) = some ([false, true, true], [(1, true), (0, true)], .none, .idle) := by
  decide

section Start
open KV.GroupStart

/-- Each assigned partition starts at the group's committed offset when the coordinator reports one (≥ 0) and at the
configured StartOffset otherwise (none reported, or the "no offset" marker −1). -/
theorem start_at_committed (start : Int) (resp : Resp) (topic : String) (p : Int) :
    assignOffset start resp topic p =
      match committed resp topic p with
      | some o => if 0 ≤ o then o else start
      | none => start := by
  unfold assignOffset
  cases hc : committed resp topic p with
  | none => rfl
  | some o =>
    simp only
    by_cases h : o < 0
    · have h2 : ¬ (0 ≤ o) := by omega
      simp [h, h2]
    · have h2 : 0 ≤ o := by omega
      simp [h, h2]

/-- every configured topic gets exactly its assigned partitions, in assignment order, each with that offset -/
theorem assignments_cover (start : Int) (topics : List String) (subs : List (String × List Int)) (resp : Resp) :
    (makeAssignments start topics subs resp).map (·.1) = topics ∧
    ∀ t ps, (t, ps) ∈ makeAssignments start topics subs resp →
      ps = ((subs.lookup t).getD []).map (fun p => (p, assignOffset start resp t p)) := by
  constructor
  · simp [makeAssignments, Function.comp_def]
  · intro t ps h
    simp only [makeAssignments, List.mem_map] at h
    obtain ⟨t', _, h⟩ := h
    cases h; rfl

open KV.GroupStart in
example : makeAssignments (-1) ["t", "u"] [("t", [0, 2]), ("u", [1])] [("t", [(0, 5), (2, -1)])]
    = [("t", [(0, 5), (2, -1)]), ("u", [(1, -1)])] := by decide

end Start

section GroupHistory
open KV.GroupHist

/-- `assign` starts the epoch at the committed offset, or at the configured StartOffset when there is none
(the group-level image of `start_at_committed`) -/
theorem assignment_starts_at_committed (sl : Bool) (s s' : G) (m : Nat) (h : gstep sl s (.assign m) = some s') :
    ∃ rd, s'.readers = s.readers ++ [rd] ∧ rd.m = m ∧ rd.pos = rd.start ∧
      rd.start = (match s.committed with | some c => c | none => if sl then s.hi else 0) := by
  simp only [gstep] at h
  cases h
  exact ⟨_, rfl, rfl, rfl, rfl⟩

/-- Each time the partition is assigned, delivery proceeds from the start position without gaps and in order: in every
reachable state every epoch has delivered exactly `start, start+1, …, pos-1` (to its member).
(For any StartOffset; any interleaving with other members' epochs, commits, revocations.) -/
theorem no_gap_per_assignment (sl : Bool) (s : G) (h : GReachable sl s) :
    ∀ rd ∈ s.readers, rd.start ≤ rd.pos ∧ rd.epoch = List.range' rd.start (rd.pos - rd.start) ∧
      ∀ r ∈ rd.epoch, (rd.m, r) ∈ s.delivered := by
  intro rd hrd
  have n := nogap_reachable sl s h
  exact ⟨(n.shape rd hrd).1, (n.shape rd hrd).2, n.mine rd hrd⟩

/-- Every stored record below an acknowledged commit was delivered to some member before — in every reachable state,
hence in particular in the state right after the acknowledgement.  Hypotheses: StartOffset = FirstOffset (`false`),
applications commit only what they were handed (guard of `commit`), gap-free delivery per epoch (`deliver`). -/
theorem delivered_before_covered (s : G) (h : GReachable false s) (c : Nat) (hc : s.committed = some c) :
    ∀ r, r < c → ∃ m, (m, r) ∈ s.delivered := by
  intro r hr
  have i := ginv_abs h
  refine i.cov c hc r (List.mem_range.mpr ?_) hr
  -- a committed offset is at most one past a stored record
  rcases i.bcom c hc with h0 | ⟨x, hx, hle⟩
  · exact absurd hr (h0 ▸ Nat.not_lt_zero r)
  · exact Nat.lt_of_lt_of_le hr (Nat.le_trans hle (List.mem_range.mp hx))

/-- Once some member has caught up with the end of the log (the group is quiescent: nothing left to deliver for it),
every stored record has been delivered at least once. -/
theorem quiescent_all_delivered (s : G) (h : GReachable false s) (rd : Reader) (hrd : rd ∈ s.readers)
    (hq : s.hi ≤ rd.pos) : ∀ r, r < s.hi → ∃ m, (m, r) ∈ s.delivered :=
  fun r hr => (ginv_abs h).below (absR rd) (List.mem_map_of_mem hrd) r (List.mem_range.mpr hr) (Nat.lt_of_lt_of_le hr hq)

/-- non-vacuity: two members; member 1 is rebalanced away without having committed everything, keeps reading as a
zombie, member 2 resumes at the commit (re-delivering 1), a stale commit of member 1 moves the offset backwards -/
def twoMembers : List GEv :=
  [.produce, .produce, .produce, .produce, .assign 1, .deliver 0, .deliver 0, .commit 1 1 true,
   .assign 2, .deliver 1, .deliver 0, .deliver 1, .commit 2 3 true, .commit 1 2 true, .revoke 0, .deliver 0]

example : (grun false {} twoMembers).map (fun s => (s.committed, s.delivered, s.readers.map (fun r => (r.m, r.start, r.pos))))
    = some (some 2, [(1, 0), (1, 1), (2, 1), (1, 2), (2, 2), (2, 3)], [(2, 1, 4)]) := by decide

/-- With StartOffset = LastOffset the group-level consequence is false by design: records stored before the first
member started are never delivered although a later acknowledged commit covers them. -/
theorem last_offset_counterexample :
    (grun true {} [.produce, .produce, .produce, .assign 1, .produce, .deliver 0, .commit 1 4 true]).map
      (fun s => (s.committed, s.delivered)) = some (some 4, [(1, 3)]) := by decide

/-- without the hypothesis "applications commit only what they were handed" there is no such theorem: a commit beyond
the delivered records is simply not a step of the model -/
example : grun false {} [.produce, .produce, .assign 1, .deliver 0, .commit 1 2 true] = none := by decide

end GroupHistory

/-! ## group history over a log WITH HOLES (compaction): the same statements relative to the STORED records -/
section GroupLogSection
open KV.GroupLog

/-- per assignment: every stored record between the start position and the current position was handed to the member,
only stored records were, each to this member (gap-free relative to what the partition stores) -/
theorem no_gap_per_assignment_stored (s : KV.GroupLog.G) (h : KV.GroupLog.GReachable s) (rd : KV.GroupLog.Reader)
    (hrd : rd ∈ s.readers) :
    (∀ r ∈ s.log, rd.start ≤ r → r < rd.pos → r ∈ rd.epoch) ∧
    (∀ r ∈ rd.epoch, r ∈ s.log ∧ (rd.m, r) ∈ s.delivered ∧ rd.start ≤ r ∧ r < rd.pos) :=
  ⟨(KV.GroupLog.ginv_reachable s h).noskip rd hrd, (KV.GroupLog.ginv_reachable s h).mine rd hrd⟩

/-- every STORED record below an acknowledged commit was delivered to some member before -/
theorem delivered_before_covered_stored (s : KV.GroupLog.G) (h : KV.GroupLog.GReachable s) (c : Nat)
    (hc : s.committed = some c) : ∀ r ∈ s.log, r < c → ∃ m, (m, r) ∈ s.delivered :=
  (KV.GroupLog.ginv_reachable s h).cov c hc

/-- quiescent (some member's position is past every stored offset) ⇒ every stored record was delivered -/
theorem quiescent_all_delivered_stored (s : KV.GroupLog.G) (h : KV.GroupLog.GReachable s) (rd : KV.GroupLog.Reader)
    (hrd : rd ∈ s.readers) (hq : ∀ r ∈ s.log, r < rd.pos) : ∀ r ∈ s.log, ∃ m, (m, r) ∈ s.delivered :=
  fun r hr => (KV.GroupLog.ginv_reachable s h).below rd hrd r hr (hq r hr)

/-- non-vacuity: stored offsets 0 3 4 9 (holes), two members, a rebalance, re-delivery from the commit -/
example : (KV.GroupLog.grun {} [.produce 0, .produce 3, .produce 4, .assign 1, .deliver 0, .deliver 0, .commit 1 4 true,
    .produce 9, .assign 2, .deliver 1, .deliver 1, .commit 2 10 true]).map (fun s => (s.committed, s.delivered))
    = some (some 10, [(1, 0), (1, 3), (2, 4), (2, 9)]) := by decide

end GroupLogSection

/-! ## the Reader front between the fetchers and the application (justifies the `deliver` step of the group history)

`Model/GroupFront.lean`: FetchMessage samples `r.version` BEFORE it blocks; a generation change (`subscribe`) may happen
while the call is pending.  Hypothesis: each fetcher enqueues its own records gap-free in order (C02). -/
section Front
open KV.GroupFront

/-- regenerated: FetchMessage keeps a message iff `m.version >= version` (the sampled one) — the `accept` of the model -/
theorem front_matches_source :
    KV.Gen.Group.fetchVersionFilter = ">=" ∧ ∀ tag sampled, accept false tag sampled = decide (tag ≥ sampled) := by
  refine ⟨by decide, fun tag sampled => ?_⟩
  simp [accept]

/-- For every generation (version tag) the offsets FetchMessage returned from that generation's fetcher are exactly
`start, start+1, …` — consecutive from the assignment's start position, nothing skipped — in every reachable state,
whatever the interleaving of calls, subscriptions (also while a call is pending), late enqueues of cancelled
fetchers and receives. -/
theorem front_no_gap_per_generation (s : GF) (h : FReachable false s) (t : Nat) :
    (s.out.filter (fun e => e.1 == t)).map (·.2) = List.range' (s.start t) (s.returned t) :=
  ((finv_reachable s h).stream t).o

/-- A record of the CURRENT generation is never discarded: if the head of the queue carries the current version, a
pending FetchMessage — whenever it sampled the version — returns it. -/
theorem current_generation_never_dropped (s : GF) (h : FReachable false s) (v o : Nat) (rest : List (Nat × Nat))
    (hs : s.sampled = some v) (hq : s.queue = (s.version, o) :: rest) :
    ∃ s', fstep false s .recv = some s' ∧ s'.out = s.out ++ [(s.version, o)] ∧ s'.sampled = none := by
  have hv := (finv_reachable s h).sampled v hs
  simp only [fstep, hs, hq, accept]
  simp [hv]

/-- In particular: a FetchMessage pending on an idle queue while the group rebalances receives the FIRST record the new
generation fetches (the one at the new assignment's start position). -/
theorem pending_fetch_gets_first_record_of_new_generation (s : GF) (h : FReachable false s) (v st : Nat)
    (hs : s.sampled = some v) (hq : s.queue = []) :
    (frun false s [.subscribe st, .enqueue (s.version + 1), .recv]).map (·.out) = some (s.out ++ [(s.version + 1, st)]) := by
  have i := finv_reachable s h
  have hv := i.sampled v hs
  have hz := ((i.stream (s.version + 1)).fresh (Nat.lt_succ_self _)).1
  have hle : v ≤ s.version + 1 := by omega
  simp [frun, fstep, hs, hq, accept, upd, hz, hle]

/-- With `m.version == version` instead of `>=` exactly that record is discarded: the call sampled
version 0, generation 1 subscribes at offset 5 and fetches it; the record is taken off the queue and lost. -/
theorem strict_version_filter_counterexample :
    (frun true {} [.call, .subscribe 5, .enqueue 1, .recv]).map (fun s => (s.out, s.queue, s.taken 1)) = some ([], [], 1) := by
  decide

-- with `>=` the same run returns the record
example : (frun false {} [.call, .subscribe 5, .enqueue 1, .recv]).map (fun s => (s.out, s.queue)) = some ([(1, 5)], []) := by
  decide

end Front

/-! ## acked ON THE WIRE: what `Conn` concludes from the coordinator's response bytes

Encodings of the responses composed with the model of the `Conn` operations (`Model/ConnOps.opRead` over the parser programs
re-extracted from offsetcommit.go / offsetfetch.go / heartbeat.go: `Gen/ConnLegacy.lean`).  OffsetCommit and the one-code
responses are stated on the reference encoders of `Spec/GroupWire.lean` (`offsetCommitResp`, `errOnly`); OffsetFetch on
`GroupResp.encFResp`, the same layout with arbitrary metadata, which no theorem relates to `Spec.GroupWire.offsetFetchResp`.
Ranges: topic names < 32 KiB, counts < 2³¹, fields within their widths. -/
section Wire
open KV.GroupResp KV.ConnOps

/-- `Conn.offsetCommit` returns nil iff every per-partition code of the OffsetCommit v2 response is 0, and otherwise the
FIRST non-zero code; the whole frame is consumed.  (That an `attempt … true` of `Model/Commit.lean` is a nil result of this
call is the harness tie, not a theorem.) -/
theorem offsetCommit_acked_on_the_wire (ts : List (String × List (Int × Int))) (hn : ts.length < 2147483648)
    (h : ∀ t ∈ ts, t.1.toUTF8.toList.length < 32768 ∧ t.2.length < 2147483648 ∧ ∀ pc ∈ t.2, PartOK pc) (topic : Bytes) :
    opRead (simpleOp "offsetCommit" KV.Gen.ConnLegacy.offsetCommitResponseV2) 2 topic
        ⟨KV.Spec.GroupWire.offsetCommitResp ts, (KV.Spec.GroupWire.offsetCommitResp ts).length⟩ =
      ((match (ts.flatMap (fun t => t.2.map (·.2))).find? (fun k => k != 0) with
        | some k => Outcome.kafka k | none => Outcome.ok), ⟨[], 0⟩) := by
  rw [spec_offsetCommitResp]
  have := offsetCommit_conclusion (ts.map fun t => (t.1.toUTF8.toList, t.2)) (by rw [List.length_map]; exact hn)
    (by intro t ht; simp only [List.mem_map] at ht; obtain ⟨t', ht', rfl⟩ := ht; exact h t' ht') topic
  have hcodes : ccodesOf (ts.map fun t => (t.1.toUTF8.toList, t.2)) = ts.flatMap (fun t => t.2.map (·.2)) :=
    List.flatMap_map _ _ _
  rw [hcodes] at this
  exact this

/-- `Conn.offsetFetch`: any non-zero per-partition code of the OffsetFetch v1 response makes the call fail with the first
such code (so `fetchOffsets` fails and no generation is created: `failed_fetch_never_yields_generation`) -/
theorem offsetFetch_failure_on_the_wire (ts : List (Bytes × List FPart)) (hn : ts.length < 2147483648)
    (h : ∀ t ∈ ts, FTopicOK t) (topic : Bytes) :
    opRead (simpleOp "offsetFetch" KV.Gen.ConnLegacy.offsetFetchResponseV1) 1 topic ⟨encFResp ts, (encFResp ts).length⟩ =
      ((match (fcodesOf ts).find? (fun k => k != 0) with | some k => Outcome.kafka k | none => Outcome.ok), ⟨[], 0⟩) :=
  offsetFetch_conclusion ts hn h topic

/-- `Conn.heartbeat` / `Conn.leaveGroup`: the response's error code is the call's result -/
theorem heartbeat_error_on_the_wire (code : Int) (hc : KV.GroupWire.Fits 2 code) (topic : Bytes) :
    opRead (simpleOp "heartbeat" KV.Gen.ConnLegacy.heartbeatResponseV0) 0 topic ⟨KV.Spec.GroupWire.errOnly code, 2⟩ =
      ((if code = 0 then Outcome.ok else Outcome.kafka code), ⟨[], 0⟩) ∧
    opRead (simpleOp "leaveGroup" KV.Gen.ConnLegacy.leaveGroupResponseV0) 0 topic ⟨KV.Spec.GroupWire.errOnly code, 2⟩ =
      ((if code = 0 then Outcome.ok else Outcome.kafka code), ⟨[], 0⟩) :=
  ⟨errOnly_conclusion "heartbeat" _ rfl code hc topic, errOnly_conclusion "leaveGroup" _ rfl code hc topic⟩

/-- the requests: OffsetCommit v2 and OffsetFetch v1 as the legacy Conn writes them (writers re-extracted into
`Gen/Legacy.lean`) are the Kafka layouts, every field in its place by name (generation id, member id, retention, per
partition: partition, offset, metadata) -/
theorem commit_requests_on_the_wire :
    (∀ t, KV.Gen.Legacy.offsetCommitRequestV2.writeTo t =
      KV.Spec.GroupWire.Req.offsetCommit t.GroupID t.GenerationID t.MemberID t.RetentionTime
        (t.Topics.map fun x => (x.Topic, x.Partitions.map fun p => (p.Partition, p.Offset, p.Metadata)))) ∧
    (∀ t, KV.Gen.Legacy.offsetFetchRequestV1.writeTo t =
      KV.Spec.GroupWire.Req.offsetFetch t.GroupID (t.Topics.map fun x => (x.Topic, x.Partitions))) :=
  ⟨KV.GroupReq.offsetCommit_layout, KV.GroupReq.offsetFetch_layout⟩

/-- A refusal ANYWHERE in the answer is the call's conclusion: the per-partition codes of all topics, in the order of the
answer, with zeros before the first refusal `c ≠ 0` — the conclusion is `c`, whichever topic it belongs to (so a commit
that covers two topics is not believed when the second topic's entry is refused).  `firstError` is the reference form of
what `Conn` concludes: `GroupResp.firstCode_eq_concl` with `offsetCommit_conclusion`. -/
theorem refusal_anywhere_is_reported (pre post : List Int) (c : Int) (hpre : ∀ x ∈ pre, x = 0) (hc : c ≠ 0) :
    KV.Spec.GroupWire.firstError (pre ++ c :: post) = c ∧ KV.Spec.GroupWire.firstError pre = 0 := by
  unfold KV.Spec.GroupWire.firstError
  induction pre with
  | nil => simp [List.find?, hc]
  | cons a t ih =>
    have ha : a = 0 := hpre a (by simp)
    have ht : ∀ x ∈ t, x = 0 := fun x hx => hpre x (by simp [hx])
    subst ha
    simpa [List.find?] using ih ht

/-- regenerated (conn.go): the loops of `Conn.offsetCommit` / `Conn.offsetFetch` that look for a per-partition code run
over every topic and partition of the answer — inside them the only `return` is the one guarded by `ErrorCode != 0` -/
theorem answer_checked_for_every_topic :
    KV.Gen.Group.connAnswerLoops.all (fun x => x.2.2 == 0 && decide (0 < x.2.1)) = true ∧
    KV.Gen.Group.connAnswerLoops.map (·.1) = ["offsetCommit", "offsetFetch"] := by decide

end Wire

/-! ## the per-generation unsubscribe function of Reader.run (D8b) -/
section ReaderRunSection
open KV.ReaderRun

/-- (repaired code, /repo 88525ef) Whenever and in whatever order the per-generation unsubscribe functions run — also
late, after later generations subscribed —: the fetchers of the CURRENT generation are running unless that
generation's own function has run. -/
theorem current_fetchers_survive_late_unsubscribe (s : RR) (h : RReachable true s) (hp : 0 < s.gens)
    (hn : s.unsubRan.getD (s.gens - 1) true = false) : s.alive.getD (s.gens - 1) false = true :=
  (rinv_reachable true s h).cur rfl hp hn

/-- D8b on the original code: generation 0's function runs after generation 1 subscribed and stops generation 1's
fetchers — the member owns its partitions and fetches nothing. -/
theorem late_unsubscribe_counterexample :
    rrun false {} [.subscribe, .subscribe, .unsub 0] = some { gens := 2, alive := [false, false], unsubRan := [true, false] } := by
  decide

-- the same run on the repaired code: generation 1's fetchers keep running
example : rrun true {} [.subscribe, .subscribe, .unsub 0] = some { gens := 2, alive := [false, true], unsubRan := [true, false] } := by
  decide

/-- "readers of the previous generation are stopped before rejoining": of one Reader, only the current generation's
fetchers can be running (both code variants) -/
theorem previous_generation_fetchers_stopped (cap : Bool) (s : RR) (h : RReachable cap s) (g : Nat) (hg : g + 1 < s.gens) :
    s.alive.getD g false = false :=
  (rinv_reachable cap s h).old g hg

/-- regenerated: `Reader.unsubscribe` cancels the func it is given (the generation's own), not `r.cancel` -/
theorem unsubscribe_matches_source : KV.Gen.Group.unsubscribeCancels = "parameter" := by decide

end ReaderRunSection

/-! ## the fetcher's restart position across reconnects inside a generation (`reader.go (*reader).run`)

`for attempt … { conn, start, err := r.initialize(ctx, offset); …; offset = start; readLoop: offset, err = r.read(ctx, offset, conn) … }`:
`offset` is the function's parameter — the generation's assignment offset at first, possibly the symbolic LastOffset /
FirstOffset — and is overwritten by the resolved `start` and then by every read, so that a re-initialisation after a
fault resumes where the fetcher stands.  `shadow = true` is the variant `offset := start`: the
loop's copy advances, the parameter keeps the generation's start.  Of the two markers `FR` resolves only LastOffset (−1). -/
section Restart

structure FR where
  param : Int              -- the `offset` parameter of run (−1 = LastOffset)
  cur : Int := 0           -- the position the read loop works with
  delivered : List Int := []
  deriving DecidableEq, Repr

inductive FREv
  | init (logEnd : Int)    -- (re)initialise: resolve the parameter against the log
  | deliver                -- the read loop hands out the record at `cur`
  deriving Repr

def FR.step (shadow : Bool) (s : FR) : FREv → FR
  | .init logEnd =>
    let start := if s.param = -1 then logEnd else s.param
    if shadow then { s with cur := start } else { s with param := start, cur := start }
  | .deliver =>
    if shadow then { s with cur := s.cur + 1, delivered := s.delivered ++ [s.cur] }
    else { s with param := s.cur + 1, cur := s.cur + 1, delivered := s.delivered ++ [s.cur] }

def FR.run (shadow : Bool) (s : FR) : List FREv → FR
  | [] => s
  | e :: es => (s.step shadow e).run shadow es

/-- (`shadow = false`, the code as it is) once initialised at an absolute offset (`h0`: the position is not a marker), after any
number of deliveries the parameter equals the loop's position, so a re-initialisation — whatever the log end is by then —
resumes exactly where the fetcher stands -/
theorem restart_resumes_at_position (t : FR) (h : t.param = t.cur) (h0 : 0 ≤ t.cur) (n : Nat) (logEnd' : Int) :
    ((t.run false (List.replicate n .deliver)).step false (.init logEnd')).cur = t.cur + n := by
  induction n generalizing t with
  | zero =>
    simp [FR.run, FR.step, h]
    intro hc; omega
  | succ n ih =>
    simp only [List.replicate_succ, FR.run]
    rw [ih (t.step false .deliver) (by simp [FR.step]) (by simp [FR.step]; omega)]
    simp [FR.step]; omega

/-- `shadow = true`: with the shadowed variable a generation started at LastOffset re-initialises at the NEW end of the log:
record 3 (appended while the connection was down) is never delivered -/
theorem shadowed_restart_counterexample :
    (FR.run true { param := -1 } [.init 2, .deliver, .init 4, .deliver]).delivered = [2, 4] ∧
    (FR.run false { param := -1 } [.init 2, .deliver, .init 4, .deliver]).delivered = [2, 3] := by decide

/-- regenerated: the statement after `r.initialize` is a plain assignment to run's own offset parameter -/
theorem restart_matches_source : KV.Gen.Group.restartAssign = ("=", true) := by decide

end Restart

/-! ## ReadMessage = FetchMessage + synchronous CommitMessages (C03-D30, known finding) -/
section ReadMessageSection

/-- `reader.go ReadMessage`: `m := FetchMessage(); if err := CommitMessages(m); err != nil { return Message{}, err }; return m` -/
structure RM where
  next : Nat := 0                 -- next offset the front hands out (gap-free, `front_no_gap_per_generation`)
  returned : List Nat := []       -- what the application received
  committed : Option Nat := none
  deriving DecidableEq, Repr

/-- one ReadMessage call; `commitOk = false`: every retry of the commit failed with a transient error -/
def RM.read (s : RM) (commitOk : Bool) : RM :=
  if commitOk then { next := s.next + 1, returned := s.returned ++ [s.next], committed := some (s.next + 1) }
  else { s with next := s.next + 1 }   -- the message is dropped, the error returned

def RM.run (s : RM) : List Bool → RM
  | [] => s
  | b :: bs => (s.read b).run bs

/-- as long as no commit fails the application receives every record, in order -/
theorem readmessage_no_gap_without_failures (n : Nat) :
    (RM.run {} (List.replicate n true)).returned = List.range n := by
  have key : ∀ (k : Nat) (s : RM), s.returned = List.range s.next →
      (RM.run s (List.replicate k true)).returned = List.range (s.next + k) := by
    intro k
    induction k with
    | zero => intro s h; simpa [RM.run] using h
    | succ k ih =>
      intro s h
      simp only [List.replicate_succ, RM.run]
      have := ih (s.read true) (by simp [RM.read, h, List.range_succ])
      simpa [RM.read, Nat.add_assoc, Nat.add_comm 1 k] using this
  simpa using key n {} rfl

/-- C03-D30: one failed commit (transient, the generation lives on) and the next ReadMessage's commit covers a record the
application never received -/
theorem readmessage_gap_counterexample :
    RM.run {} [false, true] = { next := 2, returned := [1], committed := some 2 } := by decide

end ReadMessageSection

end KV.Commit.C03
