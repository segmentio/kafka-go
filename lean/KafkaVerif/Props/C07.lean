/-
Props/C07.lean — property C07: the Writer preserves per-partition submission order, also across retries.

Model: Model/Writer.lean.  Ghost data used by the statements: every `add` (the append inside
(*partitionWriter).writeMessages, under w.mutex + ptw.mutex) stamps the message with the global submission
counter `s.seq`; every log entry carries the stamp and the batch it was copied from.
All theorems hold for every configuration and every reachable state (= every finite event sequence the LTS
accepts: any number of callers, partitions, batch settings, faults, retries, timer firings, Close).
-/
import KafkaVerif.Lemmas.WriterCalls
import KafkaVerif.Lemmas.WriterMsgs
import KafkaVerif.Gen.WriterConsts
import KafkaVerif.Lemmas.WriterFirstCopy

namespace KV.C07
open KV KV.Writer

/-- in the log of every topic-partition, for every pair of entries x before y: x was
submitted before y (smaller stamp), or both are copies out of the same batch (a retry after a lost
acknowledgement re-appends the whole batch).  Hence every copy of an earlier-submitted message that sits in a
different batch precedes every copy of a later one — across retries, timer flushes, size flushes and Close. -/
theorem order_preserved (cfg : Cfg) (s : State) (hr : Reachable cfg s) (tp : TP) :
    (s.log tp).Pairwise (fun x y => x.seq < y.seq ∨ x.batch = y.batch) :=
  (invOrd cfg s hr).logOrd tp

/-- what a reader of the partition log sees: whenever an entry y stands after an
entry x although y was submitted before x, y is a repeated copy — the same message (same stamp) already stands in the
log before x.  (A retry after a lost acknowledgement re-appends the whole batch in batch order; nothing else ever
produces an inversion.) -/
theorem inversion_is_a_repeated_copy (cfg : Cfg) (s : State) (hr : Reachable cfg s) (tp : TP)
    (l1 : List LogEntry) (x : LogEntry) (l2 : List LogEntry) (hl : s.log tp = l1 ++ x :: l2)
    (y : LogEntry) (hy : y ∈ l2) (hlt : y.seq < x.seq) :
    ∃ y' ∈ l1, y'.seq = y.seq ∧ y'.msg = y.msg := by
  have hO := invOrd cfg s hr
  have hF := invFirst cfg s hr
  have hp := hO.logOrd tp
  rw [hl] at hp
  have hxy : LogRel x y := by
    have h2 := (List.pairwise_append.mp hp).2.1
    exact (List.pairwise_cons.mp h2).1 y hy
  have hb : x.batch = y.batch := by
    rcases hxy with h | h
    · exact absurd h (Nat.lt_asymm hlt)
    · exact h
  have hyin : y ∈ s.log tp := by rw [hl]; simp [hy]
  obtain ⟨B, hB, m, hm, e1, e2⟩ := hF.entryIn tp y hyin
  rw [← hb] at hB
  obtain ⟨y', hy', h1, h2⟩ := hF.prefixCopy tp l1 x l2 hl B hB m hm (by rw [e1]; exact hlt)
  exact ⟨y', hy', h1.trans e1, h2.trans e2⟩

/-- dropping repeated copies, the log is in submission order: if the message of
y does not occur before x, then y (standing after x) was not submitted before x. -/
theorem first_copies_in_submission_order (cfg : Cfg) (s : State) (hr : Reachable cfg s) (tp : TP)
    (l1 : List LogEntry) (x : LogEntry) (l2 : List LogEntry) (hl : s.log tp = l1 ++ x :: l2)
    (y : LogEntry) (hy : y ∈ l2) (hfirst : ∀ y' ∈ l1, y'.msg ≠ y.msg) : x.seq ≤ y.seq := by
  apply Nat.le_of_not_lt
  intro hlt
  obtain ⟨y', hy', -, hm⟩ := inversion_is_a_repeated_copy cfg s hr tp l1 x l2 hl y hy hlt
  exact hfirst y' hy' hm

/-- the broker can append (or reject) a batch only while the sender holds
that batch in an attempt that has no decision yet. -/
theorem broker_decides_only_in_flight_attempts (cfg : Cfg) (s s' : State) (pw : Nat) (tp : TP) (msgs : List Msg) (out : BrOut)
    (hs : step cfg s (.produce pw tp msgs out) = some s') :
    ∃ P b k, s.pws pw = some P ∧ P.sender = .attempting b k none := by
  cases Step.of_step hs with
  | produce hP hsend hB hg => exact ⟨_, _, _, hP, hsend⟩

/-- once an attempt has ended on the client (with an acknowledgement, an error
code, or by giving up at WriteTimeout), no produce request of that partition writer can reach the log until the NEXT
attempt is started: a request the Writer has abandoned is not delivered behind its back — not after the retry, not
after a later batch.  (On the wire this needs the connection of the abandoned request to be cut off in both
directions: `attempt_cut_off_at_the_socket`.) -/
theorem abandoned_attempt_never_applied (cfg : Cfg) (s s' : State) (pw b k : Nat) (code : Code)
    (hs : step cfg s (.attemptDone pw b k code) = some s') (tp : TP) (msgs : List Msg) (out : BrOut) :
    step cfg s' (.produce pw tp msgs out) = none := by
  cases Step.of_step hs with
  | attemptDone hP hsend hg =>
    cases h : step cfg _ (.produce pw tp msgs out) with
    | none => rfl
    | some s'' =>
      cases Step.of_step h with
      | produce hP' hsend' hB hg' =>
        -- after the attempt the sender is ready for the next one or finishing: not inside an attempt
        cases (upd_same ..).symm.trans hP'
        rcases afterAttempt_cases cfg b k code with ⟨-, e⟩ | ⟨-, -, -, e⟩ | ⟨-, e⟩ <;> rw [show _ = _ from e] at hsend' <;>
          cases hsend'

/-- in transport.go the Transport applies the request deadline (the
Writer's WriteTimeout) to the connection in both directions: an attempt abandoned while its request is still being
written is cut off, the rest of the request never arrives (`Gen.roundTripDeadlineSetters`, printed by go/extract/writer). -/
theorem attempt_cut_off_at_the_socket :
    Gen.roundTripDeadlineSetters.contains "SetDeadline" = true ∨ Gen.roundTripDeadlineSetters.contains "SetWriteDeadline" = true := by
  decide

/-- inside a batch the messages are in submission order (so each copy is, too). -/
theorem batch_internal_order (cfg : Cfg) (s : State) (hr : Reachable cfg s) (b : Nat) (B : Batch)
    (hB : s.batches b = some B) : B.msgs.Pairwise (fun m m' => m.seq < m'.seq) :=
  (invOrd cfg s hr).sorted b B hB

/-- there is never a second partition writer (hence a second sending goroutine)
for a topic-partition: `newPW` requires `closed = false` and an empty slot, as batchMessages does under `w.mutex`
(see `no_writer_after_close`). -/
theorem one_sender_per_partition (cfg : Cfg) (s : State) (hr : Reachable cfg s) (pw pw' : Nat) (P P' : PW)
    (h : s.pws pw = some P) (h' : s.pws pw' = some P') (htp : P.tp = P'.tp) : pw = pw' := by
  have h1 := (invOrd cfg s hr).uniq pw P h
  have h2 := (invOrd cfg s hr).uniq pw' P' h'
  rw [htp, h2] at h1; cases h1; rfl

/-- batchMessages queues nothing and creates no partition writer once the Writer is
closed (the re-check of `w.closed` under `w.mutex` in batchMessages, commit ff73da6 of /repo); this is what keeps
`one_sender_per_partition` true in the window "call passed enter(), then Close ran" (defects D1 / D1b of the findings
file: without the re-check such a call creates a second partition writer). -/
theorem no_writer_after_close (cfg : Cfg) (s s' : State) :
    (∀ c, step cfg s (.batch c) = some s' → s.closed = false) ∧
    (∀ pw q tp, step cfg s (.newPW pw q tp) = some s' → s.closed = false) := by
  constructor
  · intro c hs
    cases Step.of_step hs with
    | batch hC hg => exact hg.notClosed
  · intro pw q tp hs
    cases Step.of_step hs with
    | newPW hg => exact hg.notClosed

/-- "batches are queued only while they are the current batch, under the partition mutex":
once a batch was detached (`pending = some b`) no other event of that partition writer's mutex sections — creating
the next batch, appending, another detach, a timer branch — is enabled until `qput` has handed b to the queue.  So a
later batch can never be created, let alone queued, before an earlier detached one.  (The trace monitor
`putInsideSection` checks the same on every recorded run.) -/
theorem put_inside_section (cfg : Cfg) (s s' : State) (pw : Nat) (P : PW) (hP : s.pws pw = some P) :
    (∀ b, step cfg s (.newBatch pw b) = some s' → P.pending = none) ∧
    (∀ b c i size, step cfg s (.add pw b c i size) = some s' → P.pending = none) ∧
    (∀ b why size, step cfg s (.detach pw b why size) = some s' → P.pending = none) ∧
    (∀ b att, step cfg s (.timerFire pw b att) = some s' → P.pending = none) := by
  refine ⟨?_, ?_, ?_, ?_⟩
  · intro b hs
    cases Step.of_step hs with
    | newBatch hP' hg => cases hP.symm.trans hP'; exact hg.pending
  · intro b c i size hs
    cases Step.of_step hs with
    | add hP' hB hC hg => cases hP.symm.trans hP'; exact hg.pending
  · intro b why size hs
    cases Step.of_step hs with
    | detach hP' hB hg => cases hP.symm.trans hP'; exact hg.pending
  · intro b att hs
    cases Step.of_step hs with
    | timerFire hP' hB hg => cases hP.symm.trans hP'; exact hg.pending

/-- which mutex must be held at every site of these event hooks / queue hand-overs -/
def requiredLocks : List (String × String) :=
  [ ("W.Enter", "Writer.mutex"), ("W.Batch", "Writer.mutex"), ("W.Batched", "Writer.mutex"), ("W.NewPW", "Writer.mutex"),
    ("W.CloseBegin", "Writer.mutex"), ("W.CloseMarked", "Writer.mutex"),
    ("PW.NewBatch", "partitionWriter.mutex"), ("PW.Add", "partitionWriter.mutex"), ("PW.Detach", "partitionWriter.mutex"),
    ("B.TimerFire", "partitionWriter.mutex"), ("call:queue.Put", "partitionWriter.mutex"), ("call:queue.Close", "partitionWriter.mutex"),
    ("Q.Put", "batchQueue.cond.L"), ("Q.Get", "batchQueue.cond.L"), ("Q.Close", "batchQueue.cond.L") ]

def sectionsOk (table : List (String × String × List String)) : Bool :=
  requiredLocks.all (fun (k, l) => table.any (fun site => site.1 == k) && table.all (fun site => site.1 != k || site.2.2.contains l)) &&
  -- the only rejection decided inside batchMessages (Writer closed) is decided under w.mutex
  table.all (fun site => !(site.1 == "W.Reject" && site.2.1 == "Writer.batchMessages") || site.2.2.contains "Writer.mutex") &&
  -- appending to / flushing batches from WriteMessages, and closing partition writers from Close, happen inside the
  -- w.mutex section as well (locks held by every caller of a function count as held inside it)
  table.all (fun site => !(site.2.1 == "partitionWriter.writeMessages" || site.2.1 == "partitionWriter.close") ||
    site.2.2.contains "Writer.mutex")

/-- in writer.go every hook of an event the model treats as part of a
w.mutex / ptw.mutex / queue-lock critical section is syntactically inside that lock's bracket, and every hand-over of a
batch to the queue (`queue.Put`, `queue.Close`) happens with the partition mutex held — the structural fact behind
`put_inside_section` and behind taking each event as atomic. -/
theorem events_inside_their_sections : sectionsOk Gen.hookLocks = true := by decide +kernel

/-- an applied produce attempt appends exactly the messages of the batch being
sent, in batch order, to the log of that batch's topic-partition, and nothing else changes in any log. -/
theorem copies_are_whole_batches (cfg : Cfg) (s s' : State) (pw : Nat) (tp : TP) (msgs : List Msg) (out : BrOut)
    (hs : step cfg s (.produce pw tp msgs out) = some s') :
    ∃ b B, s.batches b = some B ∧ B.msgs.map (·.msg) = msgs ∧
      s'.log tp = (if out.applied then s.log tp ++ mkEntries pw b B else s.log tp) ∧
      (mkEntries pw b B).map (·.msg) = msgs ∧ ∀ t, t ≠ tp → s'.log t = s.log t := by
  cases Step.of_step hs with
  | produce hP hsend hB hg =>
    have hm := hg.carries
    refine ⟨_, _, hB, hm, ?_⟩
    by_cases h : out.applied = true
    · obtain ⟨h1, h2⟩ := log_after_append (produced_log_applied h)
      exact ⟨by rw [h1, if_pos h], by simp [mkEntries, ← hm], h2⟩
    · refine ⟨?_, by simp [mkEntries, ← hm], fun t _ => ?_⟩ <;> rw [produced_log_unapplied h]
      exact (if_neg h).symm

/-- FIFO: the partition writer's goroutine only ever takes the head of its queue, and only
when it is idle, i.e. after the previous batch — with all its attempts — has completed. -/
theorem sender_takes_head (cfg : Cfg) (s s' : State) (q b : Nat) (hs : step cfg s (.qget q (some b)) = some s') :
    ∃ pw P, s.qOf q = some pw ∧ s.pws pw = some P ∧ P.sender = .idle ∧ P.queue.head? = some b ∧
      s'.pws pw = some { P with queue := P.queue.tail, sender := .ready b 0 } := by
  cases Step.of_step hs with
  | qgetSome hq hP hg => exact ⟨_, _, hq, hP, hg.idle, hg.head, upd_same ..⟩

/-- within one call, a message is appended to its partition's batch only after every
earlier index of the call that goes to the same partition has been appended (so stamps follow the index
order); across successive calls of one goroutine the stamps follow the call order: `successive_calls_ordered`. -/
theorem add_in_index_order (cfg : Cfg) (s s' : State) (pw b c i size : Nat)
    (hs : step cfg s (.add pw b c i size) = some s') :
    ∃ P C, s.pws pw = some P ∧ s.calls c = some C ∧ C.assign[i]? = some P.tp ∧
      ∀ j, j < i → C.assign[j]? = some P.tp → (C.place j).isSome = true := by
  cases Step.of_step hs with
  | add hP hB hC hg =>
    refine ⟨_, _, hP, hC, hg.assign, fun j hj hja => ?_⟩
    have := List.all_eq_true.mp hg.before j (List.mem_range.mpr hj)
    simpa [hja] using this

/-- the stamp given by `add` is larger than the stamp of every message added before and of
every entry already in any log. -/
theorem stamp_is_fresh (cfg : Cfg) (s : State) (hr : Reachable cfg s) :
    (∀ b B, s.batches b = some B → ∀ m ∈ B.msgs, m.seq < s.seq) ∧ (∀ tp, ∀ x ∈ s.log tp, x.seq < s.seq) :=
  ⟨(invOrd cfg s hr).counterB, (invOrd cfg s hr).counterL⟩

/-- "within one WriteMessages call": two messages of the same call that go to the same
topic-partition carry stamps in the order of their indexes in the call's slice (so by `order_preserved` every copy of
the earlier one precedes every copy of the later one, or they share a batch, where `batch_internal_order` applies). -/
theorem within_call_ordered (cfg : Cfg) (s : State) (hr : Reachable cfg s) (b b' : Nat) (B B' : Batch)
    (hB : s.batches b = some B) (hB' : s.batches b' = some B') (htp : B.tp = B'.tp)
    (m m' : BMsg) (hm : m ∈ B.msgs) (hm' : m' ∈ B'.msgs) (hcall : m.msg.1 = m'.msg.1) (hidx : m.msg.2 < m'.msg.2) :
    m.seq < m'.seq :=
  (invMsgs cfg s hr).callOrder b B b' B' hB hB' htp m hm m' hm' hcall hidx

/-- if one WriteMessages call returned before another one began (successive calls of
one goroutine, synchronous or Async: `endSeq c₁ ≤ beginSeq c₂`, see `begin_after_return`), every message of the
first call carries a smaller submission stamp than every message of the second.  With `order_preserved` this
gives: in each partition log every copy of a message of the earlier call precedes every copy of a message of the
later call (two messages with different stamps satisfy the first disjunct of `order_preserved` in submission order, or
they sit in one batch, whose internal order is the submission order: `batch_internal_order`). -/
theorem successive_calls_ordered (cfg : Cfg) (s : State) (hr : Reachable cfg s) (c1 c2 : Nat) (C1 C2 : Call) (e1 : Nat)
    (h1 : s.calls c1 = some C1) (h2 : s.calls c2 = some C2) (hend : C1.endSeq = some e1) (hlt : e1 ≤ C2.beginSeq)
    (b1 b2 : Nat) (B1 B2 : Batch) (hB1 : s.batches b1 = some B1) (hB2 : s.batches b2 = some B2)
    (m1 m2 : BMsg) (hm1 : m1 ∈ B1.msgs) (hm2 : m2 ∈ B2.msgs) (hc1 : m1.msg.1 = c1) (hc2 : m2.msg.1 = c2) :
    m1.seq < m2.seq := by
  have hI := invCallSeq cfg s hr
  obtain ⟨X1, hX1, -, g1⟩ := hI.msgIn b1 B1 hB1 m1 hm1
  obtain ⟨X2, hX2, g2, -⟩ := hI.msgIn b2 B2 hB2 m2 hm2
  rw [hc1, h1] at hX1; cases hX1
  rw [hc2, h2] at hX2; cases hX2
  have := g1 e1 hend
  omega

/-- `order_preserved` for one pair: two entries x before y of a partition log are in submission order or copies out of
one batch.  With `successive_calls_ordered` (stamps of an earlier call are smaller): an entry of an earlier call stands
after an entry of a later call of the same goroutine only if both are copies out of one batch. -/
theorem successive_calls_ordered_in_log (cfg : Cfg) (s : State) (hr : Reachable cfg s) (tp : TP) (x y : LogEntry)
    (hxy : [x, y].Sublist (s.log tp)) : x.seq < y.seq ∨ x.batch = y.batch :=
  by
    have := (order_preserved cfg s hr tp).sublist hxy
    simpa using this

/-- a call that begins after another call has returned gets a window that starts at or
after the end of that call's window. -/
theorem begin_after_return (cfg : Cfg) (s s' : State) (hr : Reachable cfg s) (c2 : Nat) (msgs : List MsgSpec)
    (hs : step cfg s (.begin_ c2 msgs) = some s') (c1 : Nat) (C1 : Call) (e1 : Nat) (h1 : s.calls c1 = some C1)
    (hend : C1.endSeq = some e1) :
    ∃ C2, s'.calls c2 = some C2 ∧ e1 ≤ C2.beginSeq := by
  cases Step.of_step hs with
  | begin_ hg => exact ⟨_, upd_same .., ((invCallSeq cfg s hr).endLe c1 C1 e1 h1 hend).1⟩

/-! ### non-vacuity: a concrete run with a retry after a lost acknowledgement while a later batch is queued -/

def exCfg : Cfg :=
  { batchSize := 1, batchBytes := 1000, maxAttempts := 3, async := true, completion := false, topic := "t",
    retriable := fun c => c == 1003 }

def exTrace : List Event :=
  [ .enter true, .begin_ 1 [{ size := 45, topic := "" }], .assign 1 0 ("t", 0), .batch 1, .newPW 1 1 ("t", 0),
    .newBatch 1 1, .add 1 1 1 0 45, .detach 1 1 .full 0, .qput 1 1 true, .batched 1, .ret 1 .async,
    .enter true, .begin_ 2 [{ size := 45, topic := "" }], .assign 2 0 ("t", 0), .batch 2,
    .newBatch 1 2, .add 1 2 2 0 45, .detach 1 2 .full 0, .qget 1 (some 1), .attempt 1 1 0, .qput 1 2 true, .batched 2,
    .ret 2 .async,
    .produce 1 ("t", 0) [(1, 0)] (.lost true), .attemptDone 1 1 0 1003, .attempt 1 1 1,
    .produce 1 ("t", 0) [(1, 0)] .acked, .attemptDone 1 1 1 0, .complete 1 1 0,
    .qget 1 (some 2), .attempt 1 2 0, .produce 1 ("t", 0) [(2, 0)] .acked, .attemptDone 1 2 0 0, .complete 1 2 0 ]

/-- the run is accepted, and its log holds two copies of the first batch followed by the second batch -/
example : ((run exCfg State.init exTrace).map (fun s => (s.log ("t", 0)).map (fun e => (e.msg, e.seq, e.batch)))) =
    some [((1, 0), 0, 1), ((1, 0), 0, 1), ((2, 0), 1, 2)] := by decide +kernel

/-- the window of defect D1 — a call passed enter(), Close marked the Writer closed, then the call reaches batchMessages — is not
a behaviour of the model: the call can only be rejected (`reject … closed`), `batch` is not enabled. -/
example : (run exCfg State.init
    [ .enter true, .begin_ 1 [{ size := 45, topic := "" }], .assign 1 0 ("t", 0), .closeBegin, .closeMarked 0, .batch 1 ]).isSome = false := by
  decide +kernel

example : (run exCfg State.init
    [ .enter true, .begin_ 1 [{ size := 45, topic := "" }], .assign 1 0 ("t", 0), .closeBegin, .closeMarked 0,
      .reject 1 .closed 0, .ret 1 .closed, .closeReturn ]).isSome = true := by
  decide +kernel

end KV.C07
