/-
Props/C01.lean — property C01: acknowledged messages are in the log; failures are attributed exactly.

Model: Model/Writer.lean.  The broker is part of the model: `produce pw tp msgs out` is its decision for the
in-flight attempt (out = acked | lost applied? | rejected code); `log tp` are the partition logs, `journal`
the list of all decisions.  `Batch.acked` (ghost) = some attempt of the batch was applied and acknowledged.
All theorems hold for every configuration (acks ≠ None is built in: every attempt gets a decision or a
transport error) and every reachable state / accepted event, i.e. every finite event sequence.
-/
import KafkaVerif.Lemmas.WriterInv
import KafkaVerif.Lemmas.WriterJournal
import KafkaVerif.Lemmas.WriterMsgCount
import KafkaVerif.Lemmas.WriterQuiesce
import KafkaVerif.Model.WriterRecords
import KafkaVerif.Lemmas.RecordWriter
import KafkaVerif.Gen.WriterConsts

namespace KV.C01
open KV KV.Writer

/-- what "message i of call c was appended by an acknowledged produce request to the partition the balancer
chose" means in a state -/
def AckedInChosenPartition (s : State) (c : Nat) (C : Call) (i : Nat) : Prop :=
  ∃ b B, C.place i = some b ∧ s.batches b = some B ∧ B.acked = true ∧
    C.assign[i]? = some B.tp ∧ (∃ m ∈ B.msgs, m.msg = (c, i)) ∧
    (∃ e ∈ s.log B.tp, e.msg = (c, i) ∧ e.batch = b)

/-- what the final error of the batch of message i of call c says -/
theorem acked_of_done {cfg : Cfg} (s : State) (hL : InvLife cfg s) (hA : InvAckLog s) (hP : InvPlace s) (c : Nat) (C : Call)
    (hC : s.calls c = some C)
    (i : Nat) (code : Code) (hd : batchDone s (C.place i) = some code) :
    ∃ b B, C.place i = some b ∧ s.batches b = some B ∧ B.done = some code ∧ (code = 0 ↔ B.acked = true) ∧
      (code = 0 → AckedInChosenPartition s c C i) := by
  obtain ⟨b, B, hb, hB, hdone⟩ := batchDone_eq_some.mp hd
  obtain ⟨hiff, hlog⟩ := hL.done_outcome hA hB hdone
  refine ⟨b, B, hb, hB, hdone, hiff, fun h0 => ?_⟩
  obtain ⟨B', hB', ⟨m, hm, hmm⟩, ha⟩ := hP.placed c C hC i b hb
  cases hB.symm.trans hB'
  obtain ⟨e, he, h1, h2⟩ := hlog h0 m hm
  exact ⟨b, B, hb, hB, hiff.mp h0, ha, ⟨m, hm, hmm⟩, e, he, h1.trans hmm, h2⟩

/-- when a synchronous WriteMessages call returns nil (`ret c .ok` is taken), every message of the
call sits in a batch that was applied and acknowledged by the broker, in the log of the topic-partition the
balancer chose for it. -/
theorem ack_exact (cfg : Cfg) (s s' : State) (hr : Reachable cfg s) (c : Nat)
    (hs : step cfg s (.ret c .ok) = some s') :
    ∃ C, s.calls c = some C ∧ cfg.async = false ∧ ∀ i, i < C.msgs.length → AckedInChosenPartition s c C i := by
  cases Step.of_step hs with
  | ret hC hg =>
    have hg : Guard.RetNil cfg s _ := hg
    refine ⟨_, hC, hg.sync, fun i hi => ?_⟩
    have hd := eq_of_beq (List.all_eq_true.mp hg.allNil i (List.mem_range.mpr hi))
    obtain ⟨_, _, _, _, _, _, hin⟩ := acked_of_done s (invLife cfg s hr) (invAckLog cfg s hr) (invPlace cfg s hr) c _ hC i 0 hd
    exact hin rfl

/-- when WriteMessages returns WriteErrors (`ret c (.werr codes)`), entry i is nil exactly when
message i was acknowledged that way; a non-nil entry is the final error of the message's batch, and no attempt of
that batch was acknowledged. -/
theorem werr_exact (cfg : Cfg) (s s' : State) (hr : Reachable cfg s) (c : Nat) (codes : List Code)
    (hs : step cfg s (.ret c (.werr codes)) = some s') :
    ∃ C, s.calls c = some C ∧ codes.length = C.msgs.length ∧ ∀ i, i < C.msgs.length →
      ∃ b B code, C.place i = some b ∧ s.batches b = some B ∧ codes[i]? = some code ∧ B.done = some code ∧
        (code = 0 ↔ B.acked = true) ∧ (code = 0 → AckedInChosenPartition s c C i) := by
  cases Step.of_step hs with
  | ret hC hg =>
    have hg : Guard.RetWerr cfg s _ codes := hg
    refine ⟨_, hC, hg.len, fun i hi => ?_⟩
    have hlt : i < codes.length := Nat.lt_of_lt_of_eq hi hg.len.symm
    have hcode : codes[i]? = some codes[i] := List.getElem?_eq_getElem hlt
    have hi' := eq_of_beq (List.all_eq_true.mp hg.results i (List.mem_range.mpr hi))
    rw [hcode] at hi'
    obtain ⟨b, B, hb, hB, hd, h1, h2⟩ := acked_of_done s (invLife cfg s hr) (invAckLog cfg s hr) (invPlace cfg s hr) c _ hC i _ hi'
    exact ⟨b, B, _, hb, hB, hcode, hd, h1, h2⟩

/-- a message is only ever appended to the log of the topic-partition that the balancer
chose for it (`assign` records the balancer's answer and the topic chosen by chooseTopic); also every message in
every batch, hence in every produce request, was assigned to that request's topic-partition. -/
theorem no_foreign_partition (cfg : Cfg) (s : State) (hr : Reachable cfg s) :
    (∀ tp, ∀ e ∈ s.log tp, ∃ C, s.calls e.msg.1 = some C ∧ C.assign[e.msg.2]? = some tp) ∧
    (∀ b B, s.batches b = some B → ∀ m ∈ B.msgs, ∃ C, s.calls m.msg.1 = some C ∧ C.assign[m.msg.2]? = some B.tp) :=
  ⟨(invPlace cfg s hr).logTP, fun b B hB m hm => by
    obtain ⟨C, hC, ha, -⟩ := (invPlace cfg s hr).batchTP b B hB m hm
    exact ⟨C, hC, ha⟩⟩

/-- the recorded assignment of index i is taken once, in index order, with the topic
that chooseTopic selects (message-level or writer-level topic; a conflict never gets an assignment). -/
theorem assign_is_balancer_choice (cfg : Cfg) (s s' : State) (c i : Nat) (tp : TP)
    (hs : step cfg s (.assign c i tp) = some s') :
    ∃ C m, s.calls c = some C ∧ C.assign.length = i ∧ C.msgs[i]? = some m ∧ chooseTopic cfg m = some tp.1 ∧
      s'.calls c = some { C with phase := .assigning, assign := C.assign ++ [tp] } := by
  cases Step.of_step hs with
  | assign hC hg =>
    obtain ⟨m, hmi, hch⟩ := msgAt_elim hg.msg
    exact ⟨_, m, hC, hg.len, hmi, by simpa using hch, upd_same ..⟩

/-- the source's `makeError` (`Gen.makeErrorNil`, printed from the source by go/extract/writer) turns a produce response's
error code into a nil error only for code 0; this is what the model's `consistent` relies on: a broker rejection with
any other code (negative ones included) cannot end an attempt without error. -/
theorem makeError_nil_only_for_zero (code : Int) : Gen.makeErrorNil code = true ↔ code = 0 := by
  simp [Gen.makeErrorNil]

theorem rejection_is_an_error (c code : Code) (h : consistent (some (.rejected c)) code = true) : code ≠ 0 ∧ code = c := by
  simp [consistent] at h
  exact ⟨fun h0 => h.2 (h.1 ▸ h0), h.1⟩

/-- the model's `complete` makes the batch's final result and its completion visible in
one step (`done := some code`); in writer.go `(*writeBatch).complete` stores the error before it closes the done channel,
so a caller woken by the channel reads the final error (`Gen.completeStoresErrFirst`, printed by go/extract/writer). -/
theorem result_stored_before_done : Gen.completeStoresErrFirst = true := by decide

/-- an attempt whose acknowledgement reached the client ends without error, and the
batch is not attempted again: the sender goes on to complete it with nil.  (What the broker applied and acknowledged
but the client did NOT get is `lost`: on a recorded run the two are told apart by whether the broker's answer was read
completely.) -/
theorem delivered_ack_is_success (cfg : Cfg) (s s' : State) (pw b k : Nat) (code : Code) (P : PW)
    (hP : s.pws pw = some P) (hsend : P.sender = .attempting b k (some .acked))
    (hs : step cfg s (.attemptDone pw b k code) = some s') :
    code = 0 ∧ ∃ P', s'.pws pw = some P' ∧ P'.sender = .finishing b 0 false := by
  cases Step.of_step hs with
  | attemptDone hP' hsend' hg =>
    cases hP.symm.trans hP'
    cases hsend.symm.trans hsend'
    have hc : code = 0 := by simpa [consistent] using hg
    subst hc
    exact ⟨rfl, _, upd_same .., afterAttempt_ok cfg b k⟩

/-- an attempt can end without error on the client side only if the broker applied and
acknowledged exactly that attempt. -/
theorem ok_needs_broker_ack (cfg : Cfg) (s s' : State) (pw b k : Nat) (hs : step cfg s (.attemptDone pw b k 0) = some s') :
    ∃ P, s.pws pw = some P ∧ P.sender = .attempting b k (some .acked) := by
  cases Step.of_step hs with
  | attemptDone hP hsend hc =>
    rename_i br P
    refine ⟨P, hP, ?_⟩
    rw [hsend]
    cases br with
    | none => simp [consistent] at hc
    | some o =>
      cases o with
      | acked => rfl
      | lost a => simp [consistent] at hc
      | rejected c => simp [consistent] at hc; exact absurd hc.1.symm hc.2

/-- the Completion callback is invoked at most once per batch (so at most once per accepted
message; a message is in exactly the batch `place` names); when a batch is completed and a callback is configured
it has been invoked exactly once, with the batch's final error — the same outcome WriteMessages reports for every
message of the batch; without a callback it is never invoked. -/
theorem completion_once (cfg : Cfg) (s : State) (hr : Reachable cfg s) (b : Nat) (B : Batch) (hB : s.batches b = some B) :
    B.ncompl ≤ 1 ∧
    (∀ code, B.done = some code →
      (cfg.completion = true → B.ncompl = 1 ∧ B.cbCode = some code) ∧ (cfg.completion = false → B.ncompl = 0)) :=
  ⟨(invLife cfg s hr).ncompl_le hB, fun _ hd => (invLife cfg s hr).complDone hB hd⟩

/-- for every completed batch (sync, Async, with or without callback): its final error —
the value WriteErrors and the Completion callback report for each of its messages — is nil exactly when the broker
applied and acknowledged an attempt of the batch; then all its messages are in the log of the batch's partition. -/
theorem batch_outcome_exact (cfg : Cfg) (s : State) (hr : Reachable cfg s) (b : Nat) (B : Batch) (code : Code)
    (hB : s.batches b = some B) (hd : B.done = some code) :
    (code = 0 ↔ B.acked = true) ∧
    (code = 0 → ∀ m ∈ B.msgs, ∃ e ∈ s.log B.tp, e.msg = m.msg ∧ e.batch = b) :=
  (invLife cfg s hr).done_outcome (invAckLog cfg s hr) hB hd

/-- an attempt is started only with an attempt number k < MaxAttempts (k counts from 0: at most MaxAttempts attempts per
batch).  That a retry follows only an error the configuration classifies as temporary / transient is
`retry_only_after_retriable`; that an acknowledged attempt is the last one of its batch is the journal clause of
`dups_only_after_lost_ack`. -/
theorem attempts_bounded (cfg : Cfg) (s s' : State) (pw b k : Nat) (hs : step cfg s (.attempt pw b k) = some s') :
    k < cfg.maxAttempts := by
  cases Step.of_step hs with
  | attempt hP hg => exact hg.bound

theorem retry_only_after_retriable (cfg : Cfg) (b k : Nat) (code : Code) (k' : Nat)
    (h : afterAttempt cfg b k code = .ready b k') : code ≠ 0 ∧ cfg.retriable code = true ∧ k' = k + 1 ∧ k' < cfg.maxAttempts := by
  rcases afterAttempt_cases cfg b k code with ⟨-, e⟩ | ⟨hc, hr, hk, e⟩ | ⟨-, e⟩ <;> rw [e] at h <;> cases h
  exact ⟨hc, hr, rfl, hk⟩

/-- a batch is detached (and therefore handed to the queue, produced and completed) at most once: `detach`
is enabled only for the batch that is still attached and not yet detached, and a timer detaches only its own batch
after its own timer fired (`B.TimerFire … false` detaches nothing: that batch is not `curr`). -/
theorem detach_once (cfg : Cfg) (s s' : State) (pw b : Nat) (why : Why) (size : Nat)
    (hs : step cfg s (.detach pw b why size) = some s') :
    ∃ P B, s.pws pw = some P ∧ s.batches b = some B ∧ P.curr = some b ∧ B.detached = none ∧
      (why = .timer → B.timerFired = true) ∧
      ∃ B', s'.batches b = some B' ∧ B'.detached = some why := by
  cases Step.of_step hs with
  | detach hP hB hg =>
    refine ⟨_, _, hP, hB, hg.curr, hg.detached, ?_, _, upd_same .., rfl⟩
    intro h; subst h; simpa [whyOk] using hg.reason

/-- the model's retry decision `afterAttempt` is the loop of `(*partitionWriter).writeBatch` as it
stands in writer.go (`Gen.retryAgain`, printed by go/extract/writer): another attempt is made exactly when the attempt failed, the error
is temporary or a transient network error, and the attempt counter stays below MaxAttempts. -/
theorem retry_matches_source (cfg : Cfg) (b k : Nat) (code : Code) (temp trans : Bool)
    (hcls : cfg.retriable code = (temp || trans)) :
    (afterAttempt cfg b k code = .ready b (k + 1)) ↔ Gen.retryAgain (code == 0) temp trans k cfg.maxAttempts = true := by
  have hgo : Gen.retryAgain (code == 0) temp trans k cfg.maxAttempts = true ↔
      code ≠ 0 ∧ cfg.retriable code = true ∧ k + 1 < cfg.maxAttempts := by
    rw [hcls]; cases temp <;> cases trans <;> simp [Gen.retryAgain]
  rw [hgo]
  constructor
  · intro h
    obtain ⟨h1, h2, -, h4⟩ := retry_only_after_retriable cfg b k code (k + 1) h
    exact ⟨h1, h2, h4⟩
  · exact fun ⟨h1, h2, h3⟩ => afterAttempt_retry h1 h2 h3

theorem nodup_map_msg_inj (l : List BMsg) (h : (l.map (·.msg)).Nodup) :
    ∀ m ∈ l, ∀ m' ∈ l, m.msg = m'.msg → m = m' := by
  induction l with
  | nil => intro m hm; cases hm
  | cons a t ih =>
    simp only [List.map_cons, List.nodup_cons] at h
    obtain ⟨hnot, ht⟩ := h
    intro m hm m' hm' e
    rcases List.mem_cons.mp hm with h1 | h1 <;> rcases List.mem_cons.mp hm' with h2 | h2
    · rw [h1, h2]
    · exact absurd (List.mem_map.mpr ⟨m', h2, by rw [← e, h1]⟩) hnot
    · exact absurd (List.mem_map.mpr ⟨m, h1, by rw [e, h2]⟩) hnot
    · exact ih ht m h1 m' h2 e

/-- an accepted message (an index of a call that was appended) sits in exactly one
batch, the one `place` names, and exactly once in it.  With `completion_once` (one Completion call per completed
batch, with the batch's final error) this is "the Completion callback receives every accepted message exactly once
with that same outcome"; with `dups_only_after_lost_ack` it bounds the copies of the message in the log. -/
theorem message_in_exactly_one_batch (cfg : Cfg) (s : State) (hr : Reachable cfg s) (c i : Nat) (C : Call)
    (hC : s.calls c = some C) (b : Nat) (hp : C.place i = some b) :
    (∃ B m, s.batches b = some B ∧ m ∈ B.msgs ∧ m.msg = (c, i) ∧ ∀ m' ∈ B.msgs, m'.msg = (c, i) → m' = m) ∧
    (∀ b' B' m, s.batches b' = some B' → m ∈ B'.msgs → m.msg = (c, i) → b' = b) := by
  have hP := invPlace cfg s hr
  have hM := invMsgs cfg s hr
  constructor
  · obtain ⟨B, hB, ⟨m, hm, hmm⟩, -⟩ := hP.placed c C hC i b hp
    refine ⟨B, m, hB, hm, hmm, ?_⟩
    intro m' hm' hmm'
    exact nodup_map_msg_inj B.msgs (hM.nodup b B hB) m' hm' m hm (hmm'.trans hmm.symm)
  · intro b' B' m hB' hm hmm
    obtain ⟨X, hX, -, hpl⟩ := hP.batchTP b' B' hB' m hm
    rw [hmm] at hX hpl
    rw [hC] at hX; cases hX
    simp only at hpl
    rw [hp] at hpl; cases hpl; rfl

/-- `complete` (closing batch.done, which lets WriteMessages return) is enabled only
after the Completion callback ran when one is configured, and with the same error. -/
theorem completion_before_done (cfg : Cfg) (s s' : State) (pw b : Nat) (code : Code)
    (hs : step cfg s (.complete pw b code) = some s') :
    ∃ P, s.pws pw = some P ∧ P.sender = .finishing b code cfg.completion := by
  cases Step.of_step hs with
  | complete hP hB hg => exact ⟨_, hP, hg⟩

/-- per batch (a message is in one batch): the number of its copies in the log of its
partition is (messages of the batch) × (attempts the broker applied); the applied attempts are the ones whose
acknowledgement was lost plus one if the batch was acknowledged; and no attempt is ever made after an
acknowledged one.  So a second copy exists only after a lost acknowledgement. -/
theorem dups_only_after_lost_ack (cfg : Cfg) (s : State) (hr : Reachable cfg s) :
    (∀ b B, s.batches b = some B →
      ((s.log B.tp).filter (fun e => e.batch == b)).length = B.napplied * B.msgs.length ∧
      B.napplied = B.nlost + (if B.acked then 1 else 0)) ∧
    s.journal.Pairwise (fun j1 j2 => j1.batch = j2.batch → j1.out.applied = true → j1.out = .lost true) := by
  have hJ := invJournal cfg s hr
  refine ⟨fun b B hB => ⟨hJ.logCount b B hB, hJ.counts b B hB⟩, ?_⟩
  refine hJ.journalOnce.imp ?_
  intro j1 j2 h hb happ
  have hna := h hb
  cases ho : j1.out with
  | acked => exact absurd ho hna
  | lost a => rw [ho] at happ; simp [BrOut.applied] at happ; rw [happ]
  | rejected c => rw [ho] at happ; simp [BrOut.applied] at happ

/-- the log of every topic-partition is exactly the concatenation, in the order of the
broker's decisions, of the batches of the produce attempts it applied to that partition ("it appears in the log at
most once per produce attempt that the broker actually applied" — and at least once, and nothing else appears).  The
right-hand side is `journalLog s.batches s.journal tp` of Lemmas/WriterJournal.lean written out. -/
theorem log_is_applied_journal (cfg : Cfg) (s : State) (hr : Reachable cfg s) (tp : TP) :
    (s.log tp).map (·.msg) =
      (s.journal.filter (fun j => j.out.applied && (j.tp == tp))).flatMap (fun j => batchMsgs s.batches j.batch) :=
  (invLogJ cfg s hr).logJournal tp

/-- a produce request of a reachable state carries at least one message -/
theorem produce_request_nonempty (cfg : Cfg) (s s' : State) (hr : Reachable cfg s) (pw : Nat) (tp : TP) (msgs : List Msg) (out : BrOut)
    (hs : step cfg s (.produce pw tp msgs out) = some s') : msgs ≠ [] :=
  Writer.produce_nonempty hr (.of_step hs)

/-- the Writer LTS composed with the record-batch writer model of C05
(`protocol/record_v2.go writeToVersion2`, the encoder the Transport uses for produce v3+): for every produce event of
every reachable state and every assignment `payload` of contents (time, key, value, headers) to the messages, the
bytes written for that request are one well-formed v2 batch which the independent decoder of Spec/RecordBatch accepts
and which carries exactly the batch's messages — that many, in batch order, contents untouched, millisecond
timestamps.  So "what the Writer hands to produce" and "what is on the wire" are one statement: the records the
broker appends are the batch the theorems above speak about.  (Uncompressed and CreateTime — the attributes a producer
sets — as C05's writer theorem; the request is never empty: `produce_request_nonempty`.) -/
theorem produce_on_the_wire (cfg : Cfg) (s s' : State) (hr : Reachable cfg s) (pw : Nat) (tp : TP) (msgs : List Msg) (out : BrOut)
    (hs : step cfg s (.produce pw tp msgs out) = some s')
    (payload : Msg → Model.RecordWriter.PRec) (crc : Bytes → Nat) (hcrc : ∀ b, crc b < RW.M32) (attrs now : Int)
    (hwf : (Model.RecordWriter.frameOfV2 attrs now (msgs.map payload)).WF) (hcodec : Spec.RB.codecOf attrs = 0)
    (hlog : Spec.RB.logAppend attrs = false) :
    ∃ bytes f, Model.RecordWriter.writeV2 crc attrs now (msgs.map payload) = some bytes ∧
      Spec.RB.readFrame crc bytes = some (f, []) ∧ f.count = msgs.length ∧
      Spec.RB.flattenEntry ⟨crc, crc⟩ (fun _ _ => none) (.batch f) =
        some (Spec.RB.isControl attrs,
          Model.RecordWriter.expected ((msgs.map payload).map (Model.RecordWriter.effTime now)) (msgs.map payload)) := by
  have hne : msgs ≠ [] := produce_request_nonempty cfg s s' hr pw tp msgs out hs
  have hne' : msgs.map payload ≠ [] := fun h => hne (List.map_eq_nil_iff.mp h)
  have h := Model.RecordWriter.frameOfV2_spec crc hcrc attrs now (msgs.map payload) hwf hcodec hlog
  exact ⟨_, _, Model.RecordWriter.writeV2_eq crc attrs now (msgs.map payload) hne', h.1,
    by show ((msgs.map payload).length : Int) = _; rw [List.length_map], h.2⟩

/-- the same composition for a Writer with `Compression` set (`frameOfV2C_spec` of
Lemmas/RecordWriter.lean): the batch's records are compressed as one payload with the configured codec `comp`; for every
decompressor `dec` that inverts it the independent decoder recovers exactly the batch's messages, in order — compression
passes the batch through untouched, whatever the codec. -/
theorem produce_on_the_wire_compressed (cfg : Cfg) (s s' : State) (hr : Reachable cfg s) (pw : Nat) (tp : TP) (msgs : List Msg)
    (out : BrOut) (hs : step cfg s (.produce pw tp msgs out) = some s')
    (payload : Msg → Model.RecordWriter.PRec) (crc : Bytes → Nat) (hcrc : ∀ b, crc b < RW.M32)
    (comp : Bytes → Bytes) (dec : Int → Bytes → Option Bytes) (attrs now : Int)
    (hwf : (Model.RecordWriter.frameOfV2C comp attrs now (msgs.map payload)).WF) (hcodec : Spec.RB.codecOf attrs ≠ 0)
    (hlog : Spec.RB.logAppend attrs = false) (hdec : ∀ p, dec (Spec.RB.codecOf attrs) (comp p) = some p) :
    ∃ bytes f, Model.RecordWriter.writeV2C crc comp attrs now (msgs.map payload) = some bytes ∧
      Spec.RB.readFrame crc bytes = some (f, []) ∧ f.count = msgs.length ∧
      Spec.RB.flattenEntry ⟨crc, crc⟩ dec (.batch f) =
        some (Spec.RB.isControl attrs,
          Model.RecordWriter.expected ((msgs.map payload).map (Model.RecordWriter.effTime now)) (msgs.map payload)) := by
  have hne : msgs ≠ [] := produce_request_nonempty cfg s s' hr pw tp msgs out hs
  have hne' : msgs.map payload ≠ [] := fun h => hne (List.map_eq_nil_iff.mp h)
  have h := Model.RecordWriter.frameOfV2C_spec crc hcrc comp dec attrs now (msgs.map payload) hwf hcodec hlog hdec
  exact ⟨_, _, Model.RecordWriter.writeV2C_eq crc comp attrs now (msgs.map payload) hne', h.1,
    by show ((msgs.map payload).length : Int) = _; rw [List.length_map], h.2⟩

/-! ### the record handed to the encoder is the message as given (null stays null, empty stays empty) -/

/-- in writer.go `(*writerRecords).ReadRecord` starts every record from a clean slate (`Gen.readRecordResets`, printed by
go/extract/writer) -/
theorem source_resets_record : Gen.readRecordResets = true := by decide

/-- the records of a produce request, as the encoder reads them from the Writer's reused
`Record`, are the messages of the batch as given, in order: a nil Key / Value is null, an empty one is empty, bytes are
the bytes — whatever the previous record of the same request carried.  (With `produce_on_the_wire`, whose `payload` is
arbitrary: the bytes on the wire decode to exactly these keys and values.) -/
theorem records_as_given (prev : WriterRecords.Slot) (msgs : List WriterRecords.Content) :
    WriterRecords.readAll Gen.readRecordResets prev msgs = msgs.map WriterRecords.asGiven := by
  rw [source_resets_record]
  exact WriterRecords.readAll_reset prev msgs

/-- without the reset a tombstone that follows a message with a value goes out with an EMPTY value, and an unkeyed
message after a keyed one with an empty key: the clause fails (this is what `source_resets_record` rules out) -/
theorem stale_record_counterexample :
    WriterRecords.readAll false WriterRecords.Slot.clean
      [{ key := some [1], value := some [2] }, { key := some [1], value := none }, { key := none, value := some [3] }] =
      [{ key := some [1], value := some [2] }, { key := some [1], value := some [] }, { key := some [], value := some [3] }] := by
  decide

/-- a synchronous caller is never stuck once its batches are completed: when
every batch holding a message of the call has its final result, WriteMessages' return is enabled — with nil if all
results are nil, with a WriteErrors of the right length otherwise.  (Together with C08's `accepted_message_completes`:
the batches complete by internal events alone, then the call can return; no other call and no Close is needed.) -/
theorem return_enabled_when_batches_done (cfg : Cfg) (s : State) (c : Nat) (C : Call) (hC : s.calls c = some C)
    (hph : C.phase = .batched) (hsync : cfg.async = false)
    (hdone : ∀ i, i < C.msgs.length → ∃ code, batchDone s (C.place i) = some code) :
    ∃ r, (step cfg s (.ret c r)).isSome = true ∧ (r = .ok ∨ ∃ codes, r = .werr codes ∧ codes.length = C.msgs.length) :=
  ret_enabled_of_done hC hph hsync hdone

/-- a synchronous WriteMessages call that has queued its messages gets
its answer from the writer alone: from every reachable state in which no call is inside batchMessages there is a
continuation of internal events only (timers, queues, senders, broker answers — no other WriteMessages step, no Close)
after which the call's return is enabled, with nil or with a WriteErrors of the call's length.  What the answer then
says is `ack_exact` / `werr_exact`. -/
theorem sync_call_returns_without_further_input (cfg : Cfg) (hmax : 1 ≤ cfg.maxAttempts) (s : State) (hr : Reachable cfg s)
    (hlock : s.wlock.isCall = false) (c : Nat) (C : Call) (hC : s.calls c = some C) (hph : C.phase = .batched)
    (hsync : cfg.async = false) :
    ∃ es s' r, run cfg s es = some s' ∧ es.all Event.internal = true ∧ (step cfg s' (.ret c r)).isSome = true ∧
      (r = .ok ∨ ∃ codes, r = .werr codes ∧ codes.length = C.msgs.length) := by
  obtain ⟨es, s', hrun, hint, hc, -, hall⟩ := drains cfg hmax s hr ((invFresh cfg s hr).fresh_none hlock)
  have hr' := hr.run hrun
  have hC' : s'.calls c = some C := by rw [hc]; exact hC
  have hdone : ∀ i, i < C.msgs.length → ∃ code, batchDone s' (C.place i) = some code := by
    intro i hi
    obtain ⟨b, hb⟩ := placedAll_elim (invQueued cfg s' hr' c C hC' (Or.inl hph)) i hi
    obtain ⟨B, hB, -, -⟩ := (invPlace cfg s' hr').placed c C hC' i b hb
    obtain ⟨code, hcode⟩ := hall b B hB
    exact ⟨code, batchDone_eq_some.mpr ⟨b, B, hb, hB, hcode⟩⟩
  obtain ⟨r, hen, hr2⟩ := return_enabled_when_batches_done cfg s' c C hC' hph hsync hdone
  exact ⟨es, s', r, hrun, hint, hen, hr2⟩

/-- bounded duplication: the broker applies at most MaxAttempts attempts of a batch, so each
message has at most MaxAttempts copies in the log of its partition (`dups_only_after_lost_ack` says when there is
more than one). -/
theorem copies_bounded (cfg : Cfg) (hmax : 1 ≤ cfg.maxAttempts) (s : State) (hr : Reachable cfg s) (b : Nat) (B : Batch)
    (hB : s.batches b = some B) :
    B.napplied ≤ cfg.maxAttempts ∧
      ((s.log B.tp).filter (fun e => e.batch == b)).length ≤ cfg.maxAttempts * B.msgs.length := by
  have h1 := (invLife cfg s hr).bound hB
  refine ⟨h1, ?_⟩
  rw [(invJournal cfg s hr).logCount b B hB]
  exact Nat.mul_le_mul_right _ h1

/-- for every message of every batch: the number of entries of the partition log that
carry it is the number of attempts of its batch the broker applied; that number is at most MaxAttempts, and at least 1
once the batch is acknowledged. -/
theorem copies_per_message (cfg : Cfg) (hmax : 1 ≤ cfg.maxAttempts) (s : State) (hr : Reachable cfg s) (b : Nat) (B : Batch)
    (hB : s.batches b = some B) (m : BMsg) (hm : m ∈ B.msgs) :
    (s.log B.tp).countP (fun e => e.msg == m.msg) = B.napplied ∧ B.napplied ≤ cfg.maxAttempts ∧
      (B.acked = true → 1 ≤ B.napplied) := by
  refine ⟨invMsgCount cfg s hr b B hB m hm, (invLife cfg s hr).bound hB, ?_⟩
  intro hack
  have := (invJournal cfg s hr).counts b B hB
  rw [hack] at this
  simp only [if_true] at this
  rw [this]; exact Nat.le_add_left _ _

/-- when a synchronous WriteMessages call returns nil, every message
of the call stands in the log of the topic-partition the balancer chose for it at least once and at most MaxAttempts
times (more than once only after lost acknowledgements: `dups_only_after_lost_ack`; nowhere else: `no_foreign_partition`). -/
theorem ok_means_at_least_once_at_most_maxAttempts (cfg : Cfg) (hmax : 1 ≤ cfg.maxAttempts) (s s' : State)
    (hr : Reachable cfg s) (c : Nat) (hs : step cfg s (.ret c .ok) = some s') :
    ∃ C, s.calls c = some C ∧ ∀ i, i < C.msgs.length → ∃ tp, C.assign[i]? = some tp ∧
      1 ≤ (s.log tp).countP (fun e => e.msg == (c, i)) ∧ (s.log tp).countP (fun e => e.msg == (c, i)) ≤ cfg.maxAttempts := by
  obtain ⟨C, hC, -, hall⟩ := ack_exact cfg s s' hr c hs
  refine ⟨C, hC, ?_⟩
  intro i hi
  obtain ⟨b, B, -, hB, hack, hasg, ⟨m, hm, hmm⟩, -⟩ := hall i hi
  obtain ⟨h1, h2, h3⟩ := copies_per_message cfg hmax s hr b B hB m hm
  rw [hmm] at h1
  refine ⟨B.tp, hasg, ?_, ?_⟩
  · rw [h1]; exact h3 hack
  · rw [h1]; exact h2

/-- a batch that is neither completed nor with the sender goroutine of its partition
(still attached, or waiting in the queue) has no entry in any log yet: nothing reaches the broker except through the
sender's attempts. -/
theorem no_copy_before_sending (cfg : Cfg) (hmax : 1 ≤ cfg.maxAttempts) (s : State) (hr : Reachable cfg s) (b : Nat) (B : Batch)
    (hB : s.batches b = some B) (hd : B.done = none) (hun : ∀ P, s.pws B.pw = some P → P.sender.batch? ≠ some b) :
    ((s.log B.tp).filter (fun e => e.batch == b)).length = 0 := by
  rw [(invJournal cfg s hr).logCount b B hB, (invLife cfg s hr).unheld hB hun hd]
  exact Nat.zero_mul _

/-- "acknowledged" is the broker's own record: a batch counts as acknowledged exactly
when the journal holds an applied-and-acknowledged decision for it on its topic-partition. -/
theorem acked_has_journal_entry (cfg : Cfg) (s : State) (hr : Reachable cfg s) (b : Nat) (B : Batch) (hB : s.batches b = some B) :
    B.acked = true ↔ ∃ j ∈ s.journal, j.batch = b ∧ j.out = .acked ∧ j.tp = B.tp := by
  have hJ := invJournal cfg s hr
  constructor
  · exact hJ.ackedJournal b B hB
  · rintro ⟨j, hj, h1, h2, -⟩
    obtain ⟨B0, hB0, ha, -⟩ := hJ.journalAcked j hj h2
    rw [h1, hB] at hB0; cases hB0; exact ha

/-! ### non-vacuity: a concrete run — sync call of two messages to two partitions, one batch needs a retry after a
lost acknowledgement (duplicate in the log), the other is rejected permanently; the call returns WriteErrors -/

def exCfg : Cfg :=
  { batchSize := 1, batchBytes := 1000, maxAttempts := 3, async := false, completion := true, topic := "t",
    retriable := fun c => c == 1003 }

def exTrace : List Event :=
  [ .enter true, .begin_ 1 [{ size := 45, topic := "" }, { size := 50, topic := "" }],
    .assign 1 0 ("t", 0), .assign 1 1 ("t", 1), .batch 1,
    .newPW 1 1 ("t", 0), .newBatch 1 1, .add 1 1 1 0 45, .detach 1 1 .full 0, .qput 1 1 true,
    .newPW 2 2 ("t", 1), .newBatch 2 2, .add 2 2 1 1 50, .detach 2 2 .full 0, .qput 2 2 true, .batched 1,
    .qget 1 (some 1), .attempt 1 1 0, .qget 2 (some 2), .attempt 2 2 0,
    .produce 1 ("t", 0) [(1, 0)] (.lost true), .attemptDone 1 1 0 1003,
    .produce 2 ("t", 1) [(1, 1)] (.rejected 10), .attemptDone 2 2 0 10, .completion 2 2 10, .complete 2 2 10,
    .attempt 1 1 1, .produce 1 ("t", 0) [(1, 0)] .acked, .attemptDone 1 1 1 0, .completion 1 1 0, .complete 1 1 0,
    .ret 1 (.werr [0, 10]) ]

/-- the run is accepted; message (1,0) is twice in t/0 (retry after the lost ack), (1,1) never reached t/1 -/
example : ((run exCfg State.init exTrace).map (fun s =>
      ((s.log ("t", 0)).map (·.msg), (s.log ("t", 1)).map (·.msg), s.journal.map (fun j => (j.batch, j.out))))) =
    some ([(1, 0), (1, 0)], [], [(1, BrOut.lost true), (2, BrOut.rejected 10), (1, BrOut.acked)]) := by decide +kernel

/-- the hypotheses of `ack_exact` are satisfiable: a sync call of one message that is acknowledged returns nil -/
example : (run { exCfg with batchSize := 1 } State.init
    [ .enter true, .begin_ 1 [{ size := 45, topic := "" }], .assign 1 0 ("t", 0), .batch 1,
      .newPW 1 1 ("t", 0), .newBatch 1 1, .add 1 1 1 0 45, .detach 1 1 .full 0, .qput 1 1 true, .batched 1,
      .qget 1 (some 1), .attempt 1 1 0, .produce 1 ("t", 0) [(1, 0)] .acked, .attemptDone 1 1 0 0,
      .completion 1 1 0, .complete 1 1 0, .ret 1 .ok ]).isSome = true := by decide +kernel

end KV.C01
