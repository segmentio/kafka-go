/-
Props/C14.lean — property C14: group balancers assign every partition of every subscribed topic to exactly
one subscriber, evenly (§1–§5), and the assignment reaches the members unchanged: the leader glue (§6), the two payloads
at byte level (§7, §9), the life cycle over many rebalances (§8).  Model/GroupBalancer.lean follows groupbalancer.go.

Hypothesis (`WellFormed`): member ids are distinct ("a set of members").  A member's topic list may repeat a topic
(it is user input: `ConsumerGroupConfig.Topics` / `ReaderConfig.GroupTopics` are not de-duplicated by `Validate`); the
member subscribes to `t` iff `t` occurs in its list — see §5 (known finding C14-D30).  No bound on the number of members,
topics or partitions; partition ids are arbitrary integers and may even repeat (cover is stated on multisets).
-/
import KafkaVerif.Lemmas.GroupBalancer
import KafkaVerif.Lemmas.RackAffinity
import KafkaVerif.Gen.GroupBalancerSel
import KafkaVerif.Lemmas.GroupGlue
import KafkaVerif.Lemmas.GroupWire
import KafkaVerif.Lemmas.GroupRound
import KafkaVerif.Lemmas.GroupWireRd
import KafkaVerif.Model.GroupRun

namespace KV.C14
open KV.GroupBalancer KV.Spec.GroupAssign

/-! ## 0. Non-vacuity: a concrete group that meets the hypotheses -/

def exMembers : List Member :=
  [⟨30, [0, 1], 0⟩, ⟨10, [1], 1⟩, ⟨20, [1, 0], 0⟩, ⟨40, [], 2⟩]
def exParts : List Part :=
  [⟨0, 0, 0⟩, ⟨1, 0, 1⟩, ⟨0, 1, 1⟩, ⟨1, 1, 0⟩, ⟨1, 2, 0⟩, ⟨0, 2, 2⟩, ⟨1, 3, 1⟩, ⟨1, 4, 2⟩, ⟨2, 0, 0⟩]

example : WellFormed exMembers := by decide
example : subscribers exMembers 1 ≠ [] := by decide
example : rangeAssign exMembers exParts 1 10 = [0] ∧ rangeAssign exMembers exParts 1 20 = [1, 2] ∧
    rangeAssign exMembers exParts 1 30 = [3, 4] ∧ rangeAssign exMembers exParts 0 20 = [0] := by decide +kernel
example : rrAssign exMembers exParts 1 10 = [0, 3] ∧ rrAssign exMembers exParts 1 20 = [1, 4] ∧
    rrAssign exMembers exParts 1 30 = [2] := by decide +kernel

/-! ## 0b. Regenerated tie: the model's predicates are the ones written in groupbalancer.go
(`Gen/GroupBalancerSel.lean` is re-emitted from the source text by go/extract on every run) -/

theorem range_sel_regenerated (M P i j : Nat) :
    rangeSel M P i j = Gen.GroupBalancer.rangeCond (memberIndex := i) (partitionIndex := j) (memberCount := M)
      (partitionCount := P) := rfl

theorem rr_sel_regenerated (M P i j : Nat) :
    rrSel M i j = Gen.GroupBalancer.rrCond (memberIndex := i) (partitionIndex := j) (memberCount := M)
      (partitionCount := P) := rfl

/-- `sortById` meets the contract of `sort.Slice` for the comparator written in `findMembersByTopic` (which compares
elements i and j of the very slice being sorted): the result is a permutation without inversions -/
theorem sort_regenerated (l : List Member) :
    (sortById l).Perm l ∧
    (sortById l).Pairwise (fun a b => Gen.GroupBalancer.sortLess (elem_i_ID := b.id) (elem_j_ID := a.id) = false) := by
  refine ⟨sortById_perm l, (sortById_sorted l).imp ?_⟩
  intro a b h
  simp [Gen.GroupBalancer.sortLess]; omega

/-- the arithmetic of `assignTopic` as the extractor reads it off the source (roles: nZoneParts / nZoneConsumers = lengths of
the zone's partitions / consumers, ppm, leftover, target, remainder).  No model definition occurs in the statement: that
`zoneAlloc` / `rackAssignTopic` compute with these expressions is tied by the correspondence runs only. -/
theorem rack_arith_regenerated (P M L C : Nat) :
    Gen.GroupBalancer.rackTarget (nPartitions := P) (nMembers := M) = P / M ∧
    Gen.GroupBalancer.rackRemainder (nPartitions := P) (nMembers := M) = P % M ∧
    Gen.GroupBalancer.rackPartsPerMember (nZoneParts := L) (nZoneConsumers := C) = L / C ∧
    Gen.GroupBalancer.rackCaps =
      ["if decide (ppm > target) then ppm := target",
       "under (ppm == target): if decide (leftover > remainder) then leftover := remainder",
       "under (ppm == target): if decide (leftover > nZoneConsumers) then leftover := nZoneConsumers",
       "under (ppm == target): remainder -= leftover"] :=
  ⟨rfl, rfl, rfl, rfl⟩

/-- structure of the source that the models rely on: the Range / RoundRobin loops are the plain triple loop without
early exits, every value of the map `findMembersByTopic` returns is sorted, both member-by-topic loops skip repeated topics through
`topicListedBefore` (modelled by `firstListings`), and `makeSyncGroupRequestV0` allocates the per-member map inside
the loop over the members (modelled by `syncRequest` calling `toTopics32` afresh per member), and both Metadata
readers of conn.go keep the other topics when one is unknown (modelled by `readTopicMetadata`); `extractTopics` lists
first occurrences and sorts, `makeAssignments` ranges over the member's own topics, and `assignTopicPartitions` /
`nextGeneration` pass the same members, partitions and ids along as Model/GroupGlue.lean and Model/GroupRound.lean do -/
theorem structure_regenerated :
    Gen.GroupBalancer.plainSelectionLoops = ["RangeGroupBalancer.AssignGroups", "RoundRobinGroupBalancer.AssignGroups"] ∧
    Gen.GroupBalancer.sortsEveryMapValue = true ∧
    Gen.GroupBalancer.topicGuardSites = ["findMembersByTopic", "RackAffinityGroupBalancer.AssignGroups"] ∧
    Gen.GroupBalancer.topicListedBeforeIsPrefixSearch = true ∧
    Gen.GroupBalancer.topics32FreshPerMember = true ∧
    Gen.GroupBalancer.topicMetadataReaders = (2, 2) ∧
    Gen.GroupBalancer.extractTopicsIsFirstSeenThenSorted = true ∧
    Gen.GroupBalancer.makeAssignmentsRangesOverOwnTopics = true ∧
    Gen.GroupBalancer.assignTopicPartitionsDataflow = true ∧
    Gen.GroupBalancer.nextGenerationDataflow = true :=
  ⟨rfl, rfl, rfl, rfl, rfl, rfl, rfl, rfl, rfl, rfl⟩

/-! ## 1. Range -/

/-- Range hands a subscriber the contiguous run `[i·P/M, (i+1)·P/M)` of the listed partitions, `i` its rank by id -/
theorem range_contiguous (ms : List Member) (ps : List Part) (h : WellFormed ms) (t : Nat) :
    RangeShapeAt ms ps (rangeAssign ms ps) t := by
  intro m hm
  unfold rangeAssign rangeTopic
  rw [entry_of_subscriber _ _ ms t (idsDistinct_of_wf h) m hm, pick_rangeSel, findPartitions_eq, (findMembers_perm ms t).length_eq]

/-- each listed partition of a subscribed topic goes to exactly one subscriber -/
theorem range_cover (ms : List Member) (ps : List Part) (h : WellFormed ms) (t : Nat)
    (hs : subscribers ms t ≠ []) : CoverAt ms ps (rangeAssign ms ps) t := by
  unfold CoverAt rangeAssign rangeTopic
  refine (entries_perm _ _ ms t (idsDistinct_of_wf h)).trans ?_
  simp only [pick_rangeSel, (findMembers_perm ms t).length_eq, findPartitions_eq]
  rw [flatMap_run _ (List.length_pos_iff.mpr hs)]

/-- nothing goes to anyone who does not subscribe to the topic (in particular: no entry for unsubscribed topics) -/
theorem range_only_subscribers (ms : List Member) (ps : List Part) (h : WellFormed ms) (t id : Nat) :
    OnlySubscribersAt ms (rangeAssign ms ps) t id :=
  fun hid => entry_of_other _ _ ms t id hid

/-- the load of every subscriber is ⌊P/M⌋ or ⌊P/M⌋+1 -/
theorem range_load (ms : List Member) (ps : List Part) (h : WellFormed ms) (t : Nat) (m : Member)
    (hm : m ∈ subscribers ms t) :
    (partsOf t ps).length / (subscribers ms t).length ≤ (rangeAssign ms ps t m.id).length ∧
    (rangeAssign ms ps t m.id).length ≤ (partsOf t ps).length / (subscribers ms t).length + 1 := by
  rw [range_contiguous ms ps h t m hm]
  exact length_run _ _ _ (List.length_pos_iff.mpr (List.ne_nil_of_mem hm)) (rank_lt ms t m hm)

theorem range_balanced (ms : List Member) (ps : List Part) (h : WellFormed ms) (t : Nat) :
    BalancedAt ms (rangeAssign ms ps) t :=
  balanced_of_loads ms _ t _ (range_load ms ps h t)

/-! ## 2. RoundRobin -/

theorem rr_cover (ms : List Member) (ps : List Part) (h : WellFormed ms) (t : Nat)
    (hs : subscribers ms t ≠ []) : CoverAt ms ps (rrAssign ms ps) t := by
  unfold CoverAt rrAssign rrTopic
  refine (entries_perm _ _ ms t (idsDistinct_of_wf h)).trans ?_
  simp only [pick_rrSel, (findMembers_perm ms t).length_eq, findPartitions_eq]
  exact flatMap_stride _ (List.length_pos_iff.mpr hs) _

theorem rr_only_subscribers (ms : List Member) (ps : List Part) (h : WellFormed ms) (t id : Nat) :
    OnlySubscribersAt ms (rrAssign ms ps) t id :=
  fun hid => entry_of_other _ _ ms t id hid

/-- RoundRobin hands the subscriber of rank `i` every M-th listed partition starting with the i-th -/
theorem rr_stride (ms : List Member) (ps : List Part) (h : WellFormed ms) (t : Nat) :
    RRShapeAt ms ps (rrAssign ms ps) t := by
  intro m hm
  unfold rrAssign rrTopic
  rw [entry_of_subscriber _ _ ms t (idsDistinct_of_wf h) m hm, pick_rrSel, findPartitions_eq, (findMembers_perm ms t).length_eq]

/-- the subscriber of rank `i` holds exactly ⌊P/M⌋ + [i < P mod M] partitions -/
theorem rr_load (ms : List Member) (ps : List Part) (h : WellFormed ms) (t : Nat) (m : Member)
    (hm : m ∈ subscribers ms t) :
    (rrAssign ms ps t m.id).length = (partsOf t ps).length / (subscribers ms t).length +
      if rank ms t m.id < (partsOf t ps).length % (subscribers ms t).length then 1 else 0 := by
  rw [rr_stride ms ps h t m hm]
  exact length_stride _ _ _ (List.length_pos_iff.mpr (List.ne_nil_of_mem hm)) (rank_lt ms t m hm)

theorem rr_balanced (ms : List Member) (ps : List Part) (h : WellFormed ms) (t : Nat) :
    BalancedAt ms (rrAssign ms ps) t := by
  refine balanced_of_loads ms _ t ((partsOf t ps).length / (subscribers ms t).length) (fun m hm => ?_)
  rw [rr_load ms ps h t m hm]
  split <;> omega

/-! ## 2b. Range and RoundRobin depend only on the set of members, not on the listing order -/

theorem range_perm_invariant (ms ms' : List Member) (ps : List Part) (h : WellFormed ms) (hp : ms.Perm ms') :
    rangeAssign ms ps = rangeAssign ms' ps := by
  funext t id
  unfold rangeAssign
  rw [findMembers_perm_invariant ms ms' hp (idsDistinct_of_wf h) t]

theorem rr_perm_invariant (ms ms' : List Member) (ps : List Part) (h : WellFormed ms) (hp : ms.Perm ms') :
    rrAssign ms ps = rrAssign ms' ps := by
  funext t id
  unfold rrAssign
  rw [findMembers_perm_invariant ms ms' hp (idsDistinct_of_wf h) t]

/-- a second listing order of the example group, to which the two theorems above apply -/
example : exMembers.Perm exMembers.reverse := List.reverse_perm _ |>.symm

/-! ## 3. C14 of one call; the monitor evaluated by the oracle holds of the model's output, on every finite domain -/

/-- cover, balance, only subscribers of one `AssignGroups` call (this is also the hypothesis `hb` of `lifecycle_good`, §8) -/
theorem range_call_good (ms : List Member) (got : List Part) (h : WellFormed ms) (t : Nat) :
    GoodAt ms got (rangeAssign ms got) t ∧ ∀ id, OnlySubscribersAt ms (rangeAssign ms got) t id :=
  ⟨⟨range_cover ms got h t, range_balanced ms got h t⟩, range_only_subscribers ms got h t⟩

theorem rr_call_good (ms : List Member) (got : List Part) (h : WellFormed ms) (t : Nat) :
    GoodAt ms got (rrAssign ms got) t ∧ ∀ id, OnlySubscribersAt ms (rrAssign ms got) t id :=
  ⟨⟨rr_cover ms got h t, rr_balanced ms got h t⟩, rr_only_subscribers ms got h t⟩

theorem range_coverBalance (ms : List Member) (ps : List Part) (h : WellFormed ms) (ts ids : List Nat) :
    coverBalanceOn ms ps (rangeAssign ms ps) ts ids = true :=
  coverBalanceOn_true ms ps _ (fun t => (range_call_good ms ps h t).1) (fun t => (range_call_good ms ps h t).2) ts ids

theorem rr_coverBalance (ms : List Member) (ps : List Part) (h : WellFormed ms) (ts ids : List Nat) :
    coverBalanceOn ms ps (rrAssign ms ps) ts ids = true :=
  coverBalanceOn_true ms ps _ (fun t => (rr_call_good ms ps h t).1) (fun t => (rr_call_good ms ps h t).2) ts ids

theorem range_holds (ms : List Member) (ps : List Part) (h : WellFormed ms) (ts ids : List Nat) :
    rangeHoldsOn ms ps (rangeAssign ms ps) ts ids = true := by
  simp only [rangeHoldsOn, Bool.and_eq_true, range_coverBalance ms ps h, List.all_eq_true, decide_eq_true_eq, true_and]
  exact fun t _ => range_contiguous ms ps h t

theorem rr_holds (ms : List Member) (ps : List Part) (h : WellFormed ms) (ts ids : List Nat) :
    rrHoldsOn ms ps (rrAssign ms ps) ts ids = true := by
  simp only [rrHoldsOn, Bool.and_eq_true, rr_coverBalance ms ps h, List.all_eq_true, decide_eq_true_eq, true_and]
  exact fun t _ => rr_stride ms ps h t

/-! ## 4. RackAffinity — for every iteration order of the Go maps -/

/-- `σ` is an iteration order of the Go map `zonedPartitions` of topic `t`: every rack that leads a partition of
`t` occurs, no rack occurs twice (racks without partitions of `t` may occur: visiting them is a no-op) -/
def IterOrder (ps : List Part) (t : Nat) (σ : List Nat) : Prop :=
  σ.Nodup ∧ ∀ p ∈ partsOfTopic t ps, p.zone ∈ σ

/-- the assignment RackAffinity returns under the iteration orders `σ₁ t`, `σ₂ t` (a panic would show as `[]`
here; `rack_total` shows there is none) -/
def rackAsg (ms : List Member) (ps : List Part) (σ₁ σ₂ : Nat → List Nat) : Asg :=
  fun t id => (rackAssign ms ps σ₁ σ₂ t id).getD []

/-- what the model computes for a topic with at least one subscriber -/
theorem rack_topic (ms : List Member) (ps : List Part) (σ₁ σ₂ : Nat → List Nat) (h : WellFormed ms) (t : Nat)
    (h1 : IterOrder ps t (σ₁ t)) (h2 : IterOrder ps t (σ₂ t)) (hs : subscribers ms t ≠ []) :
    ∃ es, rackAssignTopic (subscribers ms t) (partsOfTopic t ps) (σ₁ t) (σ₂ t) = some es ∧
      (∀ id, rackAssign ms ps σ₁ σ₂ t id = some (collect id es)) ∧
      ((subscribers ms t).flatMap (fun m => collect m.id es)).Perm (partsOf t ps) ∧
      (∀ m ∈ subscribers ms t, (partsOf t ps).length / (subscribers ms t).length ≤ (collect m.id es).length ∧
        (collect m.id es).length ≤ (partsOf t ps).length / (subscribers ms t).length + 1) ∧
      (∀ id, (∀ m ∈ subscribers ms t, m.id ≠ id) → collect id es = []) := by
  obtain ⟨es, he, hperm, hload, hother, _⟩ := rackTopic_spec (subscribers ms t) (partsOfTopic t ps) (σ₁ t) (σ₂ t) hs
    (subscribers_distinct ms t (idsDistinct_of_wf h)) h1.1 h2.1 h1.2 h2.2
  refine ⟨es, he, fun id => by rw [rackAssign_eq ms ps σ₁ σ₂ t id hs, he]; rfl, hperm, ?_, hother⟩
  rw [length_partsOf_eq]
  exact hload

theorem rack_none (ms : List Member) (ps : List Part) (σ₁ σ₂ : Nat → List Nat) (h : WellFormed ms) (t : Nat)
    (hs : subscribers ms t = []) (id : Nat) : rackAssign ms ps σ₁ σ₂ t id = some [] := by
  unfold rackAssign
  rw [appendByTopic_eq_subscribers t ms, hs]; rfl

/-- no slice or index expression of `assignTopic` is ever out of range, whatever the map iteration orders -/
theorem rack_total (ms : List Member) (ps : List Part) (σ₁ σ₂ : Nat → List Nat) (h : WellFormed ms) (t : Nat)
    (h1 : IterOrder ps t (σ₁ t)) (h2 : IterOrder ps t (σ₂ t)) (id : Nat) :
    (rackAssign ms ps σ₁ σ₂ t id).isSome := by
  by_cases hs : subscribers ms t = []
  · rw [rack_none ms ps σ₁ σ₂ h t hs]; rfl
  · obtain ⟨es, _, hr, _⟩ := rack_topic ms ps σ₁ σ₂ h t h1 h2 hs
    rw [hr id]; rfl

theorem rack_cover (ms : List Member) (ps : List Part) (σ₁ σ₂ : Nat → List Nat) (h : WellFormed ms) (t : Nat)
    (h1 : IterOrder ps t (σ₁ t)) (h2 : IterOrder ps t (σ₂ t)) (hs : subscribers ms t ≠ []) :
    CoverAt ms ps (rackAsg ms ps σ₁ σ₂) t := by
  obtain ⟨es, _, hr, hperm, _⟩ := rack_topic ms ps σ₁ σ₂ h t h1 h2 hs
  unfold CoverAt rackAsg
  simp only [hr, Option.getD_some]
  exact hperm

theorem rack_only_subscribers (ms : List Member) (ps : List Part) (σ₁ σ₂ : Nat → List Nat) (h : WellFormed ms) (t : Nat)
    (h1 : IterOrder ps t (σ₁ t)) (h2 : IterOrder ps t (σ₂ t)) (id : Nat) :
    OnlySubscribersAt ms (rackAsg ms ps σ₁ σ₂) t id := by
  intro hid
  unfold rackAsg
  by_cases hs : subscribers ms t = []
  · rw [rack_none ms ps σ₁ σ₂ h t hs]; rfl
  · obtain ⟨es, _, hr, _, _, hother⟩ := rack_topic ms ps σ₁ σ₂ h t h1 h2 hs
    rw [hr id]; exact hother id hid

theorem rack_balanced (ms : List Member) (ps : List Part) (σ₁ σ₂ : Nat → List Nat) (h : WellFormed ms) (t : Nat)
    (h1 : IterOrder ps t (σ₁ t)) (h2 : IterOrder ps t (σ₂ t)) :
    BalancedAt ms (rackAsg ms ps σ₁ σ₂) t := by
  by_cases hs : subscribers ms t = []
  · intro m hm; rw [hs] at hm; exact absurd hm List.not_mem_nil
  · obtain ⟨es, _, hr, _, hload, _⟩ := rack_topic ms ps σ₁ σ₂ h t h1 h2 hs
    refine balanced_of_loads ms _ t ((partsOf t ps).length / (subscribers ms t).length) (fun m hm => ?_)
    unfold rackAsg
    rw [hr, Option.getD_some]
    exact hload m hm

/-- for every rack `z`: at least min(partitions led in `z`, members in `z` × ⌊P/M⌋) partitions led in `z` are placed
on members of `z`, whatever the map iteration orders -/
theorem rack_affinity_bound (ms : List Member) (ps : List Part) (σ₁ σ₂ : Nat → List Nat) (h : WellFormed ms) (t : Nat)
    (h1 : IterOrder ps t (σ₁ t)) (h2 : IterOrder ps t (σ₂ t)) (z : Nat) :
    RackBoundAt ms ps (rackAsg ms ps σ₁ σ₂) t z := by
  unfold RackBoundAt
  by_cases hs : subscribers ms t = []
  · unfold inRack; rw [hs]; simp
  · -- `rack_topic` does not state the affinity conjunct of `rackTopic_spec`
    obtain ⟨es, he, _, _, _, haff⟩ := rackTopic_spec (subscribers ms t) (partsOfTopic t ps) (σ₁ t) (σ₂ t) hs
      (subscribers_distinct ms t (idsDistinct_of_wf h)) h1.1 h2.1 h1.2 h2.2
    have hr : ∀ id, rackAsg ms ps σ₁ σ₂ t id = collect id es := fun id => by
      unfold rackAsg; rw [rackAssign_eq ms ps σ₁ σ₂ t id hs, he]; rfl
    rw [placedInRack_eq ms ps _ t z es hr, length_partsOf_eq, ledIn_eq,
      length_inRack_eq]
    exact haff z

theorem rack_good (ms : List Member) (ps : List Part) (σ₁ σ₂ : Nat → List Nat) (h : WellFormed ms) (t : Nat)
    (h1 : IterOrder ps t (σ₁ t)) (h2 : IterOrder ps t (σ₂ t)) :
    GoodAt ms ps (rackAsg ms ps σ₁ σ₂) t ∧ ∀ id, OnlySubscribersAt ms (rackAsg ms ps σ₁ σ₂) t id :=
  ⟨⟨rack_cover ms ps σ₁ σ₂ h t h1 h2, rack_balanced ms ps σ₁ σ₂ h t h1 h2⟩, rack_only_subscribers ms ps σ₁ σ₂ h t h1 h2⟩

/-- RackAffinity satisfies the hypothesis `hb` of `lifecycle_good` for every pair of iteration orders of its maps -/
theorem rack_call_good (σ₁ σ₂ : List Part → Nat → List Nat)
    (h1 : ∀ got t, IterOrder got t (σ₁ got t)) (h2 : ∀ got t, IterOrder got t (σ₂ got t))
    (ms : List Member) (got : List Part) (h : WellFormed ms) (t : Nat) :
    GoodAt ms got (rackAsg ms got (σ₁ got) (σ₂ got)) t ∧ ∀ id, OnlySubscribersAt ms (rackAsg ms got (σ₁ got) (σ₂ got)) t id :=
  rack_good ms got _ _ h t (h1 got t) (h2 got t)

theorem rack_holds (ms : List Member) (ps : List Part) (σ₁ σ₂ : Nat → List Nat) (h : WellFormed ms)
    (h1 : ∀ t, IterOrder ps t (σ₁ t)) (h2 : ∀ t, IterOrder ps t (σ₂ t)) (ts ids zs : List Nat) :
    rackHoldsOn ms ps (rackAsg ms ps σ₁ σ₂) ts ids zs = true := by
  simp only [rackHoldsOn, Bool.and_eq_true, List.all_eq_true, decide_eq_true_eq]
  exact ⟨coverBalanceOn_true ms ps _ (fun t => (rack_good ms ps σ₁ σ₂ h t (h1 t) (h2 t)).1)
      (fun t => (rack_good ms ps σ₁ σ₂ h t (h1 t) (h2 t)).2) ts ids,
    fun t _ z _ => rack_affinity_bound ms ps σ₁ σ₂ h t (h1 t) (h2 t) z⟩

/-! Non-vacuity: orders that meet `IterOrder` for the example group; the result depends on the order, the
theorems above hold for both. -/

def rkMembers : List Member := [⟨1, [0], 0⟩, ⟨2, [0], 1⟩, ⟨3, [0], 2⟩]
def rkParts : List Part := [⟨0, 0, 0⟩, ⟨0, 1, 0⟩, ⟨0, 2, 0⟩, ⟨0, 3, 1⟩, ⟨0, 4, 1⟩, ⟨0, 5, 1⟩, ⟨0, 6, 2⟩]

example : WellFormed rkMembers := by decide
example : ∀ t, IterOrder rkParts t [0, 1, 2] ∧ IterOrder rkParts t [1, 2, 0] := by
  intro t
  have hz : ∀ p ∈ rkParts, p.zone ∈ [0, 1, 2] ∧ p.zone ∈ [1, 2, 0] := by decide
  exact ⟨⟨by decide, fun p hp => (hz p (List.mem_filter.mp hp).1).1⟩,
         ⟨by decide, fun p hp => (hz p (List.mem_filter.mp hp).1).2⟩⟩
example : [1, 2, 3].map (rackAssign rkMembers rkParts (fun _ => [0, 1, 2]) (fun _ => [0, 1, 2]) 0) =
    [some [0, 1, 2], some [3, 4], some [6, 5]] := by decide +kernel
example : [1, 2, 3].map (rackAssign rkMembers rkParts (fun _ => [1, 2, 0]) (fun _ => [1, 2, 0]) 0) =
    [some [0, 1], some [3, 4, 5], some [6, 2]] := by decide +kernel

/-! ## 5. Topic lists with repeats (known finding C14-D30)

`findMembersByTopic` skips a topic a member lists again (`topicListedBefore`).  Without that guard a member whose
`Topics` repeats a topic is entered twice into `membersByTopic[t]`: Range/RoundRobin hand it two shares and
RackAffinity's last loop leaves a partition unassigned.  `preFixAppendByTopic` is the first loop without the guard; the
two `_counterexample`s are what it computes (the driver runs the same inputs against the real code, which must agree
with the model of §1–§4).  The theorems of §1–§4 have no "listed at most once" hypothesis and hold of these inputs. -/

/-- the first loop of `findMembersByTopic` as it was before the fix: one copy per occurrence -/
def preFixAppendByTopic (t : Nat) : List Member → List Member
  | [] => []
  | m :: ms => (m.topics.filter (· == t)).map (fun _ => m) ++ preFixAppendByTopic t ms

def dupMembers : List Member := [⟨1, [0, 0], 0⟩, ⟨2, [0], 0⟩]
def dupParts : List Part := (List.range 6).map fun i => ⟨0, Int.ofNat i, 0⟩

theorem prefix_range_unbalanced_counterexample :
    WellFormed dupMembers ∧
    collect 1 (rangeTopic (sortById (preFixAppendByTopic 0 dupMembers)) (findPartitions 0 dupParts)) = [0, 1, 2, 3] ∧
    collect 2 (rangeTopic (sortById (preFixAppendByTopic 0 dupMembers)) (findPartitions 0 dupParts)) = [4, 5] := by decide +kernel

theorem prefix_rack_loses_partition_counterexample :
    let ms : List Member := [⟨7, [0, 0], 0⟩]
    let ps : List Part := [⟨0, 0, 1⟩, ⟨0, 1, 1⟩]
    WellFormed ms ∧ IterOrder ps 0 [1] ∧
      (rackAssignTopic (preFixAppendByTopic 0 ms) (partsOfTopic 0 ps) [1] [1]).map (collect 7) = some [0] := by
  refine ⟨by decide, ⟨by decide, by decide⟩, by decide +kernel⟩

/-- with the guard: same inputs, every partition handed out, evenly -/
example : rangeAssign dupMembers dupParts 0 1 = [0, 1, 2] ∧ rangeAssign dupMembers dupParts 0 2 = [3, 4, 5] := by decide +kernel
example : rackAssign [⟨7, [0, 0], 0⟩] [⟨0, 0, 1⟩, ⟨0, 1, 1⟩] (fun _ => [1]) (fun _ => [1]) 0 7 = some [0, 1] := by decide +kernel

/-! ## 6. The leader glue: what every member RECEIVES is its own entry of the balancer's result

`joinGroup → makeMemberProtocolMetadata → AssignGroups → makeSyncGroupRequestV0 → (coordinator forwards bytes) →
syncGroup`.  Model: Model/GroupGlue.lean.  `A` is the Go map `GroupMemberAssignments` in whatever order `range`
yields it, `ρ` the iteration order of the per-member `topics32` map inside `groupAssignment.writeTo`; Go maps have
distinct keys, which is the only hypothesis of `glue_preserves`; `glue_delivers` also needs the topic list of the map
duplicate-free and the partition ids within int32. -/
section Glue
open KV.GroupGlue

/-- the members the leader's balancer sees are the members' own configurations (topics in listing order, rack): a
re-packing of the tuples of Model/GroupGlue.lean; that the bytes carry them is `metadata_bytes_roundtrip`, `join_wire_delivery` -/
theorem glue_members (cfgs : List (Nat × List Nat × Nat)) :
    membersOfJoin (cfgs.map fun c => (c.1, metadataOfConfig c.2.1 c.2.2)) = cfgs := by
  unfold membersOfJoin metadataOfConfig
  rw [List.map_map]
  conv => rhs; rw [← List.map_id cfgs]
  rfl

/-- decode ∘ encode per member = that member's entry of the assignment map (partition ids as int32), for every
iteration order of the two maps; a member without an entry receives nothing: no entry leaks between members -/
theorem glue_preserves (ρ : TopicMap → TopicMap) (hρ : ∀ l, (ρ l).Perm l) (A : Assignments)
    (hin : ∀ e ∈ A, (keys e.2).Nodup) (id t : Nat) :
    mapGet t (received ρ A id) =
      match A.find? (fun e => e.1 == id) with
      | some e => (mapGet t e.2).map (·.map toInt32)
      | none => none := by
  unfold received syncRequest
  rw [List.find?_map]
  have : ((fun e : Nat × Wire => e.1 == id) ∘ fun e : Nat × TopicMap => (e.1, encodeAssignment ρ (toTopics32 e.2)))
      = (fun e => e.1 == id) := rfl
  rw [this]
  cases hf : A.find? (fun e => e.1 == id) with
  | none => simp [mapGet_nil]
  | some e =>
    simp only [Option.map_some]
    rw [decode_encode ρ hρ _ (toTopics32_keys_nodup e.2) t,
      toTopics32_get t e.2 (hin e (List.mem_of_find?_eq_some hf))]

theorem glue_no_leak (ρ : TopicMap → TopicMap) (A : Assignments) (id : Nat) (h : ∀ e ∈ A, e.1 ≠ id) :
    received ρ A id = [] := by
  unfold received syncRequest
  have : (A.map fun e => (e.1, encodeAssignment ρ (toTopics32 e.2))).find? (fun e => e.1 == id) = none := by
    rw [List.find?_eq_none]
    intro e he
    obtain ⟨x, hx, rfl⟩ := List.mem_map.mp he
    simpa using h x hx
  rw [this]

/-- the result depends neither on the order in which `range memberAssignments` yields the members nor on the iteration
order of the per-member topic map -/
theorem glue_order_independent (ρ ρ' : TopicMap → TopicMap) (hρ : ∀ l, (ρ l).Perm l) (hρ' : ∀ l, (ρ' l).Perm l)
    (A A' : Assignments) (hp : A.Perm A') (hids : (A.map (·.1)).Nodup) (hin : ∀ e ∈ A, (keys e.2).Nodup) (id t : Nat) :
    mapGet t (received ρ A id) = mapGet t (received ρ' A' id) := by
  rw [glue_preserves ρ hρ A hin, glue_preserves ρ' hρ' A' (fun e he => hin e (hp.mem_iff.mpr he)),
    KV.AssocList.find?_key, KV.AssocList.find?_key, KV.AssocList.lookup_perm hp hids]

example : (keys ([(0, [1, 2]), (1, [5])] : TopicMap)).Nodup ∧ ∀ l : TopicMap, l.reverse.Perm l :=
  ⟨by decide, List.reverse_perm⟩
example : mapGet 1 (received List.reverse [(7, [(0, [1, 2]), (1, [5])]), (8, [(0, [0])])] 7) = some [5] ∧
    received List.reverse [(7, [(0, [1, 2]), (1, [5])]), (8, [(0, [0])])] 8 = [(0, [0])] ∧
    received List.reverse [(7, [(0, [1, 2]), (1, [5])]), (8, [(0, [0])])] 9 = [] := by decide +kernel

/-- end to end: for partition ids that fit int32, what the members receive is the balancer's assignment function
on the members `ids` and topics `ts` of the map, and empty elsewhere -/
theorem glue_delivers (ρ : TopicMap → TopicMap) (hρ : ∀ l, (ρ l).Perm l) (a : Asg) (ids ts : List Nat)
    (hts : ts.Nodup) (hr : ∀ t id, ∀ x ∈ a t id, InInt32 x) (t id : Nat) :
    delivered ρ a ids ts t id = if id ∈ ids ∧ t ∈ ts then a t id else [] := by
  unfold delivered
  have hin : ∀ e ∈ mapOf a ids ts, (keys e.2).Nodup := by
    intro e he
    unfold mapOf at he
    obtain ⟨i, _, rfl⟩ := List.mem_map.mp he
    rw [keys_filterMap]
    exact (List.filter_sublist).nodup hts
  rw [glue_preserves ρ hρ _ hin id t]
  unfold mapOf
  rw [find_ids]
  by_cases hid : id ∈ ids
  · simp only [hid, if_true, true_and]
    rw [mapGet_filterMap]
    by_cases ht : t ∈ ts
    · by_cases he : (a t id).isEmpty
      · simp [ht, he]; exact (List.isEmpty_iff.mp he)
      · simp [ht, he, map_toInt32_id _ (hr t id)]
    · simp [ht]
  · simp [hid]

/-- whatever an assignment with cover + only-subscribers hands out are listed partition ids -/
theorem assigned_are_listed (ms : List Member) (ps : List Part) (a : Asg) (t : Nat)
    (hg : GoodAt ms ps a t) (ho : ∀ id, OnlySubscribersAt ms a t id) (id : Nat) (x : Int) (hx : x ∈ a t id) :
    ∃ p ∈ ps, p.id = x := by
  by_cases hsub : ∃ m ∈ subscribers ms t, m.id = id
  · obtain ⟨m, hm, hmid⟩ := hsub
    have hc := hg.1 (List.ne_nil_of_mem hm)
    have : x ∈ (subscribers ms t).flatMap (fun m => a t m.id) :=
      List.mem_flatMap.mpr ⟨m, hm, by rw [hmid]; exact hx⟩
    have := hc.mem_iff.mp this
    unfold partsOf at this
    obtain ⟨p, hp, hpx⟩ := List.mem_map.mp this
    exact ⟨p, (List.mem_filter.mp hp).1, hpx⟩
  · have := ho id (fun m hm e => hsub ⟨m, hm, e⟩)
    rw [this] at hx; simp at hx

/-- hence C14 (cover, balance, only subscribers) of the balancer's result carries over to what the members receive -/
theorem glue_good (ρ : TopicMap → TopicMap) (hρ : ∀ l, (ρ l).Perm l) (ms : List Member) (ps : List Part) (a : Asg)
    (ids ts : List Nat) (hts : ts.Nodup) (hr : ∀ p ∈ ps, InInt32 p.id)
    (hids : ∀ m ∈ ms, m.id ∈ ids)
    (hg : ∀ t, GoodAt ms ps a t) (ho : ∀ t id, OnlySubscribersAt ms a t id) (t : Nat) (ht : t ∈ ts) :
    GoodAt ms ps (delivered ρ a ids ts) t ∧ ∀ id, OnlySubscribersAt ms (delivered ρ a ids ts) t id := by
  have hr' : ∀ t id, ∀ x ∈ a t id, InInt32 x := by
    intro t' id x hx
    obtain ⟨p, hp, hpx⟩ := assigned_are_listed ms ps a t' (hg t') (ho t') id x hx
    rw [← hpx]; exact hr p hp
  have hsame : ∀ m ∈ subscribers ms t, delivered ρ a ids ts t m.id = a t m.id := by
    intro m hm
    rw [glue_delivers ρ hρ a ids ts hts hr']
    simp [hids m (List.mem_filter.mp hm).1, ht]
  refine ⟨⟨?_, ?_⟩, ?_⟩
  · intro hs
    unfold CoverAt
    rw [flatMap_congr _ hsame]
    exact (hg t).1 hs
  · intro m₁ h₁ m₂ h₂
    rw [hsame m₁ h₁, hsame m₂ h₂]
    exact (hg t).2 m₁ h₁ m₂ h₂
  · intro id hid
    rw [glue_delivers ρ hρ a ids ts hts hr']
    split
    · exact ho t id hid
    · rfl

/-- Range, RoundRobin and RackAffinity through the glue: C14 holds of what the members receive -/
theorem range_delivered (ρ : TopicMap → TopicMap) (hρ : ∀ l, (ρ l).Perm l) (ms : List Member) (ps : List Part)
    (h : WellFormed ms) (ids ts : List Nat) (hts : ts.Nodup) (hr : ∀ p ∈ ps, InInt32 p.id)
    (hids : ∀ m ∈ ms, m.id ∈ ids) (t : Nat) (ht : t ∈ ts) :
    GoodAt ms ps (delivered ρ (rangeAssign ms ps) ids ts) t ∧
      ∀ id, OnlySubscribersAt ms (delivered ρ (rangeAssign ms ps) ids ts) t id :=
  glue_good ρ hρ ms ps _ ids ts hts hr hids (fun t => (range_call_good ms ps h t).1)
    (fun t => (range_call_good ms ps h t).2) t ht

theorem rr_delivered (ρ : TopicMap → TopicMap) (hρ : ∀ l, (ρ l).Perm l) (ms : List Member) (ps : List Part)
    (h : WellFormed ms) (ids ts : List Nat) (hts : ts.Nodup) (hr : ∀ p ∈ ps, InInt32 p.id)
    (hids : ∀ m ∈ ms, m.id ∈ ids) (t : Nat) (ht : t ∈ ts) :
    GoodAt ms ps (delivered ρ (rrAssign ms ps) ids ts) t ∧
      ∀ id, OnlySubscribersAt ms (delivered ρ (rrAssign ms ps) ids ts) t id :=
  glue_good ρ hρ ms ps _ ids ts hts hr hids (fun t => (rr_call_good ms ps h t).1)
    (fun t => (rr_call_good ms ps h t).2) t ht

theorem rack_delivered (ρ : TopicMap → TopicMap) (hρ : ∀ l, (ρ l).Perm l) (ms : List Member) (ps : List Part)
    (σ₁ σ₂ : Nat → List Nat) (h : WellFormed ms) (h1 : ∀ t, IterOrder ps t (σ₁ t)) (h2 : ∀ t, IterOrder ps t (σ₂ t))
    (ids ts : List Nat) (hts : ts.Nodup) (hr : ∀ p ∈ ps, InInt32 p.id)
    (hids : ∀ m ∈ ms, m.id ∈ ids) (t : Nat) (ht : t ∈ ts) :
    GoodAt ms ps (delivered ρ (rackAsg ms ps σ₁ σ₂) ids ts) t ∧
      ∀ id, OnlySubscribersAt ms (delivered ρ (rackAsg ms ps σ₁ σ₂) ids ts) t id :=
  glue_good ρ hρ ms ps _ ids ts hts hr hids (fun t => (rack_good ms ps σ₁ σ₂ h t (h1 t) (h2 t)).1)
    (fun t => (rack_good ms ps σ₁ σ₂ h t (h1 t) (h2 t)).2) t ht

/-- the last step on the member: `Generation.Assignments` (built by `makeAssignments` from the member's own topic
list) is exactly what was delivered to it — the only thing `makeAssignments` can drop is a topic the member does not
subscribe to, and by only-subscribers nothing of such a topic was delivered -/
theorem generation_view_is_delivered (ρ : TopicMap → TopicMap) (ms : List Member) (a : Asg) (ids ts : List Nat)
    (h : WellFormed ms) (ho : ∀ t id, OnlySubscribersAt ms (delivered ρ a ids ts) t id) (m : Member) (hm : m ∈ ms) (t : Nat) :
    generationView ρ (mapOf a ids ts) m.id m.topics t = delivered ρ a ids ts t m.id := by
  rw [generationView_eq]
  by_cases ht : t ∈ m.topics
  · simp [ht, delivered]
  · simp only [ht, if_false]
    symm
    apply ho t m.id
    intro m' hm' e
    have hm'' := List.mem_filter.mp hm'
    have : m' = m := eq_of_id_eq ms (idsDistinct_of_wf h) m' hm''.1 m hm e
    subst this
    exact ht (by simpa using hm''.2)

/-- the leader asks the cluster for exactly the topics somebody subscribes to (`extractTopics`), so for every subscribed
topic the balancer is given exactly the cluster's partitions of that topic (`ReadsTopics` = what `readPartitions` returns) -/
theorem glue_partitions (ms : List Member) (cluster got : List Part) (hread : ReadsTopics cluster (extractTopics ms) got)
    (t : Nat) (hs : subscribers ms t ≠ []) :
    partsOf t got = partsOf t cluster ∧ ∀ z, ledIn got t z = ledIn cluster t z := by
  obtain ⟨m, hm⟩ := List.exists_mem_of_ne_nil _ hs
  have hm' := List.mem_filter.mp hm
  exact hread t ((mem_extractTopics ms t).mpr ⟨m, hm'.1, by simpa using hm'.2⟩)

example (cluster : List Part) (ms : List Member) : ReadsTopics cluster (extractTopics ms) (readPartitions cluster (extractTopics ms)) :=
  readPartitions_reads cluster _

/-- C14 of what the members receive carries over from the partitions the leader read (`got`) to the cluster's partition
listing, because the leader reads exactly the cluster's partitions of the subscribed topics (`ReadsTopics`). -/
theorem round_good (ρ : TopicMap → TopicMap) (hρ : ∀ l, (ρ l).Perm l) (ms : List Member) (cluster got : List Part)
    (hread : ReadsTopics cluster (extractTopics ms) got) (a : Asg) (ids ts : List Nat) (t : Nat)
    (hd : GoodAt ms got (delivered ρ a ids ts) t) : GoodAt ms cluster (delivered ρ a ids ts) t := by
  refine ⟨fun hs => ?_, hd.2⟩
  have := hd.1 hs
  unfold CoverAt at this ⊢
  rw [← (glue_partitions ms cluster got hread t hs).1]
  exact this

theorem range_round (ρ : TopicMap → TopicMap) (hρ : ∀ l, (ρ l).Perm l) (ms : List Member) (cluster got : List Part)
    (h : WellFormed ms) (hread : ReadsTopics cluster (extractTopics ms) got)
    (ids ts : List Nat) (hts : ts.Nodup) (hr : ∀ p ∈ got, InInt32 p.id) (hids : ∀ m ∈ ms, m.id ∈ ids) (t : Nat) (ht : t ∈ ts) :
    GoodAt ms cluster (delivered ρ (rangeAssign ms got) ids ts) t ∧
      ∀ id, OnlySubscribersAt ms (delivered ρ (rangeAssign ms got) ids ts) t id :=
  have hd := range_delivered ρ hρ ms got h ids ts hts hr hids t ht
  ⟨round_good ρ hρ ms cluster got hread _ ids ts t hd.1, hd.2⟩

theorem rr_round (ρ : TopicMap → TopicMap) (hρ : ∀ l, (ρ l).Perm l) (ms : List Member) (cluster got : List Part)
    (h : WellFormed ms) (hread : ReadsTopics cluster (extractTopics ms) got)
    (ids ts : List Nat) (hts : ts.Nodup) (hr : ∀ p ∈ got, InInt32 p.id) (hids : ∀ m ∈ ms, m.id ∈ ids) (t : Nat) (ht : t ∈ ts) :
    GoodAt ms cluster (delivered ρ (rrAssign ms got) ids ts) t ∧
      ∀ id, OnlySubscribersAt ms (delivered ρ (rrAssign ms got) ids ts) t id :=
  have hd := rr_delivered ρ hρ ms got h ids ts hts hr hids t ht
  ⟨round_good ρ hρ ms cluster got hread _ ids ts t hd.1, hd.2⟩

theorem rack_round (ρ : TopicMap → TopicMap) (hρ : ∀ l, (ρ l).Perm l) (ms : List Member) (cluster got : List Part)
    (σ₁ σ₂ : Nat → List Nat) (h : WellFormed ms) (hread : ReadsTopics cluster (extractTopics ms) got)
    (h1 : ∀ t, IterOrder got t (σ₁ t)) (h2 : ∀ t, IterOrder got t (σ₂ t))
    (ids ts : List Nat) (hts : ts.Nodup) (hr : ∀ p ∈ got, InInt32 p.id) (hids : ∀ m ∈ ms, m.id ∈ ids) (t : Nat) (ht : t ∈ ts) :
    GoodAt ms cluster (delivered ρ (rackAsg ms got σ₁ σ₂) ids ts) t ∧
      ∀ id, OnlySubscribersAt ms (delivered ρ (rackAsg ms got σ₁ σ₂) ids ts) t id :=
  have hd := rack_delivered ρ hρ ms got σ₁ σ₂ h h1 h2 ids ts hts hr hids t ht
  ⟨round_good ρ hρ ms cluster got hread _ ids ts t hd.1, hd.2⟩

/-! A subscribed topic that does not exist (yet) — known finding C14-D31.  `assignTopicPartitions` means
"no assignments for the topic" (its comment) and goes on; the Metadata readers of conn.go keep the partitions of the
topics that do exist (`readTopicMetadata`), so all `*_round` theorems apply with `got = leaderPartitions cluster missing ms` (the cluster has no
partitions of a missing topic).  Any other lookup error fails the join: nothing is distributed, nobody gets a generation —
C14 is a statement about the assignments that are distributed. -/

theorem missing_topic_reads (cluster : List Part) (missing : List Nat) (ms : List Member)
    (hmiss : ∀ p ∈ cluster, ¬ p.topic ∈ missing) :
    ReadsTopics cluster (extractTopics ms) (leaderPartitions cluster missing ms) :=
  leaderPartitions_reads cluster missing ms hmiss

/-- a reader that gives up at the first unknown topic (`readTopicMetadataPreFix`) hides the partitions of every other
topic: the whole group receives nothing -/
theorem prefix_missing_topic_starves_counterexample :
    let cluster : List Part := [⟨0, 0, 0⟩, ⟨0, 1, 0⟩]
    readTopicMetadataPreFix (metadataAnswer cluster [1] [0, 1]) [] = ([], true) ∧
    readTopicMetadata (metadataAnswer cluster [1] [0, 1]) = (cluster, true) := by decide +kernel

end Glue

/-! ## 7. The two payloads at byte level (joingroup.go `groupMetadata`, syncgroup.go `groupAssignment`, read.go,
write.go): what is read back is what was written

This is what justifies the abstraction of §6 ("the wire is the sequence of entries in the order written; metadata
passes topics and user data through unchanged"): for every well-formed value (lengths and integers fit their wire
fields) the real reader functions, modelled in the size-threading reader monad of Base/Reader.lean, return exactly the
written entries / topics in order, consume exactly the written bytes and leave the size counter at 0 — whatever
follows on the connection. -/
section Bytes
open KV.GroupWire

/-- `makeSyncGroupRequestV0` writes `groupAssignment{Version: 1, Topics: topics32}` (UserData nil); `syncGroup` reads it -/
theorem assignment_bytes_roundtrip (es : List (Bytes × List Int)) (hn : es.length < 2147483648)
    (he : ∀ e ∈ es, WFEntry e) (rest : Bytes) :
    readAssignment ⟨writeAssignment ⟨1, es, none⟩ ++ rest, (writeAssignment ⟨1, es, none⟩).length⟩ =
      (.ok (1, es, []), ⟨rest, 0⟩) :=
  readAssignment_write ⟨1, es, none⟩ ⟨by unfold Fits; constructor <;> simp, hn, he, by simp [optLen]⟩ rest

/-- `makeJoinGroupRequest` writes `groupMetadata{Version: 1, Topics: config.Topics, UserData: balancer.UserData()}`;
`makeMemberProtocolMetadata` reads it: same topics in the same order (repeats included), same user data (nil = empty) -/
theorem metadata_bytes_roundtrip (topics : List Bytes) (userData : Option Bytes) (hn : topics.length < 2147483648)
    (ht : ∀ t ∈ topics, t.length < 32768) (hu : optLen userData < 2147483648) (rest : Bytes) :
    readMetadata ⟨writeMetadata ⟨1, topics, userData⟩ ++ rest, (writeMetadata ⟨1, topics, userData⟩).length⟩ =
      (.ok (1, topics, userData.getD []), ⟨rest, 0⟩) :=
  readMetadata_write ⟨1, topics, userData⟩ ⟨by unfold Fits; constructor <;> simp, hn, ht, hu⟩ rest

/-- the bytes a member is sent carry exactly the abstract wire of §6: with any naming of the topic keys, the entries
`syncRequest` lists for a member are read back in order -/
theorem sync_bytes_carry_wire (name : Nat → Bytes) (hname : ∀ t, (name t).length < 32768) (w : KV.GroupGlue.Wire)
    (hn : w.length < 2147483648) (hv : ∀ e ∈ w, e.2.length < 2147483648 ∧ FitsAll e.2) (rest : Bytes) :
    let es := w.map fun e => (name e.1, e.2)
    readAssignment ⟨writeAssignment ⟨1, es, none⟩ ++ rest, (writeAssignment ⟨1, es, none⟩).length⟩ =
      (.ok (1, es, []), ⟨rest, 0⟩) := by
  intro es
  apply assignment_bytes_roundtrip es (by simpa [es] using hn) _ rest
  intro e he
  obtain ⟨x, hx, rfl⟩ := List.mem_map.mp he
  exact ⟨hname x.1, (hv x hx).1, (hv x hx).2⟩

example : WFEntry ([116, 48], [0, 1, -5]) := by
  refine ⟨by decide, by decide, ?_⟩
  intro v hv
  simp at hv
  rcases hv with rfl | rfl | rfl <;> (unfold Fits; constructor <;> simp)
example : (readAssignment ⟨writeAssignment ⟨1, [([116, 48], [0, 7])], none⟩ ++ [9], 26⟩).2 = ⟨[9], 0⟩ ∧
    writeAssignment ⟨1, [([116, 48], [0, 7])], none⟩ =
      [0, 1, 0, 0, 0, 1, 0, 2, 116, 48, 0, 0, 0, 2, 0, 0, 0, 0, 0, 0, 0, 7, 255, 255, 255, 255] := by decide +kernel

end Bytes

/-! ## 8. The concurrent life cycle: N members, any number of rebalances, any interleaving

Model/GroupRound.lean: every member runs `joining → (leader: assigning) → syncing → running(generation, assignment)`
interleaved with the others and with a coordinator that completes join rounds, stores the leader's assignment per
generation and answers SyncGroup per (member id, generation id).  One member's control flow is C15's GroupRun LTS;
`round_steps_are_grouprun_steps` shows, on that LTS alone, that it takes the three steps a member takes here and that
its guard ties the SyncGroup to the ids of the JoinGroup answer (no map between the two state spaces is stated). -/
section Round
open KV.GroupRound KV.GroupGlue

/-- every running generation, in every reachable state, holds its own part of the one assignment that the leader of
ITS generation id computed from THAT generation's member list and the cluster's partitions of the subscribed topics -/
theorem generation_from_its_round (P : Params) (s : St) (h : Reachable P s) (m gid : Nat) (asg : TopicMap)
    (hp : s.pc m = .running gid asg) :
    ∃ r ∈ s.rounds, ∃ x, r.gid = gid ∧ (∃ y ∈ r.ms, y.id = m) ∧ findStored s gid = some x ∧
      x.asg = P.balance r.ms x.got ∧ ReadsTopics P.cluster (extractTopics r.ms) x.got ∧
      asg = received P.ρ x.asg m := by
  have inv := inv_reachable P s h
  obtain ⟨x, hx, ha, r, hr, hg, hm⟩ := inv.running m gid asg hp
  obtain ⟨hxs, hxg⟩ := findStored_some s gid x hx
  obtain ⟨r', hr', hg', _, hfrom⟩ := inv.stored x hxs
  have : r' = r := round_unique P s inv r' r hr' hr (by rw [hg', hxg, hg])
  subst this
  exact ⟨r', hr', x, hg, hm, hx, hfrom.1, hfrom.2, ha⟩

/-- C14 across the life cycle, for a balancer `b` that satisfies C14 on one call: in every reachable state all running
generations with generation id `gid` hold parts of one assignment `d`; if moreover the member ids of that generation are
distinct and the partition ids the leader read fit int32 (premises of the last conjunct; neither follows from
reachability), `d` covers the cluster's partitions of every subscribed topic exactly once among the members of generation
`gid`, evenly, and gives nothing to non-subscribers -/
theorem lifecycle_good (b : List Member → List Part → Asg) (cluster : List Part) (ρ : TopicMap → TopicMap)
    (hρ : ∀ l, (ρ l).Perm l)
    (hb : ∀ ms got, WellFormed ms → ∀ t, GoodAt ms got (b ms got) t ∧ ∀ id, OnlySubscribersAt ms (b ms got) t id)
    (hc : ∀ p ∈ cluster, InInt32 p.id)
    (s : St) (h : Reachable ⟨balanceOf b, cluster, ρ⟩ s) (gid : Nat) :
    (∀ m asg, s.pc m ≠ .running gid asg) ∨
    ∃ r ∈ s.rounds, r.gid = gid ∧ ∃ got, ReadsTopics cluster (extractTopics r.ms) got ∧
      let d := delivered ρ (b r.ms got) (r.ms.map (·.id)) (extractTopics r.ms)
      (∀ m asg, s.pc m = .running gid asg → (∃ y ∈ r.ms, y.id = m) ∧ ∀ t, (mapGet t asg).getD [] = d t m) ∧
      (WellFormed r.ms → (∀ p ∈ got, InInt32 p.id) →
        ∀ t ∈ extractTopics r.ms, GoodAt r.ms cluster d t ∧ ∀ id, OnlySubscribersAt r.ms d t id) := by
  by_cases hex : ∃ m asg, s.pc m = .running gid asg
  · right
    obtain ⟨m0, asg0, hp0⟩ := hex
    obtain ⟨r, hr, x, hg, _, hx, hxa, hread, _⟩ := generation_from_its_round _ s h m0 gid asg0 hp0
    refine ⟨r, hr, hg, x.got, hread, ?_, ?_⟩
    · intro m asg hp
      obtain ⟨r', hr', x', hg', hm', hx', hxa', _, ha'⟩ := generation_from_its_round _ s h m gid asg hp
      have inv := inv_reachable _ s h
      have : r' = r := round_unique _ s inv r' r hr' hr (by rw [hg', hg])
      subst this
      rw [hx] at hx'; injection hx' with hx'; subst hx'
      refine ⟨hm', fun t => ?_⟩
      rw [ha', hxa]; rfl
    · intro hw hgot t ht
      have hd := glue_good ρ hρ r.ms x.got (b r.ms x.got) (r.ms.map (·.id)) (extractTopics r.ms)
        (extractTopics_nodup r.ms) hgot (fun y hy => List.mem_map.mpr ⟨y, hy, rfl⟩)
        (fun t => (hb r.ms x.got hw t).1) (fun t => (hb r.ms x.got hw t).2) t ht
      exact ⟨round_good ρ hρ r.ms cluster x.got hread _ _ _ t hd.1, hd.2⟩
  · left
    intro m asg hp
    exact hex ⟨m, asg, hp⟩

/-- C15's GroupRun LTS (consumergroup.go `run` goroutine) takes the member-local steps of the round model, in this order:
JoinGroup answered → leader reads partitions → SyncGroup answered, the last only with the member id and generation id of the
JoinGroup answer (the guard `mi == s.jm && gi == s.jg`), which is what lets the coordinator answer with the right
generation's assignment.  A statement about `KV.Group.step` alone: no relation between the two models' states is stated. -/
theorem round_steps_are_grouprun_steps (c : KV.Group.Cfg) (g : KV.Group.St) (m : String) (gid : Int) (leader : Bool)
    (hj : g.pc = .joining) :
    let g1 : KV.Group.St := { g with jm := m, jg := gid, pc := if leader then .assigning else .syncing }
    KV.Group.step c g (.joinOk g.member m gid leader) = some g1 ∧
    (leader = true → KV.Group.step c g1 (.partsRes none) = some { g1 with pc := .syncing }) ∧
    (∀ mi gi, KV.Group.step c { g1 with pc := .syncing } (.syncRes mi gi none) =
      if mi = m ∧ gi = gid then some { g1 with pc := .fetching } else none) := by
  refine ⟨by unfold KV.Group.step; simp [hj], fun hl => by unfold KV.Group.step; simp [hl], fun mi gi => ?_⟩
  unfold KV.Group.step
  by_cases h : mi = m ∧ gi = gid
  · simp [h]
  · simp only [h, if_false]
    have : ¬ (mi == m && gi == gid) = true := by simpa using h
    simp [this]

/-- trace acceptance: a trace the executable acceptor `runB` replays from the initial state ends in a reachable state of
the life-cycle model, so `generation_from_its_round` / `lifecycle_good` hold of it.  The oracle replays the traces recorded
from real ConsumerGroups running against the coordinator simulation go/internal/groupmock/sim.go with a loop of its own
over `stepB` (Oracle/C14.lean `replayTrace`), so its acceptance rests on `stepB_sound`. -/
theorem accepted_trace_reachable (P : Params) (es : List Ev) (s : St) (h : runB P {} es 0 = .ok s) : Reachable P s :=
  runB_reachable P es {} s 0 Reachable.init h

end Round

/-! ## 9. The wire side of an assignment, end to end, over the REGENERATED legacy codec (Gen/Legacy.lean)

The leader's SyncGroup v0 request body is written by `syncGroupRequestV0.writeTo`, the member's answer is read by
`syncGroupResponseV0.readFrom`, the JoinGroup answer by `joinGroupResponse.readFrom`, a member's metadata by
`groupMetadata.readFrom` — all four re-extracted from syncgroup.go / joingroup.go on every run (C04's translator, with
generated `read_write` theorems).  `groupAssignment` (the per-member payload) is written by the hand model of §7
(Model/GroupWire.lean `writeAssignment`) and read by `KV.GroupWireRd.readAssignment`, the same reader written for the
parser monad of the regenerated codec.  The coordinator is specification: it parses the request body (`readSyncRequest`) and answers a member
with the bytes listed under its id. -/
section Wire
open KV.GroupWireRd KV.Gen.Legacy KV.Legacy

/-- the body of the leader's SyncGroup request for the assignments `A` (member id bytes ↦ entries of its topic map in
the order `range` yields them) -/
def syncRequestOf (grp : Bytes) (gen : Int) (leader : Bytes) (A : List (Bytes × List (Bytes × List Int))) : syncGroupRequestV0 :=
  ⟨grp, gen, leader, A.map fun a => ⟨a.1, KV.GroupWire.writeAssignment ⟨1, a.2, none⟩⟩⟩

/-- every member receives exactly what the leader computed for it, byte for byte: the coordinator finds under the
member's id the payload the leader wrote, the member's `syncGroupResponseV0.readFrom` returns that payload, and
`groupAssignment.readFrom` turns it back into the member's entries, in order, with nothing left over -/
theorem wire_delivery (grp : Bytes) (gen : Int) (leader : Bytes) (A : List (Bytes × List (Bytes × List Int)))
    (hg : grp.length < 2 ^ 15) (hgen : inRng 32 gen) (hl : leader.length < 2 ^ 15) (hn : A.length < 2 ^ 31)
    (hA : ∀ a ∈ A, a.1.length < 2 ^ 15 ∧ a.2.length < 2 ^ 31 ∧ (∀ e ∈ a.2, KV.GroupWireRd.WFEntry e) ∧
      (KV.GroupWire.writeAssignment ⟨1, a.2, none⟩).length < 2 ^ 31)
    (m : Bytes) (a : Bytes × List (Bytes × List Int)) (hfind : A.find? (fun x => x.1 == m) = some a) :
    ∃ t, readSyncRequest (syncGroupRequestV0.writeTo (syncRequestOf grp gen leader A)) = some (t, []) ∧
      ∃ x, t.GroupAssignments.find? (fun x => x.MemberID == m) = some x ∧
        ∃ resp, syncGroupResponseV0.readFrom syncGroupResponseV0.zero
            (syncGroupResponseV0.writeTo ⟨0, x.MemberAssignments⟩) = some (resp, []) ∧
          KV.GroupWireRd.readAssignment resp.MemberAssignments = some ((1, a.2, []), []) := by
  have ha := hA a (List.mem_of_find?_eq_some hfind)
  have hok : SyncReqOk (syncRequestOf grp gen leader A) := by
    refine ⟨hg, hgen, hl, by simpa [syncRequestOf] using hn, ?_⟩
    intro x hx
    simp only [syncRequestOf, List.mem_map] at hx
    obtain ⟨b, hb, rfl⟩ := hx
    exact ⟨(hA b hb).1, (hA b hb).2.2.2⟩
  have hreq := readSyncRequest_write (syncRequestOf grp gen leader A) hok []
  rw [List.append_nil] at hreq
  refine ⟨_, hreq, ⟨a.1, KV.GroupWire.writeAssignment ⟨1, a.2, none⟩⟩, ?_, ?_⟩
  · simp only [syncRequestOf, List.find?_map]
    have : ((fun x : syncGroupRequestGroupAssignmentV0 => x.MemberID == m) ∘
        fun a : Bytes × List (Bytes × List Int) => (⟨a.1, KV.GroupWire.writeAssignment ⟨1, a.2, none⟩⟩ : syncGroupRequestGroupAssignmentV0))
        = (fun x => x.1 == m) := rfl
    rw [this, hfind]; rfl
  · have hresp := syncGroupResponseV0.read_write ⟨0, KV.GroupWire.writeAssignment ⟨1, a.2, none⟩⟩
      ⟨by constructor <;> simp, ha.2.2.2⟩ []
    rw [List.append_nil] at hresp
    refine ⟨_, hresp, ?_⟩
    have := KV.GroupWireRd.readAssignment_write a.2 ha.2.1 ha.2.2.1 []
    rwa [List.append_nil] at this

/-- the other direction of the round: the leader reads back, from the JoinGroup answer, exactly the member ids and the
metadata (version, topic list in listing order, user data) every member wrote -/
theorem join_wire_delivery (t : joinGroupResponse) (R : List (Bytes × groupMetadata))
    (hM : t.Members = R.map fun r => ⟨r.1, groupMetadata.writeTo r.2⟩) (hok : joinGroupResponse.Ok t)
    (hmd : ∀ r ∈ R, groupMetadata.Ok r.2) :
    joinGroupResponse.readFrom (joinGroupResponse.zero t.v) (joinGroupResponse.writeTo t) = some (t, []) ∧
    t.Members.map (fun x => (x.MemberID, groupMetadata.readFrom groupMetadata.zero x.MemberMetadata)) =
      R.map (fun r => (r.1, some (r.2, []))) := by
  constructor
  · have := joinGroupResponse.read_write t hok []
    rwa [List.append_nil] at this
  · rw [hM, List.map_map]
    apply List.map_congr_left
    intro r hr
    have := groupMetadata.read_write r.2 (hmd r hr) []
    rw [List.append_nil] at this
    simp [this]

end Wire

end KV.C14
