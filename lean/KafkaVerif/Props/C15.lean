/-
Props/C15.lean — "A consumer group has one live generation at a time and ends it promptly".

All theorems quantify over every state reachable in the group-run LTS (`Model/GroupRun.lean`), i.e. over every
interleaving of coordinator answers (success / each error class / dropped connection), timer ticks, `Start`,
function returns, `Next` and `Close`; no bound on the length of the event sequence.  `Cfg.fixD9 = true` is the
repaired code (see `rebalance_close_counterexample` for the original).

Partial aspects
* `next_waits_partial`: only *accounted* functions are waited for.  The full statement

      ∀ reachable s, s.pc between generations → no function started through Start of an earlier generation is running

  is false of the model and of the code (`late_start_counterexample`, defect D8): a function `Start`-ed after the
  generation ended is launched but not accounted.
* "promptly", "at the configured interval", "after the configured back-off" are not wall-clock statements here:
  ticks and timer expiries are environment events; the harness observes the real periods with tolerance.
-/
import KafkaVerif.Model.GroupCallDeadlines
import KafkaVerif.Lemmas.GroupInv
import KafkaVerif.Lemmas.GroupGenInv
import KafkaVerif.Lemmas.GroupResp
import KafkaVerif.Lemmas.GroupReq
import KafkaVerif.Gen.GroupFacts

namespace KV.Group.C15
open KV.Group

/-- regenerated: `close()` waits on `joined` iff `r > 0`; the exit section of `Start` closes `joined` when `g.routines == 0` after
the decrement; `Start` has exactly one `g.routines++` and one `g.routines--`. -/
theorem accounting_matches_source :
    KV.Gen.Group.closeWaitTest = (">", "0") ∧ KV.Gen.Group.startLastRoutineTest = ("==", "0") ∧
    KV.Gen.Group.startRoutinesIncDec = (1, 1) := by decide +kernel

/-- `NewReader` feeds every group option of the ReaderConfig into the field of the same name of the ConsumerGroupConfig
(`ID ← GroupID`, `Topics ← getTopics()`), and all of them are fed (re-read from reader.go on every run). -/
theorem reader_options_pass_through :
    KV.Gen.Group.readerGroupOptions.all
      (fun p => p.1 == p.2 || p == ("ID", "GroupID") || p == ("Topics", "getTopics()")) = true ∧
    ["Brokers", "Dialer", "GroupBalancers", "HeartbeatInterval", "ID", "JoinGroupBackoff", "PartitionWatchInterval",
     "RebalanceTimeout", "RetentionTime", "SessionTimeout", "StartOffset", "Topics", "WatchPartitionChanges"].all
      (fun f => KV.Gen.Group.readerGroupOptions.any (fun p => p.1 == f)) = true := by decide +kernel

/-- regenerated: heartbeat and OffsetCommit requests are built from the generation's own ids (`g.ID`, `g.MemberID`,
`g.GroupID`), LeaveGroup from the group id — what `heartbeat_ids` / the commit monitors assume of the request builders -/
theorem requests_carry_generation_ids :
    KV.Gen.Group.heartbeatRequestFields = [("GenerationID", "ID"), ("GroupID", "GroupID"), ("MemberID", "MemberID")] ∧
    [("GenerationID", "ID"), ("GroupID", "GroupID"), ("MemberID", "MemberID"), ("RetentionTime", "retentionMillis")].all
      (fun p => KV.Gen.Group.commitRequestFields.contains p) = true ∧
    KV.Gen.Group.leaveRequestFields.contains ("GroupID", "ID") = true := by decide +kernel

/-- `joined` is closed exactly when the generation has ended, no accounted function is left and at least one was
accounted — in every reachable state. -/
theorem joined_iff (c : Cfg) (s : St) (h : Reachable c s) :
    s.cur.joined = true ↔ (s.cur.closed = true ∧ s.cur.routines = 0 ∧ 0 < s.cur.accounted) :=
  (genInv_reachable c s h).inv.joined_iff

/-- the accounting never loses a function: running accounted functions = accounted − exit sections executed -/
theorem routines_count (c : Cfg) (s : St) (h : Reachable c s) : s.cur.routines + s.cur.exited = s.cur.accounted :=
  (genInv_reachable c s h).inv.count

/-- the exit section of `Start`'s goroutine never closes `joined` twice (no panic) from a reachable state -/
theorem exit_never_panics (c : Cfg) (s : St) (h : Reachable c s) (hr : 0 < s.cur.routines) (hp : 0 < s.cur.returning) :
    (s.cur.fnExit).isSome = true :=
  Gen.fnExit_no_double_close _ (genInv_reachable c s h).inv hr hp

/-- While `run` is anywhere between two generations (looking up the coordinator, joining, syncing, fetching offsets,
leaving, delivering an error, backing off, exiting) the last generation is ended and every function it accounted has
run its exit section. -/
theorem next_waits_partial (c : Cfg) (s : St) (h : Reachable c s) (hq : s.pc.quiet = true) :
    s.cur.closed = true ∧ s.cur.routines = 0 ∧ s.cur.exited = s.cur.accounted := by
  have i := genInv_reachable c s h
  have q := i.between hq
  have := i.inv.count
  exact ⟨q.1, q.2, by omega⟩

/-- In particular generation n+1 is not even created — so `Next` cannot return it — before every accounted function
of generation n returned. -/
theorem next_generation_after_all_exits (c : Cfg) (s s' : St) (h : Reachable c s) (g : Nat) (gid : Int) (m : String)
    (hs : step c s (.gNew g gid m) = some s') :
    s.cur.closed = true ∧ s.cur.routines = 0 ∧ s.cur.exited = s.cur.accounted := by
  apply next_waits_partial c s h
  rw [gNew_pc hs]; rfl

/-- non-vacuity: a concrete run reaches a second generation after two accounted functions of the first exited -/
def twoGens : List Ev :=
  [.nextCall, .connectRes none, .findRes none, .connectRes none, .joinOk "" "m1" 1 false, .syncRes "m1" 1 none,
   .fetchRes none, .gNew 0 1 "m1", .gStart 0 true, .handed 0, .nextRet (.gen 0), .gStart 0 true,
   .hbCall 0 1 "m1", .hbRet 0 (some .rebalance), .hbExit 0, .fnExit 0 true 1, .sawGenDone 0, .gClose 0 true 1,
   .uCtx 0, .uRet 0 true, .fnExit 0 false 0, .gClosed 0, .nextGenRet "m1" none,
   .connectRes none, .findRes none, .connectRes none, .joinOk "m1" "m1" 2 false, .syncRes "m1" 2 none,
   .fetchRes none, .gNew 1 2 "m1"]

example : (run ⟨0, true⟩ {} twoGens).map (fun s => (s.gens, s.cur.gid)) = some (2, 2) := by decide +kernel

/-- D8: the same run, then a function is `Start`-ed in generation 0 (already ended): it is launched unaccounted,
and `Next` hands out generation 1 while it is still running (`oldLate = 1`). -/
def lateStart : List Ev := twoGens ++ [.gStart 1 true, .gStart 0 false, .nextCall, .handed 1, .nextRet (.gen 1)]

theorem late_start_counterexample :
    (run ⟨0, true⟩ {} lateStart).map (fun s => (s.pc, s.oldLate, s.inbox)) = some (.running, 1, none) := by decide +kernel

/-- any started (accounted) function returns ⇒ its exit section ends the generation: it cancels the context (`closed`, i.e.
`done` closed) -/
theorem ctx_cancelled_on_function_return (c : Cfg) (s s' : St) (g : Nat) (cbm : Bool) (l : Nat)
    (h : step c s (.fnExit g cbm l) = some s') : s'.cur.closed = true := by
  obtain ⟨-, cg, hf, rfl⟩ := onCur_iff.mp h
  exact Gen.fnExit_closed _ _ (gFnExit_some.mp hf).2

/-- heartbeat failure (any error: rebalance signal, illegal generation, dropped connection): the heartbeat function
stops heartbeating and can only return, which queues its exit section -/
theorem ctx_cancelled_on_heartbeat_failure (c : Cfg) (s s1 : St) (g : Nat) (e : Err)
    (h : step c s (.hbRet g (some e)) = some s1) :
    s1.cur.hb = some .failed ∧
    (∀ gid m, step c s1 (.hbCall g gid m) = none) ∧
    (∀ s2, step c s1 (.hbExit g) = some s2 → s2.cur.returning = s1.cur.returning + 1) := by
  obtain ⟨-, cg, hf, rfl⟩ := onCur_iff.mp h
  obtain ⟨-, rfl⟩ := gHbRet_some.mp hf
  refine ⟨rfl, fun gid m => ?_, fun s2 h2 => ?_⟩
  · cases hs : step c _ (.hbCall g gid m) with
    | none => rfl
    | some s2 =>
      obtain ⟨-, cg, hf, -⟩ := onCur_iff.mp hs
      cases (gHbCall_some.mp hf).1.1
  · obtain ⟨-, cg, hf, rfl⟩ := onCur_iff.mp h2
    obtain ⟨-, rfl⟩ := gHbExit_some.mp hf
    rfl

/-- partition-count change (a poll of the watcher answers with another count than the first one): the watcher can only
return -/
theorem ctx_cancelled_on_partition_change (c : Cfg) (s s1 : St) (g t n n0 : Nat) (a : Bool)
    (hw : s.cur.watchers[t]? = some (.calling n0, a)) (hn : n ≠ n0)
    (h : step c s (.watchParts g t n) = some s1) :
    (s1.cur.watchers[t]?).map (·.1) = some .failed := by
  obtain ⟨-, cg, hf, rfl⟩ := onCur_iff.mp h
  have hlt : t < s.cur.watchers.length := (List.getElem?_eq_some_iff.mp hw).1
  simp [gWatchParts, hw, hn] at hf
  simp [← hf, setW, hlt]

/-- the topic vanished (UnknownTopicOrPartition on a poll, first count ≠ 0): the watcher can only return -/
theorem ctx_cancelled_on_topic_vanished (c : Cfg) (s s1 : St) (g t n0 : Nat) (a : Bool)
    (hw : s.cur.watchers[t]? = some (.calling n0, a)) (hn : n0 ≠ 0)
    (h : step c s (.watchErr g t .unknownTopic) = some s1) :
    (s1.cur.watchers[t]?).map (·.1) = some .failed := by
  obtain ⟨-, cg, hf, rfl⟩ := onCur_iff.mp h
  have hlt : t < s.cur.watchers.length := (List.getElem?_eq_some_iff.mp hw).1
  simp [gWatchErr, hw, hn] at hf
  simp [← hf, setW, hlt]

/-- Close: once `run` has seen `cg.done` its next step on the generation is `close()`, which cancels the context -/
theorem ctx_cancelled_on_close (c : Cfg) (s s1 s2 : St) (g : Nat) (r : Bool) (was : Bool) (n : Nat)
    (h1 : step c s (.sawClose g r) = some s1) (h2 : step c s1 (.gClose g was n) = some s2) :
    s1.pc = .closing (some .closed) ∧ s2.cur.closed = true := by
  cases step_move rfl h1 <;> cases step_move rfl h2 <;> exact ⟨rfl, rfl⟩

/-- `close()` only returns (step `gClosed`) when every accounted function has run its exit section -/
theorem close_returns_after_all_exits (c : Cfg) (s s' : St) (h : Reachable c s) (g : Nat)
    (hs : step c s (.gClosed g) = some s') : s'.cur.closed = true ∧ s'.cur.routines = 0 := by
  apply (genInv_reachable c s' (.step _ h hs)).between
  cases step_move rfl hs; rfl

/-- (repaired code) When `run` has exited, either it holds no member id, or its last action was `leaveGroup(member)`
for the member id it holds, and that call sent the LeaveGroup request for this id unless the coordinator lookup
for it failed. -/
theorem leave_on_close (s : St) (nw : Nat) (h : Reachable ⟨nw, true⟩ s) (hx : s.pc = .exited ∨ s.pc = .exiting) :
    s.member = "" ∨ (s.exitWith = some (s.member, true) ∧ (s.member ∈ s.left ∨ s.leaveFail = true)) := by
  have i := inv2_reachable _ s h
  have hg : s.pc.gone = true := by rcases hx with hx | hx <;> rw [hx] <;> rfl
  obtain ⟨b, hb⟩ := i.gone hg
  have e := i.ex _ _ hb
  rcases e.2.1 rfl with hb1 | hm
  · subst hb1
    rcases e.2.2 rfl with h0 | h1
    · exact .inl h0
    · exact .inr ⟨hb, h1⟩
  · exact .inl hm

/-- the LeaveGroup request carries the member id `run` holds -/
theorem leave_request_carries_member (c : Cfg) (s s' : St) (mi : String) (ok : Bool)
    (h : step c s (.leaveRes mi ok) = some s') : mi = s.member := by
  cases step_move rfl h; rfl

/-- non-vacuity: Close while a generation is live leaves with the member id -/
example : (run ⟨0, true⟩ {} (C15.twoGens ++ [.closeCall, .gStart 1 true, .sawClose 1 false, .gClose 1 false 1, .hbExit 1,
    .fnExit 1 false 0, .gClosed 1, .nextGenRet "m1" (some .closed), .leave "m1", .connectRes none, .findRes none,
    .connectRes none, .leaveRes "m1" true, .runExit, .closeRet])).map (fun s => (s.pc, s.left, s.exitWith))
    = some (.exited, ["m1"], some ("m1", true)) := by decide +kernel

/-- D9 (original code, `fixD9 = false`): the group is closed while a RebalanceInProgress error waits for `Next`:
`run` exits holding member id "m1" and no LeaveGroup was sent. -/
def rebalanceClose : List Ev :=
  [.connectRes none, .findRes none, .connectRes none, .joinOk "" "m1" 1 false, .syncRes "m1" 1 (some .rebalance),
   .nextGenRet "m1" (some .rebalance), .closeCall, .errDeliver .rebalance false, .runExit, .closeRet]

theorem rebalance_close_counterexample :
    (run ⟨0, false⟩ {} rebalanceClose).map (fun s => (s.pc, s.member, s.left, s.exitWith))
      = some (.exited, "m1", [], some ("m1", false)) := by decide +kernel

/-- the same history on the repaired code is not a run (it must call leaveGroup first) … -/
example : run ⟨0, true⟩ {} rebalanceClose = none := by decide +kernel

/-- a failed attempt (any error other than ErrGroupClosed / RebalanceInProgress) creates the back-off obligation … -/
theorem failed_join_sets_backoff (c : Cfg) (s s' : St) (m : String) (e : Err)
    (he : e ≠ .closed ∧ e ≠ .rebalance) (h : step c s (.nextGenRet m (some e)) = some s') :
    s'.needBackoff = true := by
  cases step_move rfl h with
  | retClosed _ => exact absurd rfl he.1
  | retRebalance _ => exact absurd rfl he.2
  | retErr _ => rfl

/-- … and `run` is never back at the top of its loop (about to look up the coordinator and join again) while the
obligation is pending: only the back-off timer discharges it. -/
theorem backoff_after_failed_join (c : Cfg) (s : St) (h : Reachable c s) (k : Nat) (hp : s.pc = .coord k none) :
    s.needBackoff = false := by
  exact (inv2_reachable c s h).needBackoff_false (by rw [hp]; rfl)

/-- same while a coordinator request of the join attempt is outstanding (it holds at every pc outside `PC.nb`:
`Inv2.needBackoff_false`) -/
theorem no_join_while_backoff_pending (c : Cfg) (s : St) (h : Reachable c s)
    (hp : s.pc = .joining ∨ s.pc = .syncing ∨ s.pc = .fetching) : s.needBackoff = false := by
  exact (inv2_reachable c s h).needBackoff_false (by rcases hp with hp | hp | hp <;> rw [hp] <;> rfl)

/-- non-vacuity: a failed join is followed by leave(""), error delivery, back-off begin/end, and only then the next attempt -/
example : (run ⟨0, true⟩ {} [.nextCall, .connectRes none, .findRes none, .connectRes none, .joinErr "" .kafka,
    .nextGenRet "" (some .kafka), .leave "", .errDeliver .kafka true, .backoff 0]).map (fun s => (s.pc, s.needBackoff))
    = some (.backoffP true, true) := by decide +kernel

/-- whenever the heartbeat function of the current generation is waiting in its select, a tick is enabled and produces
a heartbeat request with this generation's id and member id … -/
theorem heartbeat_every_tick (c : Cfg) (s : St) (g : Nat) (hc : isCur s g = true) (hi : s.cur.hb = some .idle) :
    ∃ s', step c s (.hbCall g s.cur.gid s.cur.member) = some s' ∧ s'.cur.hb = some .calling :=
  ⟨_, onCur_iff.mpr ⟨hc, _, gHbCall_some.mpr ⟨⟨hi, rfl, rfl⟩, rfl⟩, rfl⟩, rfl⟩

/-- … and no heartbeat request with other ids is ever sent -/
theorem heartbeat_ids (c : Cfg) (s s' : St) (g : Nat) (gid : Int) (m : String)
    (h : step c s (.hbCall g gid m) = some s') : gid = s.cur.gid ∧ m = s.cur.member ∧ s.cur.hb = some .idle := by
  obtain ⟨-, cg, hf, -⟩ := onCur_iff.mp h
  obtain ⟨⟨hi, hg, hm⟩, -⟩ := gHbCall_some.mp hf
  exact ⟨hg, hm, hi⟩

/-- a successful heartbeat puts the function back into its select (so the next tick heartbeats again) -/
theorem heartbeat_continues (c : Cfg) (s s' : St) (g : Nat) (h : step c s (.hbRet g none) = some s') :
    s'.cur.hb = some .idle := by
  obtain ⟨-, cg, hf, rfl⟩ := onCur_iff.mp h
  obtain ⟨-, rfl⟩ := gHbRet_some.mp hf
  rfl

/-- The generation lives — and heartbeats — from its creation, not from the moment `Next` picks it up: in every reachable
state in which `run` waits to hand the generation over (or later in its life) the heartbeat function has been started. -/
theorem heartbeat_from_creation (c : Cfg) (s : St) (h : Reachable c s)
    (hp : s.pc = .handing ∨ s.pc = .running) : s.cur.hb.isSome = true := by
  apply (genInv_reachable c s h).hb
  rcases hp with hp | hp <;> rw [hp] <;> rfl

/-- "for as long as the generation lives": while the generation is handed over or running, has not ended
(`closed = false`) and no exit section is pending, its heartbeat function is inside its loop — waiting for the next tick,
inside a heartbeat call, or holding a failure it is about to return with (which then ends the generation). -/
theorem heartbeat_alive_while_generation_lives (c : Cfg) (s : St) (h : Reachable c s)
    (hp : s.pc = .handing ∨ s.pc = .running) (hc : s.cur.closed = false) (hr : s.cur.returning = 0) :
    s.cur.hb = some .idle ∨ s.cur.hb = some .calling ∨ s.cur.hb = some .failed := by
  have h3 := heartbeat_from_creation c s h hp
  have h4 := (genInv_reachable c s h).done
  cases hh : s.cur.hb with
  | none => rw [hh] at h3; cases h3
  | some p =>
    cases p with
    | idle => exact .inl rfl
    | calling => exact .inr (.inl rfl)
    | failed => exact .inr (.inr rfl)
    | done =>
      rcases h4 hh with h5 | h5
      · rw [hc] at h5; cases h5
      · omega

/-- the hand-over step itself is only possible with a started heartbeat function -/
theorem handed_has_heartbeat (c : Cfg) (s s' : St) (h : Reachable c s) (g : Nat)
    (hs : step c s (.handed g) = some s') : s.cur.hb.isSome = true := by
  apply heartbeat_from_creation c s h
  cases step_move rfl hs; exact .inl ‹_›

/-- With WatchPartitionChanges (`nWatch` = number of configured topics) a generation that waits for hand-over or runs has
exactly one watcher per configured topic — also for topics of which this member was assigned nothing (their partition
count changing must end the generation too: `ctx_cancelled_on_partition_change` applies to each of them). -/
theorem watchers_for_all_topics (c : Cfg) (s : St) (h : Reachable c s) (hp : s.pc = .handing ∨ s.pc = .running) :
    s.cur.watchers.length = c.nWatch := by
  have i := (genInv_reachable c s h).watchers
  rcases hp with hp | hp <;> rw [hp] at i <;> exact i

/-- regenerated: the watchers are started by ranging over the configured topics (`cg.config.Topics`), not over the
assignment -/
theorem watchers_match_source : KV.Gen.Group.watcherRange = "Topics" := by decide +kernel

/-- regenerated: the address of the second `connect` in `coordinator()` is `net.JoinHostPort` of the answer's
`Coordinator.Host` and `Coordinator.Port` (in this order) -/
theorem coordinator_dial_matches_source : KV.Gen.Group.coordinatorDial = ["JoinHostPort", "Host", "Port"] := by decide +kernel

/-- the dialled address names the coordinator's host and port (plain host names / IPv4; the driver compares
`coordinatorAddress` with what the library dials, IPv6 literals included) -/
theorem coordinator_address_plain (host : String) (port : Int) (h : host.contains ':' = false) :
    coordinatorAddress host port = host ++ ":" ++ toString port := by
  simp [coordinatorAddress, h]

/-- regenerated: every `if config.<F> == 0 { config.<F> = … }` of `ConsumerGroupConfig.Validate`, resolved through the
`default…` constants, gives the documented default of that field (3 s heartbeats, 30 s session and rebalance time-outs,
5 s join back-off and watch interval, retention -1, FirstOffset, [range, roundrobin], 5 s time-out) — whatever the order
of the statements -/
theorem defaults_match_documentation :
    documentedGroupDefaults.all (fun kv => KV.Gen.Group.validateDefaults.lookup kv.1 == some kv.2) = true := by decide +kernel

/-- After a successful JoinGroup (`jm` = the member id of the answer) every failure before the generation exists — the
leader's metadata read (`partsRes`), SyncGroup, OffsetFetch — makes `nextGeneration` return THAT member id with the error:
`run` then rejoins with it (rebalance) or sends LeaveGroup for it (any other error) — it is never forgotten while the
coordinator still holds it. -/
theorem failure_after_join_keeps_member (c : Cfg) (s s1 s2 : St) (ev : Ev) (m : String) (e : Option Err)
    (hev : (∃ er, er ≠ Err.unknownTopic ∧ ev = .partsRes (some er)) ∨ (∃ mi gi er, ev = .syncRes mi gi (some er)) ∨
           (∃ er, ev = .fetchRes (some er)))
    (h1 : step c s ev = some s1) (h2 : step c s1 (.nextGenRet m e) = some s2) :
    m = s.jm ∧ s2.member = s.jm := by
  have hpc : ∃ er, s1.pc = .retp s.jm (some er) := by
    rcases hev with ⟨er, hne, rfl⟩ | ⟨mi, gi, er, rfl⟩ | ⟨er, rfl⟩ <;> cases step_move rfl h1
    · rename_i h; rcases h with h | h <;> cases h; exact absurd rfl hne
    all_goals exact ⟨_, rfl⟩
  obtain ⟨er, hpc⟩ := hpc
  have hm : m = s.jm ∧ s2.member = m := by
    cases step_move rfl h2 <;> rename_i hr <;> rcases returnsNow_cases hr with h | ⟨h | h, _⟩ <;> rw [hpc] at h <;>
      cases h <;> exact ⟨rfl, rfl⟩
  exact ⟨hm.1, hm.2.trans hm.1⟩

/-- every coordinator call has a deadline of at least `Timeout`; only JoinGroup (+ RebalanceTimeout) and SyncGroup
(+ SessionTimeout) wait longer — in particular a heartbeat that gets no answer fails after exactly `Timeout`, which ends
the generation (`ctx_cancelled_on_heartbeat_failure`) -/
theorem deadline_bounds (t : Timeouts) (c : CoordCall) :
    t.timeout ≤ callDeadline t c ∧ callDeadline t .heartbeat = t.timeout ∧
    (c ≠ .joinGroup → c ≠ .syncGroup → callDeadline t c = t.timeout) := by
  refine ⟨?_, rfl, ?_⟩
  · cases c <;> simp [callDeadline]
  · intro h1 h2; cases c <;> simp_all [callDeadline]

/-- an answer the coordinator may legitimately take its time for is not given up early: JoinGroup held for less than the
rebalance time-out, SyncGroup held for less than the session time-out are accepted whatever `Timeout` is -/
theorem slow_join_and_sync_are_waited_for (t : Timeouts) (held : Nat) :
    (held ≤ t.rebalance → 0 < t.timeout → answered t .joinGroup held = true) ∧
    (held ≤ t.session → 0 < t.timeout → answered t .syncGroup held = true) := by
  constructor
  · intro h h0
    show decide (held < t.timeout + t.rebalance) = true
    exact decide_eq_true (by omega)
  · intro h h0
    show decide (held < t.timeout + t.session) = true
    exact decide_eq_true (by omega)

/-- regenerated: the deadline every `timeoutCoordinator` method sets (`time.Now().Add(…)`, terms by field name) is the
model's, and `makeConnect` feeds Timeout / RebalanceTimeout / SessionTimeout into the fields of the same name -/
theorem deadlines_match_source :
    CoordCall.all.all (fun c => KV.Gen.Group.coordinatorDeadlines.lookup c.name == some (deadlineTerms c)) = true ∧
    KV.Gen.Group.connectTimeouts = connectFields := by decide +kernel

/-! ### a generation only after a successful OffsetFetch (hypothesis of C03 `start_at_committed`) -/

/-- a failed OffsetFetch — any error class — makes `nextGeneration` return the error: no generation can be created next -/
theorem failed_fetch_never_yields_generation (c : Cfg) (s s' : St) (e : Err)
    (h : step c s (.fetchRes (some e)) = some s') :
    (∃ m, s'.pc = .retp m (some e)) ∧ ∀ g gid m, step c s' (.gNew g gid m) = none := by
  cases step_move rfl h
  refine ⟨⟨_, rfl⟩, fun g gid m => ?_⟩
  cases hs : step c _ (.gNew g gid m) with
  | none => rfl
  | some s2 => cases gNew_pc hs

/-- a generation is only created from the state reached by a successful OffsetFetch -/
theorem generation_only_after_fetch_ok (c : Cfg) (s s' : St) (g : Nat) (gid : Int) (m : String)
    (h : step c s (.gNew g gid m) = some s') : s.pc = .created :=
  gNew_pc h

/-! ### the coordinator's answers as the run loop sees them: error codes ON THE WIRE

The environment events of the group-run LTS carry the error class of each coordinator answer.  For the byte-level path these
theorems say what class the real `Conn` derives from the response bytes: the regenerated model of the `Conn`
operations (`ConnOps.opRead` over the parser programs re-extracted from findcoordinator.go / joingroup.go / syncgroup.go /
heartbeat.go / leavegroup.go) run on the Kafka layouts (`Lemmas/GroupResp.lean`; ranges: strings < 32 KiB, counts < 2³¹). -/
section WireAnswers
open KV.GroupResp KV.ConnOps KV.GroupWire

/-- FindCoordinator v0, JoinGroup v1, SyncGroup v0: the call fails with exactly the response's error code, succeeds iff it
is 0, and consumes the whole frame -/
theorem join_answers_on_the_wire (code gen node port : Int) (proto leader member host assign topic : Bytes)
    (ms : List (Bytes × Bytes)) (h1 : Fits 2 code) (h2 : Fits 4 gen) (h3 : proto.length < 32768)
    (h4 : leader.length < 32768) (h5 : member.length < 32768) (h6 : ms.length < 2147483648) (h7 : ∀ m ∈ ms, MemberOK m)
    (h8 : Fits 4 node) (h9 : host.length < 32768) (h10 : Fits 4 port) (h11 : assign.length < 2147483648) :
    opRead (simpleOp "findCoordinator" KV.Gen.ConnLegacy.findCoordinatorResponseV0) 0 topic
        ⟨encFind code node host port, (encFind code node host port).length⟩ = (concl code, ⟨[], 0⟩) ∧
    opRead (simpleOp "joinGroup" KV.Gen.ConnLegacy.joinGroupResponse) 1 topic
        ⟨encJoin code gen proto leader member ms, (encJoin code gen proto leader member ms).length⟩ = (concl code, ⟨[], 0⟩) ∧
    opRead (simpleOp "syncGroup" KV.Gen.ConnLegacy.syncGroupResponseV0) 0 topic
        ⟨encSync code assign, (encSync code assign).length⟩ = (concl code, ⟨[], 0⟩) :=
  ⟨findCoordinator_conclusion code node port host topic h1 h8 h9 h10,
   joinGroup_conclusion code gen proto leader member topic ms h1 h2 h3 h4 h5 h6 h7,
   syncGroup_conclusion code assign topic h1 h11⟩

/-- Heartbeat v0 (LeaveGroup v0 has the same one-field layout: `errOnly_conclusion` at `leaveGroupResponseV0`) -/
theorem heartbeat_answer_on_the_wire (code : Int) (hc : Fits 2 code) (topic : Bytes) :
    opRead (simpleOp "heartbeat" KV.Gen.ConnLegacy.heartbeatResponseV0) 0 topic ⟨KV.Wire.encInt 2 code, 2⟩ =
      ((if code = 0 then Outcome.ok else Outcome.kafka code), ⟨[], 0⟩) :=
  errOnly_conclusion "heartbeat" _ rfl code hc topic

/-- The requests as the coordinator receives them: the writers of the legacy Conn (re-extracted from leavegroup.go,
heartbeat.go, joingroup.go, syncgroup.go, findcoordinator.go on every run: `Gen/Legacy.lean`) emit the Kafka layouts with
every field in its place BY NAME — in particular LeaveGroup carries `group_id` then `member_id` ("closing the group sends
LeaveGroup for the current member id" reaches the broker as such), Heartbeat `group_id generation_id member_id`. -/
theorem group_requests_on_the_wire :
    (∀ t, KV.Gen.Legacy.leaveGroupRequestV0.writeTo t = KV.Spec.GroupWire.Req.leaveGroup t.GroupID t.MemberID) ∧
    (∀ t, KV.Gen.Legacy.heartbeatRequestV0.writeTo t = KV.Spec.GroupWire.Req.heartbeat t.GroupID t.GenerationID t.MemberID) ∧
    (∀ t, KV.Gen.Legacy.findCoordinatorRequestV0.writeTo t = KV.Spec.GroupWire.Req.findCoordinator t.CoordinatorKey) ∧
    (∀ t, KV.Gen.Legacy.joinGroupRequest.writeTo t =
      KV.Spec.GroupWire.Req.joinGroup t.GroupID t.SessionTimeout t.RebalanceTimeout t.MemberID t.ProtocolType
        (t.GroupProtocols.map fun p => (p.ProtocolName, p.ProtocolMetadata))) ∧
    (∀ t, KV.Gen.Legacy.syncGroupRequestV0.writeTo t =
      KV.Spec.GroupWire.Req.syncGroup t.GroupID t.GenerationID t.MemberID
        (t.GroupAssignments.map fun a => (a.MemberID, a.MemberAssignments))) :=
  ⟨KV.GroupReq.leave_layout, KV.GroupReq.heartbeat_layout, KV.GroupReq.findCoordinator_layout, KV.GroupReq.join_layout,
   KV.GroupReq.sync_layout⟩

end WireAnswers

end KV.Group.C15
