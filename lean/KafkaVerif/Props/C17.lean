/-
Props/C17.lean — "A response cut off at any byte yields an error, never a panic, hang or fake data".

The stream model of Base/Reader.lean makes a lost connection explicit: `inp` is everything that will ever arrive, then
EOF.  A response frame announces `sz` bytes; the connection is lost inside it iff `inp.length < sz` (cut inside the
body) or fewer than 8 bytes arrive (cut inside the size prefix / correlation id).

  * `cut_is_error_generic` — the one-line heart: any byte-conserving computation that ends with the frame counter at 0
    has consumed `sz` bytes, so it cannot end that way on a stream holding fewer.  Generic over ALL parser programs
    (`parser_conserves`), hence over whatever the translator regenerates from /repo.
Records delivered before the error of a cut fetch are the message-set reader's business (message_reader.go: property
C02/C05 models); the driver checks on the real code that they are a prefix of the records sent.
Not proved: "blocks beyond its deadline" (runtime; observed by the driver's watchdog); panics of message_reader.go outside
what the C02 token machine models (the driver counts panics on cut fetch responses).
-/
import KafkaVerif.Props.C11
import KafkaVerif.Lemmas.TransportConnC17
import KafkaVerif.Props.C02
import KafkaVerif.Props.C01
import KafkaVerif.Model.SplitMerge
import KafkaVerif.Lemmas.CodecAcct
import KafkaVerif.Gen.DecoderCfg

namespace KV.C17
open KV KV.Reader KV.ConnOps

theorem cut_is_error_generic {s s' : RS} (h : Adv s s') (hcut : s.inp.length < s.sz) : s'.sz ≠ 0 := by
  intro hz
  have := (h.consumed_all hz).1
  omega

/-- every parser program, on a cut stream, ends with part of the frame still announced -/
theorem parser_cut (ps : List Step) (c : Ctx) (s : RS) (hcut : s.inp.length < s.sz) : (runSteps ps c s).2.sz ≠ 0 :=
  cut_is_error_generic (runSteps_adv ps c s) hcut

theorem exchange_cut_is_error (o : OpSpec) (v : Nat) (topic : Bytes) (s : RS) (hgood : o.good v = true)
    (hcut : s.inp.length < s.sz) : (opRead o v topic s).1.isFail = true :=
  (C11.good_framed o v topic hgood).cut hcut

/-- C17 for (*Conn).do operations, cut inside the body (any position): the header announced `n` bytes,
fewer arrive.  The call returns a non-kafka error and the Conn is closed. -/
theorem cut_is_error (o : OpSpec) (v : Nat) (topic : Bytes) (c : Conn) (hdr tail : Bytes) (n : Nat)
    (hgood : o.good v = true) (hclose : o.closeOnErr = true) (hopen : c.closed = false)
    (hstream : c.stream = hdr ++ tail) (hlen : hdr.length = 8)
    (hsize : beInt (hdr.take 4) = n + 4) (hid : beInt (hdr.drop 4) = c.nextId)
    (hcut : tail.length < n) :
    (connDo o v topic c).1.isFail = true ∧ (connDo o v topic c).2.closed = true := by
  rw [connDo_eq_exchange, hclose]
  exact exchange_cut (C11.good_framed o v topic hgood) c n tail hopen (wait_hdr c hdr tail n hstream hlen hsize hid) hcut

/-- cut inside the size prefix or the correlation id (fewer than 8 bytes arrive), and equally a stream that is
already used up: the call fails and the Conn is closed -/
theorem cut_in_header_is_error (o : OpSpec) (v : Nat) (topic : Bytes) (c : Conn) (hopen : c.closed = false)
    (hshort : c.stream.length < 8) :
    (connDo o v topic c).1.isFail = true ∧ (connDo o v topic c).2.closed = true := by
  rw [connDo_eq_exchange, exchange_wait_error _ _ c .eof hopen (by simp only [waitResponse, hshort, ↓reduceIte])]
  exact ⟨rfl, rfl⟩

theorem dead_stream_fails (o : OpSpec) (v : Nat) (topic : Bytes) (c : Conn) (hdead : c.stream = []) :
    (connDo o v topic c).1.isFail = true := by
  cases hc : c.closed with
  | true => exact (C11.closed_stays_failed o v topic c hc).1
  | false => exact (cut_in_header_is_error o v topic c hc (by rw [hdead]; decide)).1

/-! ### a cut anywhere in a run of operations

`C11.sequence_aligned` gives the operations before the cut (each as alone on a fresh connection); the operation whose
response is cut fails and closes the Conn; every later one fails.  For every number of operations, every position of
the cut inside (or at the start of) a response, every byte content. -/

theorem cut_in_sequence (topic : Bytes) (pre : List C11.Exch) (e : C11.Exch) (post : List C11.Exch) (c : Conn) (k : Nat)
    (hopen : c.closed = false) (hwf : C11.seqWF (pre ++ [e]) c.nextId)
    (hpre : (C11.expectedOuts topic pre).all (fun o => !o.isFail) = true)
    (hk : k < 8 + e.body.length)
    (hs : c.stream = C11.streamOf pre ++ (e.hdr ++ e.body).take k) :
    ∃ out, out.isFail = true ∧
      (C11.runOps topic (pre ++ e :: post) c).1 =
        C11.expectedOuts topic pre ++ out :: post.map (fun _ => C11.closedOutcome) ∧
      (C11.runOps topic (pre ++ e :: post) c).2.closed = true := by
  obtain ⟨hwp, hwe⟩ := (C11.seqWF_append pre [e] c.nextId).1 hwf
  obtain ⟨⟨hlen, hsize, hid, hgood, hclose⟩, _⟩ := hwe
  obtain ⟨ho, hc⟩ := C11.sequence_aligned topic pre c _ hopen hwp hs
  have hc1 := hc hpre
  -- the Conn after the complete exchanges: open, positioned at the cut response
  have hcut : (connDo e.o e.v topic (C11.runOps topic pre c).2).1.isFail = true ∧
      (connDo e.o e.v topic (C11.runOps topic pre c).2).2.closed = true := by
    rw [hc1]
    by_cases h8 : k < 8
    · exact cut_in_header_is_error e.o e.v topic _ rfl (by simp only [List.length_take, List.length_append]; omega)
    · have hsplit : (e.hdr ++ e.body).take k = e.hdr ++ e.body.take (k - 8) := by
        rw [List.take_append, List.take_of_length_le (by omega), hlen]
      exact cut_is_error e.o e.v topic _ e.hdr (e.body.take (k - 8)) e.body.length hgood hclose rfl
        (by simp only [hsplit]) hlen hsize (by simpa using hid) (by simp only [List.length_take]; omega)
  refine ⟨(connDo e.o e.v topic (C11.runOps topic pre c).2).1, hcut.1, ?_, ?_⟩
  · rw [C11.runOps_append, ho]
    simp only [C11.runOps, C11.runOps_closed topic post _ hcut.2]
  · rw [C11.runOps_append]
    simp only [C11.runOps, C11.runOps_closed topic post _ hcut.2, hcut.2]

/-! ### a cut during the version negotiation (conn.go loadVersions) -/

open KV.ConnVersions in
/-- the response to the ApiVersions request of a negotiating exchange is cut (fewer bytes than announced after a complete
header): the exchange fails with a non-kafka error, nothing becomes the Conn's version map, the Conn is closed — and the
same for every later exchange, negotiating or not (`C11.closed_stays_failed`) -/
theorem negotiation_cut_is_error (strict : Bool) (av : OpSpec) (key : Int) (cands : List Nat)
    (run : Nat → Conn → Outcome × Conn) (topic : Bytes) (c : Conn) (hdr tail : Bytes) (n : Nat)
    (hgood : av.good 0 = true) (hclose : av.closeOnErr = true) (hopen : c.closed = false)
    (hstream : c.stream = hdr ++ tail) (hlen : hdr.length = 8)
    (hsize : beInt (hdr.take 4) = n + 4) (hid : beInt (hdr.drop 4) = c.nextId) (hcut : tail.length < n) :
    (vRun strict av key cands run topic ⟨c, none⟩).1.isFail = true ∧
    (vRun strict av key cands run topic ⟨c, none⟩).2.conn.closed = true ∧
    (vRun strict av key cands run topic ⟨c, none⟩).2.cache = none := by
  obtain ⟨hf, hc⟩ := cut_is_error av 0 topic c hdr tail n hgood hclose hopen hstream hlen hsize hid hcut
  cases hr : (connDo av 0 topic c).1 with
  | ok => rw [hr] at hf; cases hf
  | kafka k => rw [hr] at hf; cases hf
  | fail e => rw [C11.vRun_fail hr]; exact ⟨rfl, hc, rfl⟩

/-- fetch on a cut stream, for every conserving message-set reader and however far the caller read the batch before
Close: a non-kafka error, and the Conn is closed — the same statement as `cut_is_error`.  (It rests on `Batch.close`
minding the error of its final discard: otherwise a kafka error out of ReadMessage, or an early Close, ends
"successfully" on a Conn left in mid-response — `C11.batch_close_discard_counterexample`.) -/
theorem fetch_cut_is_error (v : Nat) (offset : Int) (b : Body) (c : Conn) (hdr tail : Bytes) (n : Nat)
    (hb : b.Conserves) (hopen : c.closed = false)
    (hstream : c.stream = hdr ++ tail) (hlen : hdr.length = 8)
    (hsize : beInt (hdr.take 4) = n + 4) (hid : beInt (hdr.drop 4) = c.nextId)
    (hcut : tail.length < n) :
    (connFetch true v offset b c).1.isFail = true ∧ (connFetch true v offset b c).2.closed = true := by
  rw [connFetch_eq_exchange]
  exact exchange_cut (fetchRead_framed v offset b hb) c n tail hopen (wait_hdr c hdr tail n hstream hlen hsize hid) hcut

/-! ### the reflective decoder (Transport path) under its contract -/

/-- protocol.ReadResponse as seen from the stream: it conserves bytes, and returns a message only after
`d.discardAll()` left `d.remain = 0` without a sticky error.  The state is the Conn-side `RS`: for the decoder model
of Model/Codec.lean, `⟨d.inp, d.remain⟩` (`codecDecoder`). -/
structure Decoder (α : Type) where
  run : RS → Option α × RS
  conserves : ∀ s, Adv s (run s).2
  ok_after_discardAll : ∀ s a, (run s).1 = some a → (run s).2.sz = 0

theorem readResponse_cut_is_error {α : Type} (d : Decoder α) (s : RS) (hcut : s.inp.length < s.sz) :
    (d.run s).1 = none := by
  cases h : (d.run s).1 with
  | none => rfl
  | some a => exact absurd (d.ok_after_discardAll s a h) (cut_is_error_generic (d.conserves s) hcut)

/-- the contract is satisfiable by a decoder that does return messages (non-vacuity) -/
example : ∃ d : Decoder Nat, (d.run ⟨[1, 2, 3], 2⟩).1 = some 2 :=
  ⟨{ run := fun s => if s.inp.length < s.sz then (none, ⟨[], s.sz - s.inp.length⟩) else (some s.sz, ⟨s.inp.drop s.sz, 0⟩),
     conserves := by
       intro s
       split
       · exact Adv.drain s (by omega)
       · exact Nat.sub_self s.sz ▸ Adv.drop s s.sz (Nat.le_refl _) (by omega),
     ok_after_discardAll := by
       intro s a h
       split at h
       · simp at h
       · rename_i hn; simp [hn] },
   by decide⟩

/-! ### concrete instances (non-vacuity): the D2 frame of Props/C11 cut at every position -/

/-- every strict prefix of the produce error frame, through the regenerated produce operation: failed and closed -/
theorem produce_frame_every_cut :
    (List.range (C11.d2Frame 1).length).all (fun k =>
      match specOf "produce" with
      | some o =>
        let r := connDo o 2 [116] ⟨(C11.d2Frame 1).take k, 1, false⟩
        r.1.isFail && r.2.closed
      | none => false) = true := by decide +kernel

/-! ### the un-framed sasl token exchange

Two reads that are each their own "frame" (4 bytes of length; then as many bytes as it says): there is no frame counter
running over both for `cut_is_error_generic` to speak of, so the cut theorem follows the two reads. -/

/-- the un-framed sasl token exchange on a complete answer — 4 bytes of length, the token, then anything: ok, and the
stream is exactly at what follows the token (the C11 side of this exchange: the framed operations that follow the
authentication start at a frame boundary) -/
theorem raw_token_aligned (len tok rest : Bytes) (hl : len.length = 4) (hv : beInt len = tok.length) :
    rawToken (len ++ (tok ++ rest)) = (.ok, rest) := by
  have hneg : ¬ ((tok.length : Int) < 0) := by omega
  unfold rawToken
  rw [readInt_app len _ 4 0 hl]
  simp only [hv, hneg, ↓reduceIte, Int.toNat_natCast]
  cases tok with
  | nil => rfl
  | cons b t =>
    have hpos : ¬ ((t.length : Int) + 1 ≤ 0) := by omega
    have hlen : ¬ (t.length + rest.length < t.length) := by omega
    simp [readNewBytes, hpos, hlen]

/-- the un-framed sasl token exchange: an answer announcing n bytes of which fewer arrive (or whose 4-byte length is
itself cut) is an error, at every cut position -/
theorem raw_token_cut_is_error (inp : Bytes) (h : inp.length < 4 ∨ (0 ≤ beInt (inp.take 4) ∧ (inp.length : Int) < 4 + beInt (inp.take 4))) :
    (rawToken inp).1.isFail = true := by
  unfold rawToken readInt peekRead
  by_cases h4 : inp.length < 4
  · simp [h4, Outcome.isFail]
  · obtain ⟨hpos, hlt⟩ := h.resolve_left h4
    -- the length is read; `io.ReadFull` then finds fewer bytes than it announces
    have hneg : ¬ beInt (inp.take 4) < 0 := by omega
    have hle : ¬ beInt (inp.take 4) ≤ 0 := by omega
    have hshort : inp.length - 4 < (beInt (inp.take 4)).toNat := by omega
    simp [h4, hneg, readNewBytes, hle, hshort, Outcome.isFail]

/-! ### Transport path: a failed connection is never used again, the next request runs on another one

Model/TransportConnC17.lean: the life cycle of transport.go's connections as an LTS whose events are the existing
`verifEvent("T.…")` hook points; tie = trace acceptance of the recorded events of every end-to-end case of the driver
(Client / Writer over a real kafka.Transport against the fake broker, response cut at byte k, then follow-up calls). -/

open KV.TransportConn in
/-- the fact the LTS is parameterised by, regenerated from transport.go `(*conn).run` -/
theorem transport_drops_failed : Gen.ConnLegacy.transportFacts.dropFailed = true := by decide +kernel

open KV.TransportConn in
/-- for ALL event sequences the LTS accepts (with the regenerated fact): after an exchange on c failed (T.Done c, not ok,
not ErrNoRecord) no later event grabs c, receives a request on it, completes an exchange on it, releases it to the idle
stack or removes it from there — c can only exit — and it is still dead at the end. -/
theorem failed_conn_never_reused (f : TFacts) (hf : f.dropFailed = true) (s0 s3 : State) (pre post : List TransportConn.Ev) (c : Nat)
    (h : run f s0 (pre ++ [TransportConn.Ev.done c false false] ++ post) = some s3) :
    (∀ e ∈ post, uses c e = false) ∧ dead s3 c := by
  rw [List.append_assoc, run_append] at h
  cases h1 : run f s0 pre with
  | none => simp [h1] at h
  | some s1 =>
    simp only [h1, Option.bind_some, List.singleton_append, run] at h
    cases h2 : step f s1 (TransportConn.Ev.done c false false) with
    | none => simp [h2] at h
    | some s2 =>
      simp only [h2] at h
      have := dead_run hf post (dead_of_failed_done h2) h
      exact ⟨this.2, this.1⟩

open KV.TransportConn in
/-- so the request after a cut runs on a different connection: whatever is grabbed, created or served later is not c -/
theorem resume_after_cut (f : TFacts) (hf : f.dropFailed = true) (s0 s3 : State) (pre post : List TransportConn.Ev) (c : Nat)
    (h : run f s0 (pre ++ [TransportConn.Ev.done c false false] ++ post) = some s3) :
    (∀ c', TransportConn.Ev.grab c' ∈ post → c' ≠ c) ∧ (∀ c' g, TransportConn.Ev.new c' g ∈ post → c' ≠ c) ∧ (∀ c', TransportConn.Ev.recv c' ∈ post → c' ≠ c) := by
  have hu := (failed_conn_never_reused f hf s0 s3 pre post c h).1
  refine ⟨fun c' hm hc => ?_, fun c' g hm hc => ?_, fun c' hm hc => ?_⟩ <;>
    · have := hu _ hm
      subst hc
      simp [uses] at this

open KV.TransportConn in
/-- a grabbed connection is one that sits on the idle stack (released after a completed exchange, or never used) -/
theorem grab_takes_idle (f : TFacts) (s s' : State) (c : Nat) (h : step f s (TransportConn.Ev.grab c) = some s') : get s c = some St.idle := by
  obtain ⟨st, hg, hf, _⟩ := move_spec h
  cases st <;> first | exact hg | exact absurd hf (by decide)

open KV.TransportConn in
/-- the LTS accepts the normal life of a connection (non-vacuity) and refuses releasing a
connection to the idle stack after a failed exchange — unless the regenerated fact says the code does exactly that,
in which case the reuse the theorem excludes becomes an accepted behaviour: grab and serve on a dead connection. -/
theorem transport_examples :
    (run ⟨true⟩ [] [.new 1 0, .recv 1, .done 1 true false, .release 1 true, .grab 1, .recv 1, .done 1 false false, .exit 1,
             .new 2 0, .recv 2, .done 2 true false, .release 2 true, .closeIdle 0, .exit 2]).isSome = true ∧
    run ⟨true⟩ [] [.new 1 0, .recv 1, .done 1 false false, .release 1 true] = none ∧
    run ⟨true⟩ [] [.new 1 0, .recv 1, .done 1 false true, .release 1 true, .grab 1] ≠ none ∧
    (run ⟨false⟩ [] [.new 1 0, .recv 1, .done 1 false false, .release 1 true, .exit 1, .grab 1]).isSome = false ∧
    (run ⟨false⟩ [] [.new 1 0, .recv 1, .done 1 false false, .release 1 true, .grab 1, .exit 1]).isSome = false ∧
    (run ⟨false⟩ [] [.new 1 0, .recv 1, .done 1 false false, .release 1 true, .grab 1]).isSome = true := by decide +kernel

/-! ### inside the message set: no cut makes the fetch path panic (as far as the C02 decoder model reaches)

`fetch_cut_is_error` above treats message_reader.go as "any byte-conserving reader".  The model of that
reader (Model/MessageSetReader.lean: readHeader / readMessageV2 / markRead / Batch.readMessage as a token machine,
`Variant.fixed` = the code after the D4/D14/D15 fixes) has `Outcome.desync` for "parses bytes of one kind as another /
`panic: markRead: negative count`".  A connection lost after k bytes of the message set presents the decoder with
exactly the token stream `truncate (allTokens items) k` of Spec/Layout.lean (complete tokens, then a token on which
the next `read*` fails — with io.EOF / io.ErrUnexpectedEOF instead of errShortRead, which changes only how the batch
*ends*, i.e. the part modelled by `fetchRead`, not which statements ran before).  Instantiating C02's
`single_fetch`: for every well-formed log layout (v2 batches plain or compressed, v0/v1 messages
and wrappers, compaction holes, retained empty batches, gaps; hypothesis `Safe`, which follows from the fetch contract),
every cut position k and every fetch offset, the decoder does not panic / desynchronise and hands out
exactly the completely received records at or after the fetch offset — a prefix of what was sent, never fabricated
data. -/

open KV.C02 in
theorem fetch_cut_no_panic (items : List Item) (nb : Int) (hnb : 0 ≤ nb) (hwf : LWF nb items)
    (o hwm : Int) (ho : 0 ≤ o) (hsafe : Safe o items) (hne : hwm ≠ o) (k : Nat) (expired : Bool) :
    (readAll .fixed expired o hwm (truncate (allTokens items) k)).2.2 ≠ .desync ∧
    (readAll .fixed expired o hwm (truncate (allTokens items) k)).1 = (contained items k).filter (fun r => o ≤ r.1) := by
  have h := readAll_layout expired items nb hnb hwf o hwm ho hsafe hne k
  exact ⟨h.2.1, h.1⟩

section ReaderResume
open KV.C02

/-! ### resume_after_cut for the Reader, composed with the C02 machines

The per-round facts come from C02 (`fetch_round_good` for complete responses, `fetch_round_gen` for a response lost after
k bytes — over `single_fetch`, the theorem `fetch_cut_no_panic` instantiates), the restart rule from ReaderLoop (`onAnswer … .cutAfter`,
`deliver`: Conn closed, restart at last delivered + 1; `lost_round_is_reader_loop` ties `roundStep` to it).  The theorem
is the invariant "delivered = log ∩ [start, position)" carried through ANY interleaving of complete and lost rounds. -/

/-- what happens to the fetch the Reader issues at its position: a complete response within a byte budget (the Conn
is kept, the next fetch is at the Conn's offset), or a response lost after `k` bytes of its message set (the records
received completely are delivered, the Conn is closed, the Reader dials again and restarts at last delivered + 1 —
ReaderLoop `onAnswer … (.cutAfter toks)`, `deliver`) -/
inductive Round where
  | complete (budget : Nat)
  | lost (k : Nat)

/-- (records delivered, next fetch position) of one round at position q -/
def roundStep (items : List Item) (hwm q : Int) : Round → List Rec × Int
  | .complete b => ((fetchOnce .fixed items hwm q b).1, (fetchOnce .fixed items hwm q b).2.1)
  | .lost k =>
    let d := (readAll .fixed false q hwm (truncate (allTokens (dropBefore q items)) k)).1
    (d, match d.getLast? with | some x => x.1 + 1 | none => q)

def resumeSeq (items : List Item) (hwm : Int) : Int → List Round → List Rec × Int
  | q, [] => ([], q)
  | q, r :: rs =>
    ((roundStep items hwm q r).1 ++ (resumeSeq items hwm (roundStep items hwm q r).2 rs).1,
     (resumeSeq items hwm (roundStep items hwm q r).2 rs).2)

theorem round_good (items : List Item) (nb : Int) (hnb : 0 ≤ nb) (hwf : LWF nb items) (hwm q : Int) (hq : 0 ≤ q) (rd : Round) :
    GoodData (allRecords items) q (roundStep items hwm q rd).1 (roundStep items hwm q rd).2 := by
  cases rd with
  | complete b => exact fetch_round_good items nb hnb hwf hwm q hq b
  | lost k =>
    -- what arrived is an initial segment of the log from `q` (`fetch_round_gen`: `f1` every delivered record is a stored
    -- one at or after `q`, `f2` none of those below the decoder's position is missing, `f3` increasing offsets); the
    -- restart position is one past the last delivered record, which is at most the decoder's position
    obtain ⟨f1, f2, f3, _, _⟩ := fetch_round_gen items nb hnb hwf hwm q hq false k
    simp only [roundStep]
    generalize readAll .fixed false q hwm (truncate (allTokens (dropBefore q items)) k) = res at f1 f2 f3 ⊢
    cases hl : res.1.getLast? with
    | none =>
      have hnil : res.1 = [] := by simpa using hl
      rw [hnil]
      exact GoodData.nil _ q
    | some x =>
      have hx := f1 x (List.mem_of_getLast? hl)
      have hle := pairwise_getLast_le f3 hl
      exact ⟨f3, fun r hr => ⟨(f1 r hr).1, (f1 r hr).2.1, by have := hle r hr; simp only; omega⟩,
        fun r hr h1 h2 => f2 r hr h1 (by simp only at h2; omega), by simp only; omega⟩

theorem resume_good (items : List Item) (nb : Int) (hnb : 0 ≤ nb) (hwf : LWF nb items) (hwm : Int) :
    ∀ (rounds : List Round) (start : Int), 0 ≤ start →
      GoodData (allRecords items) start (resumeSeq items hwm start rounds).1 (resumeSeq items hwm start rounds).2
  | [], q, _ => GoodData.nil _ q
  | rd :: rs, q, hq =>
    have h := round_good items nb hnb hwf hwm q hq rd
    h.append (resume_good items nb hnb hwf hwm rs _ (Int.le_trans hq h.mono))

/-- for every well-formed log, every start position and every sequence of rounds —
complete responses under any byte budgets and responses lost after any number of bytes, in any order — the
concatenation of what is delivered is exactly the log between the start position and the final position: every
delivered message is a stored record of that range, strictly increasing offsets (no duplicate, no reordering), and no
stored record of that range is missing (no loss). -/
theorem reader_resume_after_cut (items : List Item) (nb : Int) (hnb : 0 ≤ nb) (hwf : LWF nb items) (hwm : Int) :
    ∀ (rounds : List Round) (start : Int), 0 ≤ start →
      start ≤ (resumeSeq items hwm start rounds).2 ∧
      (∀ r ∈ (resumeSeq items hwm start rounds).1, r ∈ allRecords items ∧ start ≤ r.1 ∧ r.1 < (resumeSeq items hwm start rounds).2) ∧
      (∀ r ∈ allRecords items, start ≤ r.1 → r.1 < (resumeSeq items hwm start rounds).2 → r ∈ (resumeSeq items hwm start rounds).1) ∧
      (resumeSeq items hwm start rounds).1.Pairwise (fun a b => a.1 < b.1) :=
  fun rounds start hs =>
    let h := resume_good items nb hnb hwf hwm rounds start hs
    ⟨h.mono, h.inlog, h.nogap, h.sorted⟩

/-- the `lost` round is ReaderLoop's transition for a connection cut (Model/ReaderLoop.lean `onAnswer … (.cutAfter toks)`):
same records delivered, Conn closed, and `deliver` leaves the restart position where `roundStep` says -/
theorem lost_round_is_reader_loop (s : RL) (items : List Item) (hwm first last : Int) (k : Nat)
    (hq : s.connOff = s.offset) (hne : hwm ≠ s.offset) :
    (match onAnswer .fixed s hwm first last (.cutAfter (truncate (allTokens (dropBefore s.offset items)) k)) with
     | .go s' => s'.out = s.out ++ (roundStep items hwm s.offset (.lost k)).1 ∧ s'.connOpen = false ∧
                 s'.offset = (roundStep items hwm s.offset (.lost k)).2
     | .stop _ _ => False) := by
  simp only [onAnswer, roundStep, readAll, hne, if_false, hq, deliver]
  refine ⟨trivial, trivial, ?_⟩
  cases (run Variant.fixed false s.offset { off := s.offset } (truncate (allTokens (dropBefore s.offset items)) k)).1.out.getLast? <;> rfl

/-- non-vacuity on the C02 defect layout (compaction holes, empty batch, compressed batch): lost after 70 bytes,
lost at once, then complete — everything from 100 on is delivered exactly once -/
example : (resumeSeq d15Layout 112 100 [.lost 70, .lost 0, .complete 1000, .lost 61, .complete 1000]).1
    = (allRecords d15Layout).filter (fun r => 100 ≤ r.1) := by decide +kernel

end ReaderResume

/-! ### resume_after_cut for the Writer, composed with the C01 machine

The Writer LTS of C01 (Model/Writer.lean) lets the broker's decision on an attempt be `acked`, `lost applied?`
(the acknowledgement never reaches the client) or `rejected code`, and relates it to the client-side result of the
attempt by `consistent`: that relation is where "a lost response is an error for the client" enters C01 as a modelling
assumption.  C17 discharges it: a produce response cut at any byte is never decoded into a result
(`readResponse_cut_is_error`; Conn path `cut_is_error`), and the Transport never hands the failed connection to the next
attempt (`resume_after_cut`).  C01 then says what follows: the attempt ends with an error, is retried only if
retriable and within the attempt budget (`C01.retry_only_after_retriable`, `attempts_bounded`), and a second copy of a
batch exists only after an acknowledgement was lost (`C01.dups_only_after_lost_ack`) — C01's retry rule. -/
theorem writer_resume_after_cut {α : Type} (d : Decoder α) (s : Reader.RS) (hcut : s.inp.length < s.sz)
    (cfg : Writer.Cfg) (st st' : Writer.State) (pw b k : Nat)
    (hdone : Writer.step cfg st (.attemptDone pw b k 0) = some st') :
    (d.run s).1 = none ∧
    -- … while the Writer machine ends an attempt WITHOUT error only when the broker applied and acknowledged it:
    (∃ P, st.pws pw = some P ∧ P.sender = .attempting b k (some .acked)) :=
  ⟨readResponse_cut_is_error d s hcut, C01.ok_needs_broker_ack cfg st st' pw b k hdone⟩

/-! ### what the retry sends, and which waits have a deadline

Two facts about the resume paths that the machines of C01/C02 do not carry because they speak about batches and
records, not about the Go values that carry them:

* a record reader is consumed by the request that sends it, so "the Writer retries the batch" needs the reader to be
  built again for every attempt (`Gen.ConnLegacy.retryRebuildsRecords`, writer.go writeBatch/produce);
* "returns by its deadline" needs every read of the fetch — ReadBatchWith, each ReadMessage AND the skip of the rest of
  the response in Batch.Close — to happen while the read deadline is armed (`Gen.ConnLegacy.readerClosesUnderDeadline`,
  reader.go (*reader).read). -/

/-- what attempt `n` of a produce puts on the wire when the record reader is rebuilt per attempt / built once -/
def attemptPayload {α : Type} (rebuilt : Bool) (msgs : List α) : Nat → List α
  | 0 => msgs
  | _ + 1 => if rebuilt then msgs else []

theorem retry_carries_the_batch {α : Type} (msgs : List α) (n : Nat) : attemptPayload true msgs n = msgs := by
  cases n <;> rfl

theorem retry_rebuilds_records_holds : Gen.ConnLegacy.retryRebuildsRecords = true := by decide +kernel

/-- with a record reader built once, the retry after a lost response goes out empty — "success" without the records -/
theorem stale_reader_counterexample : attemptPayload false [1, 2, 3] 1 = ([] : List Nat) := rfl

/-- the waits of one fetch of the Reader, in program order -/
inductive RWait where
  | arm      -- conn.SetReadDeadline(now + …)
  | clear    -- conn.SetReadDeadline(time.Time{})
  | read     -- a read for bytes that never arrive (the connection stays open)
  deriving DecidableEq, Repr

/-- does the sequence get stuck for ever?  A read with the deadline armed comes back with a timeout and the program
goes on; a read without one does not come back. -/
def stuck : Bool → List RWait → Bool
  | _, [] => false
  | _, .arm :: r => stuck true r
  | _, .clear :: r => stuck false r
  | armed, .read :: r => if armed then stuck armed r else true

/-- (*reader).read: arm, ReadBatchWith, arm, ReadMessage (fails at the deadline), then Close's discard and the clear —
in the order the regenerated fact says -/
def readerWaits (closeUnderDeadline : Bool) : List RWait :=
  [.arm, .read, .arm, .read] ++ (if closeUnderDeadline then [.read, .clear] else [.clear, .read])

/-- no read happens without an armed deadline ⇒ never stuck, whatever arrives or not -/
theorem armed_reads_return : ∀ (ws : List RWait) (armed : Bool),
    (∀ pre post, ws = pre ++ .read :: post → (armed = true ∧ .clear ∉ pre) ∨ (∃ p q, pre = p ++ .arm :: q ∧ .clear ∉ q)) →
    stuck armed ws = false
  | [], _, _ => rfl
  | x :: r, armed, h => by
    -- the hypothesis, passed to the tail: a read in `r` is covered by the same `arm` as before, or by `x` itself
    have tail : ∀ pre post, r = pre ++ .read :: post →
        (((armed = true ∧ x ≠ .clear) ∨ x = .arm) ∧ .clear ∉ pre) ∨ (∃ p q, pre = p ++ .arm :: q ∧ .clear ∉ q) := by
      intro pre post hp
      rcases h (x :: pre) post (by rw [hp]; rfl) with ⟨ha, hc⟩ | ⟨p, q, hpq, hc⟩
      · exact Or.inl ⟨Or.inl ⟨ha, fun hx => hc (hx ▸ List.mem_cons_self)⟩, fun hm => hc (List.mem_cons_of_mem _ hm)⟩
      · cases p with
        | nil =>
          simp only [List.nil_append, List.cons.injEq] at hpq
          exact Or.inl ⟨Or.inr hpq.1, hpq.2 ▸ hc⟩
        | cons y p' =>
          simp only [List.cons_append, List.cons.injEq] at hpq
          exact Or.inr ⟨p', q, hpq.2, hc⟩
    cases x with
    | arm => exact armed_reads_return r true fun pre post hp => (tail pre post hp).imp (fun t => ⟨rfl, t.2⟩) id
    | clear =>
      refine armed_reads_return r false fun pre post hp => (tail pre post hp).elim (fun t => ?_) Or.inr
      rcases t.1 with ⟨_, hx⟩ | hx
      · exact absurd rfl hx
      · cases hx
    | read =>
      have ha : armed = true := by
        rcases h [] r rfl with ⟨ha, _⟩ | ⟨p, q, hpq, _⟩
        · exact ha
        · cases p <;> cases hpq
      subst ha
      exact armed_reads_return r true fun pre post hp => (tail pre post hp).imp (fun t => ⟨rfl, t.2⟩) id

theorem reader_closes_under_deadline_holds : Gen.ConnLegacy.readerClosesUnderDeadline = true := by decide +kernel

/-- the Reader's fetch as it is returns whatever stops arriving; with the batch closed after the deadline is cleared
(a deferred Close) the discard of the response's rest waits for ever -/
theorem reader_fetch_returns :
    stuck false (readerWaits Gen.ConnLegacy.readerClosesUnderDeadline) = false ∧ stuck false (readerWaits false) = true := by
  decide +kernel

/-! ### split requests: one lost part never yields a result that looks complete -/

section SplitMerge
open KV.SplitMerge

/-- strict merges (ListGroups, DescribeGroups, DescribeConfigs): the call succeeds iff every part did, and then it
returns exactly the parts' entries in request order -/
theorem mergeStrict_ok {α : Type} : ∀ (rs : List (Except String (List α))) (out : List α),
    mergeStrict rs = .ok out ↔ (∀ r ∈ rs, isOk r = true) ∧ out = rs.flatMap entriesOf := by
  intro rs
  induction rs with
  | nil =>
    intro out
    simp only [mergeStrict, Except.ok.injEq, List.not_mem_nil, false_imp_iff, implies_true, true_and, List.flatMap_nil]
    exact eq_comm
  | cons r rest ih =>
    intro out
    cases r with
    | error e => simp [mergeStrict, isOk]
    | ok xs =>
      simp only [mergeStrict]
      cases hm : mergeStrict rest with
      | error e =>
        simp only [reduceCtorEq, false_iff, not_and]
        intro hall
        have := (ih (rest.flatMap entriesOf)).mpr ⟨fun r hr => hall r (List.mem_cons_of_mem _ hr), rfl⟩
        rw [hm] at this; cases this
      | ok ys =>
        have := (ih ys).mp hm
        simp only [Except.ok.injEq, List.mem_cons, forall_eq_or_imp, isOk, true_and, List.flatMap_cons, entriesOf]
        constructor
        · intro h; exact ⟨this.1, by rw [← h, this.2]⟩
        · intro h; rw [h.2, this.2]

/-- … so a part whose response was lost (any cut position: `readResponse_cut_is_error`) fails the whole call -/
theorem lost_part_fails_call {α : Type} (rs : List (Except String (List α))) (e : String) (h : .error e ∈ rs) :
    ∃ e', mergeStrict rs = .error e' := by
  cases hm : mergeStrict rs with
  | error e' => exact ⟨e', rfl⟩
  | ok out =>
    have := ((mergeStrict_ok rs out).mp hm).1 _ h
    simp [isOk] at this

/-- the three Merge methods have the strict shape (regenerated from the source tree) -/
theorem strict_merges_hold : Gen.ConnLegacy.strictMerges.all (·.2) = true := by decide +kernel

end SplitMerge

/-! ### the `Decoder` contract is a theorem about the structural decoder model

`Decoder` above states what `readResponse_cut_is_error` needs from protocol.ReadResponse.  The structural
model of the reflective decoder (Model/Codec.lean: decode.go's decoder{remain, err}, every schema type, tagged fields,
record sets as opaque payloads; schemas and the bounded/unbounded configuration regenerated from /repo) satisfies it:
whatever the schema, a message is returned only after the whole announced frame was consumed (Lemmas/CodecAcct.lean
`respTail_acctz`, `readResponse_ok_consumes_frame`). -/

section StructuralDecoder
open KV.Codec KV.CodecAcct

/-- ReadResponse after the size prefix, as a `Decoder` -/
def codecDecoder (cfg : Cfg) (hrecs : RecsAcct cfg) (flex : Bool) (t : Ty) : Decoder (Int × Val) where
  run := fun s =>
    match respTail cfg flex t ⟨s.inp, s.sz⟩ with
    | .ok r d => (some r, ⟨d.inp, d.remain⟩)
    | _ => (none, s)
  conserves := by
    intro s
    have h := respTail_acctz cfg hrecs flex t ⟨s.inp, s.sz⟩
    cases hr : respTail cfg flex t ⟨s.inp, s.sz⟩ with
    | ok r d =>
      rw [hr] at h
      obtain ⟨⟨pre, hp, hl⟩, hz⟩ := h
      exact ⟨pre, hp, by simp only at hl ⊢; omega⟩
    | error => exact Reader.Adv.refl s
    | panic => exact Reader.Adv.refl s
    | balloon => exact Reader.Adv.refl s
  ok_after_discardAll := by
    intro s a h
    have hz := respTail_acctz cfg hrecs flex t ⟨s.inp, s.sz⟩
    cases hr : respTail cfg flex t ⟨s.inp, s.sz⟩ with
    | ok r d => rw [hr] at hz; simp only [hr]; exact hz.2
    | error => simp [hr] at h
    | panic => simp [hr] at h
    | balloon => simp [hr] at h

/-- the decoder configuration regenerated from the current source tree uses the built-in record-set reader (no
`Cfg.recs` hook), so the accounting premise holds for it -/
theorem decoderCfg_recsAcct : RecsAcct Gen.decoderCfg := recsAcct_none _ rfl

/-- every response schema, the decoder configuration of the current source tree, every cut position: no message -/
theorem readResponse_cut_is_error_structural (flex : Bool) (t : Ty) (frame : Bytes)
    (hframe : frame.length = 4 + (announced frame).toNat) (hpos : 0 ≤ announced frame) (k : Nat) (hk : k < frame.length)
    (r : Int × Val) (d : Dec) : readResponse Gen.decoderCfg flex t (frame.take k) ≠ .ok r d :=
  readResponse_cut_structural Gen.decoderCfg decoderCfg_recsAcct flex t frame hframe k hk r d

/-- and a decoded message means the whole announced frame, and nothing else, was consumed (Transport-side alignment) -/
theorem readResponse_ok_aligned (flex : Bool) (t : Ty) (stream : Bytes) (r : Int × Val) (d : Dec)
    (h : readResponse Gen.decoderCfg flex t stream = .ok r d) :
    4 + (announced stream).toNat ≤ stream.length ∧ d.inp = stream.drop (4 + (announced stream).toNat) := by
  have := readResponse_ok_consumes_frame Gen.decoderCfg decoderCfg_recsAcct flex t stream r d h
  exact ⟨this.2.2.1, this.2.2.2.1⟩

end StructuralDecoder

end KV.C17
