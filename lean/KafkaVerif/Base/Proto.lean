/-
Base/Proto.lean — the line protocol loop of the oracle executables (core Lean only; Oracle/C05.lean has its own `loop`, which
flushes after every response line).
One request per input line, exactly one response line per request, flushed at the end.
-/
namespace KV

partial def lineLoop {σ : Type} (h : IO.FS.Stream) (out : IO.FS.Stream) (step : σ → String → σ × String) (s : σ) : IO Unit := do
  let line ← h.getLine
  if line.isEmpty then
    out.flush
    return ()
  let (s', o) := step s (line.trimAscii.toString)
  out.putStrLn o
  lineLoop h out step s'

def runOracle {σ : Type} (init : σ) (step : σ → String → σ × String) : IO Unit := do
  let i ← IO.getStdin
  let o ← IO.getStdout
  lineLoop i o step init

def words (s : String) : List String :=
  (s.splitOn " ").filter (· ≠ "")

def parseInt? (s : String) : Option Int := s.toInt?
def parseNat? (s : String) : Option Nat := s.toNat?

end KV
