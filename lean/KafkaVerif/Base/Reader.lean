/-
Base/Reader.lean — the size-threading reader of kafka-go's legacy codec (read.go, discard.go) as a state
transformer (core Lean only).

Go shape:   `remain, err = readX(r *bufio.Reader, sz int, &v)`
Lean shape: `readX : RS → Except Err α × RS`  with `RS = ⟨inp, sz⟩`:
  * `inp` — the bytes that will still arrive on the connection, in order; after them the stream is at EOF
            (for an intact connection `inp` simply extends beyond the current frame);
  * `sz`  — the `remain`/`size` counter of the Go code: bytes of the current response frame not consumed yet.
The state is returned on errors too (Go returns the remaining size together with the error), so "bytes consumed",
"bytes of the frame left unread" and the error class are all observable.

Assumptions (recorded in docs/notes/C11.md): `sz ≥ 0` (a frame whose size prefix is < 4 is not this file's subject);
`bufio.Reader.Peek(n)` succeeds iff n bytes arrive before EOF (n ≤ 8 here, far below the 4096-byte buffer);
a blocked read is an EOF (deadlines are runtime, not modelled).
-/
import KafkaVerif.Base.Bytes

namespace KV.Reader
open KV

inductive Err where
  | shortRead                 -- errShortRead
  | eof                       -- io.EOF (Peek/Discard/ReadFull-with-nothing on a dead stream)
  | unexpectedEOF             -- io.ErrUnexpectedEOF
  | kafka (code : Int)        -- kafka.Error(code)
  | other (what : String)     -- fmt.Errorf(…), bufio.ErrNegativeCount, io.ErrNoProgress, …
  | panic (what : String)     -- the Go code would panic here
  deriving Repr, DecidableEq

structure RS where
  inp : Bytes
  sz  : Nat
  deriving Repr, DecidableEq

abbrev R (α : Type) := RS → Except Err α × RS

/-- `Adv s s'`: `s'` is `s` after consuming some bytes `pre`, with the frame counter decremented by exactly
`pre.length` (the conservation law every read.go primitive obeys, on success and on error). -/
def Adv (s s' : RS) : Prop := ∃ pre : Bytes, s.inp = pre ++ s'.inp ∧ s.sz = pre.length + s'.sz

theorem Adv.refl (s : RS) : Adv s s := ⟨[], by simp, by simp⟩

theorem Adv.trans {a b c : RS} (h₁ : Adv a b) (h₂ : Adv b c) : Adv a c := by
  obtain ⟨p, hp, hs⟩ := h₁
  obtain ⟨q, hq, ht⟩ := h₂
  refine ⟨p ++ q, ?_, ?_⟩
  · rw [hp, hq, List.append_assoc]
  · rw [hs, ht, List.length_append]; omega

theorem Adv.consumed_all {s s' : RS} (h : Adv s s') (hz : s'.sz = 0) :
    s.sz ≤ s.inp.length ∧ s'.inp = s.inp.drop s.sz := by
  obtain ⟨p, hp, hs⟩ := h
  have : s.sz = p.length := by omega
  constructor
  · rw [hp, List.length_append]; omega
  · rw [hp, this, List.drop_left]

def Conserves {α : Type} (m : R α) : Prop := ∀ s, Adv s (m s).2

def rpure {α : Type} (a : α) : R α := fun s => (.ok a, s)
def rthrow {α : Type} (e : Err) : R α := fun s => (.error e, s)
def rbind {α β : Type} (m : R α) (f : α → R β) : R β := fun s =>
  match m s with
  | (.ok a, s') => f a s'
  | (.error e, s') => (.error e, s')

theorem conserves_pure {α : Type} (a : α) : Conserves (rpure a) := fun s => Adv.refl s
theorem conserves_throw {α : Type} (e : Err) : Conserves (rthrow (α := α) e) := fun s => Adv.refl s

theorem conserves_bind {α β : Type} {m : R α} {f : α → R β} (hm : Conserves m) (hf : ∀ a, Conserves (f a)) :
    Conserves (rbind m f) := by
  intro s
  have h := hm s
  unfold rbind
  cases hms : m s with
  | mk r s' =>
    rw [hms] at h
    cases r with
    | ok a => exact Adv.trans h (hf a s')
    | error e => exact h

/-! ### big-endian integers -/

def beNat (bs : Bytes) : Nat := bs.foldl (fun a b => a * 256 + b.toNat) 0

/-- signed big-endian value of an `n`-byte field (makeInt8/16/32/64).  `beNat` is `Wire.fromBE` (Base/Wire is not imported here);
`beInt_eq_toS` / `beInt_encInt` of Lemmas/GroupWire.lean tie `beInt` to `Wire.toS` and `Wire.encInt` -/
def beInt (bs : Bytes) : Int :=
  let u := beNat bs
  let m := 256 ^ bs.length
  if 2 * u ≥ m then (u : Int) - m else u

/-! ### read.go / discard.go primitives -/

/-- read.go `peekRead(r, sz, n, f)`: `n > sz` → errShortRead; `Peek(n)` fails → its error; else consume n. -/
def peekRead (n : Nat) : R Bytes := fun s =>
  if n > s.sz then (.error .shortRead, s)
  else if s.inp.length < n then (.error .eof, s)
  else (.ok (s.inp.take n), ⟨s.inp.drop n, s.sz - n⟩)

/-- readInt8/16/32/64, readBool -/
def readInt (n : Nat) : R Int := fun s =>
  match peekRead n s with
  | (.ok b, s') => (.ok (beInt b), s')
  | (.error e, s') => (.error e, s')

/-- discard.go `discardN(r, sz, n)`.  `bufio.Reader.Discard` consumes what is there and reports the stream error. -/
def discardN (n : Int) : R Unit := fun s =>
  if n ≤ s.sz then
    if n < 0 then (.error (.other "bufio: negative count"), s)
    else if s.inp.length < n.toNat then (.error .eof, ⟨[], s.sz - s.inp.length⟩)
    else (.ok (), ⟨s.inp.drop n.toNat, s.sz - n.toNat⟩)
  else
    if s.inp.length < s.sz then (.error .eof, ⟨[], s.sz - s.inp.length⟩)
    else (.error .shortRead, ⟨s.inp.drop s.sz, 0⟩)

/-- read.go `readNewBytes(r, sz, n)`: `io.ReadFull` of `min n sz` bytes, errShortRead if the frame is too short. -/
def readNewBytes (n : Int) : R Bytes := fun s =>
  if n ≤ 0 then (.ok [], s)
  else
    let m := min n.toNat s.sz
    if s.inp.length < m then
      (.error (if s.inp.length = 0 then .eof else .unexpectedEOF), ⟨[], s.sz - s.inp.length⟩)
    else if s.sz < n.toNat then (.error .shortRead, ⟨s.inp.drop m, s.sz - m⟩)
    else (.ok (s.inp.take m), ⟨s.inp.drop m, s.sz - m⟩)

/-- read.go `readStringWith` / `readBytesWith` (`lenBytes` = 2 resp. 4): length, `n > sz` → errShortRead, callback. -/
def readLenWith {α : Type} (lenBytes : Nat) (cb : Int → R α) : R α := fun s =>
  match readInt lenBytes s with
  | (.error e, s') => (.error e, s')
  | (.ok n, s') => if n > s'.sz then (.error .shortRead, s') else cb n s'

def readString : R Bytes := readLenWith 2 readNewBytes
def readBytes : R Bytes := readLenWith 4 readNewBytes

/-- discard.go `discardString` / `discardBytes` -/
def discardLen (lenBytes : Nat) : R Unit :=
  readLenWith lenBytes (fun n => if n < 0 then rpure () else discardN n)

theorem Adv.drop (s : RS) (m : Nat) (h₁ : m ≤ s.sz) (h₂ : m ≤ s.inp.length) : Adv s ⟨s.inp.drop m, s.sz - m⟩ :=
  ⟨s.inp.take m, (List.take_append_drop m s.inp).symm, by simp only [List.length_take]; omega⟩

theorem Adv.drain (s : RS) (h : s.inp.length ≤ s.sz) : Adv s ⟨[], s.sz - s.inp.length⟩ :=
  ⟨s.inp, by simp, by simp only; omega⟩

theorem conserves_peekRead (n : Nat) : Conserves (peekRead n) := by
  intro s
  unfold peekRead
  split
  · exact Adv.refl s
  · split
    · exact Adv.refl s
    · exact Adv.drop s n (by omega) (by omega)

theorem conserves_discardN (n : Int) : Conserves (discardN n) := by
  intro s
  unfold discardN
  split
  · split
    · exact Adv.refl s
    · split
      · exact Adv.drain s (by omega)
      · exact Adv.drop s _ (by omega) (by omega)
  · split
    · exact Adv.drain s (by omega)
    · exact Nat.sub_self s.sz ▸ Adv.drop s s.sz (Nat.le_refl _) (by omega)

theorem discardN_rest (s : RS) :
    discardN (↑s.sz) s =
      if s.inp.length < s.sz then (.error .eof, ⟨[], s.sz - s.inp.length⟩) else (.ok (), ⟨s.inp.drop s.sz, 0⟩) := by
  have h : ¬ ((s.sz : Int) < 0) := by omega
  simp [discardN, h]

/-- the drain that ends `Batch.close` (`discardN` of what the counter says is left, after reads that conserve): with
the counter at 0 the stream stands on the first byte after the frame (used by `WireProg.prog_then_discard_finishes`) -/
theorem Adv.finish {s s1 : RS} (h : Adv s s1) :
    Adv s (discardN (↑s1.sz) s1).2 ∧ ((discardN (↑s1.sz) s1).2.sz = 0 ∨ (discardN (↑s1.sz) s1).2.inp = []) ∧
      ((discardN (↑s1.sz) s1).2.sz = 0 → (discardN (↑s1.sz) s1).2.inp = s.inp.drop s.sz) := by
  have hadv := Adv.trans h (conserves_discardN (↑s1.sz) s1)
  refine ⟨hadv, ?_, fun hz => (hadv.consumed_all hz).2⟩
  rw [discardN_rest]; split
  · exact .inr rfl
  · exact .inl rfl

theorem conserves_readNewBytes (n : Int) : Conserves (readNewBytes n) := by
  intro s
  unfold readNewBytes
  split
  · exact Adv.refl s
  · simp only
    split
    · exact Adv.drain s (by omega)
    · split <;> exact Adv.drop s _ (by omega) (by omega)

/-! ### a field at the head of a frame that announces it: the size written as a sum in reading order -/

theorem readInt_app (a r : Bytes) (n m : Nat) (h : a.length = n) :
    readInt n ⟨a ++ r, n + m⟩ = (.ok (beInt a), ⟨r, m⟩) := by
  subst h
  have h1 : ¬ a.length + m < a.length := by omega
  have h2 : ¬ a.length + r.length < a.length := by omega
  simp [readInt, peekRead, h1, h2]

theorem discardN_app (a r : Bytes) (m : Nat) :
    discardN a.length ⟨a ++ r, a.length + m⟩ = (.ok (), ⟨r, m⟩) := by
  have h1 : (a.length : Int) ≤ a.length + m := by omega
  have h2 : ¬ (a.length : Int) < 0 := by omega
  have h3 : ¬ a.length + r.length < a.length := by omega
  simp [discardN, h1, h2, h3]

theorem readNewBytes_app (b r : Bytes) (m : Nat) :
    readNewBytes (b.length : Int) ⟨b ++ r, b.length + m⟩ = (.ok b, ⟨r, m⟩) := by
  unfold readNewBytes
  by_cases h0 : b.length = 0
  · have : b = [] := List.eq_nil_of_length_eq_zero h0
    subst this
    simp
  · have h1 : ¬ ((b.length : Int) ≤ 0) := fun h => h0 (Int.ofNat_eq_zero.mp (Int.le_antisymm h (Int.natCast_nonneg _)))
    have h2 : ¬ (b ++ r).length < b.length := by
      rw [List.length_append]; exact Nat.not_lt.mpr (Nat.le_add_right _ _)
    simp only [h1, ↓reduceIte, Int.toNat_natCast, Nat.min_eq_left (Nat.le_add_right _ m), h2,
      Nat.not_lt.mpr (Nat.le_add_right _ m), List.take_left' rfl, List.drop_left' rfl, Nat.add_sub_cancel_left]

end KV.Reader
