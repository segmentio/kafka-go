/-
Base/LegacyRead.lean — the READ primitives of the hand-written Conn codec (read.go: `readInt16`, `readString`,
`readBytes`, `readArrayWith`, …) as parsers on the bytes of a response body, the statement combinators the generated
`T.readFrom` functions of Gen/Legacy.lean are built from, and the lemmas "reading what `write.go` wrote gives the value
back" the generated `read_write` theorems rest on.  Imports nothing outside the project and Lean itself.

The `remain` counter the Go functions thread through (bytes of the frame not yet consumed) is the length of the byte
list here: the body is the list, running out of it is `none` (Go: errShortRead / io.ErrUnexpectedEOF).
A null string or byte array (length -1) reads as the empty one (`rdBlob`), as in Go; the read side cannot tell the two
apart, which is why the generated structures hold `Bytes` and not `Option Bytes`.
-/
import KafkaVerif.Base.LegacyWire

namespace KV.Legacy
open KV KV.Wire

abbrev Rd (α : Type) := Bytes → Option (α × Bytes)

/-- `readInt8/16/32/64`: k bytes, big endian, two's complement -/
def rdInt (k : Nat) : Rd Int := fun bs =>
  if bs.length < k then none else some (toS (8 * k) (fromBE (bs.take k)), bs.drop k)
def readInt8 : Rd Int := rdInt 1
def readInt16 : Rd Int := rdInt 2
def readInt32 : Rd Int := rdInt 4
def readInt64 : Rd Int := rdInt 8
/-- `readBool`: `b[0] != 0` -/
def readBool : Rd Bool := fun bs => match rdInt 1 bs with
  | none => none
  | some (i, r) => some (i != 0, r)
/-- `readNewBytes(r, sz, n)` after the `n > sz` test of `readStringWith` / `readBytesWith`: n ≤ 0 reads nothing -/
def rdBlob (n : Int) : Rd Bytes := fun r =>
  if n ≤ 0 then some ([], r) else if r.length < n.toNat then none else some (r.take n.toNat, r.drop n.toNat)
/-- `readString`: int16 length, then the bytes (a null string reads as "") -/
def readString : Rd Bytes := fun bs => match rdInt 2 bs with
  | none => none
  | some (n, r) => rdBlob n r
/-- `readBytes`: int32 length, then the bytes (null reads as nil) -/
def readBytes : Rd Bytes := fun bs => match rdInt 4 bs with
  | none => none
  | some (n, r) => rdBlob n r
/-- the loop of `readArrayWith`: `for n := int(len); n > 0; n-- { cb(r, sz) }` -/
def readElems {α : Type} (elem : Rd α) : Nat → Rd (List α)
  | 0, bs => some ([], bs)
  | n + 1, bs => match elem bs with
    | none => none
    | some (x, r) => match readElems elem n r with
      | none => none
      | some (xs, r') => some (x :: xs, r')
/-- `readArrayWith(r, sz, cb)`: int32 count (negative: no element), then the elements, collected in order -/
def readArrayWith {α : Type} (elem : Rd α) : Rd (List α) := fun bs => match rdInt 4 bs with
  | none => none
  | some (n, r) => readElems elem n.toNat r
def readStringArray : Rd (List Bytes) := readArrayWith readString
def readInt32Array : Rd (List Int) := readArrayWith readInt32

/-! ### statements of a `readFrom` body -/
/-- `if remain, err = readX(r, remain, &t.F); err != nil { return }` (the reader may depend on the receiver: `T{v: t.v}`) -/
def rdField {σ α : Type} (rd : σ → Rd α) (set : σ → α → σ) : σ → Rd σ := fun t bs =>
  match rd t bs with
  | none => none
  | some (x, r) => some (set t x, r)
def rdSeq {σ : Type} (f g : σ → Rd σ) : σ → Rd σ := fun t bs =>
  match f t bs with
  | none => none
  | some (t', r) => g t' r
/-- `if t.v >= vN { … }` -/
def rdIf {σ : Type} (c : σ → Bool) (f : σ → Rd σ) : σ → Rd σ := fun t bs => if c t then f t bs else some (t, bs)
def rdDone {σ : Type} : σ → Rd σ := fun t bs => some (t, bs)

def inRng (bits : Nat) (i : Int) : Prop := -(2 ^ (bits - 1) : Nat) ≤ i ∧ i < (2 ^ (bits - 1) : Nat)

theorem rdInt_enc (k : Nat) (i : Int) (rest : Bytes) (hk : 0 < k) (h : inRng (8 * k) i) :
    rdInt k (encInt k i ++ rest) = some (i, rest) := by
  have hl : (encInt k i).length = k := encInt_length k i
  have h1 : ¬ ((encInt k i ++ rest).length < k) := by simp [hl]
  simp only [rdInt, h1, if_false]
  rw [List.take_left' hl, List.drop_left' hl, decInt_encInt k i hk h.1 h.2]

@[simp] theorem readInt8_write (i : Int) (rest : Bytes) (h : inRng 8 i) : readInt8 (writeInt8 i ++ rest) = some (i, rest) :=
  rdInt_enc 1 i rest (by decide) h
@[simp] theorem readInt16_write (i : Int) (rest : Bytes) (h : inRng 16 i) : readInt16 (writeInt16 i ++ rest) = some (i, rest) :=
  rdInt_enc 2 i rest (by decide) h
@[simp] theorem readInt32_write (i : Int) (rest : Bytes) (h : inRng 32 i) : readInt32 (writeInt32 i ++ rest) = some (i, rest) :=
  rdInt_enc 4 i rest (by decide) h
@[simp] theorem readInt64_write (i : Int) (rest : Bytes) (h : inRng 64 i) : readInt64 (writeInt64 i ++ rest) = some (i, rest) :=
  rdInt_enc 8 i rest (by decide) h

@[simp] theorem readBool_write (b : Bool) (rest : Bytes) : readBool (writeBool b ++ rest) = some (b, rest) := by
  -- `writeBool` is a literal byte, not an `encInt`: by evaluation on the two values
  cases b <;> simp [readBool, writeBool, rdInt, fromBE, toS]

theorem rdBlob_append (s rest : Bytes) : rdBlob (s.length : Int) (s ++ rest) = some (s, rest) := by
  unfold rdBlob
  by_cases h0 : s.length = 0
  · have : s = [] := List.eq_nil_of_length_eq_zero h0
    subst this; simp
  · have h1 : ¬ ((s.length : Int) ≤ 0) := by omega
    have h2 : ¬ ((s ++ rest).length < s.length) := by simp
    simp only [h1, h2, if_false, Int.toNat_natCast, List.take_left' rfl, List.drop_left' rfl]

/-- the bounds `2 ^ 15` / `2 ^ 31` here and below are the positive ranges of the int16 / int32 length prefix -/
@[simp] theorem readString_write (s rest : Bytes) (h : s.length < 2 ^ 15) :
    readString (writeString s ++ rest) = some (s, rest) := by
  simp only [readString, writeString, List.append_assoc, rdInt_enc 2 _ _ (by decide) (natCast_inRng 2 _ h), rdBlob_append]

@[simp] theorem readBytes_write (s rest : Bytes) (h : s.length < 2 ^ 31) :
    readBytes (writeBytes s ++ rest) = some (s, rest) := by
  simp only [readBytes, writeBytes, List.append_assoc, rdInt_enc 4 _ _ (by decide) (natCast_inRng 4 _ h), rdBlob_append]

theorem readElems_writeEach {α : Type} (elem : Rd α) (w : α → Bytes) (xs : List α) (rest : Bytes)
    (h : ∀ x ∈ xs, ∀ r, elem (w x ++ r) = some (x, r)) :
    readElems elem xs.length (writeEach xs w ++ rest) = some (xs, rest) := by
  induction xs with
  | nil => simp [readElems, writeEach]
  | cons x xs ih =>
    have hx := h x (List.mem_cons_self ..)
    have ih' := ih (fun y hy => h y (List.mem_cons_of_mem _ hy))
    simp only [writeEach, List.map_cons, List.flatten_cons, List.append_assoc, List.length_cons, readElems] at ih' ⊢
    rw [hx]
    simp only [ih']

theorem readArrayWith_writeArray {α : Type} (elem : Rd α) (w : α → Bytes) (xs : List α) (rest : Bytes)
    (h : ∀ x ∈ xs, ∀ r, elem (w x ++ r) = some (x, r)) (hl : xs.length < 2 ^ 31) :
    readArrayWith elem (writeArray xs w ++ rest) = some (xs, rest) := by
  simp only [readArrayWith, writeArray, writeArrayLen, List.append_assoc, rdInt_enc 4 _ _ (by decide) (natCast_inRng 4 _ hl),
    Int.toNat_natCast, readElems_writeEach elem w xs rest h]

@[simp] theorem readStringArray_write (xs : List Bytes) (rest : Bytes) (h : ∀ x ∈ xs, x.length < 2 ^ 15) (hl : xs.length < 2 ^ 31) :
    readStringArray (writeStringArray xs ++ rest) = some (xs, rest) :=
  readArrayWith_writeArray readString writeString xs rest (fun x hx r => readString_write x r (h x hx)) hl

@[simp] theorem readInt32Array_write (xs : List Int) (rest : Bytes) (h : ∀ x ∈ xs, inRng 32 x) (hl : xs.length < 2 ^ 31) :
    readInt32Array (writeInt32Array xs ++ rest) = some (xs, rest) :=
  readArrayWith_writeArray readInt32 writeInt32 xs rest (fun x hx r => readInt32_write x r (h x hx)) hl

/-! ### a `readFrom` body on what `writeTo` wrote: one step per statement, the rest of the body as continuation -/
theorem rdSeq_rdField_eq {σ α : Type} {rd : σ → Rd α} {set : σ → α → σ} {g : σ → Rd σ} {s : σ} {w bs : Bytes} {x : α}
    {out : Option (σ × Bytes)} (h1 : ∀ r, rd s (w ++ r) = some (x, r)) (h2 : g (set s x) bs = out) :
    rdSeq (rdField rd set) g s (w ++ bs) = out := by
  simp only [rdSeq, rdField, h1, h2]

/-- a version-gated block against the equally gated bytes: `s'` is the state with the block's fields stored, which
is the state itself when the block is skipped because those fields are then zero (`hs`) -/
theorem rdSeq_rdIf_eq {σ : Type} {c : σ → Bool} {f g : σ → Rd σ} {s s' : σ} {w bs : Bytes} {out : Option (σ × Bytes)}
    (hf : c s = true → ∀ r, f s (w ++ r) = some (s', r)) (hs : c s = false → s' = s) (hg : g s' bs = out) :
    rdSeq (rdIf c f) g s ((if c s then w else []) ++ bs) = out := by
  cases hc : c s
  · cases hs hc
    simp only [rdSeq, rdIf, hc, hg, Bool.false_eq_true, if_false, List.nil_append]
  · simp only [rdSeq, rdIf, hc, hf hc, hg, if_true]

end KV.Legacy
