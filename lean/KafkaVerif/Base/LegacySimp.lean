/-
Base/LegacySimp.lean — the two simp sets the generated proofs of Gen/Legacy.lean rewrite with (an attribute has to be
declared in a module before the one that uses it).
-/
import Lean.Meta.Tactic.Simp.RegisterCommand

/-- `((… ).length : Int)` of writeBuffer output into the `sizeof…` expression that announces it: the lemmas are stated on the
`Int` cast of the length (sizes are `Int`), fixed widths as `Nat` lengths pushed through `Int.natCast_add` -/
register_simp_attr legacy_len
/-- the model encoding at a non-flexible Kafka type into the writeBuffer calls that emit it -/
register_simp_attr legacy_enc
