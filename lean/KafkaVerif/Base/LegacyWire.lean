/-
Base/LegacyWire.lean — the primitives of the hand-written Conn codec of the root package:
`sizeof.go` (`sizeofInt32`, `sizeofString`, `sizeofArray`, …) and `write.go` `writeBuffer` (`writeInt32`,
`writeString`, `writeArray`, …), with the length lemmas used by the generated `legacy_size` theorems of
Gen/Legacy.lean.  Sizes are `Int` (Go: int32; frames are assumed < 2^31 bytes).  Imports nothing outside the project
and Lean itself.
-/
import KafkaVerif.Base.Wire
import KafkaVerif.Base.LegacySimp

namespace KV.Legacy
open KV KV.Wire

/-! ### sizeof.go -/
def sizeofInt8 (_ : Int) : Int := 1
def sizeofInt16 (_ : Int) : Int := 2
def sizeofInt32 (_ : Int) : Int := 4
def sizeofInt64 (_ : Int) : Int := 8
def sizeofBool (_ : Bool) : Int := 1
def sizeofString (s : Bytes) : Int := 2 + s.length
def sizeofNullableString (s : Option Bytes) : Int := match s with | none => 2 | some s => sizeofString s
def sizeofBytes (b : Bytes) : Int := 4 + b.length
def sumInt : List Int → Int
  | [] => 0
  | x :: xs => x + sumInt xs
/-- `sizeofArray(len(a), func(i int) int32 { return f(a[i]) })` -/
def sizeofArray {α : Type} (a : List α) (f : α → Int) : Int := 4 + sumInt (a.map f)
def sizeofInt32Array (a : List Int) : Int := 4 + 4 * a.length
def sizeofStringArray (a : List Bytes) : Int := sizeofArray a sizeofString

/-! ### write.go writeBuffer -/
def writeInt8 (i : Int) : Bytes := encInt 1 i
def writeInt16 (i : Int) : Bytes := encInt 2 i
def writeInt32 (i : Int) : Bytes := encInt 4 i
def writeInt64 (i : Int) : Bytes := encInt 8 i
def writeBool (b : Bool) : Bytes := [if b then 1 else 0]
def writeString (s : Bytes) : Bytes := encInt 2 s.length ++ s
def writeNullableString (s : Option Bytes) : Bytes := match s with | none => encInt 2 (-1) | some s => writeString s
def writeBytes (b : Bytes) : Bytes := encInt 4 b.length ++ b
/-- the loop `for … { f(x) }` -/
def writeEach {α : Type} (a : List α) (f : α → Bytes) : Bytes := (a.map f).flatten
/-- `writeArrayLen(n)` -/
def writeArrayLen (n : Int) : Bytes := encInt 4 n
/-- `writeArray(len(a), func(i int) { f(a[i]) })` -/
def writeArray {α : Type} (a : List α) (f : α → Bytes) : Bytes := writeArrayLen a.length ++ writeEach a f
def writeInt32Array (a : List Int) : Bytes := writeArray a writeInt32
def writeStringArray (a : List Bytes) : Bytes := writeArray a writeString

/-- time.go `milliseconds(d)`: a duration (ns) in milliseconds; the Go function also clamps to the int32 range, which is
not modelled (only the width of the written field matters here) -/
def milliseconds (d : Int) : Int := d / 1000000

/-- a `*recordBatch` (recordbatch.go): its `size` field and the bytes `writeRecordBatch` emits for it; that the two
agree is property C05's (hypothesis `ok`) -/
structure RecordBatchBlob where
  size : Int
  body : Bytes
  ok : (body.length : Int) = size

/-! ### length lemmas: the simp set `legacy_len` turns `((… ).length : Int)` of a `writeTo` body into the summands of
its `size()`; where `size()` adds them in another order than `writeTo` writes them, `omega` regroups the sum -/
attribute [legacy_len] List.length_append List.length_nil Int.natCast_add Int.cast_ofNat_Int Int.ofNat_eq_natCast
  sizeofInt8 sizeofInt16 sizeofInt32 sizeofInt64 sizeofBool
attribute [simp, legacy_len] RecordBatchBlob.ok

@[simp, legacy_len] theorem len_writeInt8 (i : Int) : (writeInt8 i).length = 1 := encInt_length 1 i
@[simp, legacy_len] theorem len_writeInt16 (i : Int) : (writeInt16 i).length = 2 := encInt_length 2 i
@[simp, legacy_len] theorem len_writeInt32 (i : Int) : (writeInt32 i).length = 4 := encInt_length 4 i
@[simp, legacy_len] theorem len_writeInt64 (i : Int) : (writeInt64 i).length = 8 := encInt_length 8 i
@[simp, legacy_len] theorem len_writeBool (b : Bool) : (writeBool b).length = 1 := by simp [writeBool]
@[simp, legacy_len] theorem len_writeArrayLen (n : Int) : (writeArrayLen n).length = 4 := encInt_length 4 n
@[simp, legacy_len] theorem len_writeString (s : Bytes) : ((writeString s).length : Int) = sizeofString s := by
  simp [writeString, sizeofString, encInt_length]
@[simp, legacy_len] theorem len_writeNullableString (s : Option Bytes) :
    ((writeNullableString s).length : Int) = sizeofNullableString s := by
  cases s <;> simp [writeNullableString, sizeofNullableString, encInt_length]
@[simp, legacy_len] theorem len_writeBytes (b : Bytes) : ((writeBytes b).length : Int) = sizeofBytes b := by
  simp [writeBytes, sizeofBytes, encInt_length]

/-- a version-gated write against the equally gated summand of `size()` -/
@[legacy_len] theorem len_ite (c : Prop) [Decidable c] (x : Bytes) :
    (((if c then x else []).length : Nat) : Int) = if c then (x.length : Int) else 0 := by
  split <;> rfl

@[legacy_len] theorem len_writeEach {α : Type} (a : List α) (f : α → Bytes) :
    ((writeEach a f).length : Int) = sumInt (a.map fun x => ((f x).length : Int)) := by
  induction a with
  | nil => rfl
  | cons x xs ih =>
    simp only [writeEach, List.map_cons, List.flatten_cons, List.length_append, sumInt] at ih ⊢
    omega

theorem len_writeEach_of {α : Type} (a : List α) (f : α → Bytes) (g : α → Int)
    (h : ∀ x, ((f x).length : Int) = g x) : ((writeEach a f).length : Int) = sumInt (a.map g) := by
  rw [len_writeEach, funext h]

/-- the element sizes are left under the binder, for the element type's own length lemma to rewrite -/
@[legacy_len] theorem len_writeArray {α : Type} (a : List α) (f : α → Bytes) :
    ((writeArray a f).length : Int) = sizeofArray a fun x => ((f x).length : Int) := by
  simp only [writeArray, sizeofArray, List.length_append, Int.natCast_add, len_writeArrayLen, len_writeEach, Int.cast_ofNat_Int]

theorem len_writeArray_of {α : Type} (a : List α) (f : α → Bytes) (g : α → Int)
    (h : ∀ x, ((f x).length : Int) = g x) : ((writeArray a f).length : Int) = sizeofArray a g := by
  rw [len_writeArray, funext h]

@[legacy_len] theorem sumInt_const {α : Type} (a : List α) (c : Int) : sumInt (a.map fun _ => c) = c * a.length := by
  induction a with
  | nil => simp [sumInt]
  | cons x xs ih => simp only [List.map_cons, sumInt, ih, List.length_cons]; rw [Int.natCast_succ, Int.mul_add]; omega

@[simp, legacy_len] theorem len_writeInt32Array (a : List Int) : ((writeInt32Array a).length : Int) = sizeofInt32Array a := by
  rw [writeInt32Array, len_writeArray_of a writeInt32 (fun _ => 4) (by simp), sizeofArray, sumInt_const, sizeofInt32Array]
@[simp, legacy_len] theorem len_writeStringArray (a : List Bytes) : ((writeStringArray a).length : Int) = sizeofStringArray a := by
  rw [writeStringArray, len_writeArray_of a writeString sizeofString (by simp), sizeofStringArray]

/-- `if x == nil { writeArrayLen(-1) } else { writeStringArray(x) }` against `sizeofStringArray(x)`: a nil slice is empty, and
the count -1 takes the four bytes the count 0 would -/
@[legacy_len] theorem len_nilStringArray (b : Bool) (l : List Bytes) :
    (((if (b && l.isEmpty) then writeArrayLen (-(1 : Int)) else writeStringArray l).length : Nat) : Int) = sizeofStringArray l := by
  cases l with
  | nil => cases b <;> simp [sizeofStringArray, sizeofArray, sumInt, writeStringArray, writeArray, writeEach]
  | cons x xs => simp

/-- the arithmetic of conn.go `writeRequest` (`hdr.Size = hdr.size() + req.size() - 4`, then header and request are
written): GIVEN that each is written in its announced size (`h1`, `h2`: the `legacy_size` theorems), the prefix
announces the bytes that follow it.  The statement about an actual header and body is `legacy_frame_eq_spec`
(Lemmas/LegacyFrame.lean) -/
theorem frame_announces (hdrLen reqLen : Nat) (hdrSize reqSize : Int) (h1 : (hdrLen : Int) = hdrSize) (h2 : (reqLen : Int) = reqSize) :
    ((hdrLen + reqLen : Nat) : Int) - 4 = hdrSize + reqSize - 4 := by omega

end KV.Legacy
