/-
Base/RecWire.lean — wire primitives used by the record-batch formats (core Lean only).

Big-endian fixed-width integers are modelled arithmetically (`n / 256 % 256`), signed values through
`Int.emod`, so that `omega` closes the round trips.  Unsigned LEB128 varints and zig-zag as in the Kafka
protocol guide ("VARINT", "VARLONG").
-/
import KafkaVerif.Base.Bytes

namespace KV.RW
open KV

def byte (n : Nat) : UInt8 := UInt8.ofNat (n % 256)

@[simp] theorem byte_toNat (n : Nat) : (byte n).toNat = n % 256 := by
  simp [byte, UInt8.toNat_ofNat']

theorem byte_of_toNat (b : UInt8) : byte b.toNat = b := by
  apply UInt8.toNat_inj.mp
  have := b.toNat_lt
  simp [byte_toNat]

/-! ### unsigned big-endian, `k` bytes -/

/-- the `k` low-order base-256 digits of `n`, most significant first -/
def beN : Nat → Nat → Bytes
  | 0, _ => []
  | k + 1, n => beN k (n / 256) ++ [byte n]

def deN (bs : Bytes) : Nat := bs.foldl (fun a b => a * 256 + b.toNat) 0

@[simp] theorem beN_length (k n : Nat) : (beN k n).length = k := by
  induction k generalizing n with
  | zero => rfl
  | succ k ih => simp [beN, ih]

theorem deN_append_single (bs : Bytes) (b : UInt8) : deN (bs ++ [b]) = deN bs * 256 + b.toNat := by
  simp [deN, List.foldl_append]

theorem deN_beN (k n : Nat) : deN (beN k n) = n % 256 ^ k := by
  induction k generalizing n with
  | zero => simp [beN, deN, Nat.mod_one]
  | succ k ih =>
    rw [beN, deN_append_single, ih, byte_toNat, Nat.pow_succ, Nat.mul_comm (256 ^ k) 256, Nat.mod_mul]
    omega

/-- read `k` bytes as an unsigned big-endian number -/
def readN (k : Nat) (bs : Bytes) : Option (Nat × Bytes) :=
  if k ≤ bs.length then some (deN (bs.take k), bs.drop k) else none

theorem readN_beN (k n : Nat) (r : Bytes) (h : n < 256 ^ k) :
    readN k (beN k n ++ r) = some (n, r) := by
  simp [readN, deN_beN, Nat.mod_eq_of_lt h]

theorem readN_length {k : Nat} {bs r : Bytes} {n : Nat} (h : readN k bs = some (n, r)) :
    bs.length = k + r.length := by
  unfold readN at h
  split at h
  · simp at h; rw [← h.2]; simp; omega
  · simp at h

/-! ### signed fixed-width integers (two's complement) -/

def M8 : Nat := 256
def M16 : Nat := 65536
def M32 : Nat := 4294967296
def M64 : Nat := 18446744073709551616

/-- two's complement residue of `x` modulo `m` -/
def toU (m : Nat) (x : Int) : Nat := (x % (m : Int)).toNat
/-- signed value of the residue `n` modulo `m` -/
def toS (m : Nat) (n : Nat) : Int := if 2 * n < m then (n : Int) else (n : Int) - (m : Int)

def InRange (m : Nat) (x : Int) : Prop := -(m : Int) ≤ 2 * x ∧ 2 * x < (m : Int)

instance (m : Nat) (x : Int) : Decidable (InRange m x) := by unfold InRange; infer_instance

theorem toU_lt (m : Nat) (hm : 0 < m) (x : Int) : toU m x < m := by
  unfold toU
  have h2 : x % (m : Int) < m := Int.emod_lt_of_pos _ (by omega)
  omega

theorem toS_toU (m : Nat) (hm : 0 < m) (x : Int) (h : InRange m x) : toS m (toU m x) = x := by
  unfold toS toU InRange at *
  by_cases hx : 0 ≤ x
  · have : x % (m : Int) = x := Int.emod_eq_of_lt hx (by omega)
    rw [this]
    have : ((x.toNat : Nat) : Int) = x := Int.toNat_of_nonneg hx
    split <;> omega
  · have h3 : (x + m) % (m : Int) = x + m := Int.emod_eq_of_lt (by omega) (by omega)
    have h4 : (x + m) % (m : Int) = x % (m : Int) := Int.add_emod_right ..
    rw [← h4, h3]
    have : (((x + m).toNat : Nat) : Int) = x + m := Int.toNat_of_nonneg (by omega)
    split <;> omega

def i8 (x : Int) : Bytes := beN 1 (toU M8 x)
def i16 (x : Int) : Bytes := beN 2 (toU M16 x)
def i32 (x : Int) : Bytes := beN 4 (toU M32 x)
def i64 (x : Int) : Bytes := beN 8 (toU M64 x)
def u32 (n : Nat) : Bytes := beN 4 n

def readI (k m : Nat) (bs : Bytes) : Option (Int × Bytes) :=
  match readN k bs with
  | some (n, r) => some (toS m n, r)
  | none => none

def readI8 := readI 1 M8
def readI16 := readI 2 M16
def readI32 := readI 4 M32
def readI64 := readI 8 M64
def readU32 := readN 4

theorem readI_toU (k m : Nat) (hm : m = 256 ^ k) (x : Int) (r : Bytes) (h : InRange m x) :
    readI k m (beN k (toU m x) ++ r) = some (x, r) := by
  have hpos : 0 < m := hm ▸ Nat.pow_pos (by decide)
  have hlt : toU m x < 256 ^ k := hm ▸ toU_lt m hpos x
  simp only [readI, readN_beN _ _ _ hlt, toS_toU m hpos x h]

theorem readI8_i8 (x : Int) (r : Bytes) (h : InRange M8 x) : readI8 (i8 x ++ r) = some (x, r) :=
  readI_toU 1 M8 rfl x r h

theorem readI16_i16 (x : Int) (r : Bytes) (h : InRange M16 x) : readI16 (i16 x ++ r) = some (x, r) :=
  readI_toU 2 M16 rfl x r h

theorem readI32_i32 (x : Int) (r : Bytes) (h : InRange M32 x) : readI32 (i32 x ++ r) = some (x, r) :=
  readI_toU 4 M32 rfl x r h

theorem readI64_i64 (x : Int) (r : Bytes) (h : InRange M64 x) : readI64 (i64 x ++ r) = some (x, r) :=
  readI_toU 8 M64 rfl x r h

theorem readU32_u32 (n : Nat) (r : Bytes) (h : n < M32) : readU32 (u32 n ++ r) = some (n, r) := by
  simp [readU32, u32, readN_beN _ _ _ (show n < 256 ^ 4 from h)]

@[simp] theorem i8_length (x : Int) : (i8 x).length = 1 := by simp [i8]
@[simp] theorem i16_length (x : Int) : (i16 x).length = 2 := by simp [i16]
@[simp] theorem i32_length (x : Int) : (i32 x).length = 4 := by simp [i32]
@[simp] theorem i64_length (x : Int) : (i64 x).length = 8 := by simp [i64]
@[simp] theorem u32_length (n : Nat) : (u32 n).length = 4 := by simp [u32]

/-! ### varints -/

/-- zig-zag: 0,-1,1,-2,… ↦ 0,1,2,3,… -/
def zigzag (x : Int) : Nat := if 0 ≤ x then (2 * x).toNat else (-2 * x - 1).toNat

def unzigzag (n : Nat) : Int := if n % 2 = 0 then ((n / 2 : Nat) : Int) else -((n / 2 : Nat) : Int) - 1

theorem unzigzag_zigzag (x : Int) : unzigzag (zigzag x) = x := by
  unfold unzigzag zigzag
  split <;> split <;> omega

theorem zigzag_unzigzag (n : Nat) : zigzag (unzigzag n) = n := by
  unfold unzigzag zigzag
  split <;> split <;> omega

/-- unsigned LEB128 -/
def uvarint (n : Nat) : Bytes :=
  if n < 128 then [byte n] else byte (n % 128 + 128) :: uvarint (n / 128)
termination_by n
decreasing_by omega

def readUvarint : Bytes → Option (Nat × Bytes)
  | [] => none
  | b :: r =>
    if b.toNat < 128 then some (b.toNat, r)
    else match readUvarint r with
      | some (v, r') => some (b.toNat - 128 + 128 * v, r')
      | none => none

theorem readUvarint_uvarint (n : Nat) (r : Bytes) : readUvarint (uvarint n ++ r) = some (n, r) := by
  induction n using uvarint.induct with
  | case1 n h =>
    rw [uvarint]; simp [h, readUvarint]
    have : n % 256 = n := by omega
    simp [this, h]
  | case2 n h ih =>
    rw [uvarint]; simp only [h, if_false, List.cons_append, readUvarint, byte_toNat]
    rw [ih]
    have : ¬ (n % 128 + 128) % 256 < 128 := by omega
    simp [this]; omega

/-- length of the LEB128 form: the loop of `varIntLen` (write.go) -/
def uvarintLen (n : Nat) : Nat := if n < 128 then 1 else 1 + uvarintLen (n / 128)
termination_by n
decreasing_by omega

theorem uvarint_length (n : Nat) : (uvarint n).length = uvarintLen n := by
  induction n using uvarint.induct with
  | case1 n h => rw [uvarint, uvarintLen]; simp [h]
  | case2 n h ih => rw [uvarint, uvarintLen]; simp [h, ih]; omega

theorem uvarintLen_pos (n : Nat) : 0 < uvarintLen n := by
  rw [uvarintLen]; split <;> omega

def varint (x : Int) : Bytes := uvarint (zigzag x)

def readVarint (bs : Bytes) : Option (Int × Bytes) :=
  match readUvarint bs with
  | some (n, r) => some (unzigzag n, r)
  | none => none

theorem readVarint_varint (x : Int) (r : Bytes) : readVarint (varint x ++ r) = some (x, r) := by
  simp [readVarint, varint, readUvarint_uvarint, unzigzag_zigzag]

/-- null (`-1`) and the empty length (`0`) are one byte each, and different bytes -/
theorem varint_neg_one : varint (-1) = [1] := by rw [varint, uvarint]; rfl
theorem varint_zero : varint 0 = [0] := by rw [varint, uvarint]; rfl

def varintLen (x : Int) : Nat := uvarintLen (zigzag x)

theorem varint_length (x : Int) : (varint x).length = varintLen x := uvarint_length _

theorem readUvarint_length {bs r : Bytes} {n : Nat} (h : readUvarint bs = some (n, r)) : r.length < bs.length := by
  induction bs generalizing n r with
  | nil => simp [readUvarint] at h
  | cons b t ih =>
    simp only [readUvarint] at h
    split at h
    · simp at h; rw [← h.2]; simp
    · cases hr : readUvarint t with
      | none => simp [hr] at h
      | some p =>
        obtain ⟨v, r'⟩ := p
        simp [hr] at h
        have := ih hr
        rw [← h.2]; simp; omega

/-- take exactly `n` bytes -/
def takeN (n : Nat) (bs : Bytes) : Option (Bytes × Bytes) :=
  if n ≤ bs.length then some (bs.take n, bs.drop n) else none

theorem takeN_append (a r : Bytes) : takeN a.length (a ++ r) = some (a, r) := by
  simp [takeN]

end KV.RW
