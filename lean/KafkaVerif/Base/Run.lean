/-
Base/Run.lean — runs of a partial step function (core Lean only).

A `run` that folds a `step : σ → ε → Option σ` over a list of events — whether its model writes it with `match` on
`step s e`, with `bind`, or restricted to some of the events — is the function `es.foldlM step s` of core.  A model whose
theorems speak of such runs states that once, next to its step lemmas, as a bridge
  `run_eq : run cfg s es = es.foldlM (step cfg) s := Run.eq_foldlM (fun _ => rfl) (fun s e es => by rw [run]; cases step cfg s e <;> rfl) es s`
(for a `run` written with `bind` both arguments are `rfl`; a restricted run is the fold of
`fun s e => if g s e then step s e else none`, and `Option.ite_none_right_eq_some` takes the guard off a step).
What holds along runs is then proved here once: `rec` is the one induction over the events, everything below it is `rec`
at a suitable relation.  `List.foldlM_nil`, `List.foldlM_cons`, `List.foldlM_append` of core are the equations.
Not every run of the development is such a fold or has a bridge (some go by an inductive reachability, some are total, some
collect output): DESIGN.md §4 lists which.
-/
namespace KV.Run

variable {σ ε : Type} {step : σ → ε → Option σ}

theorem eq_foldlM {run : σ → List ε → Option σ} (hnil : ∀ s, run s [] = some s)
    (hcons : ∀ s e es, run s (e :: es) = (step s e).bind fun s' => run s' es) :
    ∀ es s, run s es = es.foldlM step s := by
  intro es
  induction es with
  | nil => exact hnil
  | cons e es ih => intro s; rw [hcons, List.foldlM_cons]; exact congrArg _ (funext ih)

theorem cons_eq_some {e : ε} {es : List ε} {s t : σ} :
    (e :: es).foldlM step s = some t ↔ ∃ s', step s e = some s' ∧ es.foldlM step s' = some t := by
  rw [List.foldlM_cons]; exact Option.bind_eq_some_iff

theorem append_eq_some {es fs : List ε} {s t : σ} :
    (es ++ fs).foldlM step s = some t ↔ ∃ s', es.foldlM step s = some s' ∧ fs.foldlM step s' = some t := by
  rw [List.foldlM_append]; exact Option.bind_eq_some_iff

theorem snoc_eq_some {e : ε} {es : List ε} {s t : σ} :
    (es ++ [e]).foldlM step s = some t ↔ ∃ s', es.foldlM step s = some s' ∧ step s' e = some t := by
  rw [append_eq_some]
  refine exists_congr fun s' => and_congr_right fun _ => ?_
  rw [cons_eq_some]
  exact ⟨fun ⟨_, h, h'⟩ => by cases h'; exact h, fun h => ⟨t, h, rfl⟩⟩

theorem rec {R : σ → List ε → σ → Prop} (nil : ∀ s, R s [] s)
    (cons : ∀ s e s' es t, step s e = some s' → R s' es t → R s (e :: es) t) :
    ∀ {es s t}, es.foldlM step s = some t → R s es t := by
  intro es
  induction es with
  | nil => intro s t h; cases h; exact nil s
  | cons e es ih =>
    intro s t h
    obtain ⟨s', h1, h2⟩ := cons_eq_some.mp h
    exact cons s e s' es t h1 (ih h2)

/-- from the other end, for runs from a fixed start `s0`: the predicate may speak of the events consumed so far -/
theorem rec_snoc {s0 : σ} {P : List ε → σ → Prop} (nil : P [] s0)
    (snoc : ∀ hist t e t', hist.foldlM step s0 = some t → P hist t → step t e = some t' → P (hist ++ [e]) t')
    {es : List ε} {t : σ} (h : es.foldlM step s0 = some t) : P es t := by
  -- `rec` at: whatever history led from `s0` to the start of the rest, history ++ rest leads to its end with `P`
  have := rec (step := step) (R := fun s es t => ∀ hist, hist.foldlM step s0 = some s → P hist s →
      (hist ++ es).foldlM step s0 = some t ∧ P (hist ++ es) t)
    (fun s hist hr hp => by simpa using And.intro hr hp)
    (fun s e s' es t hs ih hist hr hp => by
      have hr' := snoc_eq_some.mpr ⟨s, hr, hs⟩
      simpa using ih (hist ++ [e]) hr' (snoc hist s e s' hr hp hs)) h [] rfl nil
  simpa using this.2

/-- a model restricted to some of its events, or to what is possible against a silent peer, runs in the unrestricted model -/
theorem mono {step' : σ → ε → Option σ} (hsub : ∀ s e s', step s e = some s' → step' s e = some s')
    {es : List ε} {s t : σ} (h : es.foldlM step s = some t) : es.foldlM step' s = some t :=
  rec (R := fun s es t => es.foldlM step' s = some t) (fun _ => rfl)
    (fun s e s' _ _ hs ih => cons_eq_some.mpr ⟨s', hsub s e s' hs, ih⟩) h

/-- the step case may use that its event occurs in the run, hence satisfies whatever all events of the run satisfy -/
theorem invariant_mem {P : σ → Prop} {es : List ε} {s t : σ}
    (hstep : ∀ s e s', e ∈ es → P s → step s e = some s' → P s') (h : es.foldlM step s = some t) (h0 : P s) : P t :=
  rec (R := fun s es t => (∀ s e s', e ∈ es → P s → step s e = some s' → P s') → P s → P t) (fun _ _ h => h)
    (fun s e s' _ _ hs ih hstep h0 =>
      ih (fun a x b hx => hstep a x b (List.mem_cons_of_mem _ hx)) (hstep s e s' List.mem_cons_self h0 hs)) h hstep h0

theorem invariant {P : σ → Prop} (hstep : ∀ s e s', P s → step s e = some s' → P s')
    {es : List ε} {s t : σ} (h : es.foldlM step s = some t) (h0 : P s) : P t :=
  invariant_mem (fun s e s' _ => hstep s e s') h h0

theorem rel {I : σ → Prop} {R : σ → σ → Prop} (refl : ∀ s, R s s) (trans : ∀ {a b c}, R a b → R b c → R a c)
    (hstep : ∀ s e s', I s → step s e = some s' → I s' ∧ R s s')
    {es : List ε} {s t : σ} (h : es.foldlM step s = some t) (h0 : I s) : I t ∧ R s t :=
  rec (R := fun s _ t => I s → I t ∧ R s t) (fun s h => ⟨h, refl s⟩)
    (fun s e s' _ _ hs ih h0 =>
      have h1 := hstep s e s' h0 hs
      have h2 := ih h1.1
      ⟨h2.1, trans h1.2 h2.2⟩) h h0

/-- `cost e` is the credit an event brings along: a step may raise `μ` by less than that.  With `cost = 0`: no run from `s`
is longer than `μ s`. -/
theorem bounded {I : σ → Prop} {μ : σ → Nat} {cost : ε → Nat}
    (hstep : ∀ s e s', I s → step s e = some s' → I s' ∧ μ s' < μ s + cost e)
    {es : List ε} {s t : σ} (h : es.foldlM step s = some t) (h0 : I s) :
    I t ∧ es.length + μ t ≤ μ s + (es.map cost).sum :=
  rec (R := fun s es t => I s → I t ∧ es.length + μ t ≤ μ s + (es.map cost).sum)
    (fun s h => ⟨h, by simp⟩)
    (fun s e s' es t hs ih h0 => by
      have h1 := hstep s e s' h0 hs
      have h2 := ih h1.1
      refine ⟨h2.1, ?_⟩
      simp only [List.length_cons, List.map_cons, List.sum_cons]
      omega) h h0

end KV.Run
