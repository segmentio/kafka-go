/-
Lemmas/XerialCut.lean — a framed stream that ENDS EARLY (truncated by the source, or the source fails): whatever the
reader hands out before it reports the end or the error is a prefix of what it hands out for the complete stream —
never other data.  Proved as a simulation: the reader on `rest` and the reader on `rest ++ t` make the same data steps.
-/
import KafkaVerif.Lemmas.XerialChunk

namespace KV.Model.Xerial
open KV KV.RW KV.Spec.Xerial

/-- the same reader with more bytes to come -/
def ext (r : Reader) (t : Bytes) : Reader := { r with rest := r.rest ++ t }

/-- the chunk carries a decoded block, handed out directly or buffered (not the end, not an error) -/
def Chunk.isData : Chunk → Bool
  | .direct _ => true
  | .buffered => true
  | _ => false

/-- the reader is in framed mode (header consumed and recognised) or about to read a complete xerial header -/
def Framed (r : Reader) : Prop :=
  (r.nbytes = 0 ∧ 16 ≤ r.rest.length ∧ r.rest.take 8 = magic) ∨ (r.nbytes ≠ 0 ∧ r.header.take 8 = magic)

theorem decodeInto_ext (c : Codec) (r : Reader) (t input : Bytes) (k : Nat) :
    decodeInto c (ext r t) input k = (ext (decodeInto c r input k).1 t, (decodeInto c r input k).2) := by
  unfold decodeInto
  cases c.decodedLen input <;> cases c.dec input <;> simp [ext] <;> split <;> rfl

/-- a data step means that the whole block was there (`framedBody_full`), and then it is a prefix of the longer stream too -/
theorem framedBody_ext (c : Codec) (r : Reader) (t : Bytes) (k : Nat) (hd : (framedBody c r k).2.isData = true) :
    framedBody c (ext r t) k = (ext (framedBody c r k).1 t, (framedBody c r k).2) ∧
      (framedBody c r k).1.nbytes ≠ 0 ∧ (framedBody c r k).1.header = r.header := by
  by_cases hfull : 4 + deN (r.rest.take 4) ≤ r.rest.length
  · have ht4 : (ext r t).rest.take 4 = r.rest.take 4 := List.take_append_of_le_length (by omega)
    have hfull' : 4 + deN ((ext r t).rest.take 4) ≤ (ext r t).rest.length := by
      rw [ht4]; simp only [ext, List.length_append]; omega
    have hkeep := decodeInto_keeps c
      { r with rest := r.rest.drop (4 + deN (r.rest.take 4)), nbytes := r.nbytes + 4 + deN (r.rest.take 4) }
      ((r.rest.drop 4).take (deN (r.rest.take 4))) k
    rw [framedBody_full c r k hfull, framedBody_full c (ext r t) k hfull', ht4, ← decodeInto_ext]
    refine ⟨?_, by rw [hkeep.1]; show r.nbytes + 4 + _ ≠ 0; omega, hkeep.2⟩
    simp only [ext, List.drop_append_of_le_length hfull,
      List.drop_append_of_le_length (show 4 ≤ r.rest.length by omega)]
    rw [List.take_append_of_le_length (by rw [List.length_drop]; omega)]
  · rcases framedBody_short c r k hfull with h | h <;> rw [h] at hd <;> cases hd

theorem readChunk_ext (c : Codec) (r : Reader) (t : Bytes) (k : Nat) (hf : Framed r)
    (hd : (readChunk c r k).2.isData = true) :
    readChunk c (ext r t) k = (ext (readChunk c r k).1 t, (readChunk c r k).2) ∧ Framed (readChunk c r k).1 := by
  rcases hf with ⟨hn, hl, hm⟩ | ⟨hn, hm⟩
  · have hl' : 16 ≤ (ext r t).rest.length := by simp only [ext, List.length_append]; omega
    have hm' : (ext r t).rest.take 8 = magic := by rw [← hm]; exact List.take_append_of_le_length (by omega)
    have e1 : afterHeader (ext r t) ((ext r t).rest.take 16) ((ext r t).rest.drop 16) =
        ext (afterHeader r (r.rest.take 16) (r.rest.drop 16)) t := by
      simp only [afterHeader, ext, List.take_append_of_le_length hl, List.drop_append_of_le_length hl]
    obtain ⟨hrc, hmag⟩ := readChunk_first c r k hn hl hm
    rw [hrc] at hd ⊢
    rw [(readChunk_first c (ext r t) k hn hl' hm').1, e1]
    obtain ⟨hstep, hnb, hhdr⟩ := framedBody_ext c _ t k hd
    exact ⟨hstep, .inr ⟨hnb, by rw [hhdr]; exact hmag⟩⟩
  · rw [readChunk_later c r k hn, if_pos hm] at hd ⊢
    rw [readChunk_later c (ext r t) k hn, if_pos (show (ext r t).header.take 8 = magic from hm)]
    obtain ⟨hstep, hnb, hhdr⟩ := framedBody_ext c (clearOut r) t k hd
    exact ⟨hstep, .inr ⟨hnb, by rw [hhdr]; exact hm⟩⟩

theorem read_ext (c : Codec) (t : Bytes) (k : Nat) (fuel fuel' : Nat) (r r1 : Reader) (d : Bytes) (hle : fuel ≤ fuel')
    (hf : Framed r) (h : read c fuel r k = (r1, .data d)) :
    read c fuel' (ext r t) k = (ext r1 t, .data d) ∧ Framed r1 := by
  induction fuel generalizing fuel' r with
  | zero => simp [read] at h
  | succ fuel ih =>
    rcases fuel' with _ | f'
    · omega
    simp only [read] at h ⊢
    by_cases ho : r.offset < r.output.length
    · rw [if_pos ho] at h
      rw [if_pos (show (ext r t).offset < (ext r t).output.length from ho)]
      cases h
      exact ⟨rfl, hf⟩
    · rw [if_neg ho] at h
      rw [if_neg (show ¬ (ext r t).offset < (ext r t).output.length from ho)]
      have hx := readChunk_ext c r t k hf
      cases hrc : readChunk c r k with
      | mk r2 ch =>
        rw [hrc] at h hx
        cases ch with
        | eof => simp at h
        | err => simp at h
        | direct b =>
          obtain ⟨hx1, hx2⟩ := hx rfl
          rw [hx1]
          simp only at h ⊢
          by_cases hb : b.length > 0
          · rw [if_pos hb] at h ⊢
            cases h; exact ⟨rfl, hx2⟩
          · rw [if_neg hb] at h ⊢
            exact ih f' r2 (Nat.le_of_succ_le_succ hle) hx2 h
        | buffered =>
          obtain ⟨hx1, hx2⟩ := hx rfl
          rw [hx1]
          exact ih f' r2 (Nat.le_of_succ_le_succ hle) hx2 h

theorem readAllOut_of_readAllWith (c : Codec) : ∀ (ks : List Nat) (r : Reader) (x : Bytes),
    readAllWith c r ks = some x → readAllOut c r ks = x := by
  intro ks r x h
  fun_induction readAllWith c r ks generalizing x with
  | case1 => cases h
  | case2 r k ks r' b hrd ih =>
    obtain ⟨y, hy, rfl⟩ := Option.map_eq_some_iff.mp h
    rw [readAllOut, hrd]; exact congrArg (b ++ ·) (ih y hy)
  | case3 r k ks r' hrd => cases h; rw [readAllOut, hrd]
  | case4 => cases h

theorem readAllOut_prefix (c : Codec) (t : Bytes) : ∀ (ks : List Nat) (r : Reader), Framed r →
    readAllOut c r ks <+: readAllOut c (ext r t) ks
  | [], _, _ => by simp [readAllOut]
  | k :: ks, r, hf => by
    simp only [readAllOut]
    cases hrd : read c (r.rest.length + 2) r k with
    | mk r' res =>
      cases res with
      | data b =>
        have hx := read_ext c t k (r.rest.length + 2) ((ext r t).rest.length + 2) r r' b
          (by simp only [ext, List.length_append]; omega) hf hrd
        rw [hx.1]
        simp only
        exact (List.prefix_append_right_inj b).mpr (readAllOut_prefix c t ks r' hx.2)
      | eof => exact List.nil_prefix
      | err => exact List.nil_prefix

theorem frame_length_ge (l : List Bytes) : 16 ≤ (frame l).length := by
  rw [frame, List.length_append]; exact Nat.le_add_right 16 _

theorem readAllOut_take_prefix (c : Codec) (s : Bytes) (n : Nat) (hn : 16 ≤ n) (hl : 16 ≤ s.length)
    (hm : s.take 8 = magic) (ks : List Nat) :
    readAllOut c (newReader (s.take n)) ks <+: readAllOut c (newReader s) ks := by
  have hfr : Framed (newReader (s.take n)) :=
    .inl ⟨rfl, by rw [newReader, List.length_take]; omega,
      by rw [newReader, List.take_take, Nat.min_eq_left (by omega)]; exact hm⟩
  have hp := readAllOut_prefix c (s.drop n) ks _ hfr
  rwa [show ext (newReader (s.take n)) (s.drop n) = newReader s by rw [ext, newReader, List.take_append_drop]; rfl] at hp

end KV.Model.Xerial
