/-
Lemmas/WriterProgress.lean — fairness-free progress of a partition writer (C08 "flushed without further input"; C01
`sync_call_returns_without_further_input`).  `pwCost` measures the work left in a pipeline, counted in internal events of
the partition writer (`internalFor`).  Every internal step lowers
the measure and only `complete` takes a batch out of the pipeline, completed (`internal_step`); while the pipeline is not
empty an internal step exists, no caller needed (`internal_next`); a completed batch stays completed (`done_stable`).
Hence, for `1 ≤ MaxAttempts`, from every reachable state with `fresh = none` (no batch between newWriteBatch and its first `add`) at most `pwCost`
internal events empty the pipeline and complete every batch that was in it (`flush_run`).
-/
import KafkaVerif.Lemmas.WriterSched
namespace KV.Writer

def DoneKeeps (B B' : Batch) : Prop := ∀ code, B.done = some code → B'.done = some code

theorem DoneKeeps.refl (B : Batch) : DoneKeeps B B := fun _ h => h

/-- once completed, a batch stays completed with the same error: `complete` is the only event that sets `done`, and the
batch it completes is held by a sender, hence not completed yet -/
theorem done_stable {cfg : Cfg} {s s' : State} {e : Event} (hO : InvOrd s) (hL : InvLife cfg s) (h : Step cfg s e s') :
    MapRel (fun _ => True) DoneKeeps s.batches s'.batches := by
  induction h with
  | complete hP hB hg =>
    refine .upd DoneKeeps.refl hB fun code hd => ?_
    have := hL.pipeLive hO hP (sender_mem_pipe (by rw [hg]; rfl)) hB
    rw [hd] at this; cases this
  | newBatch hP hg => exact .new DoneKeeps.refl (Option.isNone_iff_eq_none.mp hg.free) trivial
  | add hP hB hC hg | detach hP hB hg | timerFire hP hB hg | completion hP hB hg | produce hP hsend hB hg =>
    exact .upd DoneKeeps.refl hB fun _ h => h
  | _ => exact .refl DoneKeeps.refl

theorem done_stable_run {cfg : Cfg} {s s' : State} {es : List Event} (hr : Reachable cfg s) (h : run cfg s es = some s')
    {b : Nat} {B : Batch} {code : Code} (hB : s.batches b = some B) (hd : B.done = some code) :
    ∃ B', s'.batches b = some B' ∧ B'.done = some code :=
  (Run.rel (I := Reachable cfg)
    (R := fun s t => ∀ b B code, s.batches b = some B → B.done = some code → ∃ B', t.batches b = some B' ∧ B'.done = some code)
    (fun _ _ B _ hB hd => ⟨B, hB, hd⟩)
    (fun h1 h2 b B code hB hd => (h1 b B code hB hd).elim fun B1 h => h2 b B1 code h.1 h.2)
    (fun s _ _ hr hs => ⟨hr.step hs, fun b B code hB hd =>
      ((done_stable (invOrd cfg s hr) (invLife cfg s hr) (.of_step hs)).fwd b B hB).imp fun _ h => ⟨h.1, h.2 code hd⟩⟩)
    (run_eq cfg s es ▸ h) hr).2 b B code hB hd

/-! ## The measure and the flush

`pwCost` counts the internal events a partition writer still has to take, at most.  An attempt k takes three (attempt,
the broker's decision, attemptDone), so a sender about to make attempt k may need 3·(MaxAttempts − k) of them, and then
Completion and complete: `senderCost (.ready _ k) = 3·(MaxAttempts − k) + 2`, one less after each event.  A batch taken
from the queue starts at `.ready _ 0`, which is `batchCost`; a queued batch costs one more (queue.Get), a pending one two
more (queue.Put, queue.Get), an attached one three or four more (the timer fires unless it has, detach, Put, Get). -/

def senderCost (cfg : Cfg) : Sender → Nat
  | .idle => 0
  | .exited => 0
  | .ready _ k => 3 * (cfg.maxAttempts - k) + 2
  | .attempting _ k none => 3 * (cfg.maxAttempts - k) + 1
  | .attempting _ k (some _) => 3 * (cfg.maxAttempts - k)
  | .finishing _ _ false => 2
  | .finishing _ _ true => 1

/-- steps a queued batch still needs once the sender has taken it -/
def batchCost (cfg : Cfg) : Nat := 3 * cfg.maxAttempts + 2

def timerCost (bt : Nat → Option Batch) (b : Nat) : Nat :=
  match bt b with
  | some B => if B.timerFired then 0 else 1
  | none => 0

def currCost (cfg : Cfg) (bt : Nat → Option Batch) : Option Nat → Nat
  | some b => batchCost cfg + 3 + timerCost bt b
  | none => 0

def pwCost (cfg : Cfg) (bt : Nat → Option Batch) (P : PW) : Nat :=
  senderCost cfg P.sender + P.queue.length * (batchCost cfg + 1) +
  (if P.pending.isSome then batchCost cfg + 2 else 0) + currCost cfg bt P.curr

/-- the events of partition writer pw that need no caller: its timer, its queue hand-over, its sender, its broker -/
def internalFor (s : State) (pw : Nat) : Event → Bool
  | .timerFire pw' b true => pw' == pw && (match s.batches b with | some B => !B.timerFired | none => false)
  | .detach pw' _ .timer _ => pw' == pw
  | .qput q _ _ => s.qOf q == some pw
  | .qget q (some _) => s.qOf q == some pw
  | .attempt pw' _ _ => pw' == pw
  | .produce pw' _ _ _ => pw' == pw
  | .attemptDone pw' _ _ _ => pw' == pw
  | .completion pw' _ _ => pw' == pw
  | .complete pw' _ _ => pw' == pw
  | _ => false

theorem currCost_upd {cfg : Cfg} {bt : Nat → Option Batch} {b : Nat} {B B' : Batch} (hB : bt b = some B)
    (ht : B'.timerFired = B.timerFired) (c : Option Nat) : currCost cfg (upd bt b (some B')) c = currCost cfg bt c := by
  cases c with
  | none => rfl
  | some x =>
    simp only [currCost, timerCost]
    by_cases hx : x = b
    · subst hx; simp [hB, ht]
    · rw [upd_other _ _ _ _ hx]

theorem pwCost_upd {cfg : Cfg} {bt : Nat → Option Batch} {b : Nat} {B B' : Batch} (hB : bt b = some B)
    (ht : B'.timerFired = B.timerFired) (P : PW) : pwCost cfg (upd bt b (some B')) P = pwCost cfg bt P := by
  unfold pwCost
  rw [currCost_upd hB ht]

theorem pwCost_sender_lt {cfg : Cfg} {bt : Nat → Option Batch} {P : PW} {σ : Sender}
    (h : senderCost cfg σ < senderCost cfg P.sender) : pwCost cfg bt { P with sender := σ } < pwCost cfg bt P := by
  unfold pwCost
  exact Nat.add_lt_add_right (Nat.add_lt_add_right (Nat.add_lt_add_right h _) _) _

theorem senderCost_afterAttempt (cfg : Cfg) (b k : Nat) (code : Code) (br : Option BrOut) (hk : k < cfg.maxAttempts) :
    senderCost cfg (afterAttempt cfg b k code) < senderCost cfg (.attempting b k br) := by
  have hge : 3 * (cfg.maxAttempts - k) ≤ senderCost cfg (.attempting b k br) := by
    cases br
    · exact Nat.le_succ _
    · exact Nat.le_refl _
  refine Nat.lt_of_lt_of_le ?_ hge
  rcases afterAttempt_cases cfg b k code with ⟨-, e⟩ | ⟨-, -, -, e⟩ | ⟨-, e⟩ <;> rw [e]
  · show 2 < _; omega
  · show 3 * (cfg.maxAttempts - (k + 1)) + 2 < _; omega
  · show 2 < _; omega

/-- what `internalFor s pw e = true` says, event by event: the event is one of the nine kinds and belongs to `pw` -/
theorem internalFor_elim {s : State} {pw : Nat} {e : Event} (h : internalFor s pw e = true) :
    match e with
    | .timerFire pw' b att => pw' = pw ∧ att = true ∧ ∃ B, s.batches b = some B ∧ B.timerFired = false
    | .detach pw' _ why _ => pw' = pw ∧ why = .timer
    | .qput q _ _ | .qget q (some _) => s.qOf q = some pw
    | .attempt pw' _ _ | .produce pw' _ _ _ | .attemptDone pw' _ _ _ | .completion pw' _ _ | .complete pw' _ _ => pw' = pw
    | _ => False := by
  cases e with
  | timerFire pw' b att =>
    cases att
    · cases h
    · simp only [internalFor, Bool.and_eq_true, beq_iff_eq] at h
      refine ⟨h.1, rfl, ?_⟩
      cases hB : s.batches b with
      | none => rw [hB] at h; cases h.2
      | some B => rw [hB] at h; exact ⟨B, rfl, by simpa using h.2⟩
  | detach pw' b why sz => cases why <;> first | cases h | exact ⟨beq_iff_eq.mp h, rfl⟩
  | qput => exact beq_iff_eq.mp h
  | qget q ob => cases ob <;> first | cases h | exact beq_iff_eq.mp h
  | attempt | produce | attemptDone | completion | complete => exact beq_iff_eq.mp h
  | _ => cases h

/-- events of the writer's own goroutines and of the broker: the state-independent shape of `internalFor`.  Not among
them: what a caller or Close does (`detach` for full / nofit / close, `qclose`, everything on calls), the sender's exit
(`qget _ none`) and a timer firing for a batch that is no longer attached (`timerFire _ _ false`) -/
def Event.internal : Event → Bool
  | .timerFire _ _ true => true
  | .detach _ _ .timer _ => true
  | .qput _ _ _ => true
  | .qget _ (some _) => true
  | .attempt _ _ _ => true
  | .produce _ _ _ _ => true
  | .attemptDone _ _ _ _ => true
  | .completion _ _ _ => true
  | .complete _ _ _ => true
  | _ => false

theorem internal_of_internalFor {s : State} {pw : Nat} {e : Event} (h : internalFor s pw e = true) : e.internal = true := by
  have := internalFor_elim h
  cases e with
  | timerFire _ _ att => obtain ⟨-, rfl, -⟩ := this; rfl
  | detach _ _ why _ => obtain ⟨-, rfl⟩ := this; rfl
  | qget _ ob => cases ob <;> first | rfl | exact this.elim
  | _ => first | rfl | exact this.elim

/-- what the internal events of partition writer pw leave alone: the call records, the writer mutex, the window "batch
created, first add pending", the list of partition writers, and every other partition writer -/
structure OnlyPW (pw : Nat) (s s' : State) : Prop where
  calls : s'.calls = s.calls
  wlock : s'.wlock = s.wlock
  fresh : s'.fresh = s.fresh
  pwIds : s'.pwIds = s.pwIds
  others : ∀ x, x ≠ pw → s'.pws x = s.pws x

theorem OnlyPW.refl (pw : Nat) (s : State) : OnlyPW pw s s := ⟨rfl, rfl, rfl, rfl, fun _ _ => rfl⟩

theorem OnlyPW.trans {pw : Nat} {s s1 s' : State} (a : OnlyPW pw s s1) (b : OnlyPW pw s1 s') : OnlyPW pw s s' :=
  ⟨b.calls.trans a.calls, b.wlock.trans a.wlock, b.fresh.trans a.fresh, b.pwIds.trans a.pwIds,
   fun x hx => (b.others x hx).trans (a.others x hx)⟩

theorem internal_frame {cfg : Cfg} {s s' : State} {pw : Nat} {e : Event} (hint : internalFor s pw e = true)
    (h : Step cfg s e s') : OnlyPW pw s s' := by
  induction h with
  | timerFire => exact ⟨rfl, rfl, rfl, rfl, fun _ _ => rfl⟩
  | detach =>
    obtain ⟨rfl, -⟩ := internalFor_elim hint
    exact ⟨rfl, rfl, rfl, rfl, fun x hx => upd_other _ _ _ _ hx⟩
  | attempt | produce | attemptDone | completion | complete =>
    cases (internalFor_elim hint :)
    exact ⟨rfl, rfl, rfl, rfl, fun x hx => upd_other _ _ _ _ hx⟩
  | qput hq | qgetSome hq =>
    cases hq.symm.trans (internalFor_elim hint)
    exact ⟨rfl, rfl, rfl, rfl, fun x hx => upd_other _ _ _ _ hx⟩
  | _ => exact (internalFor_elim hint).elim

/-- What an internal event of partition writer `pw` does: the work left decreases, and the pipeline stays as it is unless
`complete` removes its head, completed.  (`hQ`: the queue accepts the pending batch, because a closed queue has none.) -/
theorem internal_step {cfg : Cfg} {s s' : State} {e : Event} (hI : InvPos cfg s) (hQ : InvClosedQ s) {pw : Nat} {P : PW}
    (hP : s.pws pw = some P) (hint : internalFor s pw e = true) (h : Step cfg s e s') :
    ∃ P', s'.pws pw = some P' ∧ pwCost cfg s'.batches P' < pwCost cfg s.batches P ∧
      (P'.pipe = P.pipe ∨ ∃ b code, P.pipe = b :: P'.pipe ∧ ∃ B', s'.batches b = some B' ∧ B'.done = some code) := by
  induction h with
  | @timerFire _ b _ _ B hP' hB hg =>
    obtain ⟨rfl, rfl, B', hB', hnf⟩ := internalFor_elim hint
    cases hP.symm.trans hP'; cases hB.symm.trans hB'
    have hc : P.curr = some b := by simpa using hg.attached.symm
    refine ⟨P, hP, ?_, Or.inl rfl⟩
    simp only [pwCost, hc, currCost, timerCost, upd_same, hB, hnf]
    simp
  | detach hP' hB hg =>
    obtain ⟨rfl, -⟩ := internalFor_elim hint
    cases hP.symm.trans hP'
    refine ⟨_, upd_same .., ?_, Or.inl (pipe_detach hg.curr hg.pending)⟩
    simp only [pwCost, hg.curr, hg.pending, currCost]
    simp
    omega
  | @qput _ _ _ acc _ hq hP' hg =>
    cases hq.symm.trans (internalFor_elim hint)
    cases hP.symm.trans hP'
    have hpend := hg.pending
    have hc := hg.curr
    refine ⟨_, upd_same .., ?_, ?_⟩
    · simp only [pwCost, hc, hpend, currCost]
      cases acc <;> simp [enq, Nat.add_mul] <;> omega
    · cases hqc : P.qclosed with
      | true => rw [(hQ.closedQ pw P hP hqc).2.2] at hpend; cases hpend
      | false => rw [hg.accepted]; exact Or.inl (by simp [PW.pipe, hc, hpend, enq, hqc])
  | qgetSome hq hP' hg =>
    cases hq.symm.trans (internalFor_elim hint)
    cases hP.symm.trans hP'
    refine ⟨_, upd_same .., ?_, Or.inl (pipe_qget hg.idle hg.head)⟩
    simp only [pwCost, hg.idle, senderCost]
    obtain ⟨t, ht⟩ := List.head?_eq_some_iff.mp hg.head
    rw [ht]
    simp [batchCost, Nat.add_mul]
    omega
  | attempt hP' hg =>
    cases (internalFor_elim hint :)
    cases hP.symm.trans hP'
    exact ⟨_, upd_same .., pwCost_sender_lt (by rw [hg.ready]; exact Nat.lt_succ_self _), Or.inl (pipe_sender P (by rw [hg.ready]; rfl))⟩
  | produce hP' hsend hB hg =>
    cases (internalFor_elim hint :)
    cases hP.symm.trans hP'
    refine ⟨_, upd_same .., ?_, Or.inl (pipe_sender P (by rw [hsend]; rfl))⟩
    refine Nat.lt_of_le_of_lt (Nat.le_of_eq (pwCost_upd hB (by rfl) _)) (pwCost_sender_lt ?_)
    rw [hsend]; exact Nat.lt_succ_self _
  | attemptDone hP' hsend hg =>
    cases (internalFor_elim hint :)
    cases hP.symm.trans hP'
    refine ⟨_, upd_same .., pwCost_sender_lt ?_, Or.inl (pipe_sender P (by rw [afterAttempt_batch, hsend]; rfl))⟩
    have hk := (hI pw P hP).sender
    rw [hsend] at hk ⊢; exact senderCost_afterAttempt _ _ _ _ _ hk.1
  | completion hP' hB hg =>
    cases (internalFor_elim hint :)
    cases hP.symm.trans hP'
    refine ⟨_, upd_same .., ?_, Or.inl (pipe_sender P (by rw [hg.sender]; rfl))⟩
    refine Nat.lt_of_le_of_lt (Nat.le_of_eq (pwCost_upd hB (by rfl) _)) (pwCost_sender_lt ?_)
    rw [hg.sender]; exact Nat.lt_succ_self _
  | @complete _ b code _ _ hP' hB hg =>
    cases (internalFor_elim hint :)
    cases hP.symm.trans hP'
    refine ⟨_, upd_same .., ?_, Or.inr ⟨b, code, pipe_complete hg, _, upd_same .., rfl⟩⟩
    refine Nat.lt_of_le_of_lt (Nat.le_of_eq (pwCost_upd hB (by rfl) _)) (pwCost_sender_lt ?_)
    rw [hg]; cases cfg.completion <;> simp [senderCost]
  | _ => exact (internalFor_elim hint).elim

/-- while its pipeline is not empty a partition writer has an internal step.  `hfresh` is needed in one place: the timer
may detach the attached batch only outside the window between newWriteBatch and the first add (the guard
`s.fresh ≠ some b` of `detach`) -/
theorem internal_next (cfg : Cfg) (hmax : 1 ≤ cfg.maxAttempts) (s : State) (hr : Reachable cfg s) (hfresh : s.fresh = none)
    (pw : Nat) (P : PW) (hP : s.pws pw = some P) (hne : P.pipe ≠ []) :
    ∃ e s', internalFor s pw e = true ∧ Step cfg s e s' := by
  have hG := invProg cfg hmax s hr
  have hS := invSched cfg s hr
  have hp := hG.pw pw P hP
  have hq := hS.qOfInv pw P hP
  have hheld : ∀ b, P.sender.batch? = some b → ∃ B, s.batches b = some B ∧ B.pw = pw ∧ B.tp = P.tp := by
    intro b hb
    obtain ⟨B, hB, hpw⟩ := (invOrd cfg s hr).pipeEx pw P hP b (sender_mem_pipe hb)
    obtain ⟨P0, hP0, htp⟩ := (invLife cfg s hr).owner hB
    rw [hpw, hP] at hP0; cases hP0
    exact ⟨B, hB, hpw, htp⟩
  -- the sender holds nothing and the queue is empty: hand over the pending batch, else let the timer flush the attached one
  have hrest : P.sender.batch? = none → P.queue = [] → ∃ e s', internalFor s pw e = true ∧ Step cfg s e s' := by
    intro hsb hqu
    cases hpe : P.pending with
    | some b =>
      exact ⟨.qput P.q b (!P.qclosed), _, beq_iff_eq.mpr hq, .qput hq hP ⟨hpe, hp.pendingCurr (by simp [hpe]), rfl⟩⟩
    | none =>
      cases hcu : P.curr with
      | none => exact absurd (by simp [PW.pipe, hsb, hqu, hpe, hcu]) hne
      | some b =>
        obtain ⟨B, hB, hpw, hdet⟩ := hS.currOpen pw P hP b hcu
        cases htf : B.timerFired with
        | false =>
          exact ⟨.timerFire pw b true, _, by simp [internalFor, hB, htf],
            .timerFire hP hB ⟨hpe, hpw, (decide_eq_true hcu).symm⟩⟩
        | true =>
          exact ⟨.detach pw b .timer 0, _, beq_self_eq_true pw,
            .detach hP hB ⟨hcu, hpe, hdet, htf, by rw [hfresh]; nofun⟩⟩
  cases hsend : P.sender with
  | ready b k => exact ⟨.attempt pw b k, _, beq_self_eq_true pw, .attempt hP ⟨hsend, hp.readyBound b k hsend⟩⟩
  | attempting b k br =>
    cases br with
    | none =>
      obtain ⟨B, hB, hpw, htp⟩ := hheld b (by rw [hsend]; rfl)
      exact ⟨.produce pw P.tp (B.msgs.map (·.msg)) .acked, _, beq_self_eq_true pw,
        .produce hP hsend hB ⟨hpw, htp, rfl, rfl, nofun⟩⟩
    | some o =>
      -- the client sees what the broker decided: nil, a transport error, the code
      cases o with
      | acked => exact ⟨.attemptDone pw b k 0, _, beq_self_eq_true pw, .attemptDone hP hsend rfl⟩
      | lost a => exact ⟨.attemptDone pw b k 1001, _, beq_self_eq_true pw, .attemptDone hP hsend rfl⟩
      | rejected c =>
        exact ⟨.attemptDone pw b k c, _, beq_self_eq_true pw,
          .attemptDone hP hsend (by simp [consistent, hp.rejNonzero b k c hsend])⟩
  | finishing b c cb =>
    obtain ⟨B, hB, -, -⟩ := hheld b (by rw [hsend]; rfl)
    cases cb with
    | true =>
      exact ⟨.complete pw b c, _, beq_self_eq_true pw, .complete hP hB (by rw [hp.finTrue b c hsend]; exact hsend)⟩
    | false =>
      cases hc : cfg.completion with
      | true => exact ⟨.completion pw b c, _, beq_self_eq_true pw, .completion hP hB ⟨hc, hsend⟩⟩
      | false => exact ⟨.complete pw b c, _, beq_self_eq_true pw, .complete hP hB (by rw [hc]; exact hsend)⟩
  | idle =>
    cases hqu : P.queue with
    | cons h t =>
      exact ⟨.qget P.q (some h), _, beq_iff_eq.mpr hq, .qgetSome hq hP ⟨hsend, by rw [hqu]; rfl⟩⟩
    | nil => exact hrest (by rw [hsend]; rfl) hqu
  | exited => exact hrest (by rw [hsend]; rfl) (hp.exitedEmpty hsend).1

theorem internal_enabled (cfg : Cfg) (hmax : 1 ≤ cfg.maxAttempts) (s : State) (hr : Reachable cfg s) (hfresh : s.fresh = none)
    (pw : Nat) (P : PW) (hP : s.pws pw = some P) (hne : P.pipe ≠ []) :
    ∃ e, internalFor s pw e = true ∧ (step cfg s e).isSome = true := by
  obtain ⟨e, s', hint, h⟩ := internal_next cfg hmax s hr hfresh pw P hP hne
  exact ⟨e, hint, h.enabled⟩

def internalRun (cfg : Cfg) (pw : Nat) : State → List Event → Option State
  | s, [] => some s
  | s, e :: es =>
    if internalFor s pw e then
      match step cfg s e with
      | some s' => internalRun cfg pw s' es
      | none => none
    else none

theorem internalRun_eq (cfg : Cfg) (pw : Nat) (s : State) (es : List Event) :
    internalRun cfg pw s es = es.foldlM (fun s e => if internalFor s pw e then step cfg s e else none) s :=
  Run.eq_foldlM (fun _ => rfl) (fun s e es => by rw [internalRun]; split; (cases step cfg s e <;> rfl); rfl) es s

theorem internalRun_is_run (cfg : Cfg) (pw : Nat) (es : List Event) (s s' : State)
    (h : internalRun cfg pw s es = some s') : run cfg s es = some s' :=
  run_eq cfg s es ▸ Run.mono (fun _ _ _ h => (Option.ite_none_right_eq_some.mp h).2) (internalRun_eq cfg pw s es ▸ h)

/-- `n` is fuel for the induction: each step exists (`internal_next`) and lowers the measure (`internal_step`) -/
theorem flush_run (cfg : Cfg) (hmax : 1 ≤ cfg.maxAttempts) :
    ∀ (n : Nat) (s : State), Reachable cfg s → s.fresh = none → ∀ pw P, s.pws pw = some P → pwCost cfg s.batches P < n →
      ∃ es s' P', internalRun cfg pw s es = some s' ∧ s'.pws pw = some P' ∧ P'.pipe = [] ∧
        es.length ≤ pwCost cfg s.batches P ∧ ∀ b ∈ P.pipe, ∃ B' code, s'.batches b = some B' ∧ B'.done = some code := by
  intro n
  induction n with
  | zero => intro s _ _ pw P _ hlt; exact absurd hlt (Nat.not_lt_zero _)
  | succ n ih =>
    intro s hr hfresh pw P hP hle
    by_cases hne : P.pipe = []
    · exact ⟨[], s, P, rfl, hP, hne, Nat.zero_le _, by intro b hb; rw [hne] at hb; cases hb⟩
    · obtain ⟨e, s1, hint, h1⟩ := internal_next cfg hmax s hr hfresh pw P hP hne
      have hs1 := h1.to_step
      obtain ⟨P1, hP1, hlt, hpipe⟩ := internal_step (invPos cfg s hr) (invClosedQ cfg s hr) hP hint h1
      have hr1 := hr.step hs1
      obtain ⟨es, s', P', hrun, hP', hemp, hlen, hdone⟩ :=
        ih s1 hr1 ((internal_frame hint h1).fresh.trans hfresh) pw P1 hP1 (by omega)
      refine ⟨e :: es, s', P', ?_, hP', hemp, by simp only [List.length_cons]; omega, ?_⟩
      · simp only [internalRun, hint, if_true, hs1]; exact hrun
      · intro b hb
        rcases hpipe with heq | ⟨b0, code, hcons, B0, hB0, hd0⟩
        · exact hdone b (heq ▸ hb)
        · rw [hcons] at hb
          rcases List.mem_cons.mp hb with rfl | hb
          · obtain ⟨B', hB', hd'⟩ := done_stable_run hr1 (internalRun_is_run cfg pw es s1 s' hrun) hB0 hd0
            exact ⟨B', code, hB', hd'⟩
          · exact hdone b hb

/-- `flush_run` with a bound n ≥ `pwCost` given (the form C08 and WriterQuiesce apply) -/
theorem flush_completes (cfg : Cfg) (hmax : 1 ≤ cfg.maxAttempts) :
    ∀ (n : Nat) (s : State), Reachable cfg s → s.fresh = none → ∀ pw P, s.pws pw = some P → pwCost cfg s.batches P ≤ n →
      ∃ es s' P', internalRun cfg pw s es = some s' ∧ s'.pws pw = some P' ∧ P'.pipe = [] ∧ es.length ≤ n ∧
        ∀ b ∈ P.pipe, ∃ B' code, s'.batches b = some B' ∧ B'.done = some code := by
  intro n s hr hfresh pw P hP hle
  obtain ⟨es, s', P', h1, h2, h3, h4, h5⟩ := flush_run cfg hmax _ s hr hfresh pw P hP (Nat.lt_succ_self _)
  exact ⟨es, s', P', h1, h2, h3, Nat.le_trans h4 hle, h5⟩

/-- `flush_completes` without the clause about completion -/
theorem flush_terminates (cfg : Cfg) (hmax : 1 ≤ cfg.maxAttempts) :
    ∀ (n : Nat) (s : State), Reachable cfg s → s.fresh = none → ∀ pw P, s.pws pw = some P → pwCost cfg s.batches P ≤ n →
      ∃ es s' P', internalRun cfg pw s es = some s' ∧ s'.pws pw = some P' ∧ P'.pipe = [] ∧ es.length ≤ n := by
  intro n s hr hfresh pw P hP hle
  obtain ⟨es, s', P', h1, h2, h3, h4, -⟩ := flush_completes cfg hmax n s hr hfresh pw P hP hle
  exact ⟨es, s', P', h1, h2, h3, h4⟩

end KV.Writer
