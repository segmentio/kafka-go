/-
Lemmas/BatchBytes.lean — conservation of bytes by every piece of Model/BatchBytes.lean, and the three stages of one
Fetch exchange as facts about variables: what `ReadBatchWith` hands over (`Opened`), what any reads do (`Reads`), what
`Close` then leaves (`close_framed`).
-/
import KafkaVerif.Model.BatchBytes
import KafkaVerif.Lemmas.ConnOps

namespace KV.BatchBytes
open KV KV.Reader KV.ConnOps

theorem conserves_readHeader01 : Conserves readHeader01 := by
  unfold readHeader01
  refine conserves_bind (conserves_closed.readInt 8) fun _ => conserves_bind (conserves_closed.readInt 4) fun _ =>
    conserves_bind (conserves_closed.readInt 4) fun _ => conserves_bind (conserves_closed.readInt 1) fun magic => ?_
  split
  · exact conserves_bind (conserves_closed.readInt 1) fun _ => conserves_pure _
  · split
    · exact conserves_bind (conserves_closed.readInt 1) fun _ => conserves_bind (conserves_closed.readInt 8) fun _ => conserves_pure _
    · exact conserves_throw _

theorem conserves_cbNew (n : Int) : Conserves (cbNew n) := conserves_readNewBytes n

theorem conserves_keyOfRead (n : Int) : Conserves (keyOfRead n) := by
  unfold keyOfRead
  split
  · exact conserves_pure _
  · exact conserves_bind (conserves_discardN n) fun _ => conserves_pure _

theorem conserves_valOfRead (cap : Nat) (n : Int) : Conserves (valOfRead cap n) := by
  intro s
  unfold valOfRead
  split
  · exact Adv.refl s
  · split
    · exact Adv.refl s
    · next hnsz =>
      have hfit : min n.toNat cap ≤ s.sz := Nat.le_trans (Nat.min_le_left _ _) (Int.toNat_le.mpr (Int.not_lt.mp hnsz))
      simp only
      split
      · next hshort => exact Adv.drain s (Nat.le_of_lt (Nat.lt_of_lt_of_le hshort hfit))
      · next hlen =>
        have h1 := Adv.drop s (min n.toNat cap) hfit (Nat.not_lt.mp hlen)
        have h2 := conserves_discardN (n - ↑(min n.toNat cap)) ⟨s.inp.drop (min n.toNat cap), s.sz - min n.toNat cap⟩
        split <;> (rename_i hd; rw [hd] at h2; exact Adv.trans h1 h2)

theorem conserves_readMsg {β : Type} (kcb : Int → R Bytes) (vcb : Int → R β)
    (hk : ∀ n, Conserves (kcb n)) (hv : ∀ n, Conserves (vcb n)) (min : Int) :
    ∀ (fuel : Nat) (pending : Option Hdr), Conserves (readMsg kcb vcb min fuel pending) := by
  intro fuel
  induction fuel with
  | zero => intro p; unfold readMsg; exact conserves_throw _
  | succ fuel ih =>
    intro p
    unfold readMsg
    refine conserves_bind ?_ fun h => ?_
    · cases p with
      | none => exact conserves_readHeader01
      | some h => exact conserves_pure h
    · split
      · exact conserves_throw _
      · split
        · exact conserves_bind (conserves_closed.discardLen 4) fun _ => conserves_bind (conserves_closed.discardLen 4) fun _ => ih none
        · exact conserves_bind (conserves_closed.readLenWith 4 hk) fun _ =>
            conserves_bind (conserves_closed.readLenWith 4 hv) fun _ => conserves_pure _

/-- what reading does to a Batch, one call or many: bytes taken are charged, the kind of reader stays, a Batch whose
sticky error is set is left alone, and the `empty` reader never touches the stream -/
structure Reads (b b' : BSt) : Prop where
  adv : Adv b.rs b'.rs
  hasMsgs : b'.hasMsgs = b.hasMsgs
  empty : b'.empty = b.empty
  sticky : ∀ e, b.err = some e → b' = b
  untouched : b.empty = true → b'.rs = b.rs

theorem Reads.refl (b : BSt) : Reads b b := ⟨Adv.refl _, rfl, rfl, fun _ _ => rfl, fun _ => rfl⟩

theorem Reads.trans {a b c : BSt} (h1 : Reads a b) (h2 : Reads b c) : Reads a c :=
  ⟨Adv.trans h1.adv h2.adv, h2.hasMsgs.trans h1.hasMsgs, h2.empty.trans h1.empty,
    fun e he => (h2.sticky e (h1.sticky e he ▸ he)).trans (h1.sticky e he),
    fun he => (h2.untouched (h1.empty.trans he)).trans (h1.untouched he)⟩

theorem batchReadMessage_reads {β : Type} (expired : Bool) (fuel : Nat) (kcb : Int → R Bytes) (vcb : Int → R β)
    (hk : ∀ n, Conserves (kcb n)) (hv : ∀ n, Conserves (vcb n)) (b : BSt) :
    Reads b (batchReadMessage expired fuel kcb vcb b).2 := by
  unfold batchReadMessage
  split
  · exact Reads.refl b
  · next hnone =>
    have live : ∀ {rs' : RS} {pending offset err}, Adv b.rs rs' → (b.empty = true → rs' = b.rs) →
        Reads b { b with rs := rs', pending := pending, offset := offset, err := err } := fun hadv hrs =>
      ⟨hadv, rfl, rfl, fun e he => (by rw [hnone] at he; cases he), hrs⟩
    split
    · exact live (Adv.refl _) fun _ => rfl
    · next hemp =>
      have hm := conserves_readMsg kcb vcb hk hv b.offset fuel b.pending b.rs
      split
      · next h => rw [h] at hm; exact live hm fun he => absurd he hemp
      · next rs' h =>
        rw [h] at hm
        have hd := conserves_discardN (↑rs'.sz) rs'
        split <;> (rename_i h2; rw [h2] at hd; exact live (Adv.trans hm hd) fun he => absurd he hemp)
      · next h => rw [h] at hm; exact live hm fun he => absurd he hemp

theorem runOp_reads (expired : Bool) (fuel : Nat) (o : Op) (b : BSt) : Reads b (runOp expired fuel o b).2 := by
  cases o with
  | readMessage =>
    have h := batchReadMessage_reads expired fuel cbNew cbNew conserves_cbNew conserves_cbNew b
    simp only [runOp, batchMsg]
    split <;> (rename_i heq; rw [heq] at h; exact h)
  | read cap =>
    have h := batchReadMessage_reads expired fuel keyOfRead (valOfRead cap) conserves_keyOfRead (conserves_valOfRead cap) b
    simp only [runOp, batchRead]
    split
    · rename_i heq; rw [heq] at h; exact h
    · next heq =>
      rw [heq] at h
      split
      · -- a value longer than the buffer: `ErrShortBuffer` becomes the sticky error (there was none: a message was read)
        exact ⟨h.adv, h.hasMsgs, h.empty, fun e he => (by simp [batchReadMessage, he] at heq), h.untouched⟩
      · exact h

theorem runOps_reads (expired : Bool) (fuel : Nat) :
    ∀ (ops : List Op) (b : BSt), Reads b (runOps expired fuel ops b).2 := by
  intro ops
  induction ops with
  | nil => exact Reads.refl
  | cons o os ih => intro b; exact (runOp_reads expired fuel o b).trans (ih _)

/-- a conn is kept after Close only for these values of `batch.err`: the `kept` table inside `batchClose`, read on the
sticky error BEFORE Close maps `io.EOF` to "no error" (`err0` there), hence the row for `.eof` -/
def keeps : Option BErr → Bool
  | none => true
  | some .eof => true
  | some (.kafka _) => true
  | some .shortBuffer => true
  | _ => false

theorem ofErr_keeps (e : Err) (h : keeps (some (ofErr e)) = true) : ∃ k, e = .kafka k := by
  cases e <;> simp [ofErr, keeps] at h ⊢

theorem ofErr_discard_not_kept (e : Err) (h : ∀ k, e ≠ .kafka k) : keeps (some (ofErr e)) = false :=
  Bool.eq_false_iff.mpr fun hk => (ofErr_keeps e hk).elim fun k hek => h k hek

theorem batchClose_kept_nodiscard (b : BSt) (h : (b.hasMsgs && !b.empty) = false) :
    (batchClose b).2.2 = keeps b.err := by
  unfold batchClose keeps
  simp only [h, Bool.false_eq_true, ↓reduceIte]
  cases b.err with
  | none => rfl
  | some e => cases e <;> rfl

theorem batchClose_rs (b : BSt) :
    (batchClose b).2.1 = if b.hasMsgs && !b.empty then (discardN b.rs.sz b.rs).2 else b.rs := by
  unfold batchClose
  simp only
  split <;> rfl

/-- with a reader to discard, the conn is kept only if the discard succeeded: its error would be Close's, and it is never
a Kafka error -/
theorem batchClose_kept_discarded (b : BSt) (hd : (b.hasMsgs && !b.empty) = true) (hk : (batchClose b).2.2 = true) :
    ∃ u, (discardN b.rs.sz b.rs).1 = .ok u := by
  unfold batchClose at hk
  simp only [hd, ↓reduceIte] at hk
  cases hr : (discardN (↑b.rs.sz) b.rs).1 with
  | ok u => exact ⟨u, rfl⟩
  | error e =>
    simp only [hr] at hk
    have hnk : ∀ k, e ≠ .kafka k := fun k hk => rnok_discardN _ _ k (hk ▸ hr)
    cases e <;> simp [ofErr] at hk
    exact absurd rfl (hnk _)

/-- what `ReadBatchWith` hands to the Batch: a real reader; or nothing for `Close` to discard, and then the frame is
finished or the Batch is born with an error that does not keep the conn -/
def Opened (s : RS) (b : BSt) : Prop :=
  Adv s b.rs ∧ ((b.hasMsgs = true ∧ b.empty = false) ∨
    ((b.hasMsgs && !b.empty) = false ∧ (b.rs.sz = 0 ∨ ∃ e, b.err = some e ∧ keeps (some e) = false)))

/-- the three places where `ReadBatchWith` skips the rest of the response (`discardN(size)` if `size > 0`): the frame is
finished, or the skip failed and its error (never a Kafka error) is the Batch's.  The statement spells the `if`/`match`
out as `openBatch` does, so that it applies to what `split` leaves of `openBatch` in `openBatch_shape`. -/
theorem opened_of_drain {s s1 : RS} (hh : Adv s s1) (offset : Int) (err : Option BErr) (hm em : Bool)
    (hem : (hm && !em) = false) :
    Opened s (if s1.sz > 0 then
        match discardN (↑s1.sz) s1 with
        | (.ok _, s2) => { rs := s2, pending := none, offset := offset, err := err, hasMsgs := hm, empty := em }
        | (.error e, s2) => { rs := s2, pending := none, offset := offset, err := some (ofErr e), hasMsgs := hm, empty := em }
      else { rs := s1, pending := none, offset := offset, err := err, hasMsgs := hm, empty := em }) := by
  have hd := conserves_discardN (↑s1.sz) s1
  split
  · cases hx : discardN (↑s1.sz) s1 with
    | mk r2 s2 =>
      rw [hx] at hd
      cases r2 with
      | ok _ => exact ⟨Adv.trans hh hd, .inr ⟨hem, .inl (discardN_all_ok hx)⟩⟩
      | error e =>
        exact ⟨Adv.trans hh hd, .inr ⟨hem, .inr ⟨_, rfl,
          ofErr_discard_not_kept e fun k hk => rnok_discardN _ _ k (hk ▸ congrArg Prod.fst hx)⟩⟩⟩
  · next hz => exact ⟨hh, .inr ⟨hem, .inl (Nat.eq_zero_of_not_pos hz)⟩⟩

theorem openBatch_shape (expired : Bool) (v : Nat) (offset : Int) (s : RS) : Opened s (openBatch expired v offset s) := by
  have hh := runSteps_adv (fetchHeader v) { ver := v } s
  unfold openBatch
  split <;> (rename_i heq; rw [heq] at hh)
  · exact opened_of_drain hh offset _ false false rfl
  · split
    · exact opened_of_drain hh offset _ false false rfl
    · exact ⟨hh, .inr ⟨rfl, .inr ⟨_, rfl, rfl⟩⟩⟩
  · next e s1 hk hs => exact ⟨hh, .inr ⟨rfl, .inr ⟨_, rfl, ofErr_discard_not_kept e hk⟩⟩⟩
  · next c s1 =>
    split
    · exact opened_of_drain hh offset none true true rfl
    · have h2 := conserves_readHeader01 s1
      split <;> (rename_i heq2; rw [heq2] at h2; exact ⟨Adv.trans hh h2, .inl ⟨rfl, rfl⟩⟩)

theorem close_kept_real {b0 b : BSt} (hreal : b0.hasMsgs = true ∧ b0.empty = false) (hr : Reads b0 b)
    (hkept : (batchClose b).2.2 = true) : (batchClose b).2.1.sz = 0 := by
  have hd : (b.hasMsgs && !b.empty) = true := by rw [hr.hasMsgs, hr.empty, hreal.1, hreal.2]; rfl
  obtain ⟨u, hu⟩ := batchClose_kept_discarded _ hd hkept
  rw [batchClose_rs, if_pos hd]
  exact discardN_all_ok (Prod.ext hu rfl)

/-- `Close` after any reads of a Batch opened on `s` keeps to the frame: `ConnOps.FramedAt`, with "the conn is kept" for
"not a failure" -/
theorem close_framed {s : RS} {b0 b : BSt} (ho : Opened s b0) (hr : Reads b0 b) :
    Adv s (batchClose b).2.1 ∧ ((batchClose b).2.2 = true → (batchClose b).2.1.sz = 0) := by
  have hcl : Adv b.rs (batchClose b).2.1 := by
    rw [batchClose_rs]; split
    · exact conserves_discardN _ _
    · exact Adv.refl _
  refine ⟨Adv.trans ho.1 (Adv.trans hr.adv hcl), fun hkept => ?_⟩
  rcases ho.2 with hreal | ⟨hnd, hdone⟩
  · exact close_kept_real hreal hr hkept
  · -- nothing to discard: Close leaves the stream where the reads left it
    have hnd' : (b.hasMsgs && !b.empty) = false := by rw [hr.hasMsgs, hr.empty]; exact hnd
    rw [batchClose_kept_nodiscard _ hnd'] at hkept
    rw [batchClose_rs, hnd']
    rcases hdone with hz | ⟨e, he, hnk⟩
    · -- the frame was finished when the Batch was opened, and reading only ever lowers the counter
      obtain ⟨pre, _, hsz⟩ := hr.adv
      simp only [Bool.false_eq_true, ↓reduceIte]
      omega
    · -- born with an error that is sticky and does not keep the conn
      cases hr.sticky e he
      rw [he, hnk] at hkept; cases hkept

end KV.BatchBytes
