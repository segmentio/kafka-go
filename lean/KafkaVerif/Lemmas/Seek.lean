/-
Lemmas/Seek.lean — (*Conn).Seek per whence value: the model `Seek.seek` is a tree in `whence`; it is evaluated once per
whence value, into the shape "unchecked shortcut, else range check of the designated position" (`checked`).  The whence
values are written as the literals 0, 1, 2, 3 = SeekStart, SeekAbsolute, SeekEnd, SeekCurrent: that is what the
regenerated constants `Gen.Offsets.seekStart` … `seekCurrent` are, and the `simp` set below unfolds them.
-/
import KafkaVerif.Model.Seek

namespace KV.Lemmas.Seek
open KV.Seek KV.Gen.Offsets

def checked (offs : Offsets) (t : Int → Int → Int) : Outcome :=
  match offs with
  | none => .readError
  | some (f, l) => if t f l < f ∨ l < t f l then .outOfRange else .ok (t f l)

attribute [local simp] seek KV.Seek.seekStart KV.Seek.seekAbsolute KV.Seek.seekEnd KV.Seek.seekCurrent
  KV.Gen.Offsets.seekStart KV.Gen.Offsets.seekAbsolute KV.Gen.Offsets.seekEnd KV.Gen.Offsets.seekCurrent checked

theorem seek_start (cur off : Int) (dc : Bool) (offs : Offsets) :
    seek cur off 0 dc offs = checked offs fun f _ => f + off := by
  rcases offs with _ | ⟨f, l⟩ <;> simp

theorem seek_absolute (cur off : Int) (dc : Bool) (offs : Offsets) :
    seek cur off 1 dc offs = if dc = true ∨ off = cur then .ok off else checked offs fun _ _ => off := by
  cases dc
  · by_cases h : off = cur
    · simp [h]
    · rcases offs with _ | ⟨f, l⟩ <;> simp [h]
  · simp

theorem seek_end (cur off : Int) (dc : Bool) (offs : Offsets) :
    seek cur off 2 dc offs = checked offs fun _ l => l - off := by
  rcases offs with _ | ⟨f, l⟩ <;> simp

theorem seek_current (cur off : Int) (dc : Bool) (offs : Offsets) :
    seek cur off 3 dc offs = if dc = true then .ok (cur + off) else checked offs fun _ _ => cur + off := by
  cases dc
  · rcases offs with _ | ⟨f, l⟩ <;> simp
  · simp

theorem whence_test_false {w : Int} (hw : ¬ (w = 0 ∨ w = 1 ∨ w = 2 ∨ w = 3)) :
    (w == 0 || w == 1 || w == 2 || w == 3) = false := by simp; omega

theorem seek_badWhence (cur off w : Int) (dc : Bool) (offs : Offsets) (hw : ¬ (w = 0 ∨ w = 1 ∨ w = 2 ∨ w = 3)) :
    seek cur off w dc offs = .badWhence := by
  simp [whence_test_false hw]

end KV.Lemmas.Seek
