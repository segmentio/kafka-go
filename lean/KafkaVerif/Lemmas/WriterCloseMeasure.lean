/-
Lemmas/WriterCloseMeasure.lean — C09 over the detailed Writer LTS (Model/Writer.lean): a termination measure for Close.

`closeMu` = 1 while Close holds the writer mutex + the number of calls between `enter()` and their identification
          + Σ over the listed partition writers of `pwM` (the sender's remaining steps, the queued / pending / open
            batches, 1 while the queue is open, 1 while the goroutine has not exited)
          + Σ over the calls of `callM` (steps a call still has to take: balancing, ErrClosedPipe, return).
Every *closing* event lowers it in every reachable state (`closing_decreases`), so runs of closing events are bounded
(`closingRun_bounded`) and, with `close_progress_closing`, end where `closeReturn` is enabled (`close_terminates_detail`).
A call that passed `enter()` before Close and identifies itself during the run (`begin_`) brings its own work: `evCost` /
`runCost` add it to the bound; each such call takes one off the term `entered` of `closeMu`.

Outside the closing set, and why: `enter` (a caller arriving; refused once closed), `closeBegin` / `closeReturn` (another
Close call / the observation itself), timers (Close needs none; each fires at most once per batch), `tick` (the trace
clock: Close waits for no time to pass, and nothing bounds how often it advances), `qclose` of a queue that is closed
already (the code closes each once), and `batch` / `newPW` / `newBatch` / `add` / `batched`, which need an open writer or
a call holding the mutex and are disabled once `closed` (DI.lockClosed).
-/
import KafkaVerif.Lemmas.WriterCloseProgress
namespace KV.WriterCloseDetail
open KV.Writer

def lockM : Lock → Nat
  | .closer => 1
  | _ => 0

/-- work left in a partition writer, its queue's closing and its goroutine's exit included (no timers: Close does not
need them).  A queued batch weighs what a sender weighs that has just taken it (`batchCost` = `senderCost (.ready b 0)`)
plus 1 for the `qget`; a pending one 1 more for its `qput`; the open one 1 more for its `detach`.  These are the terms
of `pwCost` (Lemmas/WriterProgress.lean, the measure of a partition writer's flush) without its timer term, plus the
two summands for closing the queue and for the goroutine's exit. -/
def pwM (cfg : Cfg) (P : PW) : Nat :=
  senderCost cfg P.sender + P.queue.length * (batchCost cfg + 1) +
  (if P.pending.isSome then batchCost cfg + 2 else 0) + (if P.curr.isSome then batchCost cfg + 3 else 0) +
  (if P.qclosed then 0 else 1) + (if P.sender = .exited then 0 else 1)

def pwMs (cfg : Cfg) (s : State) (pw : Nat) : Nat :=
  match s.pws pw with
  | some P => pwM cfg P
  | none => 0

/-- steps a call still has to take: one to return from `rejectedClosed` / `batched`, one more from `batching`; from
`assigning` an `assign` per message not yet balanced and then at most `batch`, `batched`, the return (3); `begun` weighs
one more than `assigning` with nothing balanced, so that the first `assign` or a rejection lowers it too -/
def callM (C : Call) : Nat :=
  match C.phase with
  | .returned => 0
  | .rejectedClosed => 1
  | .batched => 1
  | .batching => 2
  | .assigning => (C.msgs.length - C.assign.length) + 3
  | .begun => C.msgs.length + 4

def callMs (s : State) (c : Nat) : Nat :=
  match s.calls c with
  | some C => callM C
  | none => 0

def closeMu (cfg : Cfg) (s : State) : Nat :=
  lockM s.wlock + s.entered + (s.pwIds.map (pwMs cfg s)).sum + (s.callIds.map (callMs s)).sum

/-- what an event may add to the measure: a call that identifies itself brings its own work, `callM` of a call in
phase `begun` with these messages (`closing_decreases` needs the two to agree by `rfl`) -/
def evCost : Event → Nat
  | .begin_ _ msgs => msgs.length + 4
  | _ => 0

theorem closeMu_pw (cfg : Cfg) (s : State) {s' : State} (hd : DI s) (hn : s.pwIds.Nodup) {pw0 : Nat} {P P' : PW} (hP : s.pws pw0 = some P)
    (e1 : s'.pws = upd s.pws pw0 (some P')) (e2 : s'.pwIds = s.pwIds) (e3 : s'.wlock = s.wlock)
    (e4 : s'.calls = s.calls) (e5 : s'.callIds = s.callIds) (e6 : s'.entered = s.entered)
    (hlt : pwM cfg P' < pwM cfg P) :
    closeMu cfg s' < closeMu cfg s := by
  unfold closeMu
  rw [e2, e3, e5, e6]
  have hc : (s.callIds.map (callMs s')).sum = (s.callIds.map (callMs s)).sum :=
    sum_map_congr _ _ _ (fun x _ => by simp [callMs, e4])
  have hp : (s.pwIds.map (pwMs cfg s')).sum < (s.pwIds.map (pwMs cfg s)).sum := by
    apply sum_map_upd_lt s.pwIds hn (pwMs cfg s) (pwMs cfg s') pw0 (hd.ids pw0 P hP)
    · intro x hx; simp [pwMs, e1, upd_other _ _ _ _ hx]
    · simp [pwMs, e1, hP]; exact hlt
  omega

theorem closeMu_call (cfg : Cfg) (s : State) {s' : State} (hc : CI s) {c : Nat} {C C' : Call} (hC : s.calls c = some C)
    (e1 : s'.calls = upd s.calls c (some C')) (e2 : s'.callIds = s.callIds) (e3 : s'.wlock = s.wlock)
    (e4 : s'.pws = s.pws) (e5 : s'.pwIds = s.pwIds) (e6 : s'.entered = s.entered) (hlt : callM C' < callM C) :
    closeMu cfg s' < closeMu cfg s := by
  unfold closeMu
  rw [e2, e3, e5, e6]
  have hp : (s.pwIds.map (pwMs cfg s')).sum = (s.pwIds.map (pwMs cfg s)).sum :=
    sum_map_congr _ _ _ (fun x _ => by simp [pwMs, e4])
  have hcc : (s.callIds.map (callMs s')).sum < (s.callIds.map (callMs s)).sum := by
    apply sum_map_upd_lt s.callIds hc.nodup (callMs s) (callMs s') c ((hc.ids c).mpr (by simp [hC]))
    · intro x hx; simp [callMs, e1, upd_other _ _ _ _ hx]
    · simp [callMs, e1, hC]; exact hlt
  omega

theorem closeMu_frame (cfg : Cfg) (s s' : State) (e1 : s'.pws = s.pws) (e2 : s'.pwIds = s.pwIds)
    (e3 : s'.calls = s.calls) (e4 : s'.callIds = s.callIds) :
    closeMu cfg s' =
      lockM s'.wlock + s'.entered + (s.pwIds.map (pwMs cfg s)).sum + (s.callIds.map (callMs s)).sum := by
  unfold closeMu
  rw [e2, e4, sum_map_congr s.pwIds (pwMs cfg s) (pwMs cfg s') (fun x _ => by simp only [pwMs, e1]),
    sum_map_congr s.callIds (callMs s) (callMs s') (fun x _ => by simp only [callMs, e3])]

/-- a call that passed `enter()` identifies itself: it leaves the `entered` counter and brings its own work.  (The work
is a parameter `n` with `callM C' = n`, so that a goal stated with `evCost e` unifies and the caller closes `hn` by
`rfl`.) -/
theorem closeMu_begin (cfg : Cfg) (s s' : State) (hc : CI s) (c : Nat) (C' : Call) (n : Nat) (hn : callM C' = n)
    (hnone : s.calls c = none) (hpos : 0 < s.entered) (e1 : s'.calls = upd s.calls c (some C')) (e2 : s'.callIds = s.callIds ++ [c])
    (e3 : s'.wlock = s.wlock) (e4 : s'.pws = s.pws) (e5 : s'.pwIds = s.pwIds) (e6 : s'.entered = s.entered - 1) :
    closeMu cfg s' < closeMu cfg s + n := by
  subst hn
  have hnin : c ∉ s.callIds := fun hcin => by have := (hc.ids c).mp hcin; rw [hnone] at this; cases this
  unfold closeMu
  rw [e2, e3, e5, e6, List.map_append, List.sum_append,
    sum_map_congr s.pwIds (pwMs cfg s) (pwMs cfg s') (fun x _ => by simp only [pwMs, e4]),
    sum_map_congr s.callIds (callMs s) (callMs s') (fun x hx => by
      simp only [callMs, e1, upd_other _ _ _ _ (fun he : x = c => hnin (he ▸ hx))])]
  simp only [List.map_cons, List.map_nil, List.sum_cons, List.sum_nil, callMs, e1, upd_same]
  omega

/-- the sender goroutine moves on to a cheaper position (so it had not exited): the partition writer's work drops -/
theorem pwM_sender_lt {cfg : Cfg} {P : PW} {σ : Sender} (h : senderCost cfg σ < senderCost cfg P.sender) :
    pwM cfg { P with sender := σ } < pwM cfg P := by
  have hne : P.sender ≠ .exited := fun he => by rw [he] at h; exact absurd h (Nat.not_lt_zero _)
  have : (if σ = .exited then 0 else 1) ≤ 1 := by split <;> omega
  simp only [pwM, hne, if_false]
  omega

/-- every closing event lowers `closeMu`, up to the work a call brings when it identifies itself: one partition writer
or one call takes a step of its own (`closeMu_pw`, `closeMu_call`), or Close releases the mutex -/
theorem closing_decreases (cfg : Cfg) (hmax : 1 ≤ cfg.maxAttempts) (s s' : State) (hr : Reachable cfg s) (e : Event)
    (hcl : closing s e = true) (hs : step cfg s e = some s') : closeMu cfg s' < closeMu cfg s + evCost e := by
  have hd := di_reachable cfg s hr
  have hn := pwIds_nodup cfg s hr
  have hc := ci_reachable cfg s hr
  have hG := invProg cfg hmax s hr
  have h := Step.of_step hs
  induction h with
  | tick | enterTrue | enterFalse | batch | newPW | newBatch | add | timerFire | batched | closeBegin | closeReturn =>
    cases hcl
  | empty hg =>
    refine Nat.lt_of_le_of_lt (Nat.le_of_eq (closeMu_frame cfg s _ rfl rfl rfl rfl)) ?_
    unfold closeMu; dsimp only [evCost]; omega
  | @begin_ c msgs hg =>
    exact closeMu_begin cfg s _ hc c _ _ rfl (by simpa using hg.free) hg.entered rfl rfl rfl rfl rfl rfl
  | closeMarked hg =>
    refine Nat.lt_of_le_of_lt (Nat.le_of_eq (closeMu_frame cfg s _ rfl rfl rfl rfl)) ?_
    unfold closeMu; rw [hg.lock]; dsimp only [evCost, lockM]; omega
  | detach hP hB hg =>
    exact Nat.lt_add_right _ (closeMu_pw cfg s hd hn hP rfl rfl rfl rfl rfl rfl (by simp [pwM, hg.curr, hg.pending]))
  | @qput q b pw0 acc P hq hP hg =>
    refine Nat.lt_add_right _ (closeMu_pw cfg s hd hn hP rfl rfl rfl rfl rfl rfl ?_)
    cases acc
    · simp [pwM, enq, hg.pending]
    · simp [pwM, enq, hg.pending, Nat.add_mul]; omega
  | @qgetSome q b pw0 P hq hP hg =>
    refine Nat.lt_add_right _ (closeMu_pw cfg s hd hn hP rfl rfl rfl rfl rfl rfl ?_)
    cases hq : P.queue with
    | nil => have := hg.head; rw [hq] at this; simp at this
    | cons a t => simp [pwM, hg.idle, hq, senderCost, batchCost, Nat.add_mul]; omega
  | qgetNone hq hP hg =>
    exact Nat.lt_add_right _ (closeMu_pw cfg s hd hn hP rfl rfl rfl rfl rfl rfl (by simp [pwM, hg.idle, senderCost]))
  | @qclose q pw0 P hq hP hg =>
    have hqc : P.qclosed = false := by simpa [closing, hq, hP] using hcl
    exact Nat.lt_add_right _ (closeMu_pw cfg s hd hn hP rfl rfl rfl rfl rfl rfl (by simp [pwM, hqc]))
  | attempt hP hg =>
    exact Nat.lt_add_right _ (closeMu_pw cfg s hd hn hP rfl rfl rfl rfl rfl rfl
      (pwM_sender_lt (by rw [hg.ready]; exact Nat.lt_succ_self _)))
  | produce hP hsend hB hg =>
    exact Nat.lt_add_right _ (closeMu_pw cfg s hd hn hP rfl rfl rfl rfl rfl rfl
      (pwM_sender_lt (by rw [hsend]; exact Nat.lt_succ_self _)))
  | @attemptDone pw0 b k code br P hP hsend hg =>
    exact Nat.lt_add_right _ (closeMu_pw cfg s hd hn hP rfl rfl rfl rfl rfl rfl
      (pwM_sender_lt (by rw [hsend]; exact senderCost_afterAttempt cfg b k code br ((hG.pw pw0 P hP).attBound b k br hsend))))
  | completion hP hB hg =>
    exact Nat.lt_add_right _ (closeMu_pw cfg s hd hn hP rfl rfl rfl rfl rfl rfl
      (pwM_sender_lt (by rw [hg.sender]; exact Nat.lt_succ_self _)))
  | complete hP hB hg =>
    exact Nat.lt_add_right _ (closeMu_pw cfg s hd hn hP rfl rfl rfl rfl rfl rfl
      (pwM_sender_lt (by rw [hg]; cases cfg.completion <;> exact Nat.succ_pos _)))
  | @assign c i tp C hC hg =>
    refine Nat.lt_add_right _ (closeMu_call cfg s hc hC rfl rfl rfl rfl rfl rfl ?_)
    have hlen := hg.len
    have hi := msgAt_lt hg.msg
    rcases hg.phase with hp | hp <;> simp [callM, hp] <;> omega
  | rejectToolarge hC hg =>
    exact Nat.lt_add_right _ (closeMu_call cfg s hc hC rfl rfl rfl rfl rfl rfl (by simp [callM, hg.phase]))
  | rejectTopic hC hg | rejectMetadata hC hg =>
    exact Nat.lt_add_right _ (closeMu_call cfg s hc hC rfl rfl rfl rfl rfl rfl (by rcases hg.phase with hp | hp <;> simp [callM, hp]))
  | rejectClosed hC hg =>
    exact Nat.lt_add_right _ (closeMu_call cfg s hc hC rfl rfl rfl rfl rfl rfl (by simp [callM, hg.phase]))
  | ret hC hg =>
    exact Nat.lt_add_right _ (closeMu_call cfg s hc hC rfl rfl rfl rfl rfl rfl (by rcases retOk_phase hg with hp | hp <;> simp [callM, hp]))

theorem closing_keeps_closed (cfg : Cfg) (s s' : State) (e : Event) (hcl : closing s e = true) (hs : Step cfg s e s') :
    s'.closed = s.closed := by
  rcases step_lock_shape cfg s s' e hs with ⟨-, h⟩ | ⟨h, h'⟩ | ⟨-, h⟩ | ⟨rfl, -⟩ | ⟨-, -, h, -⟩
  · exact h
  · rw [h, h']
  · exact h
  · cases hcl
  · exact h

/-- a run made of closing events only -/
def closingRun (cfg : Cfg) : State → List Event → Option State
  | s, [] => some s
  | s, e :: es =>
    if closing s e then
      match step cfg s e with
      | some s' => closingRun cfg s' es
      | none => none
    else none

/-- what the calls that identify themselves during the run bring along -/
def runCost (es : List Event) : Nat := (es.map evCost).sum

theorem closingRun_eq (cfg : Cfg) (s : State) (es : List Event) : closingRun cfg s es =
    es.foldlM (fun s e => if closing s e then step cfg s e else none) s :=
  Run.eq_foldlM (fun _ => rfl) (fun s e es => by rw [closingRun]; split; (cases step cfg s e <;> rfl); rfl) es s

/-- every schedule of closing events is finite: a run of closing events from a reachable state has at most
`closeMu` steps, plus the work of the calls that identified themselves during it -/
theorem closingRun_bounded (cfg : Cfg) (hmax : 1 ≤ cfg.maxAttempts) (es : List Event) (s s' : State)
    (hr : Reachable cfg s) (h : closingRun cfg s es = some s') :
    (Reachable cfg s' ∧ s'.closed = s.closed) ∧ es.length + closeMu cfg s' ≤ closeMu cfg s + runCost es :=
  Run.bounded (I := fun t => Reachable cfg t ∧ t.closed = s.closed) (μ := closeMu cfg) (cost := evCost)
    (fun t e t' hi hs => by
      obtain ⟨hcl, hs⟩ := Option.ite_none_right_eq_some.mp hs
      exact ⟨⟨hi.1.step hs, (closing_keeps_closed cfg t t' e hcl (Step.of_step hs)).trans hi.2⟩,
        closing_decreases cfg hmax t t' hi.1 e hcl hs⟩)
    (closingRun_eq cfg s es ▸ h) ⟨hr, rfl⟩

theorem close_terminates_detail (cfg : Cfg) (hmax : 1 ≤ cfg.maxAttempts) (s : State) (hr : Reachable cfg s)
    (hc : s.closed = true) (es : List Event) (s' : State) (hrun : closingRun cfg s es = some s') :
    es.length ≤ closeMu cfg s + runCost es ∧
    ((∀ e, closing s' e = true → step cfg s' e = none) → (step cfg s' .closeReturn).isSome = true) := by
  obtain ⟨⟨h2, h3⟩, h1⟩ := closingRun_bounded cfg hmax es s s' hr hrun
  refine ⟨by omega, fun hnone => ?_⟩
  cases hret : step cfg s' .closeReturn with
  | some _ => rfl
  | none =>
    obtain ⟨e, hcl, hen⟩ := close_progress_closing cfg hmax s' h2 (h3.trans hc) hret
    rw [hnone e hcl] at hen; cases hen

end KV.WriterCloseDetail
