/-
Lemmas/ReaderSystem.lean — the whole Reader (Model/ReaderSystem.lean) refines the front of Model/ReaderFront.lean.
What a loop pushes is the next stretch of its fetcher's feed, so a step of the system other than `SetOffset` is a step `FStep` of
the front, a run a run, and `front_run` applies.  The vocabulary of Props/C02 §5 defined here: `CInv` (proved through its twin
`CInvL`) and `ASpec`.
-/
import KafkaVerif.Model.ReaderSystem
import KafkaVerif.Lemmas.ReaderWorld
import KafkaVerif.Lemmas.ReaderFront

namespace KV.C02

theorem lookup_setLoop (t t' : Nat) (s' : RR) : ∀ (l : List (Nat × RR)),
    lookupLoop t' (setLoop t s' l) = if t' = t then (lookupLoop t l).map (fun _ => s') else lookupLoop t' l := by
  intro l
  induction l with
  | nil => simp [setLoop, lookupLoop]
  | cons x xs ih =>
    obtain ⟨t0, s0⟩ := x
    by_cases ht : t0 = t
    · subst ht
      by_cases h : t' = t0
      · simp [setLoop, lookupLoop, h]
      · have h' : ¬ t0 = t' := fun e => h e.symm
        simp [setLoop, lookupLoop, h, h']
    · simp only [setLoop, ht, if_false, lookupLoop, ih]
      by_cases h : t' = t
      · subst h; simp [ht]
      · simp [h]

/-- the front part satisfies the front's invariant, every fetcher of the front has a loop that satisfies the loop's invariants
and has pushed as many messages as the front has seen from it, and there is no other loop -/
structure CInv (items : List Item) (c : CS) : Prop where
  finv : FInv (allRecords items) c.fs
  loopOf : ∀ f ∈ c.fs.fetchers, ∃ s o, lookupLoop f.tag c.loops = some s ∧ RInv (allRecords items) s ∧
      SInv (allRecords items) o f.start s ∧ f.sent = s.msgs.length ∧ ((o = f.start ∧ o ≠ -1) ∨ o = -1)
  onlyF : ∀ t s, lookupLoop t c.loops = some s → ∃ f ∈ c.fs.fetchers, f.tag = t

/-- Fetcher `f` of the front and its loop `s`.  `o` is the `offset` reader.go `start` gave the loop: the start offset itself (an
absolute offset or FirstOffset), or LastOffset (-1) — then `f.start` is the log end the first successful `initialize` resolves it
to (`SInv`).  `last`: whether the second case is admitted. -/
structure Tie (items : List Item) (last : Prop) (f : Fetcher) (s : RR) (o : Int) : Prop where
  rinv : RInv (allRecords items) s
  sinv : SInv (allRecords items) o f.start s
  sent : f.sent = s.msgs.length
  begun : (o = f.start ∧ o ≠ -1) ∨ (last ∧ o = -1)

theorem Tie.congr {items : List Item} {last : Prop} {f g : Fetcher} {s : RR} {o : Int} (h : Tie items last f s o)
    (hst : g.start = f.start) (hse : g.sent = f.sent) : Tie items last g s o :=
  ⟨h.rinv, by rw [hst]; exact h.sinv, by rw [hse]; exact h.sent, by rw [hst]; exact h.begun⟩

/-- The invariant of the system: the front part satisfies `FInv`, every fetcher of the front has a loop tied to it (`Tie`), and
there is no other loop.  `last` says whether a loop may still sit at LastOffset (-1), waiting for the broker to report the log
end.  `True` for the system (`setOffsetLast`): `CInv` is this instance with `Tie` written out (`cinv_iff`), and the proofs below
work on `CInvL`.  `False` under the API layer: `astep` starts fetchers at `Offset()` or at the argument of an admitted `SetOffset`
(`AEv.ok`), never at -1 — there the hypothesis `CEv.okAt` of a step is void and `AInv` holds this invariant as it stands. -/
structure CInvL (items : List Item) (last : Prop) (c : CS) : Prop where
  finv : FInv (allRecords items) c.fs
  loopOf : ∀ f ∈ c.fs.fetchers, ∃ s o, lookupLoop f.tag c.loops = some s ∧ Tie items last f s o
  onlyF : ∀ t s, lookupLoop t c.loops = some s → ∃ f ∈ c.fs.fetchers, f.tag = t

theorem cinv_iff {items : List Item} {c : CS} : CInv items c ↔ CInvL items True c :=
  ⟨fun h => ⟨h.finv, fun f hf => let ⟨s, o, hl, a2, a3, a4, a5⟩ := h.loopOf f hf
      ⟨s, o, hl, a2, a3, a4, a5.imp id (⟨trivial, ·⟩)⟩, h.onlyF⟩,
   fun h => ⟨h.finv, fun f hf => let ⟨s, o, hl, ht⟩ := h.loopOf f hf
      ⟨s, o, hl, ht.rinv, ht.sinv, ht.sent, ht.begun.imp id (·.2)⟩, h.onlyF⟩⟩

theorem cinvl_init (items : List Item) (last : Prop) : CInvL items last {} :=
  ⟨finv_init _, fun f hf => absurd hf List.not_mem_nil, fun t s h => by cases h⟩

theorem cinv_init (items : List Item) : CInv items {} := cinv_iff.mpr (cinvl_init items True)

theorem CInvL.at {items : List Item} {last : Prop} {c : CS} (h : CInvL items last c) {t : Nat} {s : RR}
    (hl : lookupLoop t c.loops = some s) : ∃ f ∈ c.fs.fetchers, f.tag = t ∧ ∃ o, Tie items last f s o := by
  obtain ⟨f, hf, hft⟩ := h.onlyF t s hl
  obtain ⟨s0, o, a1, a2⟩ := h.loopOf f hf
  rw [hft, hl] at a1
  cases a1
  exact ⟨f, hf, hft, o, a2⟩

/-- the system after `start`: a new current fetcher with start offset `st` whose loop begins at `o0` -/
def CS.started (c : CS) (st o0 : Int) : CS :=
  { fs := { version := c.fs.version + 1, queue := c.fs.queue,
            fetchers := { tag := c.fs.version + 1, start := st } :: c.fs.fetchers, accepted := 0 },
    loops := (c.fs.version + 1, { offset := o0 }) :: c.loops }

inductive CStep (cfg : RCfg) (items : List Item) (c : CS) : CEv → CS → Option Rec → Prop
  | set (o : Int) : CStep cfg items c (.setOffset o) (c.started o o) none
  | setLast (l : Int) : CStep cfg items c (.setOffsetLast l) (c.started l (-1)) none
  | env (t : Nat) (x : Env) (s : RR) (d : List Rec) (hl : lookupLoop t c.loops = some s)
      (hd : (rstep cfg s (worldEvent items s x)).msgs = s.msgs ++ d) :
      CStep cfg items c (.env t x) { fs := pushQ c.fs t d, loops := setLoop t (rstep cfg s (worldEvent items s x)) c.loops } none
  | fetch (e : Nat × Rec) (rest : List (Nat × Rec)) (hd : c.fs.queue.dropWhile (fun e => e.1 != c.fs.version) = e :: rest) :
      CStep cfg items c .fetch { c with fs := { c.fs with queue := rest, accepted := c.fs.accepted + 1 } } (some e.2)

theorem cstep_elim {cfg : RCfg} {items : List Item} {c c' : CS} {e : CEv} {m : Option Rec}
    (hs : cstep cfg items c e = some (c', m)) : CStep cfg items c e c' m := by
  cases e with
  | setOffset o | setOffsetLast o =>
    simp only [cstep, fstep, Option.some.injEq, Prod.mk.injEq] at hs
    obtain ⟨rfl, rfl⟩ := hs
    constructor
  | env t x =>
    simp only [cstep] at hs
    cases hl : lookupLoop t c.loops with
    | none => simp [hl] at hs
    | some s =>
      simp only [hl, Option.some.injEq, Prod.mk.injEq] at hs
      obtain ⟨rfl, rfl⟩ := hs
      obtain ⟨d, hd⟩ := rstep_msgs cfg s (worldEvent items s x)
      rw [show (rstep cfg s (worldEvent items s x)).msgs.drop s.msgs.length = d by rw [hd]; simp]
      exact .env t x s d hl hd
  | fetch =>
    simp only [cstep, fstep, Front.fetchMessage] at hs
    cases hd : c.fs.queue.dropWhile (fun e => e.1 != c.fs.version) with
    | nil => simp [hd] at hs
    | cons e rest =>
      simp only [hd, Option.some.injEq, Prod.mk.injEq] at hs
      obtain ⟨rfl, rfl⟩ := hs
      exact .fetch e rest hd

theorem cstep_set (cfg : RCfg) (items : List Item) (c : CS) (o : Int) :
    cstep cfg items c (.setOffset o) = some (c.started o o, none) := by
  simp [cstep, fstep, CS.started]

/-- `start`: a new fetcher with start offset `st` whose loop begins at `o0` — `st` itself, or LastOffset with `st` the log
end the broker will report -/
theorem cinv_start {items : List Item} {last : Prop} {c : CS} (h : CInvL items last c) (st o0 : Int)
    (ho : (o0 = st ∧ -2 ≤ o0 ∧ o0 ≠ -1) ∨ (last ∧ o0 = -1)) :
    CInvL items last (c.started st o0) := by
  unfold CS.started
  refine ⟨finv_setOffset h.finv st, ?_, ?_⟩
  · intro f hf
    simp only [List.mem_cons] at hf
    rcases hf with rfl | hf
    · exact ⟨{ offset := o0 }, o0, by simp [lookupLoop], rinv_init _ o0 (by omega), ⟨fun _ => rfl, fun st hst => by cases hst⟩, rfl,
        ho.imp (fun h => ⟨h.1, h.2.2⟩) id⟩
    · obtain ⟨s, o, a1, a2⟩ := h.loopOf f hf
      have hle := h.finv.tagle f hf
      have hne : ¬ c.fs.version + 1 = f.tag := by omega
      exact ⟨s, o, by simp only [lookupLoop, hne, if_false]; exact a1, a2⟩
  · intro t s hl
    simp only [lookupLoop] at hl
    by_cases ht : c.fs.version + 1 = t
    · exact ⟨{ tag := c.fs.version + 1, start := st }, List.mem_cons_self, ht⟩
    · simp only [ht, if_false] at hl
      obtain ⟨f, hf, hft⟩ := h.onlyF t s hl
      exact ⟨f, List.mem_cons_of_mem _ hf, hft⟩

/-- a step of the system keeps the invariant, and unless it is a `SetOffset` it is a step of the front: what the loop of
fetcher `f` pushes is the next stretch of `f`'s feed.  `hat`, `hla`: the broker's promise and the event `setOffsetLast` are only
met where `last` admits fetchers started at LastOffset. -/
theorem cstep_sim (cfg : RCfg) (items : List Item) (nb : Int) (hnb : 0 ≤ nb) (hwf : LWF nb items) {last : Prop} {c c' : CS}
    {m : Option Rec} {e : CEv} (h : CInvL items last c) (hok : e.ok items) (hat : last → e.okAt c)
    (hla : ∀ l, e = .setOffsetLast l → last) (hs : cstep cfg items c e = some (c', m)) :
    CInvL items last c' ∧ (e.notSet → FStep (allRecords items) c.fs c'.fs m) := by
  have hlog := allRecords_sorted items nb hnb hwf
  cases cstep_elim hs with
  | setLast l => exact ⟨cinv_start h l (-1) (Or.inr ⟨hla l rfl, rfl⟩), fun hn => absurd hn id⟩
  | set o => exact ⟨cinv_start h o o (Or.inl ⟨rfl, hok⟩), fun hn => absurd hn id⟩
  | fetch e rest hd => exact ⟨⟨(finv_fetch h.finv hd).1, h.loopOf, h.onlyF⟩, fun _ => .fetch e rest hd⟩
  | env t x s d hl hd =>
    simp only [CEv.ok] at hok
    obtain ⟨f, hf, rfl, o, ht⟩ := h.at hl
    obtain ⟨a2', a3'⟩ := winv_step cfg items nb hnb hwf ht.rinv ht.sinv x hok (by
      rcases ht.begun with ⟨ho, hne⟩ | ⟨hlast, ho⟩
      · rw [← ho]; exact fun f l he _ => sinv_res_abs hne hok f l he
      · -- a fetcher started at LastOffset: the broker reports the promised log end
        intro f' l hx hs0
        subst hx
        have := hat hlast s hl hs0 (by rw [ht.sinv.unset hs0, ho]) f hf rfl
        rw [ho, this]
        simp [resolve])
    have hpre : d <+: (feed (allRecords items) f.start).drop f.sent := by
      obtain ⟨tl, htl⟩ := inv_prefix hlog a2' a3'
      rw [← htl, hd, ht.sent, List.append_assoc, List.drop_left]
      exact List.prefix_append d tl
    refine ⟨⟨finv_push h.finv hf hpre, ?_, ?_⟩, fun _ => .push f hf d hpre⟩
    · intro g' hg'
      obtain ⟨g, hg, h1, h2, h3⟩ := mem_pushQ hg'
      rw [h1, lookup_setLoop]
      by_cases hgt : g.tag = f.tag
      · cases same_tag_eq h.finv.nodup hg hf hgt
        rw [if_pos rfl, hl]
        exact ⟨_, o, rfl, Tie.congr (f := { f with sent := f.sent + d.length })
          ⟨a2', a3', by rw [hd, List.length_append, ← ht.sent], ht.begun⟩ h2 (by rw [h3, if_pos rfl])⟩
      · obtain ⟨sg, og, b1, b2⟩ := h.loopOf g hg
        rw [if_neg hgt]
        exact ⟨sg, og, b1, b2.congr h2 (by rw [h3, if_neg hgt])⟩
    · intro t' s' hl'
      rw [lookup_setLoop] at hl'
      obtain ⟨g, hg, hgt⟩ : ∃ g ∈ c.fs.fetchers, g.tag = t' := by
        by_cases htt : t' = f.tag
        · exact ⟨f, hf, htt.symm⟩
        · rw [if_neg htt] at hl'; exact h.onlyF t' s' hl'
      obtain ⟨g', hg', h1, _⟩ := pushQ_mem f.tag d hg
      exact ⟨g', hg', h1.trans hgt⟩

theorem crun_cons {cfg : RCfg} {items : List Item} {c c' : CS} {e : CEv} {es : List CEv} {ms : List Rec}
    (h : crun cfg items c (e :: es) = some (c', ms)) :
    ∃ c1 m ms', cstep cfg items c e = some (c1, m) ∧ crun cfg items c1 es = some (c', ms') ∧ ms = m.toList ++ ms' := by
  simp only [crun] at h
  cases hs : cstep cfg items c e with
  | none => simp [hs] at h
  | some p =>
    obtain ⟨c1, m⟩ := p
    simp only [hs] at h
    cases hq : crun cfg items c1 es with
    | none => simp [hq] at h
    | some q =>
      obtain ⟨c2, ms'⟩ := q
      simp only [hq, Option.some.injEq, Prod.mk.injEq] at h
      exact ⟨c1, m, ms', rfl, by rw [← h.1]; exact hq, by cases m <;> exact h.2.symm⟩

/-- every run of the system keeps the invariant; without `SetOffset` it is a run of the front (same messages returned by
FetchMessage) -/
theorem crun_sim (cfg : RCfg) (items : List Item) (nb : Int) (hnb : 0 ≤ nb) (hwf : LWF nb items) :
    ∀ (es : List CEv) (c c' : CS) (ms : List Rec), CInvL items True c → OkRun cfg items c es →
      crun cfg items c es = some (c', ms) →
      CInvL items True c' ∧ ((∀ e ∈ es, e.notSet) → FRun (allRecords items) c.fs c'.fs ms) := by
  intro es
  induction es with
  | nil =>
    intro c c' ms h _ hr
    simp only [crun, Option.some.injEq, Prod.mk.injEq] at hr
    obtain ⟨rfl, rfl⟩ := hr
    exact ⟨h, fun _ => .nil _⟩
  | cons e es ih =>
    intro c c' ms h hok hr
    obtain ⟨c1, m, ms', hs, hq, rfl⟩ := crun_cons hr
    obtain ⟨hok1, hok2, hok3⟩ := hok
    obtain ⟨h1, hf1⟩ := cstep_sim cfg items nb hnb hwf h hok1 (fun _ => hok2) (fun _ _ => trivial) hs
    obtain ⟨h2, hf2⟩ := ih c1 c' ms' h1 (hok3 c1 m hs) hq
    exact ⟨h2, fun hns => .cons (hf1 (hns e List.mem_cons_self)) (hf2 (fun x hx => hns x (List.mem_cons_of_mem _ hx)))⟩

/-- after `SetOffset` — to `st`, or to LastOffset with `st` the log end the broker reports to the new fetcher — along
any run of the whole system without a further SetOffset, FetchMessage returns the feed from `st` -/
theorem crun_after_set (cfg : RCfg) (items : List Item) (nb : Int) (hnb : 0 ≤ nb) (hwf : LWF nb items) (c0 c' : CS)
    (h0 : CInv items c0) (e0 : CEv) (st : Int) (he0 : e0 = .setOffset st ∨ e0 = .setOffsetLast st) (es : List CEv)
    (hok : OkRun cfg items c0 (e0 :: es)) (hns : ∀ e ∈ es, e.notSet) (ms : List Rec)
    (hr : crun cfg items c0 (e0 :: es) = some (c', ms)) :
    ms = (feed (allRecords items) st).take ms.length := by
  obtain ⟨c1, m, ms', hs, hq, rfl⟩ := crun_cons hr
  obtain ⟨hok1, hok2, hok3⟩ := hok
  obtain ⟨h1, _⟩ := cstep_sim cfg items nb hnb hwf (cinv_iff.mp h0) hok1 (fun _ => hok2) (fun _ _ => trivial) hs
  have hrun := (crun_sim cfg items nb hnb hwf es c1 c' ms' h1 (hok3 c1 m hs) hq).2 hns
  -- the new fetcher is the current one, nothing accepted yet
  have hc1 : ∃ o0, c1 = c0.started st o0 ∧ m = none := by
    rcases he0 with rfl | rfl <;> (cases cstep_elim hs; exact ⟨_, rfl, rfl⟩)
  obtain ⟨o0, rfl, rfl⟩ := hc1
  exact front_run hrun { tag := c0.fs.version + 1, start := st } h1.finv List.mem_cons_self rfl

/-- the API layer: the system's invariant with no fetcher started at LastOffset (`astep` starts none); `cur` ties `Offset()`
to the current fetcher — what is left of its feed after the `accepted` messages is the feed from `pos` on -/
structure AInv (items : List Item) (a : AS) : Prop where
  cinv : CInvL items False a.c
  posok : -2 ≤ a.pos ∧ a.pos ≠ -1
  cur : a.c.fs.version ≠ 0 → ∃ f ∈ a.c.fs.fetchers, f.tag = a.c.fs.version ∧
    (feed (allRecords items) f.start).drop a.c.fs.accepted = feed (allRecords items) a.pos

theorem ainv_init (items : List Item) (o : Int) (ho : -2 ≤ o ∧ o ≠ -1) : AInv items { pos := o } :=
  ⟨cinvl_init items False, ho, fun h => absurd rfl h⟩

/-- what `Close`, `SetOffset`, `FetchMessage` do, seen by the application (`env`, a step of a loop, changes nothing it sees) -/
def ASpec (items : List Item) (a : AS) (e : AEv) (a' : AS) (m : Option Rec) : Prop :=
  match e with
  | .close => a'.pos = a.pos ∧ m = none ∧ a'.closed = true
  | .setOffset o => if a.closed then a' = a ∧ m = none else a'.pos = o ∧ m = none ∧ a'.closed = false
  | .env _ _ => a'.pos = a.pos ∧ m = none ∧ a'.closed = a.closed
  | .fetch =>
    if a.closed then a' = a ∧ m = none     -- io.EOF: nothing is handed out after Close
    else match m with
      | some r => (feed (allRecords items) a.pos).head? = some r ∧ a'.pos = r.1 + 1 ∧ a'.closed = false
      | none => a'.pos = a.pos ∧ a'.closed = false

/-- every step of the API layer keeps `AInv` and does what `ASpec` says.  By the branch of `astep`; where it makes a step of the
system, `cstep_sim` gives the system part; a loop's push leaves `cur` alone, a successful `FetchMessage`
(`finv_fetch`: the message is the record at position `accepted` of the current fetcher's feed, which `cur` ties to `Offset()`)
moves it on by `feed_tail` -/
theorem astep_inv (cfg : RCfg) (items : List Item) (nb : Int) (hnb : 0 ≤ nb) (hwf : LWF nb items) {a a' : AS} {m : Option Rec}
    {e : AEv} (h : AInv items a) (hok : e.ok items) (hs : astep cfg items a e = some (a', m)) :
    AInv items a' ∧ ASpec items a e a' m := by
  have hlog := allRecords_sorted items nb hnb hwf
  have hstart : ∀ o, -2 ≤ o ∧ o ≠ -1 → ∀ cl, AInv items { c := a.c.started o o, pos := o, closed := cl } := fun o ho cl =>
    ⟨cinv_start h.cinv o o (Or.inl ⟨rfl, ho⟩), ho,
     fun _ => ⟨{ tag := a.c.fs.version + 1, start := o }, List.mem_cons_self, rfl, by simp [CS.started]⟩⟩
  have hsim : ∀ {e : CEv} {c' : CS} {m : Option Rec}, e.ok items → e.notSet → cstep cfg items a.c e = some (c', m) →
      CInvL items False c' := fun hok hn hc =>
    (cstep_sim cfg items nb hnb hwf h.cinv hok False.elim (fun _ he => by subst he; exact hn) hc).1
  cases e with
  | close =>
    simp only [astep, Option.some.injEq, Prod.mk.injEq] at hs
    obtain ⟨rfl, rfl⟩ := hs
    exact ⟨⟨h.cinv, h.posok, h.cur⟩, rfl, rfl, rfl⟩
  | setOffset o =>
    simp only [AEv.ok] at hok
    simp only [astep] at hs
    by_cases hcl : a.closed = true
    · simp only [hcl, if_true, Option.some.injEq, Prod.mk.injEq] at hs
      obtain ⟨rfl, rfl⟩ := hs
      exact ⟨h, by simp [ASpec, hcl]⟩
    have hcl' : a.closed = false := by simpa using hcl
    simp only [hcl', Bool.false_eq_true, if_false] at hs
    by_cases h1 : o = a.pos
    · simp only [h1, if_true, Option.some.injEq, Prod.mk.injEq] at hs
      obtain ⟨rfl, rfl⟩ := hs
      exact ⟨h, by simp [ASpec, h1, hcl']⟩
    · simp only [h1, if_false] at hs
      by_cases h2 : a.c.fs.version = 0
      · simp only [h2, if_true, Option.some.injEq, Prod.mk.injEq] at hs
        obtain ⟨rfl, rfl⟩ := hs
        exact ⟨⟨h.cinv, hok, fun hv => absurd h2 hv⟩, by simp [ASpec, hcl']⟩
      · simp only [h2, if_false, cstep_set, Option.some.injEq, Prod.mk.injEq] at hs
        obtain ⟨rfl, rfl⟩ := hs
        exact ⟨hstart o hok _, by simp [ASpec, hcl']⟩
  | env t x =>
    simp only [astep] at hs
    cases hc : cstep cfg items a.c (.env t x) with
    | none => simp [hc] at hs
    | some p =>
      obtain ⟨c', m'⟩ := p
      simp only [hc, Option.some.injEq, Prod.mk.injEq] at hs
      obtain ⟨rfl, rfl⟩ := hs
      have hc' := hsim (e := .env t x) hok trivial hc
      -- the front part: version, accepted and the fetchers' start offsets are untouched
      cases cstep_elim hc with
      | env _ _ s d hl hd =>
        refine ⟨⟨hc', h.posok, fun hv => ?_⟩, rfl, rfl, rfl⟩
        obtain ⟨f, hf, hft, hfd⟩ := h.cur hv
        obtain ⟨f1, hf1, ht1, hst1⟩ := pushQ_mem t d hf
        exact ⟨f1, hf1, ht1.trans hft, by rw [hst1]; exact hfd⟩
  | fetch =>
    simp only [astep] at hs
    by_cases hcl : a.closed = true
    · simp only [hcl, if_true, Option.some.injEq, Prod.mk.injEq] at hs
      obtain ⟨rfl, rfl⟩ := hs
      exact ⟨h, by simp [ASpec, hcl]⟩
    have hcl' : a.closed = false := by simpa using hcl
    simp only [hcl', Bool.false_eq_true, if_false] at hs
    by_cases h2 : a.c.fs.version = 0
    · simp only [h2, if_true, cstep_set, Option.some.injEq, Prod.mk.injEq] at hs
      obtain ⟨rfl, rfl⟩ := hs
      exact ⟨hstart a.pos h.posok _, by simp [ASpec, hcl']⟩
    · simp only [h2, if_false] at hs
      cases hc : cstep cfg items a.c .fetch with
      | none => simp [hc] at hs
      | some p =>
        obtain ⟨c2, m'⟩ := p
        simp only [hc, Option.some.injEq, Prod.mk.injEq] at hs
        obtain ⟨rfl, rfl⟩ := hs
        have hc' := hsim (e := .fetch) trivial trivial hc
        obtain ⟨f, hf, hft, hfd⟩ := h.cur h2
        cases cstep_elim hc with
        | fetch e q2 hd =>
          obtain ⟨tg, r⟩ := e
          have hhead : feed (allRecords items) a.pos = r :: (feed (allRecords items) f.start).drop (a.c.fs.accepted + 1) := by
            rw [← hfd, drop_of_getElem? ((finv_fetch h.cinv.finv hd).2 f hf hft)]
          have hr0 := lwf_lb hwf r (List.mem_filter.mp (by rw [feed] at hhead; rw [hhead]; exact List.mem_cons_self)).1
          refine ⟨⟨hc', ⟨by simp only; omega, by simp only; omega⟩, fun _ => ⟨f, hf, hft, feed_tail hlog hhead⟩⟩, ?_⟩
          simp only [ASpec, hcl', Bool.false_eq_true, if_false, and_true]
          rw [hhead]; rfl

theorem arun_cons {cfg : RCfg} {items : List Item} {a a' : AS} {e : AEv} {es : List AEv} {ms : List Rec}
    (h : arun cfg items a (e :: es) = some (a', ms)) :
    ∃ a1 m ms', astep cfg items a e = some (a1, m) ∧ arun cfg items a1 es = some (a', ms') ∧ ms = m.toList ++ ms' := by
  simp only [arun] at h
  cases hs : astep cfg items a e with
  | none => simp [hs] at h
  | some p =>
    obtain ⟨a1, m⟩ := p
    simp only [hs] at h
    cases hq : arun cfg items a1 es with
    | none => simp [hq] at h
    | some q =>
      obtain ⟨a2, ms'⟩ := q
      simp only [hq, Option.some.injEq, Prod.mk.injEq] at h
      exact ⟨a1, m, ms', rfl, by rw [← h.1, hq], by cases m <;> exact h.2.symm⟩

theorem arun_inv (cfg : RCfg) (items : List Item) (nb : Int) (hnb : 0 ≤ nb) (hwf : LWF nb items) :
    ∀ (es : List AEv) (a a' : AS) (ms : List Rec), AInv items a → (∀ e ∈ es, e.ok items) →
      arun cfg items a es = some (a', ms) → AInv items a' := by
  intro es
  induction es with
  | nil =>
    intro a a' ms h _ hr
    simp only [arun, Option.some.injEq, Prod.mk.injEq] at hr
    rw [← hr.1]; exact h
  | cons e es ih =>
    intro a a' ms h hok hr
    obtain ⟨a1, m, ms', hs, hq, _⟩ := arun_cons hr
    exact ih a1 a' ms' (astep_inv cfg items nb hnb hwf h (hok e List.mem_cons_self) hs).1 (fun x hx => hok x (List.mem_cons_of_mem _ hx)) hq

end KV.C02
