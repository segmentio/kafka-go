/-
Lemmas/ByteLayout.lean — the tokenizer of Spec/ByteLayout.lean inverts the reference encoder, also on truncated input.

The encoding of an item is a sequence of *pieces* (a header, a record, a compressed payload, key + value of a message):
the tokenizer turns a complete piece into one token of its size and a piece that is cut short into `cut`.  `Reads` says
that of a byte string; `Reads.truncated` is the one place where byte limit and fuel are counted.  Lemmas/ByteWalk.lean
supplies the `Piece`s of the Go reads (`walk_piece`) and uses the same two.
-/
import KafkaVerif.Lemmas.ByteEncoders

namespace KV.C02
open KV KV.RW KV.Spec.RB

theorem truncate_cons_fit (t : Tok) (ts : List Tok) (n : Nat) (h : t.size ≤ n) :
    truncate (t :: ts) n = t :: truncate ts (n - t.size) := by
  rw [truncate, if_pos h]

theorem truncate_cons_zero (t : Tok) (ts : List Tok) (h : 0 < t.size) : truncate (t :: ts) 0 = [] := by
  rw [truncate, if_neg (by omega), if_pos rfl]

theorem truncate_cons_cut (t : Tok) (ts : List Tok) (n : Nat) (h : n < t.size) (h0 : n ≠ 0) :
    truncate (t :: ts) n = [.cut] := by
  rw [truncate, if_neg (by omega), if_neg h0]

/-- `e` is a piece for the token machine `F` (fuel, state, input) in state `s`: when it is all there `F` emits the token
`t`, which has its size, and goes on in state `s₁`; when it is cut short `F` emits `cut` -/
structure Piece {σ : Type} (F : Nat → σ → Bytes → List Tok) (s : σ) (e : Bytes) (t : Tok) (s₁ : σ) : Prop where
  size : t.size = e.length
  pos : 0 < e.length
  full : ∀ fuel X, F (fuel + 1) s (e ++ X) = t :: F fuel s₁ X
  cut : ∀ fuel k X, 0 < k → k < e.length → F (fuel + 1) s ((e ++ X).take k) = [.cut]

/-- `Reads F s bs ts s'`: started in state `s`, `F` takes `bs` as a sequence of pieces with the tokens `ts` and is then
in state `s'` -/
inductive Reads {σ : Type} (F : Nat → σ → Bytes → List Tok) : σ → Bytes → List Tok → σ → Prop
  | nil (s : σ) : Reads F s [] [] s
  | cons {s s₁ s' : σ} {e bs : Bytes} {t : Tok} {ts : List Tok} (h : Piece F s e t s₁) (rest : Reads F s₁ bs ts s') :
      Reads F s (e ++ bs) (t :: ts) s'

namespace Reads
variable {σ : Type} {F : Nat → σ → Bytes → List Tok}

theorem single {s s₁ : σ} {e : Bytes} {t : Tok} (h : Piece F s e t s₁) : Reads F s e [t] s₁ :=
  List.append_nil e ▸ .cons h (.nil s₁)

theorem append {s s₁ s₂ : σ} {b₁ b₂ : Bytes} {t₁ t₂ : List Tok} (h₁ : Reads F s b₁ t₁ s₁) (h₂ : Reads F s₁ b₂ t₂ s₂) :
    Reads F s (b₁ ++ b₂) (t₁ ++ t₂) s₂ := by
  induction h₁ with
  | nil => exact h₂
  | cons h _ ih => rw [List.append_assoc]; exact .cons h (ih h₂)

/-- every piece has at least one byte, so fuel above `n` is enough -/
theorem truncated (hnil : ∀ fuel s, F fuel s [] = []) {s s' : σ} {bs : Bytes} {ts : List Tok} (h : Reads F s bs ts s') :
    ∀ n fuel, n < fuel → F fuel s (bs.take n) = truncate ts n := by
  induction h with
  | nil => intro n fuel _; rw [List.take_nil, hnil, truncate]
  | @cons s s₁ s' e bs t ts h _ ih =>
    intro n fuel hf
    obtain ⟨fuel, rfl⟩ : ∃ k, fuel = k + 1 := ⟨fuel - 1, by omega⟩
    have hsz := h.size
    by_cases hfit : e.length ≤ n
    · rw [truncate_cons_fit _ _ _ (hsz ▸ hfit), hsz, take_append_ge _ _ _ hfit, h.full, ih _ _ (by have := h.pos; omega)]
    · have hlt : n < e.length := Nat.lt_of_not_le hfit
      by_cases h0 : n = 0
      · rw [h0, truncate_cons_zero _ _ (hsz ▸ h.pos), List.take_zero, hnil]
      · rw [truncate_cons_cut _ _ _ (hsz ▸ hlt) h0, h.cut _ _ _ (Nat.pos_of_ne_zero h0) hlt]

end Reads

theorem tokenize_nil (c : TokCfg) (fuel : Nat) (st : TS) : tokenize c fuel st [] = [] := by
  cases fuel <;> simp [tokenize]

theorem tokenize_hdr_short (c : TokCfg) (fuel : Nat) (H x : Bytes) (n : Nat) (mg : UInt8)
    (hmg : magicOf (H ++ x) = some mg) (hsz : H.length = if mg = 2 then 61 else if mg = 1 then 26 else 18)
    (hn : n < H.length) (h0 : n ≠ 0) :
    tokenize c (fuel + 1) .hdr ((H ++ x).take n) = [.cut] := by
  have hne := isEmpty_take_append x (Nat.pos_of_ne_zero h0) (by omega : 0 < H.length)
  simp only [tokenize, hne, Bool.false_eq_true, if_false, magicOf_take, hmg, length_take_append x hn]
  -- up to byte 16 there is no magic byte; beyond it the magic byte is known and the length test fails
  by_cases h16 : 16 < n
  · by_cases h2 : mg = 2
    · rw [if_pos h2] at hsz
      simp only [h16, h2, if_true, show n < 61 by omega]
    · rw [if_neg h2] at hsz
      simp only [h16, h2, if_true, if_false, show n < (if mg = 1 then 26 else 18) by omega]
  · simp only [h16, if_false]

/-- where the tokenizer goes after the header of a v2 batch -/
def H2.next (h : H2) : TS :=
  if h.attrs % 8 != 0 then .payload h else if h.count.toNat = 0 then .hdr else .recs h h.count.toNat

theorem tokenize_h2 (c : TokCfg) (cv : Nat) (hcv : cv < M32) (f : FrameV2) (hf : f.WF) (fuel : Nat) (X : Bytes) :
    tokenize c (fuel + 1) .hdr (encH2 cv f ++ X)
      = Tok.h2 f.baseOffset f.lastOffsetDelta f.count.toNat (f.attributes % 8 != 0) f.payload.length ::
          tokenize c fuel (h2Of f).next X := by
  have hne := isEmpty_append_false (b := X) (encH2_pos cv f)
  have hlen : ¬ (encH2 cv f ++ X).length < 61 := by rw [List.length_append, encH2_length]; omega
  simp only [tokenize, hne, Bool.false_eq_true, if_false, magicOf_encH2, if_true, hlen, readH2_encH2 _ hcv _ hf]
  rfl  -- `H2.next` is the `if` of `tokenize` at this point

theorem piece_h2 (c : TokCfg) (cv : Nat) (hcv : cv < M32) (f : FrameV2) (hf : f.WF) :
    Piece (tokenize c) .hdr (encH2 cv f)
      (Tok.h2 f.baseOffset f.lastOffsetDelta f.count.toNat (f.attributes % 8 != 0) f.payload.length) (h2Of f).next :=
  ⟨(encH2_length cv f).symm, encH2_pos cv f, tokenize_h2 c cv hcv f hf, fun fuel k X hk hlt =>
    tokenize_hdr_short c fuel _ X k 2 (magicOf_encH2 cv f X) (encH2_length cv f) hlt (by omega)⟩

def r2Tok (dg2 : Int → RecV2 → Nat) (fts : Int) (r : RecV2) : Tok := .r2 r.offDelta (dg2 fts r) (encRec r).length

theorem reads_recs (c : TokCfg) (h : H2) : ∀ recs : List RecV2,
    Reads (tokenize c) (if recs.length = 0 then .hdr else .recs h recs.length) (encRecs recs)
      (recs.map (r2Tok c.dg2 h.firstTs)) .hdr
  | [] => .nil _
  | r :: rs => by
    have hpos := encRec_pos r
    refine .cons (t := r2Tok c.dg2 h.firstTs r) ⟨rfl, hpos, fun fuel X => ?_, fun fuel k X hk hlt => ?_⟩ (reads_recs c h rs)
    · simp only [List.length_cons, Nat.add_one_ne_zero, if_false, tokenize, isEmpty_append_false hpos, Bool.false_eq_true,
        readRec_encRec, List.length_append, Nat.add_sub_cancel, r2Tok, Nat.add_one_le_iff, Nat.lt_one_iff]
    · simp only [List.length_cons, Nat.add_one_ne_zero, if_false, tokenize, isEmpty_take_append X hk hpos, Bool.false_eq_true,
        readRec_prefix r X k hlt]

theorem piece_payload (c : TokCfg) (h : H2) (pl : Bytes) (recs : List RecV2) (hlen : h.plen = pl.length) (hpos : 0 < pl.length)
    (hdec : (c.dec (h.attrs % 8) pl).bind (decodeRecs h.count) = some recs) :
    Piece (tokenize c) (.payload h) pl
      (Tok.z2 h.plen (recs.map fun r => (r.offDelta, c.dg2 h.firstTs r, (encRec r).length))) .hdr := by
  refine ⟨hlen, hpos, fun fuel X => ?_, fun fuel k X hk hlt => ?_⟩
  · have hl : ¬ (pl ++ X).length < pl.length := by rw [List.length_append]; omega
    simp only [tokenize, isEmpty_append_false hpos, Bool.false_eq_true, if_false, hlen, hl, List.take_left', List.drop_left', hdec]
  · simp only [tokenize, isEmpty_take_append X hk hpos, Bool.false_eq_true, if_false, hlen, length_take_append X hlt, hlt, if_true]

theorem tokenize_h1 (c : TokCfg) (cv : Nat) (hcv : cv < M32) (m : Msg) (hwf : m.WF) (fuel : Nat) (X : Bytes) :
    tokenize c (fuel + 1) .hdr (encH1 cv m ++ X)
      = Tok.h1 m.magic.toNat m.offset (m.attributes % 8 != 0) :: tokenize c fuel (.body (encH1 cv m) (h1Of m)) X := by
  have hl := encH1_length cv m
  have ⟨_, hmag, _⟩ := hwf
  have hne := isEmpty_append_false (b := X) (encH1_pos cv m)
  have htk : (encH1 cv m ++ X).take ((encH1 cv m ++ X).length - X.length) = encH1 cv m := by
    rw [List.length_append, Nat.add_sub_cancel]; exact List.take_left' rfl
  simp only [tokenize, hne, Bool.false_eq_true, if_false, magicOf_encH1 cv m X hmag, readH1_encH1 cv hcv m hwf, htk]
  rcases hmag with h | h <;> simp [h, hl, h1Of]

theorem reads_v1 (c : TokCfg) (cv : Nat) (hcv : cv < M32) (m : Msg) (hwf : m.WF) (bt : Tok) (hbt : bt.size = (encB1 m).length)
    (hbody : ∀ fuel X, tokenize c (fuel + 1) (.body (encH1 cv m) (h1Of m)) (encB1 m ++ X) = bt :: tokenize c fuel .hdr X) :
    Reads (tokenize c) .hdr (encH1 cv m ++ encB1 m) [Tok.h1 m.magic.toNat m.offset (m.attributes % 8 != 0), bt] .hdr := by
  have hl := encH1_length cv m
  have ⟨_, hmag, _⟩ := hwf
  have hpos := encB1_pos m
  refine .cons ⟨hdr1Size_eq cv m hmag, encH1_pos cv m, tokenize_h1 c cv hcv m hwf, fun fuel k X hk hlt => ?_⟩ <|
    .single ⟨hbt, hpos, hbody, fun fuel k X hk hlt => ?_⟩
  · refine tokenize_hdr_short c fuel _ X k _ (magicOf_encH1 cv m X hmag) ?_ hlt (by omega)
    rcases hmag with h | h <;> simp [hl, h]
  · simp only [tokenize, isEmpty_take_append X hk hpos, Bool.false_eq_true, if_false, h1Of, length_take_append X hlt, hlt, if_true]

theorem encMsgs_eq_encSet (c : Crcs) (ms : List Msg) : encMsgs c.ieee ms = encSet c (ms.map Entry.msg) := by
  induction ms with
  | nil => rfl
  | cons m ms ih => simp [encMsgs, encSet, encEntry, ih]

theorem msgsOf_map (ms : List Msg) : msgsOf (ms.map Entry.msg) = some ms := by
  induction ms with
  | nil => rfl
  | cons m ms ih => simp [msgsOf, ih]

theorem tokenize_body (c : TokCfg) (hcrc : ∀ b, c.crcs.ieee b < M32) (m : Msg) (hwf : m.WF) (fuel : Nat) (x : Bytes) :
    tokenize c (fuel + 1) (.body (encH1 (c.crcs.ieee (msgBody m)) m) (h1Of m)) (encB1 m ++ x)
      = if m.attributes % 8 = 0 then Tok.kv (c.dg1 m) (encB1 m).length :: tokenize c fuel .hdr x
        else match ((m.value.bind (c.dec (m.attributes % 8))).bind (decodeSet c.crcs)).bind msgsOf with
          | none => [.cut]
          | some inner => Tok.zv (encB1 m).length (inner.map fun y => (y.offset, c.dg1 y)) :: tokenize c fuel .hdr x := by
  have hl : ¬ (encB1 m ++ x).length < (encB1 m).length := by rw [List.length_append]; omega
  have hread := readMsg_encMsg c.crcs.ieee hcrc m hwf []
  rw [encMsg_split, List.append_nil] at hread
  simp only [tokenize, isEmpty_append_false (encB1_pos m), Bool.false_eq_true, if_false, h1Of, hl, List.take_left', hread,
    List.drop_left']
  rfl

theorem tokenize_body_wrap (c : TokCfg) (enc : Int → Bytes → Bytes) (hdec : ∀ k b, c.dec k (enc k b) = some b)
    (h1 : ∀ b, c.crcs.ieee b < M32) (h2 : ∀ b, c.crcs.castagnoli b < M32)
    (m : Msg) (hwf : m.WF) (inner : List Msg) (hin : ∀ x ∈ inner, x.WF) (hc0 : 0 < m.attributes) (hc8 : m.attributes < 8)
    (hval : m.value = some (enc m.attributes (encMsgs c.crcs.ieee inner))) (fuel : Nat) (x : Bytes) :
    tokenize c (fuel + 1) (.body (encH1 (c.crcs.ieee (msgBody m)) m) (h1Of m)) (encB1 m ++ x)
      = Tok.zv (encB1 m).length (inner.map fun y => (y.offset, c.dg1 y)) :: tokenize c fuel .hdr x := by
  have hset : decodeSet c.crcs (encSet c.crcs (inner.map Entry.msg)) = some (inner.map Entry.msg) :=
    decodeSet_encSet_msgs c.crcs h1 h2 inner hin
  rw [tokenize_body c h1 m hwf, if_neg (by omega), show m.attributes % 8 = m.attributes by omega, hval]
  simp only [Option.bind_some, hdec, encMsgs_eq_encSet, hset, msgsOf_map]

theorem tokensOf_plain2 (dg2 : Int → RecV2 → Nat) (b : BBatch) :
    tokensOf (b.item dg2) = Tok.h2 b.frame.baseOffset b.frame.lastOffsetDelta b.frame.count.toNat
      (b.frame.attributes % 8 != 0) b.frame.payload.length :: b.recs.map (r2Tok dg2 b.frame.firstTs) := by
  simp [BBatch.item, BBatch.frame, tokensOf, r2Tok, show ∀ a b : Int, a + b - a = b by omega]

theorem tokensOf_comp2 (c : TokCfg) (enc : Int → Bytes → Bytes) (hdr : FrameV2) (codec : Int) (recs : List RecV2)
    (h0 : 0 < codec) (h8 : codec < 8) :
    tokensOf ((BItem.comp2 hdr codec recs).item c enc)
      = [Tok.h2 hdr.baseOffset hdr.lastOffsetDelta recs.length (codec % 8 != 0) (enc codec (encRecs recs)).length,
         Tok.z2 (enc codec (encRecs recs)).length (recs.map fun r => (r.offDelta, c.dg2 hdr.firstTs r, (encRec r).length))] := by
  have : (codec % 8 != 0) = true := by simp; omega
  simp [BItem.item, tokensOf, this, show ∀ a b : Int, a + b - a = b by omega]

theorem tokensOf_msg (c : TokCfg) (enc : Int → Bytes → Bytes) (m : Msg) (hwf : m.WF) (hplain : m.attributes % 8 = 0) :
    tokensOf ((BItem.msg m).item c enc)
      = [Tok.h1 m.magic.toNat m.offset (m.attributes % 8 != 0), Tok.kv (c.dg1 m) (encB1 m).length] := by
  have ⟨_, hmag, _⟩ := hwf
  simp [BItem.item, tokensOf, encMsg_length_sub _ m hmag, hplain]

theorem tokensOf_wrap (c : TokCfg) (enc : Int → Bytes → Bytes) (m : Msg) (codec : Int) (inner : List Msg)
    (hmag : m.magic = 0 ∨ m.magic = 1) (h0 : 0 < codec) (h8 : codec < 8) :
    tokensOf ((BItem.wrap m codec inner).item c enc)
      = [Tok.h1 m.magic.toNat m.offset (codec % 8 != 0),
         Tok.zv (encB1 (wrapMsg enc c.crcs.ieee m codec inner)).length (inner.map fun y => (y.offset, c.dg1 y))] := by
  have : (codec % 8 != 0) = true := by simp; omega
  simp only [BItem.item, tokensOf, this, ← encMsg_length_sub c.crcs.ieee (wrapMsg enc c.crcs.ieee m codec inner) hmag]
  rfl

theorem reads_item (c : TokCfg) (enc : Int → Bytes → Bytes) (hdec : ∀ k b, c.dec k (enc k b) = some b)
    (hpos : ∀ k b, 0 < (enc k b).length) (h1 : ∀ b, c.crcs.ieee b < M32) (h2 : ∀ b, c.crcs.castagnoli b < M32)
    (it : BItem) (hwf : it.WF c enc) : Reads (tokenize c) .hdr (it.bytes c enc) (tokensOf (it.item c enc)) .hdr := by
  cases it with
  | plain2 b =>
    rw [BItem.bytes, encFrame_split, BItem.item, tokensOf_plain2]
    refine .cons (piece_h2 c _ (h2 _) b.frame hwf) ?_
    have := reads_recs c (h2Of b.frame) b.recs
    simpa [H2.next, h2Of, BBatch.frame] using this
  | comp2 hdr codec recs =>
    obtain ⟨hfw, h0, h8, _⟩ := hwf
    rw [BItem.bytes, encFrame_split, tokensOf_comp2 c enc hdr codec recs h0 h8]
    have hcm : (codec % 8 != 0) = true := by simp; omega
    refine .cons (piece_h2 c _ (h2 _) (comp2Frame enc hdr codec recs) hfw) ?_
    rw [show (h2Of (comp2Frame enc hdr codec recs)).next = .payload _ from if_pos hcm]
    refine .single (piece_payload c _ _ recs rfl (hpos _ _) ?_)
    have hc : codec % 8 = codec := by omega
    simp [h2Of, comp2Frame, hc, hdec, decodeRecs_encRecs]
  | msg m =>
    obtain ⟨hm, hplain⟩ := hwf
    rw [BItem.bytes, encMsg_split, tokensOf_msg c enc m hm hplain]
    exact reads_v1 c _ (h1 _) m hm _ rfl fun fuel X => by rw [tokenize_body c h1 m hm, if_pos hplain]
  | wrap m codec inner =>
    obtain ⟨hm, h0, h8, hin⟩ := hwf
    have ⟨_, hmag, _⟩ := hm
    rw [BItem.bytes, encMsg_split, tokensOf_wrap c enc m codec inner hmag h0 h8]
    exact reads_v1 c _ (h1 _) _ hm _ rfl (tokenize_body_wrap c enc hdec h1 h2 _ hm inner hin h0 h8 rfl)

/-- **bytes ↔ tokens** for everything the reference encoder can put into a message set — uncompressed and compressed
v2 batches, v0/v1 messages and compressed wrappers, in any order — cut at any byte: tokenizing the first `n` bytes
gives the token stream of the layout truncated at `n` bytes.  The codec is a parameter with `dec ∘ enc = id` and
non-empty output. -/
theorem tokenize_items (c : TokCfg) (enc : Int → Bytes → Bytes) (hdec : ∀ k b, c.dec k (enc k b) = some b)
    (hpos : ∀ k b, 0 < (enc k b).length) (h1 : ∀ b, c.crcs.ieee b < M32) (h2 : ∀ b, c.crcs.castagnoli b < M32) :
    ∀ (its : List BItem), (∀ it ∈ its, it.WF c enc) → ∀ (n fuel : Nat), n < fuel →
      tokenize c fuel .hdr ((encItems c enc its).take n) = truncate (allTokens (layoutOfItems c enc its)) n := by
  intro its hwf
  refine Reads.truncated (tokenize_nil c) (s' := .hdr) ?_
  induction its with
  | nil => exact .nil _
  | cons it its ih =>
    exact (reads_item c enc hdec hpos h1 h2 it (hwf it (by simp))).append (ih fun x hx => hwf x (by simp [hx]))

end KV.C02
