/-
Lemmas/GroupGenInv.lean — the invariant of the current generation of the group-run LTS, `GenInv`, a predicate of where
`run` is and of the generation: the Start/close accounting, the heartbeat function, one watcher per configured topic, and
`routines` counts exactly the functions that can still move (`Acc`).
-/
import KafkaVerif.Lemmas.GroupRunStruct
namespace KV.Group

theorem returnsNow_quiet {s : St} {m : String} {e : Option Err} (h : returnsNow s m e = true) : s.pc.quiet = true := by
  rcases returnsNow_cases h with h | ⟨h | h, _⟩ <;> rw [h] <;> rfl

/-- inside a generation all of whose internal functions have been started -/
def PC.inGen : PC → Bool
  | .handing | .running | .closing _ | .waiting _ _ => true
  | _ => false

/-- what an arrow of `run` means for the current generation -/
inductive GenMove (s s' : St) : Prop
  | between : s'.cur = s.cur → s'.pc.quiet = true →
      (s.pc.quiet = true ∨ ∃ ret r, s.pc = .waiting ret r ∧ s.cur.closeCanReturn r = true) → GenMove s s'
  /-- from hand-over to the call of `gen.close()` -/
  | within : s'.cur = s.cur → s.pc.inGen = true → s'.pc.inGen = true → (∀ ret r, s'.pc ≠ .waiting ret r) → GenMove s s'
  | created (gid : Int) (m : String) : s'.cur = { gid := gid, member := m } → s'.pc = .starting 0 → GenMove s s'
  | closing (ret : Option Err) : s.pc = .closing ret → s'.cur = s.cur.closeBegin.1 →
      s'.pc = .waiting ret s.cur.routines → GenMove s s'

theorem genMove_of_move {c : Cfg} {s s' : St} {e : Ev} (hm : Move c s e s') : GenMove s s' := by
  cases hm with
  | @gNew _ gid m _ => exact .created gid m rfl rfl
  | gClose hp => exact .closing _ hp rfl rfl
  | gClosed hp hc => exact .between rfl rfl (.inr ⟨_, _, hp, hc⟩)
  | sawCloseHanding hp _ | sawCloseRunning hp _ | handed hp _ | sawGenDone hp _ =>
    exact .within rfl (by rw [hp]; rfl) rfl (fun _ _ h => by cases h)
  | @connectFail _ lv _ hp _ | @findFail lv _ hp =>
    cases lv with
    | none => exact .between rfl rfl (.inl (by rw [hp]; rfl))
    | some a => cases a <;> exact .between rfl rfl (.inl (by rw [hp]; rfl))
  | @leaveNone a hp _ | @leaveRes a _ hp => cases a <;> exact .between rfl rfl (.inl (by rw [hp]; rfl))
  | retOk hr | retClosed hr | retRebalance hr | retErr hr => exact .between rfl rfl (.inl (returnsNow_quiet hr))
  | _ => exact .between rfl rfl (.inl (by rw [‹s.pc = _›]; rfl))

theorem afterStart_live (c : Cfg) (k : Nat) :
    (afterStart c k).quiet = false ∧ ∀ ret r, afterStart c k ≠ .waiting ret r := by
  rcases afterStart_cases c k with ⟨_, h⟩ | ⟨_, h⟩ <;> rw [h] <;> exact ⟨rfl, fun _ _ h => by cases h⟩

/-- program points at which the generation exists and its heartbeat function must have been started -/
def PC.hbLive : PC → Bool
  | .starting k => k != 0
  | .handing | .running | .closing _ | .waiting _ _ => true
  | _ => false

theorem hbLive_not_quiet {p : PC} (h : p.hbLive = true) : p.quiet = false := by
  cases p <;> first | rfl | cases h

theorem inGen_hbLive {p : PC} (h : p.inGen = true) : p.hbLive = true := by
  cases p <;> first | rfl | cases h

/-- a heartbeat function that has returned either already ended the generation or its exit section is pending -/
def HbDoneOK (g : Gen) : Prop := g.hb = some .done → g.closed = true ∨ 0 < g.returning

/-- how many watchers the current generation has, by program point: `k - 1` after `k ≥ 1` internal starts, all
`nWatch` (one per configured topic) once the generation waits for hand-over -/
def watchersAt (c : Cfg) (pc : PC) (g : Gen) : Prop :=
  match pc with
  | .starting k => g.watchers.length + 1 = k ∨ (k = 0 ∧ g.watchers.length = 0)
  | .handing | .running | .closing _ | .waiting _ _ => g.watchers.length = c.nWatch
  | _ => True

theorem watchersAt_quiet {c : Cfg} {p : PC} {g : Gen} (h : p.quiet = true) : watchersAt c p g := by
  cases p <;> first | trivial | cases h

theorem watchersAt_inGen {c : Cfg} {p : PC} {g : Gen} (h : p.inGen = true) : watchersAt c p g ↔ g.watchers.length = c.nWatch := by
  cases p <;> first | rfl | cases h

theorem watchersAt_afterStart {c : Cfg} {k : Nat} {g : Gen} (h : g.watchers.length = k) : watchersAt c (afterStart c k) g := by
  rcases afterStart_cases c k with ⟨hk, hp⟩ | ⟨_, hp⟩ <;> rw [hp]
  · exact h.trans hk
  · exact .inl (by rw [h])

/-! who still runs in a generation: `routines` = functions whose exit section is pending + live heartbeat + live
accounted watchers + application functions inside their body -/

def hbCount : Option Proc → Nat
  | some .idle => 1
  | some .calling => 1
  | some .failed => 1
  | _ => 0

def wIsLive (x : WProc × Bool) : Bool := x.2 && (x.1 != .done)

def wLive (ws : List (WProc × Bool)) : Nat := ws.countP wIsLive

def Acc (g : Gen) : Prop := g.routines = g.returning + hbCount g.hb + wLive g.watchers + g.users

theorem hbCount_some {x : Proc} (h : x ≠ .done) : hbCount (some x) = 1 := by
  cases x <;> first | rfl | exact absurd rfl h

theorem wIsLive_ne {w : WProc} (a : Bool) (h : w ≠ .done) : wIsLive (w, a) = a := by
  have : (w != WProc.done) = true := by simpa using h
  simp [wIsLive, this]

theorem wLive_setW (g : Gen) (t : Nat) (w w0 : WProc) (a : Bool) (h : g.watchers[t]? = some (w0, a)) :
    wLive (setW g t w).watchers + (if wIsLive (w0, a) then 1 else 0) = wLive g.watchers + (if wIsLive (w, a) then 1 else 0) := by
  obtain ⟨ht, he⟩ := List.getElem?_eq_some_iff.mp h
  have hd : (g.watchers.getD t (w, true)).2 = a := by simp [List.getD, h]
  have hpos : (if wIsLive (w0, a) then 1 else 0) ≤ wLive g.watchers := by
    split
    · exact List.countP_pos_iff.mpr ⟨_, List.getElem_mem ht, he ▸ ‹_›⟩
    · exact Nat.zero_le _
  unfold wLive at hpos ⊢
  simp only [setW, hd, List.countP_set ht, he]
  omega

theorem wLive_snoc (ws : List (WProc × Bool)) (a : Bool) :
    wLive (ws ++ [(.init, a)]) = wLive ws + (if a then 1 else 0) := by
  cases a <;> simp [wLive, List.countP_append, wIsLive]

def SameCore (g g' : Gen) : Prop :=
  g'.closed = g.closed ∧ g'.routines = g.routines ∧ g'.joined = g.joined ∧ g'.accounted = g.accounted ∧
  g'.exited = g.exited

theorem Gen.Inv.of_sameCore {g g' : Gen} (h : Gen.Inv g) (c : SameCore g g') : Gen.Inv g' := by
  obtain ⟨c1, c2, c3, c4, c5⟩ := c
  exact ⟨by rw [c2, c5, c4]; exact h.count, by rw [c1, c2, c3, c4]; exact h.joined_iff,
         by rw [c1, c5]; exact h.exited_closed⟩

theorem Gen.Inv.started {g g' : Gen} (h : Gen.Inv g) (hc : g.closed = false)
    (c : SameCore { g with routines := g.routines + 1, accounted := g.accounted + 1 } g') : Gen.Inv g' := by
  have := Gen.inv_start g h
  rw [Gen.start_open hc] at this
  exact this.of_sameCore c

/-- inductive given `Inv3.fresh`: the start of the heartbeat function needs the generation untouched -/
structure GenInv (c : Cfg) (p : PC) (g : Gen) : Prop where
  inv : Gen.Inv g
  /-- between generations every accounted function of the last generation has run its exit section -/
  between : p.quiet = true → g.closed = true ∧ g.routines = 0
  /-- inside `gen.close()`, which read `r` routines in its critical section: that many functions were accounted -/
  closing : ∀ ret r, p = .waiting ret r → g.closed = true ∧ (r = 0 → g.routines = 0) ∧ r ≤ g.accounted
  hb : p.hbLive = true → g.hb.isSome = true
  done : HbDoneOK g
  watchers : watchersAt c p g
  /-- who is still counted is someone who can still move -/
  acc : Acc g

theorem genInv_init (c : Cfg) : GenInv c (.coord 0 none) noGen :=
  ⟨⟨rfl, by simp [noGen], by simp [noGen]⟩, fun _ => ⟨rfl, rfl⟩, (fun _ _ h => by cases h), (fun h => by cases h),
    (fun h => by cases h), trivial, rfl⟩

theorem GenInv.live {c : Cfg} {p : PC} {g : Gen} (hp : p.quiet = false) (hw : ∀ ret r, p ≠ .waiting ret r) (hi : Gen.Inv g)
    (hb : p.hbLive = true → g.hb.isSome = true) (hd : HbDoneOK g) (hws : watchersAt c p g) (ha : Acc g) : GenInv c p g :=
  ⟨hi, (fun h => by rw [hp] at h; cases h), fun ret r h => absurd h (hw ret r), hb, hd, hws, ha⟩

theorem GenInv.gen {c : Cfg} {p : PC} {g g' : Gen} (hi : GenInv c p g) (hg : GenStep p g g') : GenInv c p g' := by
  have ha := hi.acc
  unfold Acc at ha
  -- per kind of step the seven clauses in the order of the structure; one the step does not touch is `hi`'s (the
  -- projections of the updated record reduce)
  cases hg with
  | startLate _ _ | lateRet _ | ctx _ =>
    exact ⟨hi.inv.of_sameCore ⟨rfl, rfl, rfl, rfl, rfl⟩, hi.between, hi.closing, hi.hb, hi.done, hi.watchers, ha⟩
  | startUser _ hc =>
    have hn : g.closed ≠ true := by simp [hc]
    exact ⟨hi.inv.started hc ⟨rfl, rfl, rfl, rfl, rfl⟩, fun hq => absurd (hi.between hq).1 hn,
      fun ret r hp => absurd (hi.closing ret r hp).1 hn, hi.hb, hi.done, hi.watchers,
      by unfold Acc; dsimp only; omega⟩
  | hb y hx hn hy =>
    rw [hx, hbCount_some hn] at ha
    exact ⟨hi.inv.of_sameCore ⟨rfl, rfl, rfl, rfl, rfl⟩, hi.between, hi.closing, fun _ => rfl,
      fun hh => absurd (Option.some.inj hh) hy, hi.watchers, by unfold Acc; dsimp only; rw [hbCount_some hy]; exact ha⟩
  | hbExit hx hn =>
    rw [hx, hbCount_some hn] at ha
    exact ⟨hi.inv.of_sameCore ⟨rfl, rfl, rfl, rfl, rfl⟩, hi.between, hi.closing, fun _ => rfl, fun _ => .inr (Nat.succ_pos _),
      hi.watchers, by unfold Acc; simp only [hbCount]; omega⟩
  | @watch t w0 a w hw h0 h1 =>
    have := wLive_setW g t w w0 a hw
    rw [wIsLive_ne a h0, wIsLive_ne a h1] at this
    exact ⟨hi.inv.of_sameCore ⟨rfl, rfl, rfl, rfl, rfl⟩, hi.between, hi.closing, hi.hb, hi.done,
      by have := hi.watchers; unfold watchersAt at this ⊢; simpa [setW] using this,
      by unfold Acc; show g.routines = g.returning + hbCount g.hb + wLive (setW g t w).watchers + g.users; omega⟩
  | @watchExit t w0 a hw h0 =>
    -- it stops being live and, when accounted, its exit section becomes pending
    have := wLive_setW (g.bodyReturned a) t .done w0 a (by rw [Gen.bodyReturned_eq]; exact hw)
    rw [Gen.bodyReturned_eq, wIsLive_ne a h0, show wIsLive (.done, a) = false by simp [wIsLive]] at this
    simp only [Bool.false_eq_true, ite_false] at this
    rw [Gen.bodyReturned_eq]
    exact ⟨hi.inv.of_sameCore ⟨rfl, rfl, rfl, rfl, rfl⟩, hi.between, hi.closing, hi.hb,
      fun hh => (hi.done hh).imp id fun (h : 0 < g.returning) => Nat.lt_of_lt_of_le h (Nat.le_add_right _ _),
      by have := hi.watchers; unfold watchersAt at this ⊢; simpa [setW] using this,
      by unfold Acc
         show g.routines = g.returning + (if a = true then 1 else 0) + hbCount g.hb + wLive (setW _ t .done).watchers + g.users
         omega⟩
  | fnExit h =>
    obtain ⟨⟨h1, h2, -⟩, rfl⟩ := Gen.fnExit_some.mp h
    exact ⟨Gen.inv_fnExit g _ hi.inv h, fun hq => absurd (hi.between hq).2 (by omega),
      fun ret r hp => ⟨rfl, fun h0 => by have := (hi.closing ret r hp).2.1 h0; omega, (hi.closing ret r hp).2.2⟩,
      hi.hb, fun _ => .inl rfl, hi.watchers, by unfold Acc; dsimp only; omega⟩
  | userRet hu =>
    exact ⟨hi.inv.of_sameCore ⟨rfl, rfl, rfl, rfl, rfl⟩, hi.between, hi.closing, hi.hb, fun _ => .inr (Nat.succ_pos _), hi.watchers,
      by unfold Acc; dsimp only; omega⟩

theorem genInv_step (c : Cfg) (s s' : St) (e : Ev) (h3 : Inv3 s) (hi : GenInv c s.pc s.cur)
    (h : step c s e = some s') : GenInv c s'.pc s'.cur := by
  cases step_effect h with
  | gen _ hg => exact hi.gen hg
  | env _ _ _ _ _ _ _ => exact hi
  | startHb hp hc =>
    -- the generation is still as `gNew` made it
    obtain ⟨-, -, hhb, hw, -⟩ := h3.fresh hp
    obtain ⟨h1, h2⟩ := afterStart_live c 0
    have ha := hi.acc
    unfold Acc at ha
    rw [hhb] at ha
    exact .live h1 h2 (hi.inv.started hc ⟨rfl, rfl, rfl, rfl, rfl⟩) (fun _ => rfl) (fun hh => by cases hh)
      (watchersAt_afterStart (by show s.cur.watchers.length = 0; rw [hw]; rfl))
      (by show s.cur.routines + 1 = s.cur.returning + 1 + wLive s.cur.watchers + s.cur.users
          simp only [hbCount] at ha; omega)
  | @startWatch _ k hp =>
    -- accounted iff the generation has not ended meanwhile (`Gen.start_eq`)
    have hw := hi.watchers
    rw [hp] at hw
    have hl : s.cur.watchers.length = k := hw.elim Nat.succ.inj (fun h => nomatch h.1)
    obtain ⟨h1, h2⟩ := afterStart_live c (k + 1)
    have hinv := (Gen.inv_start _ hi.inv).of_sameCore
      (g' := { s.cur.start.1 with watchers := s.cur.start.1.watchers ++ [(.init, s.cur.start.2)] }) ⟨rfl, rfl, rfl, rfl, rfl⟩
    rw [Gen.start_eq] at hinv ⊢
    refine .live h1 h2 hinv (fun _ => hi.hb (by rw [hp]; rfl)) hi.done (watchersAt_afterStart (by simp [hl])) ?_
    have ha := hi.acc
    unfold Acc at ha ⊢
    show s.cur.routines + _ = s.cur.returning + hbCount s.cur.hb + wLive (s.cur.watchers ++ [(.init, !s.cur.closed)]) + s.cur.users
    rw [wLive_snoc]; omega
  | move hm =>
    cases genMove_of_move hm with
    | between hc hq hsrc =>
      rw [hc]
      refine ⟨hi.inv, fun _ => hsrc.elim hi.between fun ⟨ret, r, hp, hcr⟩ => ?_, (fun ret r h => by rw [h] at hq; cases hq),
        (fun hp => by rw [hbLive_not_quiet hp] at hq; cases hq), hi.done, watchersAt_quiet hq, hi.acc⟩
      -- `close()` returns: `r = 0`, or `joined` is closed, which by `Gen.Inv` means no routine is left
      have hw := hi.closing _ _ hp
      simp only [Gen.closeCanReturn, Bool.or_eq_true, beq_iff_eq] at hcr
      exact ⟨hw.1, hcr.elim hw.2.1 fun hj => (hi.inv.joined_iff.mp hj).2.1⟩
    | within hc hs ht hw =>
      rw [hc]
      exact .live (hbLive_not_quiet (inGen_hbLive ht)) hw hi.inv (fun _ => hi.hb (inGen_hbLive hs)) hi.done
        ((watchersAt_inGen ht).mpr ((watchersAt_inGen hs).mp hi.watchers)) hi.acc
    | created gid m hc hp =>
      rw [hc, hp]
      exact .live rfl (fun _ _ h => by cases h) (Gen.inv_fresh gid m) (fun h => by cases h) (fun h => by cases h)
        (.inr ⟨rfl, rfl⟩) rfl
    | closing ret hp hc hp' =>
      -- `close()` has set `closed`; `r` is the number of routines it read in the same critical section, and
      -- `routines ≤ accounted` by `Gen.Inv.count`
      rw [hc, hp']
      refine ⟨Gen.inv_closeBegin _ hi.inv, (fun h => by cases h), fun ret r h => ?_, fun _ => hi.hb (by rw [hp]; rfl),
        fun _ => .inl rfl, ?_, hi.acc⟩
      · cases h; exact ⟨rfl, id, by have := hi.inv.count; show s.cur.routines ≤ s.cur.accounted; omega⟩
      · have := hi.watchers; rw [hp] at this; exact this

theorem genInv_reachable (c : Cfg) (s : St) (h : Reachable c s) : GenInv c s.pc s.cur := by
  induction h with
  | init => exact genInv_init c
  | step e hr hs ih => exact genInv_step c _ _ e (inv3_reachable c _ hr) ih hs

end KV.Group
