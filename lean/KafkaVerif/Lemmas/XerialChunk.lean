/-
Lemmas/XerialChunk.lean — what one `readChunk` of the xerial reader does, for any stream and any block codec;
`Read` and `WriteTo` by the outcome of their `readChunk`.
-/
import KafkaVerif.Model.Xerial

namespace KV.Model.Xerial
open KV KV.RW KV.Spec.Xerial

theorem header_take8 (t : Bytes) : (header ++ t).take 8 = magic := by
  show (magic ++ [0, 0, 0, 1, 0, 0, 0, 1] ++ t).take 8 = magic
  rw [List.append_assoc]; exact List.take_left' (by decide)

/-- what `readChunk` starts from: `output` and `offset` reset -/
def clearOut (r : Reader) : Reader := { r with output := [], offset := 0 }

/-- the reader after `headerPhase` consumed the prefix `h` (and `rest'` is left) -/
def afterHeader (r : Reader) (h rest' : Bytes) : Reader :=
  { rest := rest', header := h ++ r.header.drop h.length, nbytes := h.length, output := [], offset := 0 }

theorem headerPhase_first (r : Reader) (hn : r.nbytes = 0) (hne : r.rest.take 16 ≠ []) :
    headerPhase (clearOut r) = some (afterHeader r (r.rest.take 16) (r.rest.drop 16), (r.rest.take 16).length) := by
  simp only [headerPhase, clearOut, hn, if_true, hne, if_false, afterHeader]

theorem headerPhase_later (r : Reader) (hn : r.nbytes ≠ 0) : headerPhase (clearOut r) = some (clearOut r, 0) := by
  simp only [headerPhase, clearOut, hn, if_false]

theorem readChunk_eq (c : Codec) (r : Reader) (k : Nat) :
    readChunk c r k = match headerPhase (clearOut r) with
      | none => (clearOut r, .eof)
      | some (r', pre) => if r'.header.take 8 = magic then framedBody c r' k else unframedBody c r' pre k := rfl

theorem framedBody_full (c : Codec) (r : Reader) (k : Nat) (h : 4 + deN (r.rest.take 4) ≤ r.rest.length) :
    framedBody c r k =
      decodeInto c { r with rest := r.rest.drop (4 + deN (r.rest.take 4)), nbytes := r.nbytes + 4 + deN (r.rest.take 4) }
        ((r.rest.drop 4).take (deN (r.rest.take 4))) k := by
  have h4 : (r.rest.take 4).length = 4 := List.length_take_of_le (Nat.le_trans (Nat.le_add_right 4 _) h)
  have hne : r.rest.take 4 ≠ [] := fun e => by rw [e] at h4; cases h4
  have hin : ¬ ((r.rest.drop 4).take (deN (r.rest.take 4))).length < deN (r.rest.take 4) := by
    rw [List.length_take, List.length_drop]; omega
  simp only [framedBody, hne, h4, Nat.lt_irrefl, hin, if_false]

theorem framedBody_short (c : Codec) (r : Reader) (k : Nat) (h : ¬ 4 + deN (r.rest.take 4) ≤ r.rest.length) :
    (framedBody c r k).2 = .eof ∨ (framedBody c r k).2 = .err := by
  simp only [framedBody]
  by_cases h0 : r.rest.take 4 = []
  · rw [if_pos h0]; exact .inl rfl
  · rw [if_neg h0]
    by_cases h4 : (r.rest.take 4).length < 4
    · rw [if_pos h4]; exact .inr rfl
    · have hin : ((r.rest.drop 4).take (deN (r.rest.take 4))).length < deN (r.rest.take 4) := by
        rw [List.length_take] at h4
        rw [List.length_take, List.length_drop]; omega
      rw [if_neg h4, if_pos hin]
      by_cases hi : (r.rest.drop 4).take (deN (r.rest.take 4)) = []
      · rw [if_pos hi]; exact .inl rfl
      · rw [if_neg hi]; exact .inr rfl

theorem framedBody_nil (c : Codec) (r : Reader) (k : Nat) (hr : r.rest = []) :
    framedBody c r k = (r, .eof) := by
  simp [framedBody, hr]

theorem readChunk_first (c : Codec) (r : Reader) (k : Nat) (hn : r.nbytes = 0) (hl : 16 ≤ r.rest.length)
    (hm : r.rest.take 8 = magic) :
    readChunk c r k = framedBody c (afterHeader r (r.rest.take 16) (r.rest.drop 16)) k ∧
      (afterHeader r (r.rest.take 16) (r.rest.drop 16)).header.take 8 = magic := by
  have hl16 : (r.rest.take 16).length = 16 := List.length_take_of_le hl
  have hne : r.rest.take 16 ≠ [] := fun e => by rw [e] at hl16; cases hl16
  have hmag : (afterHeader r (r.rest.take 16) (r.rest.drop 16)).header.take 8 = magic := by
    simp only [afterHeader]
    rw [List.take_append_of_le_length (by omega), List.take_take]
    exact hm
  rw [readChunk_eq, headerPhase_first r hn hne]
  exact ⟨if_pos hmag, hmag⟩

theorem readChunk_header (c : Codec) (r : Reader) (t : Bytes) (k : Nat) (hn : r.nbytes = 0) (hr : r.rest = header ++ t) :
    readChunk c r k = framedBody c (afterHeader r header t) k := by
  have h := (readChunk_first c r k hn (by rw [hr, List.length_append]; exact Nat.le_add_right 16 _)
    (by rw [hr]; exact header_take8 t)).1
  have h16 : header.length = 16 := rfl
  rwa [hr, List.take_left' h16, List.drop_left' h16] at h

theorem readChunk_later (c : Codec) (r : Reader) (k : Nat) (hn : r.nbytes ≠ 0) :
    readChunk c r k =
      if r.header.take 8 = magic then framedBody c (clearOut r) k else unframedBody c (clearOut r) 0 k := by
  rw [readChunk_eq, headerPhase_later r hn]; rfl

/-- The first `readChunk` of a stream that is one raw block `input`: the header phase takes `min 16 |input|` bytes, which
do not start with the magic, and the unframed branch puts them back in front of the rest. -/
theorem readChunk_unframed (c : Codec) (r : Reader) (input : Bytes) (k : Nat) (hn : r.nbytes = 0) (hr : r.rest = input)
    (hne : input ≠ []) (hmag : ∀ t, (input ++ t).take 8 ≠ magic) :
    ∃ r0 : Reader, r0.nbytes ≠ 0 ∧ r0.header.take 8 ≠ magic ∧ r0.rest = [] ∧ r0.output = [] ∧ r0.offset = 0 ∧
      readChunk c r k = decodeInto c r0 input k := by
  subst hr
  have hpos : 0 < r.rest.length := List.length_pos_iff.mpr hne
  have hlen : (r.rest.take 16).length ≠ 0 := by rw [List.length_take]; omega
  have hhne : r.rest.take 16 ≠ [] := fun h => hlen (by rw [h]; rfl)
  have hnot : (afterHeader r (r.rest.take 16) (r.rest.drop 16)).header.take 8 ≠ magic := by
    simp only [afterHeader]
    by_cases hl : 16 ≤ r.rest.length
    · have := hmag []
      rw [List.append_nil] at this
      intro h; apply this
      rw [← h, List.take_append_of_le_length (by rw [List.length_take]; omega), List.take_take]; rfl
    · have ht : r.rest.take 16 = r.rest := List.take_of_length_le (by omega)
      rw [ht]; exact hmag _
  have hinput : (afterHeader r (r.rest.take 16) (r.rest.drop 16)).header.take (r.rest.take 16).length
      ++ (afterHeader r (r.rest.take 16) (r.rest.drop 16)).rest = r.rest := by
    simp only [afterHeader]
    rw [List.take_left' rfl]; exact List.take_append_drop 16 _
  refine ⟨{ afterHeader r (r.rest.take 16) (r.rest.drop 16) with
      rest := [], nbytes := (r.rest.take 16).length + (r.rest.drop 16).length }, ?_, hnot, rfl, rfl, rfl, ?_⟩
  · show (r.rest.take 16).length + _ ≠ 0; omega
  · rw [readChunk_eq, headerPhase_first r hn hhne]
    simp only [hnot, if_false, unframedBody, hinput, hne]
    rfl

theorem read_chunk (c : Codec) (fuel : Nat) (r : Reader) (k : Nat) (h : ¬ r.offset < r.output.length) :
    read c (fuel + 1) r k =
      match (readChunk c r k).2 with
      | .direct b => if b.length > 0 then ((readChunk c r k).1, .data b) else read c fuel (readChunk c r k).1 k
      | .buffered => read c fuel (readChunk c r k).1 k
      | .eof => ((readChunk c r k).1, .eof)
      | .err => ((readChunk c r k).1, .err) := by
  rw [read, if_neg h]
  rcases readChunk c r k with ⟨r', ch⟩
  cases ch <;> rfl

theorem writeTo_chunk (c : Codec) (fuel : Nat) (r : Reader) :
    writeTo c (fuel + 1) r =
      match (readChunk c { r with offset := r.output.length } 0).2 with
      | .eof => some (r.output.drop r.offset)
      | .err => none
      | .direct b => (writeTo c fuel (readChunk c { r with offset := r.output.length } 0).1).map
          (fun t => r.output.drop r.offset ++ (b ++ t))
      | .buffered => (writeTo c fuel (readChunk c { r with offset := r.output.length } 0).1).map
          (fun t => r.output.drop r.offset ++ t) := by
  rw [writeTo]
  rcases readChunk c { r with offset := r.output.length } 0 with ⟨r', ch⟩
  cases ch <;> rfl

theorem decodeInto_keeps (c : Codec) (r : Reader) (input : Bytes) (k : Nat) :
    (decodeInto c r input k).1.nbytes = r.nbytes ∧ (decodeInto c r input k).1.header = r.header := by
  unfold decodeInto
  cases c.decodedLen input <;> cases c.dec input <;> simp <;> split <;> simp

end KV.Model.Xerial
