/- Lemmas/LeastBytes.lean — LeastBytes picks a minimal counter; counters equal routed bytes. -/
import KafkaVerif.Model.Balancer

namespace KV.Balancer
open KV

def bytesAt (L : List LBCounter) (i : Nat) : Nat := ((L[i]?).map (·.bytes)).getD 0

/-- The scan loop of `Balance`, for any numbering `f` of the byte counts: `cs` are the entries from index `i` on, `mi < i`
is the best index so far and `mb = f mi`.  (`minIndex_spec` takes `f := bytesAt (c :: cs)`, the numbering of the WHOLE list,
while the induction runs over its tail from index 1.) -/
theorem minIndexFrom_spec (f : Nat → Nat) (cs : List LBCounter) : ∀ (i mi mb : Nat),
    (∀ j (hj : j < cs.length), f (i + j) = cs[j].bytes) → f mi = mb → mi < i →
    minIndexFrom cs i mi mb < i + cs.length ∧ f (minIndexFrom cs i mi mb) ≤ mb ∧
      ∀ j, j < cs.length → f (minIndexFrom cs i mi mb) ≤ f (i + j) := by
  induction cs with
  | nil => exact fun i mi mb _ hmb hlt => ⟨Nat.lt_of_lt_of_le hlt (Nat.le_add_right i 0), Nat.le_of_eq hmb, nofun⟩
  | cons c cs ih =>
    intro i mi mb h hmb hlt
    have hc : f i = c.bytes := h 0 (Nat.succ_pos _)
    have hsh : ∀ j (hj : j < cs.length), f (i + 1 + j) = cs[j].bytes := fun j hj => by
      rw [Nat.add_right_comm]; exact h (j + 1) (Nat.succ_lt_succ hj)
    have hcons : ∀ r, f r ≤ c.bytes → (∀ j, j < cs.length → f r ≤ f (i + 1 + j)) →
        ∀ j, j < (c :: cs).length → f r ≤ f (i + j) := by
      intro r h0 hs j hj
      cases j with
      | zero => rw [Nat.add_zero, hc]; exact h0
      | succ j => rw [← Nat.add_assoc, Nat.add_right_comm]; exact hs j (Nat.lt_of_succ_lt_succ hj)
    rw [minIndexFrom, List.length_cons]
    by_cases hlt' : c.bytes < mb
    · rw [if_pos hlt']
      obtain ⟨h1, h2, h3⟩ := ih (i + 1) i c.bytes hsh hc (Nat.lt_succ_self i)
      exact ⟨by omega, by omega, hcons _ h2 h3⟩
    · rw [if_neg hlt']
      obtain ⟨h1, h2, h3⟩ := ih (i + 1) mi mb hsh hmb (Nat.lt_succ_of_lt hlt)
      exact ⟨by omega, h2, hcons _ (by omega) h3⟩

theorem minIndex_spec (cs : List LBCounter) (h : cs ≠ []) :
    minIndex cs < cs.length ∧ ∀ j, j < cs.length → bytesAt cs (minIndex cs) ≤ bytesAt cs j := by
  match cs, h with
  | c :: cs, _ =>
    obtain ⟨h1, h2, h3⟩ := minIndexFrom_spec (bytesAt (c :: cs)) cs 1 0 c.bytes
      (fun j hj => by simp [bytesAt, Nat.add_comm 1 j, hj]) rfl Nat.zero_lt_one
    refine ⟨by rw [List.length_cons, Nat.add_comm]; exact h1, fun j hj => ?_⟩
    cases j with
    | zero => exact h2
    | succ j => rw [Nat.add_comm j 1]; exact h3 j (Nat.lt_of_succ_lt_succ hj)

theorem addAt_eq_modify : ∀ (cs : List LBCounter) (i sz : Nat),
    addAt cs i sz = cs.modify i (fun c => { c with bytes := c.bytes + sz })
  | [], i, _ => (List.modify_nil _ i).symm
  | _ :: _, 0, _ => rfl
  | c :: cs, i + 1, sz => by rw [addAt, List.modify_succ_cons, addAt_eq_modify cs i sz]

theorem balance_of_counters (lb : LeastBytes) (sz : Nat) (parts : List Int) (hlen : lb.counters.length = parts.length)
    (hne : lb.counters ≠ []) :
    lb.balance sz parts =
      (⟨addAt lb.counters (minIndex lb.counters) sz⟩, (lb.counters[minIndex lb.counters]?).map (·.partition)) := by
  have hnr : ¬ parts.length ≠ lb.counters.length := fun h => h hlen.symm
  simp only [LeastBytes.balance, if_neg hnr]
  match h : lb.counters, hne with
  | _ :: _, _ => rfl

/-- bytes routed to partition `p` by the calls recorded in `hist` (most recent first) -/
def routed : List (Int × Nat) → Int → Nat
  | [], _ => 0
  | (q, sz) :: h, p => (if q = p then sz else 0) + routed h p

def countersOf (ks : List Int) (hist : List (Int × Nat)) : List LBCounter := ks.map fun p => ⟨p, routed hist p⟩

/-- the counters are a function of the history: the offered partitions in some order, each with the bytes routed to it -/
def LBInv (lb : LeastBytes) (parts : List Int) (hist : List (Int × Nat)) : Prop :=
  ∃ ks, ks.Perm parts ∧ lb.counters = countersOf ks hist

theorem lbInsert_perm (c : LBCounter) : ∀ cs : List LBCounter, (lbInsert c cs).Perm (c :: cs)
  | [] => .refl _
  | d :: ds => by
    unfold lbInsert
    split
    · exact .refl _
    · exact ((lbInsert_perm c ds).cons d).trans (.swap c d ds)

theorem makeCounters_perm : ∀ parts : List Int, (makeCounters parts).Perm (parts.map (⟨·, 0⟩))
  | [] => .refl _
  | p :: ps => (lbInsert_perm ⟨p, 0⟩ (makeCounters ps)).trans ((makeCounters_perm ps).cons _)

theorem makeCounters_inv (parts : List Int) : LBInv ⟨makeCounters parts⟩ parts [] := by
  have hp := makeCounters_perm parts
  refine ⟨(makeCounters parts).map (·.partition), ?_, ?_⟩
  · simpa [List.map_map, Function.comp_def] using hp.map (·.partition)
  · rw [countersOf, List.map_map]
    refine (List.map_id _).symm.trans (List.map_congr_left fun c hc => ?_)
    obtain ⟨p, _, rfl⟩ := List.mem_map.mp (hp.mem_iff.mp hc)
    rfl

theorem balance_nil (parts : List Int) (hp : parts ≠ []) (sz : Nat) :
    (⟨[]⟩ : LeastBytes).balance sz parts = (⟨makeCounters parts⟩ : LeastBytes).balance sz parts := by
  have hlen : (makeCounters parts).length = parts.length := by
    simpa using (makeCounters_perm parts).length_eq
  have h1 : parts.length ≠ ([] : List LBCounter).length := fun h => hp (List.length_eq_zero_iff.mp h)
  have h2 : ¬ parts.length ≠ (makeCounters parts).length := fun h => h hlen.symm
  simp only [LeastBytes.balance, if_pos h1, if_neg h2]

theorem lb_step (lb : LeastBytes) (parts : List Int) (hist : List (Int × Nat)) (sz : Nat)
    (hp : parts ≠ []) (hnd : parts.Nodup) (inv : LBInv lb parts hist) :
    ∃ p, (lb.balance sz parts).2 = some p ∧ p ∈ parts ∧ (∀ q, q ∈ parts → routed hist p ≤ routed hist q)
      ∧ LBInv (lb.balance sz parts).1 parts ((p, sz) :: hist) := by
  obtain ⟨L⟩ := lb
  obtain ⟨ks, hperm, hL⟩ := inv
  simp only at hL
  subst hL
  have hlen : (countersOf ks hist).length = parts.length := by rw [countersOf, List.length_map]; exact hperm.length_eq
  have hne : countersOf ks hist ≠ [] := fun h => hp (List.length_eq_zero_iff.mp (by rw [← hlen, h]; rfl))
  obtain ⟨hlt, hmin⟩ := minIndex_spec _ hne
  rw [balance_of_counters ⟨countersOf ks hist⟩ sz parts hlen hne, addAt_eq_modify]
  simp only
  generalize minIndex (countersOf ks hist) = i at hlt hmin
  have hi : i < ks.length := by simpa [countersOf] using hlt
  have hb : ∀ j (hj : j < ks.length), bytesAt (countersOf ks hist) j = routed hist ks[j] := fun j hj => by
    simp [bytesAt, countersOf, hj]
  refine ⟨ks[i], by simp [countersOf, hi], hperm.mem_iff.mp (List.getElem_mem hi), fun q hq => ?_, ks, hperm, ?_⟩
  · obtain ⟨j, hj, rfl⟩ := List.getElem_of_mem (hperm.mem_iff.mpr hq)
    have := hmin j (by simpa [countersOf] using hj)
    rwa [hb i hi, hb j hj] at this
  · -- only the counter at `i` changes: the keys are distinct
    refine List.ext_getElem (by simp [countersOf]) fun j _ h2 => ?_
    have hj : j < ks.length := by simpa [countersOf] using h2
    simp only [countersOf, List.getElem_modify, List.getElem_map, routed]
    by_cases hij : i = j
    · subst hij; simp [Nat.add_comm]
    · have : ks[i] ≠ ks[j] := fun e => hij ((List.getElem_inj (hperm.nodup_iff.mpr hnd)).mp e)
      simp [hij, this]

/-- one call in either of the two kinds of reachable state (`C13.lbReach_inv`): fresh, or satisfying the invariant -/
theorem lb_step_start (lb : LeastBytes) (parts : List Int) (hist : List (Int × Nat)) (sz : Nat)
    (hp : parts ≠ []) (hnd : parts.Nodup) (h : (lb = ⟨[]⟩ ∧ hist = []) ∨ LBInv lb parts hist) :
    ∃ p, (lb.balance sz parts).2 = some p ∧ p ∈ parts ∧ (∀ q, q ∈ parts → routed hist p ≤ routed hist q)
      ∧ LBInv (lb.balance sz parts).1 parts ((p, sz) :: hist) := by
  rcases h with ⟨rfl, rfl⟩ | h
  · rw [balance_nil parts hp]
    exact lb_step _ parts [] sz hp hnd (makeCounters_inv parts)
  · exact lb_step lb parts hist sz hp hnd h

end KV.Balancer
