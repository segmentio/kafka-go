/-
Lemmas/RecordScanOutcome.lean — what a run of the record-set reader (Model/RecordScan.lean) can end in, on ANY input.
It returns, and then the stream position and the OUTERMOST decoder's `remain` have moved together (`Adv`); or it fails
with an error; a panic or an out-of-proportion allocation is only possible when one of the guards of `RCfg` is missing
(`Post`).  Every function of the reader is walked once, front to back; the two halves are read off `readSet_outcome` at the end:
`readSet_exact` (frame accounting) and `readSet_safe` (no panic, no allocation beyond the bytes that hold the data).
-/
import KafkaVerif.Model.RecordScan

namespace KV.RecordScan
open KV KV.Wire

/-- the `remain` of the outermost decoder on the path -/
def lastR (s : RS) : Int := s.rems.getLastD 0

/-- `s'` is `s` advanced by `k` bytes: `k` bytes left the stream and the outermost remain decreased by `k`; the
nesting depth is unchanged.  Only the LAST element of `rems` is constrained: it is the decoder of the enclosing frame, whose
accounting is what matters; the inner levels (`dec`, `md`) are pushed, reset and popped by the reader as it pleases. -/
def Adv (s s' : RS) : Prop :=
  ∃ k : Nat, k ≤ s.inp.length ∧ s'.inp = s.inp.drop k ∧ lastR s' = lastR s - k ∧ s'.rems.length = s.rems.length

theorem Adv.refl (s : RS) : Adv s s := ⟨0, by omega, by simp, by simp, rfl⟩

theorem Adv.trans {a b c : RS} (h1 : Adv a b) (h2 : Adv b c) : Adv a c := by
  obtain ⟨k1, hk1, hi1, hl1, hn1⟩ := h1
  obtain ⟨k2, hk2, hi2, hl2, hn2⟩ := h2
  refine ⟨k1 + k2, ?_, ?_, ?_, by omega⟩
  · rw [hi1, List.length_drop] at hk2; omega
  · rw [hi2, hi1, List.drop_drop]
  · rw [hl2, hl1]; push_cast; omega

theorem Adv.len {s s' : RS} (h : Adv s s') : s'.rems.length = s.rems.length := by
  obtain ⟨_, _, _, _, hn⟩ := h; exact hn

theorem Adv.ne {s s' : RS} (h : Adv s s') (hne : s.rems ≠ []) : s'.rems ≠ [] := by
  rw [← List.length_pos_iff] at hne ⊢
  rw [h.len]; exact hne

theorem bind_adv {α β : Type} (r : RRes α) (f : α → RS → RRes β) (s : RS) (b : β) (s2 : RS)
    (h : r.bind f = .ok b s2)
    (hr : ∀ a s1, r = .ok a s1 → Adv s s1)
    (hf : ∀ a s1, r = .ok a s1 → f a s1 = .ok b s2 → Adv s1 s2) : Adv s s2 := by
  cases r with
  | ok a s1 => exact (hr a s1 rfl).trans (hf a s1 rfl h)
  | error => cases h
  | panic => cases h
  | balloon => cases h

theorem getLastD_map_sub (l : List Int) (k : Int) (h : l ≠ []) : (l.map (· - k)).getLastD 0 = l.getLastD 0 - k := by
  induction l with
  | nil => exact absurd rfl h
  | cons x xs ih =>
    cases xs with
    | nil => simp [List.getLastD]
    | cons y ys =>
      have := ih (by simp)
      simpa [List.getLastD] using this

theorem getLastD_cons_ne (a : Int) (l : List Int) (h : l ≠ []) : (a :: l).getLastD 0 = l.getLastD 0 := by
  cases l with
  | nil => exact absurd rfl h
  | cons x xs => simp [List.getLastD]

theorem getLastD_drop_one (l : List Int) (h : 2 ≤ l.length) : (l.drop 1).getLastD 0 = l.getLastD 0 := by
  cases l with
  | nil => simp at h
  | cons a t =>
    cases t with
    | nil => simp at h
    | cons b u => simp [List.getLastD]

/-- `s'` is `s` after `k` bytes went through every decoder on the path (what every primitive read does) -/
def Took (s : RS) (k : Nat) (s' : RS) : Prop := k ≤ s.inp.length ∧ s' = ⟨s.inp.drop k, s.rems.map (· - (k : Int))⟩

theorem Took.adv {s s' : RS} {k : Nat} (h : Took s k s') (hne : s.rems ≠ []) : Adv s s' := by
  obtain ⟨hk, rfl⟩ := h
  exact ⟨k, hk, rfl, getLastD_map_sub _ _ hne, by simp⟩

theorem Adv.took {s0 s s' : RS} {k : Nat} (h : Adv s0 s) (hne : s0.rems ≠ []) (t : Took s k s') : Adv s0 s' :=
  h.trans (t.adv (h.ne hne))

/-- run something on a chain with one more (inner) level, then drop that level again -/
theorem adv_push_pop (i : Bytes) (a : Int) (rs : List Int) (t : RS) (hne : rs ≠ [])
    (h : Adv ⟨i, a :: rs⟩ t) : Adv ⟨i, rs⟩ ⟨t.inp, t.rems.drop 1⟩ := by
  obtain ⟨k, hk, hi, hl, hn⟩ := h
  have hlen : 2 ≤ t.rems.length := by
    simp only [List.length_cons] at hn
    have : 0 < rs.length := List.length_pos_iff.mpr hne
    omega
  refine ⟨k, hk, hi, ?_, ?_⟩
  · simp only [lastR] at hl ⊢
    rw [getLastD_drop_one _ hlen, hl, getLastD_cons_ne a rs hne]
  · simp only [List.length_drop, List.length_cons] at hn ⊢; omega

/-- replacing the innermost level's remain (`md.remain = int(size)`) moves nothing -/
theorem adv_set_head (t : RS) (a : Int) (h : 2 ≤ t.rems.length) : Adv t ⟨t.inp, a :: t.rems.drop 1⟩ := by
  refine ⟨0, by omega, by simp, ?_, ?_⟩
  · simp only [lastR]
    have hne : t.rems.drop 1 ≠ [] := by
      rw [← List.length_pos_iff, List.length_drop]; omega
    rw [getLastD_cons_ne a _ hne, getLastD_drop_one _ h]; simp
  · simp only [List.length_cons, List.length_drop]; omega

theorem avail_le (s : RS) : avail s ≤ s.inp.length := by
  unfold avail
  generalize s.inp.length = n
  induction s.rems generalizing n with
  | nil => simp
  | cons r rs ih =>
    simp only [List.foldl_cons]
    exact Nat.le_trans (ih _) (Nat.min_le_left _ _)

/-- the guards that keep the reader from panicking and from allocating out of proportion (`accountAfterDiscard` is what
the frame accounting `readSet_exact` needs; no proof of this file uses `sizeChecked` or `writeToGuard` (`Guards.of_all` drops them from `allGuards`): what goes wrong
without them is shown by `set_size_counterexample` / `writeTo_counterexample` of Props/C20) -/
structure Guards (c : RCfg) : Prop where
  read : c.readGuard = true
  bounded : c.readBounded = true
  counts : c.countsBounded = true
  peek : c.peekChecked = true

/-- the outcome of a run: a result satisfying `Q`, or an error; it crashes only if a guard is off -/
def Post {α : Type} (c : RCfg) (Q : α → RS → Prop) : RRes α → Prop
  | .ok a s => Q a s
  | .error => True
  | .panic => ¬ Guards c
  | .balloon => ¬ Guards c

abbrev Advances {α : Type} (c : RCfg) (s0 : RS) : RRes α → Prop := Post c fun _ => Adv s0

section
variable {α β : Type} {c : RCfg} {Q : α → RS → Prop}

theorem Post.bind {Q' : β → RS → Prop} {r : RRes α} {f : α → RS → RRes β}
    (hr : Post c Q r) (hf : ∀ a s, Q a s → Post c Q' (f a s)) : Post c Q' (r.bind f) := by
  cases r with
  | ok a s => exact hf a s hr
  | error => trivial
  | panic => exact hr
  | balloon => exact hr

theorem Post.mono {Q' : α → RS → Prop} {r : RRes α} (hr : Post c Q r) (h : ∀ a s, Q a s → Q' a s) : Post c Q' r := by
  cases r with
  | ok a s => exact h a s hr
  | error => trivial
  | panic => exact hr
  | balloon => exact hr

theorem Post.ok {r : RRes α} {a : α} {s : RS} (hr : Post c Q r) (h : r = .ok a s) : Q a s := by
  subst h; exact hr

theorem Post.ite {p : Prop} [Decidable p] {x y : RRes α} (hx : Post c Q x) (hy : Post c Q y) :
    Post c Q (if p then x else y) := by
  split <;> assumption

theorem Post.byCases {p : Prop} [Decidable p] {x y : RRes α} (hx : p → Post c Q x) (hy : ¬ p → Post c Q y) :
    Post c Q (if p then x else y) := by
  split
  · exact hx ‹_›
  · exact hy ‹_›

theorem Post.guard {b : Bool} (hb : Guards c → b = true) {x : RRes α} (hx : ¬ Guards c → Post c Q x) :
    Post c Q (if b = true then .error else x) := by
  split
  · trivial
  · rename_i h; exact hx fun g => h (hb g)

end

theorem rread_took (c : RCfg) (k : Nat) (s : RS) : Post c (fun _ => Took s k) (rread c k s) := by
  unfold rread
  refine Post.byCases (fun hk => ?_) fun _ =>
    Post.ite (Post.guard (·.read) id) (Post.byCases (fun _ => trivial) fun hlen => ?_)
  · subst hk
    exact ⟨Nat.zero_le _, by simp⟩
  · simp only [Bool.or_eq_true, decide_eq_true_eq, not_or, Nat.not_lt] at hlen
    exact ⟨hlen.2, rfl⟩

theorem rint_took (c : RCfg) (k : Nat) (s : RS) : Post c (fun _ => Took s k) (rint c k s) :=
  (rread_took c k s).bind fun _ _ h => h

theorem rvarint_took (c : RCfg) (s : RS) : Post c (fun _ s' => ∃ k, Took s k s') (rvarint c s) := by
  unfold rvarint
  -- here and below the state is taken apart and `Post.ite` applied, where `split` would do: `split` re-simplifies the whole
  -- unfolded body at every `if` and `match`, which is slow for the large readers
  obtain ⟨inp, _ | ⟨r, outer⟩⟩ := s
  · trivial
  refine Post.ite trivial (Post.ite (Post.guard (·.read) id) ?_)
  extract_lets window
  generalize readUvarintAux _ window = o
  obtain _ | ⟨u, rest⟩ := o
  · trivial
  · refine ⟨_, ?_, rfl⟩
    have := avail_le ⟨inp, r :: outer⟩
    simp only [window, List.length_take]; omega

theorem rvarint_adv (c : RCfg) (s : RS) (i : Int) (s' : RS) (h : rvarint c s = .ok i s') : Adv s s' := by
  obtain ⟨_, t⟩ := (rvarint_took c s).ok h
  refine t.adv fun he => ?_
  simp [rvarint, he] at h

theorem rdiscard_took (c : RCfg) (n : Int) (s : RS) :
    Post c (fun _ s' => ∃ k : Nat, Took s k s' ∧ (k : Int) = min n (s.rems.headD 0)) (rdiscard n s) := by
  unfold rdiscard
  obtain ⟨inp, _ | ⟨r, outer⟩⟩ := s
  · trivial
  dsimp only
  generalize hm' : (if n > r then r else n) = m
  have hmin : m = min n r := by rw [← hm']; split <;> omega
  refine Post.byCases (fun _ => trivial) fun hn => Post.byCases (fun _ => trivial) fun hlen => ?_
  simp only [Bool.or_eq_true, decide_eq_true_eq, not_or, Nat.not_lt] at hlen
  have hm : (m.toNat : Int) = m := by omega
  exact ⟨m.toNat, ⟨hlen.2, by rw [hm]⟩, hm.trans hmin⟩

section
variable (c : RCfg) {s0 s : RS} (hne : s0.rems ≠ []) (h : Adv s0 s)
include hne h

theorem rread_post (k : Nat) : Advances c s0 (rread c k s) :=
  (rread_took c k s).mono fun _ _ t => h.took hne t

theorem rint_post (k : Nat) : Advances c s0 (rint c k s) :=
  (rint_took c k s).mono fun _ _ t => h.took hne t

theorem rvarint_post : Advances c s0 (rvarint c s) :=
  (rvarint_took c s).mono fun _ _ ⟨_, t⟩ => h.took hne t

theorem rdiscard_post (n : Int) : Advances c s0 (rdiscard n s) :=
  (rdiscard_took c n s).mono fun _ _ ⟨_, t, _⟩ => h.took hne t

theorem rreadLen_post (n : Int) : Advances c s0 (rreadLen c n s) := by
  unfold rreadLen
  obtain ⟨inp, _ | ⟨r, rest⟩⟩ := s
  · trivial
  · exact Post.ite (Post.guard (·.bounded) id) (Post.ite (Post.guard (·.bounded) id)
      ((rread_post c hne h _).bind fun _ _ a => a))

/-! ### record_v2.go -/

theorem headerV2_post : Advances c s0 (headerV2 c s) := by
  unfold headerV2
  exact (rvarint_post c hne h).bind fun kl _ h =>
    Post.bind (Q := fun _ => Adv s0) (Post.ite h (rreadLen_post c hne h kl)) fun _ _ h =>
    (rvarint_post c hne h).bind fun vl _ h => Post.ite h (rreadLen_post c hne h vl)

omit h in
theorem headersV2_post : ∀ (n : Nat) {s : RS}, Adv s0 s → Advances c s0 (headersV2 c n s)
  | 0, _, h => h
  | n + 1, _, h => by
    unfold headersV2
    exact (headerV2_post c hne h).bind fun _ _ h => headersV2_post n h

theorem recordV2_post : Advances c s0 (recordV2 c s) := by
  unfold recordV2
  refine (rvarint_post c hne h).bind fun _ _ h => (rread_post c hne h 1).bind fun _ _ h =>
    (rvarint_post c hne h).bind fun _ _ h => (rvarint_post c hne h).bind fun _ _ h =>
    (rvarint_post c hne h).bind fun kl _ h =>
    Post.bind (Q := fun _ => Adv s0) (Post.ite (rdiscard_post c hne h kl) h) fun _ _ h =>
    (rvarint_post c hne h).bind fun vl _ h =>
    Post.bind (Q := fun _ => Adv s0) (Post.ite (rdiscard_post c hne h vl) h) fun _ _ h =>
    (rvarint_post c hne h).bind fun nh s h => Post.ite ?_ h
  obtain ⟨inp, _ | ⟨r, rest⟩⟩ := s
  · trivial
  · exact Post.ite (Post.guard (·.counts) id) (headersV2_post c hne _ h)

omit h in
/-- a record that fails to decode ends the loop with what was read before it -/
theorem recordsV2_post : ∀ (n done : Nat) {s : RS}, Adv s0 s → Advances c s0 (recordsV2 c n done s)
  | 0, _, _, h => h
  | n + 1, done, s, h => by
    have hr := recordV2_post c hne h
    unfold recordsV2
    generalize recordV2 c s = r at hr ⊢
    cases r with
    | ok _ s' => exact recordsV2_post n (done + 1) hr
    | error => exact h
    | panic => exact hr
    | balloon => exact hr

theorem readV2_post (crcC : Bytes → Nat) (dcmp : Int → Bytes → Option Bytes) : Advances c s0 (readV2 c crcC dcmp s) := by
  unfold readV2
  refine (rread_post c hne h 8).bind fun _ s h => (rint_post c hne h 4).bind fun bl s h => ?_
  obtain ⟨inp, _ | ⟨r, rest⟩⟩ := s
  · trivial
  -- a batch longer than what is left of the set: `discardAll`
  refine Post.ite ((rdiscard_post c hne h _).bind fun _ _ a => a) ?_
  -- `dec`: one more level for the batch, dropped again (`pop`) once its payload is in memory
  have hne1 : (bl :: r :: rest) ≠ [] := List.cons_ne_nil _ _
  refine (rread_post c (s0 := ⟨inp, _⟩) hne1 (Adv.refl _) 9).bind fun h1 _ a => (rread_post c hne1 a 40).bind fun h2 t a => ?_
  obtain ⟨ti, _ | ⟨rdec, _⟩⟩ := t
  · trivial
  refine (rread_post c hne1 a _).bind fun payload t a => ?_
  have pop : Adv s0 ⟨t.inp, t.rems.drop 1⟩ := h.trans (adv_push_pop inp bl _ t (h.ne hne) a)
  extract_lets s2 codec
  generalize (if codec = 0 then some payload else dcmp codec payload) = o
  obtain _ | recs := o
  · trivial
  refine Post.ite trivial (Post.ite (Post.guard (·.counts) id) (Post.ite (Post.guard (·.counts) id) ?_))
  -- the records are parsed from the copy: only whether that crashes matters here
  have hr := recordsV2_post c (s0 := ⟨recs, [(recs.length : Int)]⟩) (List.cons_ne_nil _ _)
    (toS 32 (fromBE (h2.drop 36))).toNat 0 (Adv.refl _)
  generalize recordsV2 c _ _ _ = r at hr ⊢
  cases r with
  | ok accepted _ => exact Post.ite pop trivial
  | error => trivial
  | panic => exact hr
  | balloon => exact hr

end

/-! ### record_v1.go -/

theorem writeTo_post (c : RCfg) (n : Int) {s0 s : RS} (h2 : 2 ≤ s0.rems.length) (h : Adv s0 s) :
    Advances c s0 (writeTo c n s) := by
  unfold writeTo
  obtain ⟨inp, _ | ⟨limit, outer⟩⟩ := s
  · trivial
  dsimp only
  generalize (if c.writeToGuard = true then if n < limit then n else limit else n) = window
  refine Post.ite (Post.ite h trivial) (Post.ite (Post.guard (·.read) id) (Post.ite trivial ?_))
  -- `io.Copy` took `avail` bytes through the outer levels; the innermost remain is set by hand
  have hout : outer ≠ [] := by
    intro he; have := h.len; rw [he] at this; simp only [List.length_cons, List.length_nil] at this; omega
  refine h.trans ⟨_, avail_le ⟨inp, window :: outer⟩, rfl, ?_, by simp⟩
  simp only [lastR]
  rw [getLastD_cons_ne _ _ (by simpa using hout), getLastD_cons_ne _ _ hout, getLastD_map_sub _ _ hout]

section
variable (c : RCfg) (crcI : Bytes → Nat) {s0 : RS} (hne : s0.rems ≠ [])
include hne

theorem readMessage_post {s : RS} (h : Adv s0 s) : Advances c s0 (readMessage c crcI s) := by
  unfold readMessage
  -- `md`: one more level (`remain: 12`, then the message size) until the message is read
  have hne1 : (⟨s.inp, 12 :: s.rems⟩ : RS).rems ≠ [] := List.cons_ne_nil _ _
  have h2 : 2 ≤ (⟨s.inp, 12 :: s.rems⟩ : RS).rems.length := by
    have := List.length_pos_iff.mpr (h.ne hne)
    simp only [List.length_cons]; omega
  refine (rread_post c hne1 (Adv.refl _) 8).bind fun _ _ a => (rint_post c hne1 a 4).bind fun size t a => ?_
  have a := a.trans (adv_set_head t size (a.len ▸ h2))
  refine (rread_post c hne1 a 4).bind fun _ _ a => (rread_post c hne1 a 2).bind fun _ _ a =>
    Post.bind (Q := fun _ => Adv _) (Post.ite ((rread_post c hne1 a 8).bind fun _ _ a => a) a) fun _ _ a =>
    (rint_post c hne1 a 4).bind fun kl _ a =>
    Post.bind (Q := fun _ => Adv _) (Post.ite (writeTo_post c kl h2 a) a) fun _ _ a =>
    (rint_post c hne1 a 4).bind fun vl _ a =>
    Post.bind (Q := fun _ => Adv _) (Post.ite (writeTo_post c vl h2 a) a) fun _ t a => ?_
  simp only []
  exact Post.ite trivial (h.trans (adv_push_pop s.inp 12 s.rems t (h.ne hne) a))

/-- ErrUnexpectedEOF (any error, in the model) ends the loop over the inner messages -/
theorem innerV1_post : ∀ (fuel : Nat) {s : RS}, Adv s0 s → Advances c s0 (innerV1 c crcI fuel s)
  | 0, _, h => h
  | fuel + 1, s, h => by
    unfold innerV1
    split
    · exact h
    · have hr := readMessage_post c crcI hne h
      generalize readMessage c crcI s = r at hr ⊢
      cases r with
      | ok _ s' => exact Post.ite (innerV1_post fuel hr) hr
      | error => exact h
      | panic => exact hr
      | balloon => exact hr

theorem readV1_post (dcmp : Int → Bytes → Option Bytes) {s : RS} (h : Adv s0 s) : Advances c s0 (readV1 c crcI dcmp s) := by
  unfold readV1
  refine (readMessage_post c crcI hne h).bind fun av s h => ?_
  simp only []
  split
  · exact h
  · split
    · trivial
    · rename_i inner _
      -- the inner messages are read from the decompressed copy: only whether that crashes matters here
      have hr := innerV1_post c crcI (s0 := ⟨inner, [2147483647]⟩) (List.cons_ne_nil _ _) (inner.length + 1) (Adv.refl _)
      generalize innerV1 c crcI _ _ = r at hr ⊢
      cases r with
      | ok _ _ => exact h
      | error => trivial
      | panic => exact hr
      | balloon => exact hr

/-! ### record.go -/

theorem setLoop_post (crcC : Bytes → Nat) (dcmp : Int → Bytes → Option Bytes) :
    ∀ (fuel nrec : Nat) {s : RS}, Adv s0 s → Advances c s0 (setLoop c crcI crcC dcmp fuel nrec s)
  | 0, _, _, h => h
  | fuel + 1, nrec, ⟨inp, []⟩, _ => by unfold setLoop; trivial
  | fuel + 1, nrec, ⟨inp, r :: rest⟩, h => by
    unfold setLoop
    refine Post.ite h (Post.ite (Post.ite h trivial) (Post.ite (Post.guard (·.peek) fun ng => Post.ite ng trivial) ?_))
    extract_lets version res
    have hr : Advances c s0 res :=
      Post.ite (readV2_post c hne h crcC dcmp) (Post.ite (readV1_post c crcI hne dcmp h) trivial)
    clear_value res
    cases res with
    | ok k s' => exact Post.ite (setLoop_post crcC dcmp fuel _ hr) hr
    | error => exact h
    | panic => exact hr
    | balloon => exact hr

end

/-- **`RecordSet.ReadFrom` on any input.**  It returns or fails with an error unless a guard is missing. -/
theorem readSet_outcome (c : RCfg) (crcI crcC : Bytes → Nat) (dcmp : Int → Bytes → Option Bytes) (inp : Bytes)
    (frameRemain : Int) :
    Post c (fun newRemain s' => c.accountAfterDiscard = true →
        ∃ n : Nat, n ≤ inp.length ∧ s'.inp = inp.drop n ∧ newRemain = frameRemain - n ∧ s'.rems = [newRemain])
      (readSet c crcI crcC dcmp inp frameRemain) := by
  unfold readSet
  refine (rint_took c 4 _).bind fun size s ⟨hk, hs⟩ => ?_
  subst hs
  replace hk : 4 ≤ inp.length := hk
  -- `size ≤ 0`: nothing but the size prefix was read
  refine Post.ite (fun _ => ⟨4, hk, rfl, rfl, rfl⟩) (Post.ite trivial ?_)
  refine (setLoop_post c crcI (s0 := ⟨inp.drop 4, [size]⟩) (List.cons_ne_nil _ _) crcC dcmp _ 0 (Adv.refl _)).bind
    fun np s2 a2 => ?_
  obtain ⟨i2, _ | ⟨r2, rest⟩⟩ := s2
  · trivial
  obtain ⟨k2, hk2, hi2, hl2, hn2⟩ := a2
  obtain rfl : rest = [] := List.length_eq_zero_iff.1 (Nat.succ.inj hn2)
  -- the final discard takes all that is left of the set: `size` bytes went through the set's decoder
  refine (rdiscard_took c r2 _).bind fun _ s3 ⟨k3, ⟨hk3, hs3⟩, hr3⟩ => Post.ite trivial fun hacc => ?_
  simp only [List.length_drop] at hk2 hi2
  subst hi2 hs3
  simp only [lastR, List.getLastD_cons, List.getLastD_nil] at hl2
  simp only [List.headD_cons, Int.min_self, List.length_drop] at hr3 hk3
  simp only [hacc, if_true]
  refine ⟨4 + (k2 + k3), by omega, ?_, by omega, trivial⟩
  rw [List.drop_drop, List.drop_drop]

/-- **Frame accounting of `RecordSet.ReadFrom`.**  With `rn` computed after `discardAll` (guard
`accountAfterDiscard`): whenever the reader returns normally, the enclosing frame decoder's `remain` has decreased
by EXACTLY the number of bytes taken from the connection — whatever the record set contains (stumps, batches that fail to
parse after others were decoded, unknown magic bytes, …).  Hence the frame decoder's final `discardAll` ends exactly at the frame
boundary: one frame is consumed. -/
theorem readSet_exact (c : RCfg) (hacc : c.accountAfterDiscard = true) (crcI crcC : Bytes → Nat)
    (dcmp : Int → Bytes → Option Bytes) (inp : Bytes) (frameRemain newRemain : Int) (s' : RS)
    (h : readSet c crcI crcC dcmp inp frameRemain = .ok newRemain s') :
    ∃ n : Nat, n ≤ inp.length ∧ s'.inp = inp.drop n ∧ newRemain = frameRemain - n ∧ s'.rems = [newRemain] :=
  (readSet_outcome c crcI crcC dcmp inp frameRemain).ok h hacc

def RSafe {α : Type} : RRes α → Prop
  | .ok _ _ => True
  | .error => True
  | .panic => False
  | .balloon => False

theorem Post.safe {α : Type} {c : RCfg} {Q : α → RS → Prop} {r : RRes α} (g : Guards c) (h : Post c Q r) : RSafe r := by
  cases r with
  | ok _ _ => trivial
  | error => trivial
  | panic => exact h g
  | balloon => exact h g

theorem Guards.of_all {c : RCfg} (hg : c.allGuards = true) : Guards c := by
  simp only [RCfg.allGuards, Bool.and_eq_true] at hg
  obtain ⟨⟨⟨⟨⟨⟨_, read⟩, peek⟩, counts⟩, _⟩, bounded⟩, _⟩ := hg
  exact ⟨read, bounded, counts, peek⟩

theorem readSet_safe (c : RCfg) (hg : c.allGuards = true) (crcI crcC : Bytes → Nat) (dcmp : Int → Bytes → Option Bytes)
    (inp : Bytes) (frameRemain : Int) : RSafe (readSet c crcI crcC dcmp inp frameRemain) :=
  (readSet_outcome c crcI crcC dcmp inp frameRemain).safe (.of_all hg)

end KV.RecordScan
