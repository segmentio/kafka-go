/-
Lemmas/WriterLogJournal.lean — the broker side of the model in one equation: the log of every topic-partition is the
concatenation, in journal order, of the entries of the batches of the produce attempts the broker applied to it, and the
broker's account of a batch (`napplied`, `acked`) is what the journal says of it (`InvLogE`).  A journal entry stands for the
entries of its batch as the batch is now: a journalled batch was detached, and a detached batch keeps its messages.
-/
import KafkaVerif.Lemmas.WriterLife
import KafkaVerif.Lemmas.ListSums
import KafkaVerif.Lemmas.ListPerm

namespace KV.Writer

/-- the broker applied the attempt, to the log of `tp` -/
def appliedTo (tp : TP) (j : JEntry) : Bool := j.out.applied && (j.tp == tp)

/-- the log entries a journal entry stands for -/
def entriesOf (bt : Nat → Option Batch) (j : JEntry) : List LogEntry :=
  match bt j.batch with
  | some B => mkEntries j.pw j.batch B
  | none => []

/-- what the journal says the log of `tp` holds -/
def journalEntries (bt : Nat → Option Batch) (journal : List JEntry) (tp : TP) : List LogEntry :=
  (journal.filter (appliedTo tp)).flatMap (entriesOf bt)

/-- the broker side: what the journal (`State.journal`, one entry per decision of the fake broker) says of the logs and of
the account the batches keep of those decisions.  `Batch.nlost` is tied to the journal through `counts` only: nothing states it as a count of entries. -/
structure InvLogE (s : State) : Prop where
  journalDet : ∀ j ∈ s.journal, ∃ B, s.batches j.batch = some B ∧ B.detached.isSome = true ∧ B.tp = j.tp
  log : ∀ tp, s.log tp = journalEntries s.batches s.journal tp
  applied : ∀ b B, s.batches b = some B → B.napplied = s.journal.countP (fun j => j.out.applied && j.batch == b)
  acked : ∀ b B, s.batches b = some B → B.acked = s.journal.any (fun j => j.out == .acked && j.batch == b)
  once : s.journal.Pairwise (fun j1 j2 => j1.batch = j2.batch → j1.out ≠ .acked)
  counts : ∀ b B, s.batches b = some B → B.napplied = B.nlost + (if B.acked then 1 else 0)

theorem invLogE_init : InvLogE State.init := by
  constructor <;> simp [State.init, journalEntries]

theorem mem_entriesOf {bt : Nat → Option Batch} {j : JEntry} {x : LogEntry} (h : x ∈ entriesOf bt j) :
    ∃ B, bt j.batch = some B ∧ x.batch = j.batch ∧ ∃ m ∈ B.msgs, m.seq = x.seq ∧ m.msg = x.msg := by
  unfold entriesOf at h
  split at h
  · obtain ⟨m, hm, rfl⟩ := List.mem_map.mp h
    exact ⟨_, ‹_›, rfl, m, hm, rfl, rfl⟩
  · cases h

theorem entriesOf_eq {bt : Nat → Option Batch} {j : JEntry} {B : Batch} (h : bt j.batch = some B) :
    entriesOf bt j = mkEntries j.pw j.batch B := by
  simp only [entriesOf, h]

theorem journalEntries_append (bt : Nat → Option Batch) (l : List JEntry) (j : JEntry) (tp : TP) :
    journalEntries bt (l ++ [j]) tp = journalEntries bt l tp ++ (if appliedTo tp j then entriesOf bt j else []) := by
  unfold journalEntries
  rw [List.filter_append, List.flatMap_append]
  cases h : appliedTo tp j <;> simp [h]

theorem journalEntries_congr {bt bt' : Nat → Option Batch} {journal : List JEntry} (tp : TP)
    (h : ∀ j ∈ journal, entriesOf bt' j = entriesOf bt j) : journalEntries bt' journal tp = journalEntries bt journal tp :=
  flatMap_congr _ fun j hj => h j (List.mem_filter.mp hj).1

/-- what a step does to a batch as far as the equation goes: the topic-partition stays, and a detached batch keeps what its
entries are made of -/
structure EKeeps (B B' : Batch) : Prop where
  tp : B'.tp = B.tp
  frozen : B.detached.isSome = true → B'.detached.isSome = true ∧ B'.msgs = B.msgs ∧ B'.ord = B.ord

theorem EKeeps.refl (B : Batch) : EKeeps B B := ⟨rfl, fun h => ⟨h, rfl, rfl⟩⟩

/-- a record update that leaves `tp`, `detached`, `msgs`, `ord` alone -/
theorem EKeeps.of_eq {B B' : Batch} (ht : B'.tp = B.tp) (hd : B'.detached = B.detached) (hm : B'.msgs = B.msgs)
    (ho : B'.ord = B.ord) : EKeeps B B' := ⟨ht, fun h => ⟨hd ▸ h, hm, ho⟩⟩

/-- what an event other than `produce` does to a batch as far as `InvLogE` goes: `EKeeps`, and the account of the broker's
decisions (`napplied`, `acked`, `nlost`) stays -/
structure BKeeps (B B' : Batch) : Prop extends EKeeps B B' where
  napplied : B'.napplied = B.napplied
  acked : B'.acked = B.acked
  nlost : B'.nlost = B.nlost

theorem BKeeps.refl (B : Batch) : BKeeps B B := ⟨.refl B, rfl, rfl, rfl⟩

namespace InvLogE

variable {s s' : State}

/-- a batch that is not detached is in no journal entry, so only detached batches have to keep their messages -/
theorem kept (hbat : ∀ b B, s.batches b = some B → ∃ B', s'.batches b = some B' ∧ EKeeps B B') {j : JEntry} {B : Batch}
    (hB : s.batches j.batch = some B) (hd : B.detached.isSome = true) (ht : B.tp = j.tp) :
    entriesOf s'.batches j = entriesOf s.batches j ∧
      ∃ B', s'.batches j.batch = some B' ∧ B'.detached.isSome = true ∧ B'.tp = j.tp := by
  obtain ⟨B', hB', hk⟩ := hbat _ B hB
  obtain ⟨hd', em, eo⟩ := hk.frozen hd
  exact ⟨by rw [entriesOf_eq hB, entriesOf_eq hB', mkEntries, mkEntries, em, eo], B', hB', hd', hk.tp.trans ht⟩

theorem kept_old (h : InvLogE s) (hbat : ∀ b B, s.batches b = some B → ∃ B', s'.batches b = some B' ∧ EKeeps B B') (tp : TP) :
    journalEntries s'.batches s.journal tp = journalEntries s.batches s.journal tp :=
  journalEntries_congr tp fun j hj => by obtain ⟨B, hB, hd, ht⟩ := h.journalDet j hj; exact (kept hbat hB hd ht).1

theorem no_entry (h : InvLogE s) {b : Nat} (hb : s.batches b = none) (p : JEntry → Bool) :
    ∀ j ∈ s.journal, ¬ (p j && j.batch == b) = true := by
  intro j hj hjb
  obtain ⟨B, hB, -⟩ := h.journalDet j hj
  rw [eq_of_beq (Bool.and_eq_true_iff.mp hjb).2, hb] at hB; cases hB

/-- every event but `produce` -/
theorem of_frame (h : InvLogE s) (hj : s'.journal = s.journal) (hl : s'.log = s.log)
    (hbat : MapRel (fun B' => B'.napplied = 0 ∧ B'.acked = false ∧ B'.nlost = 0) BKeeps s.batches s'.batches) :
    InvLogE s' := by
  have hk : ∀ b B, s.batches b = some B → ∃ B', s'.batches b = some B' ∧ EKeeps B B' :=
    fun b B hB => (hbat.fwd b B hB).imp fun _ h => ⟨h.1, h.2.toEKeeps⟩
  refine ⟨fun j hjm => ?_, fun tp => ?_, fun b B' hB' => ?_, fun b B' hB' => ?_, hj ▸ h.once, fun b B' hB' => ?_⟩
  · rw [hj] at hjm
    obtain ⟨B, hB, hd, ht⟩ := h.journalDet j hjm
    exact (kept hk hB hd ht).2
  · rw [hl, hj, h.kept_old hk]; exact h.log tp
  · rw [hj]
    rcases hbat.back b B' hB' with ⟨hnone, h0, -⟩ | ⟨B, hB, hk⟩
    · rw [h0, List.countP_eq_zero.mpr (h.no_entry hnone _)]
    · rw [hk.napplied]; exact h.applied b B hB
  · rw [hj]
    rcases hbat.back b B' hB' with ⟨hnone, -, h0, -⟩ | ⟨B, hB, hk⟩
    · rw [h0, Eq.comm, List.any_eq_false]; exact h.no_entry hnone _
    · rw [hk.acked]; exact h.acked b B hB
  · rcases hbat.back b B' hB' with ⟨-, h1, h2, h3⟩ | ⟨B, hB, hk⟩
    · rw [h1, h2, h3]; rfl
    · rw [hk.napplied, hk.acked, hk.nlost]; exact h.counts b B hB

/-- the broker's decision on an attempt of a detached batch that was not acknowledged before (`hna`: the sender would not
be attempting otherwise) is journalled, the entries of the batch are appended if it was applied, and the account of the
batch moves with it -/
theorem produce (h : InvLogE s) {j : JEntry} {B : Batch} (hB : s.batches j.batch = some B)
    (hd : B.detached.isSome = true) (ht : B.tp = j.tp) (hna : B.acked = false)
    (hb : s'.batches = upd s.batches j.batch (some (B.noteProduce j.out))) (hj : s'.journal = s.journal ++ [j])
    (hl : s'.log = if j.out.applied then upd s.log j.tp (s.log j.tp ++ mkEntries j.pw j.batch B) else s.log) :
    InvLogE s' := by
  have hbat : MapRel (fun _ => False) EKeeps s.batches s'.batches :=
    hb ▸ .upd EKeeps.refl hB (.of_eq rfl rfl rfl rfl)
  refine ⟨fun j' hjm => ?_, fun t => ?_, fun b X' hX' => ?_, fun b X' hX' => ?_, ?_, fun b X' hX' => ?_⟩
  · rw [hj] at hjm
    rcases List.mem_append.mp hjm with hjm | hjm
    · obtain ⟨B0, hB0, hd0, ht0⟩ := h.journalDet j' hjm
      exact (kept hbat.fwd hB0 hd0 ht0).2
    · cases List.mem_singleton.mp hjm; exact (kept hbat.fwd hB hd ht).2
  · rw [hj, journalEntries_append, h.kept_old hbat.fwd, (kept hbat.fwd hB hd ht).1, hl, entriesOf_eq hB, ← h.log t]
    cases happ : j.out.applied
    · simp [appliedTo, happ]
    · by_cases htt : t = j.tp
      · subst htt; simp [appliedTo, happ]
      · have : (j.tp == t) = false := by simpa using fun e => htt e.symm
        simp [appliedTo, happ, this, upd_other _ _ _ _ htt]
  · rw [hb] at hX'; rw [hj, List.countP_append, List.countP_singleton]
    rcases upd_some_elim hX' with ⟨rfl, rfl⟩ | ⟨hne, hX⟩
    · rw [← h.applied _ B hB, beq_self_eq_true, Bool.and_true, Batch.noteProduce_napplied]
      cases j.out.applied <;> rfl
    · rw [h.applied b X' hX, beq_false_of_ne fun e => hne e.symm, Bool.and_false]; rfl
  · rw [hb] at hX'; rw [hj, List.any_append, List.any_cons, List.any_nil, Bool.or_false]
    rcases upd_some_elim hX' with ⟨rfl, rfl⟩ | ⟨hne, hX⟩
    · rw [← h.acked _ B hB, beq_self_eq_true, Bool.and_true, Batch.noteProduce_acked]
    · rw [← h.acked b X' hX, beq_false_of_ne fun e => hne e.symm, Bool.and_false, Bool.or_false]
  · -- nothing earlier of this batch is `acked`: the batch would be
    rw [hj]
    refine List.pairwise_append.mpr ⟨h.once, List.pairwise_singleton _ _, fun j0 hj0 j1 hj1 hbe ho => ?_⟩
    cases List.mem_singleton.mp hj1
    have := h.acked _ B hB
    rw [hna, Eq.comm, List.any_eq_false] at this
    exact this j0 hj0 (by rw [ho, hbe]; simp)
  · rw [hb] at hX'
    rcases upd_some_elim hX' with ⟨rfl, rfl⟩ | ⟨-, hX⟩
    · have hc := h.counts _ B hB
      rw [hna] at hc
      rw [Batch.noteProduce_napplied, Batch.noteProduce_nlost, Batch.noteProduce_acked, hna]
      cases j.out with
      | acked => simp [BrOut.applied] at hc ⊢; omega
      | lost a => cases a <;> simp [BrOut.applied] at hc ⊢ <;> omega
      | rejected c => simp [BrOut.applied] at hc ⊢; omega
    · exact h.counts b X' hX

end InvLogE

theorem invLogE_step {cfg : Cfg} {s s' : State} {e : Event} (hO : InvOrd s) (hL : InvLife cfg s) (hI : InvLogE s)
    (h : Step cfg s e s') : InvLogE s' := by
  induction h with
  | @produce pw b k tp msgs out P B hP hsend hB hg =>
    -- the batch being sent was detached
    have hdet := hL.sentDet hO _ _ hP _ (sender_mem_sent (by rw [hsend]; rfl)) _ hB
    exact hI.produce (j := { tp := tp, pw := pw, batch := b, attempt := k, out := out }) hB hdet hg.batchTp
      (hL.not_acked_in_flight hO hP hB hsend) rfl rfl (produced_log ..)
  | newBatch hP hg => exact hI.of_frame rfl rfl (.new BKeeps.refl (Option.isNone_iff_eq_none.mp hg.free) ⟨rfl, rfl, rfl⟩)
  | add hP hB hC hg =>
    exact hI.of_frame rfl rfl (.upd BKeeps.refl hB
      { tp := rfl, frozen := fun hd => (by rw [hg.detached] at hd; cases hd), napplied := rfl, acked := rfl, nlost := rfl })
  | detach hP hB hg =>
    exact hI.of_frame rfl rfl (.upd BKeeps.refl hB
      { tp := rfl, frozen := fun _ => ⟨rfl, rfl, rfl⟩, napplied := rfl, acked := rfl, nlost := rfl })
  | timerFire hP hB hg | completion hP hB hg | complete hP hB hg =>
    exact hI.of_frame rfl rfl (.upd BKeeps.refl hB
      { EKeeps.of_eq rfl rfl rfl rfl with napplied := rfl, acked := rfl, nlost := rfl })
  | _ => exact hI.of_frame rfl rfl (.refl BKeeps.refl)

theorem invLogE (cfg : Cfg) : ∀ s, Reachable cfg s → InvLogE s :=
  Reachable.step_induction invLogE_init fun s _ _ hr hI h => invLogE_step (invOrd cfg s hr) (invLife cfg s hr) hI h

namespace InvLogE

variable {s : State}

theorem mem_log (h : InvLogE s) {tp : TP} {x : LogEntry} (hx : x ∈ s.log tp) :
    ∃ B, s.batches x.batch = some B ∧ ∃ m ∈ B.msgs, m.seq = x.seq ∧ m.msg = x.msg := by
  rw [h.log] at hx
  obtain ⟨j, -, hxj⟩ := List.mem_flatMap.mp hx
  obtain ⟨B, hB, eb, hm⟩ := mem_entriesOf hxj
  exact ⟨B, eb ▸ hB, hm⟩

/-- the applied attempts of a batch were made for its topic-partition -/
theorem count_tp (h : InvLogE s) {b : Nat} {B : Batch} (hB : s.batches b = some B) :
    (s.journal.filter (appliedTo B.tp)).countP (fun j => j.batch == b) = B.napplied := by
  rw [List.countP_filter, h.applied b B hB]
  refine List.countP_congr fun j hj => ?_
  obtain ⟨Y, hY, -, ht⟩ := h.journalDet j hj
  by_cases hjb : j.batch = b
  · rw [hjb, hB] at hY; cases hY
    simp [appliedTo, hjb, ht]
  · simp [hjb]

/-- the entries of one attempt that satisfy `p` are `n` if it is an attempt of `b`, none otherwise: so there are `n` per
applied attempt of `b` in the log -/
theorem countP_log (h : InvLogE s) {b : Nat} {B : Batch} (hB : s.batches b = some B) {p : LogEntry → Bool} {n : Nat}
    (hp : ∀ j ∈ s.journal, (entriesOf s.batches j).countP p = if j.batch == b then n else 0) :
    (s.log B.tp).countP p = B.napplied * n := by
  rw [h.log, journalEntries, List.countP_flatMap,
    sum_map_ite (g := List.countP p ∘ entriesOf s.batches) fun j hj => hp j (List.mem_filter.mp hj).1, h.count_tp hB]

end InvLogE

end KV.Writer
