/-
Lemmas/XerialReader.lean — the xerial READER model returns exactly the decoded blocks, for any Read buffer sizes.
-/
import KafkaVerif.Lemmas.XerialChunk

namespace KV.Model.Xerial
open KV KV.RW KV.Spec.Xerial

/-- the block codec as the reader theorems need it: decoding inverts encoding, and the decoded length announced for an encoded
block (snappy.DecodedLen) is the block's length -/
structure Good (c : Codec) : Prop where
  dec_enc : ∀ b, c.dec (c.enc b) = some b
  len_enc : ∀ b, c.decodedLen (c.enc b) = some b.length

/-- where `r` is in its underlying stream, whose remaining blocks are `bs`: before or after the 16 header bytes of a
framed stream, before or after the one block of an unframed one -/
inductive Stream (c : Codec) : Reader → List Bytes → Prop where
  | startFramed (r : Reader) (bs : List Bytes) : r.nbytes = 0 → r.rest = frame (bs.map c.enc) →
      (∀ b ∈ bs, (c.enc b).length < 256 ^ 4) → Stream c r bs
  | framed (r : Reader) (bs : List Bytes) : r.nbytes ≠ 0 → r.header.take 8 = magic →
      r.rest = frameBlocks (bs.map c.enc) → (∀ b ∈ bs, (c.enc b).length < 256 ^ 4) → Stream c r bs
  -- no extension of the block may start with the magic: the header phase reads up to 16 bytes and keeps the rest of its
  -- 16-byte buffer behind a shorter block
  | startUnframed (r : Reader) (p : Bytes) : r.nbytes = 0 → r.rest = c.enc p → c.enc p ≠ [] →
      (∀ t, (c.enc p ++ t).take 8 ≠ magic) → Stream c r [p]
  | doneUnframed (r : Reader) : r.nbytes ≠ 0 → r.header.take 8 ≠ magic → r.rest = [] → Stream c r []

/-- reader `r` still owes the consumer `pend` (decoded, in `output[offset:]`) and then the blocks `bs` of its stream -/
structure Rep (c : Codec) (r : Reader) (pend : Bytes) (bs : List Bytes) : Prop where
  stream : Stream c r bs
  pend_eq : r.output.drop r.offset = pend

theorem decodeInto_enc (c : Codec) (hg : Good c) (r : Reader) (b : Bytes) (k : Nat) :
    decodeInto c r (c.enc b) k =
      if b.length ≤ k then (r, .direct b) else ({ r with output := b }, .buffered) := by
  simp [decodeInto, hg.dec_enc, hg.len_enc]

theorem framedBody_rep (c : Codec) (hg : Good c) (r : Reader) (b : Bytes) (bs : List Bytes) (k : Nat)
    (hm : r.header.take 8 = magic) (hr : r.rest = frameBlocks ((b :: bs).map c.enc)) (ho : r.output = [])
    (hoff : r.offset = 0) (hsm : ∀ x ∈ b :: bs, (c.enc x).length < 256 ^ 4) :
    (framedBody c r k).2 = (if b.length ≤ k then .direct b else .buffered) ∧
      Rep c (framedBody c r k).1 (if b.length ≤ k then [] else b) bs := by
  have h4 : (beN 4 (c.enc b).length).length = 4 := beN_length _ _
  have ht : r.rest.take 4 = beN 4 (c.enc b).length := by rw [hr]; exact List.take_left' h4
  have hd : r.rest.drop 4 = c.enc b ++ frameBlocks (bs.map c.enc) := by rw [hr]; exact List.drop_left' h4
  have hdn : deN (r.rest.take 4) = (c.enc b).length := by rw [ht, deN_beN, Nat.mod_eq_of_lt (hsm b List.mem_cons_self)]
  have hsm' : ∀ x ∈ bs, (c.enc x).length < 256 ^ 4 := fun x hx => hsm x (List.mem_cons_of_mem _ hx)
  have hlen : r.rest.length = 4 + ((c.enc b).length + (frameBlocks (bs.map c.enc)).length) := by
    rw [← List.take_append_drop 4 r.rest, List.length_append, ht, hd, h4, List.length_append]
  rw [framedBody_full c r k (by omega), hdn, ← List.drop_drop, hd, List.take_left' rfl, List.drop_left' rfl,
    decodeInto_enc c hg]
  split
  · exact ⟨rfl, .framed _ _ (by simp) hm rfl hsm', by simp [ho]⟩
  · exact ⟨rfl, .framed _ _ (by simp) hm rfl hsm', by simp [hoff]⟩

theorem readChunk_rep_nil (c : Codec) (r : Reader) (k : Nat) (hrep : Rep c r [] []) : (readChunk c r k).2 = .eof := by
  match hrep.stream with
  | .startFramed _ _ hn hr _ => rw [readChunk_header c r [] k hn hr, framedBody_nil c _ k rfl]
  | .framed _ _ hn hm hr _ => rw [readChunk_later c r k hn, if_pos hm, framedBody_nil c _ k (show (clearOut r).rest = [] from hr)]
  | .doneUnframed _ hn hm hr =>
    rw [readChunk_later c r k hn, if_neg hm]
    simp [unframedBody, clearOut, hr]

theorem readChunk_rep_cons (c : Codec) (hg : Good c) (r : Reader) (b : Bytes) (bs : List Bytes) (k : Nat)
    (hrep : Rep c r [] (b :: bs)) :
    (readChunk c r k).2 = (if b.length ≤ k then .direct b else .buffered) ∧
      Rep c (readChunk c r k).1 (if b.length ≤ k then [] else b) bs := by
  match hrep.stream with
  | .startFramed _ _ hn hr hsm =>
    rw [readChunk_header c r _ k hn hr]
    exact framedBody_rep c hg _ b bs k (header_take8 _) rfl rfl rfl hsm
  | .framed _ _ hn hm hr hsm =>
    rw [readChunk_later c r k hn, if_pos hm]
    exact framedBody_rep c hg _ b bs k hm hr rfl rfl hsm
  | .startUnframed _ _ hn hr hne hmag =>
    obtain ⟨r0, hn0, hm0, hr0, ho0, hoff0, hrc⟩ := readChunk_unframed c r (c.enc b) k hn hr hne hmag
    rw [hrc, decodeInto_enc c hg]
    split
    · exact ⟨rfl, .doneUnframed _ hn0 hm0 hr0, by show r0.output.drop r0.offset = []; rw [ho0, List.drop_nil]⟩
    · exact ⟨rfl, .doneUnframed _ hn0 hm0 hr0, by show b.drop r0.offset = b; rw [hoff0]; rfl⟩

namespace Stream

theorem of_eq {c : Codec} {r r' : Reader} {bs : List Bytes} (h : Stream c r bs) (hn : r'.nbytes = r.nbytes)
    (hr : r'.rest = r.rest) (hh : r'.header = r.header) : Stream c r' bs := by
  match h with
  | .startFramed _ _ a b w => exact .startFramed _ _ (hn ▸ a) (hr ▸ b) w
  | .framed _ _ a m b w => exact .framed _ _ (hn ▸ a) (hh ▸ m) (hr ▸ b) w
  | .startUnframed _ _ a b ne mg => exact .startUnframed _ _ (hn ▸ a) (hr ▸ b) ne mg
  | .doneUnframed _ a m b => exact .doneUnframed _ (hn ▸ a) (hh ▸ m) (hr ▸ b)

theorem blocks_le_rest {c : Codec} {r : Reader} {bs : List Bytes} (h : Stream c r bs) :
    bs.length ≤ r.rest.length := by
  have hfb := frameBlocks_length_ge (bs.map c.enc)
  rw [List.length_map] at hfb
  match h with
  | .startFramed _ _ _ hr _ => rw [hr, frame, List.length_append]; omega
  | .framed _ _ _ _ hr _ => rw [hr]; exact hfb
  | .startUnframed _ _ _ hr hne _ => rw [hr]; exact List.length_pos_iff.mpr hne
  | .doneUnframed .. => exact Nat.zero_le _

end Stream

namespace Rep

theorem no_pending {c : Codec} {r : Reader} {bs : List Bytes} (h : Rep c r [] bs) : ¬ r.offset < r.output.length := by
  intro hlt
  have := congrArg List.length h.pend_eq
  rw [List.length_drop, List.length_nil] at this
  omega

theorem set_offset {c : Codec} {r : Reader} {pend : Bytes} {bs : List Bytes} (h : Rep c r pend bs) (o : Nat) :
    Rep c { r with offset := o } (r.output.drop o) bs :=
  ⟨h.stream.of_eq rfl rfl rfl, rfl⟩

theorem consume {c : Codec} {r : Reader} {pend : Bytes} {bs : List Bytes} (h : Rep c r pend bs) :
    Rep c { r with offset := r.output.length } [] bs :=
  ⟨h.stream.of_eq rfl rfl rfl, List.drop_of_length_le (Nat.le_refl _)⟩

end Rep

theorem drop_take_length {α : Type} (l : List α) (k : Nat) : l.drop (l.take k).length = l.drop k := by
  rw [List.length_take]
  by_cases h : k ≤ l.length
  · rw [Nat.min_eq_left h]
  · rw [Nat.min_eq_right (by omega), List.drop_of_length_le (Nat.le_refl _), List.drop_of_length_le (by omega)]

/-- outcome of one `Read` on a state that still owes `total`: EOF exactly when nothing is left, otherwise a non-empty
piece of what is left -/
def ReadOK (c : Codec) (total : Bytes) (res : Reader × ReadRes) : Prop :=
  (total = [] ∧ ∃ r', res = (r', .eof)) ∨
  (∃ r' d pend' bs', res = (r', .data d) ∧ d ≠ [] ∧ Rep c r' pend' bs' ∧ total = d ++ (pend' ++ bs'.flatten))

/-- `Read` on a state that owes `pend` and then `bs`.  With nothing pending it takes the next block: an empty one is decoded
"directly" into the caller's buffer, 0 bytes, and `Read` goes on to the next chunk; one that does not fit the buffer is decoded
into `output` and served by the next turn of the loop — both are the induction hypothesis, for one unit of fuel less. -/
theorem read_rep (c : Codec) (hg : Good c) (k : Nat) (hk : 1 ≤ k) (bs : List Bytes) (fuel : Nat) (r : Reader)
    (pend : Bytes) (hf : bs.length + 2 ≤ fuel) (hrep : Rep c r pend bs) :
    ReadOK c (pend ++ bs.flatten) (read c fuel r k) := by
  induction fuel generalizing r pend bs with
  | zero => omega
  | succ fuel ih =>
    by_cases hp : pend = []
    · subst hp
      rw [read_chunk c fuel r k hrep.no_pending]
      cases bs with
      | nil => rw [readChunk_rep_nil c r k hrep]; exact .inl ⟨rfl, _, rfl⟩
      | cons b bs' =>
        obtain ⟨he, hr'⟩ := readChunk_rep_cons c hg r b bs' k hrep
        rw [List.length_cons] at hf
        rw [he]
        by_cases hle : b.length ≤ k
        · rw [if_pos hle] at hr' ⊢
          by_cases hb : b = []
          · subst hb; exact ih bs' _ [] (by omega) hr'
          · simp only [List.length_pos_iff.mpr hb, if_true]
            exact .inr ⟨_, b, [], bs', rfl, hb, hr', rfl⟩
        · rw [if_neg hle] at hr' ⊢
          exact ih bs' _ b (by omega) hr'
    · have hpe := hrep.pend_eq
      have hlt : r.offset < r.output.length := by
        apply Nat.lt_of_not_le; intro h
        rw [List.drop_of_length_le h] at hpe; exact hp hpe.symm
      have hrep' := hrep.set_offset (r.offset + (pend.take k).length)
      rw [← List.drop_drop, hpe, drop_take_length] at hrep'
      have hd : pend.take k ≠ [] := by
        intro h
        have := congrArg List.length h
        rw [List.length_take, List.length_nil] at this
        have := List.length_pos_iff.mpr hp
        omega
      simp only [read, hlt, if_true, hpe]
      exact .inr ⟨_, _, _, bs, rfl, hd, hrep', by rw [← List.append_assoc, List.take_append_drop]⟩

/-- The fuel `rest.length + 2` the consumers of the model give each `Read` suffices: one turn of the loop per empty block skipped, one for a block that is
buffered, one to serve it or to report the end, and there are at most `rest.length` blocks (`Stream.blocks_le_rest`).
`hlen`: every `Read` hands out at least one byte (`ReadOK`: `d ≠ []`, buffers ≥ 1), so one more `Read` than bytes owed reaches the
EOF answer. -/
theorem readAllWith_rep (c : Codec) (hg : Good c) (ks : List Nat) (r : Reader) (pend : Bytes) (bs : List Bytes)
    (hks : ∀ k ∈ ks, 1 ≤ k) (hlen : (pend ++ bs.flatten).length < ks.length) (hrep : Rep c r pend bs) :
    readAllWith c r ks = some (pend ++ bs.flatten) := by
  induction ks generalizing r pend bs with
  | nil => simp at hlen
  | cons k ks ih =>
    rcases read_rep c hg k (hks k List.mem_cons_self) bs (r.rest.length + 2) r pend
      (by have := hrep.stream.blocks_le_rest; omega) hrep with
      ⟨hnil, r', he⟩ | ⟨r', d, pend', bs', he, hd, hrep', htot⟩
    · simp only [readAllWith, he, hnil]
    · have hdl : 0 < d.length := List.length_pos_iff.mpr hd
      rw [htot, List.length_append, List.length_cons] at hlen
      simp only [readAllWith, he, ih r' pend' bs' (fun k hk => hks k (List.mem_cons_of_mem _ hk)) (by omega) hrep',
        htot, Option.map_some]

theorem writeTo_rep (c : Codec) (hg : Good c) : ∀ (bs : List Bytes) (fuel : Nat) (r : Reader) (pend : Bytes),
    bs.length < fuel → Rep c r pend bs →
    writeTo c fuel r = some (pend ++ bs.flatten) := by
  intro bs
  induction bs with
  | nil =>
    intro fuel r pend hf hrep
    rcases fuel with _ | f1
    · omega
    rw [writeTo_chunk, readChunk_rep_nil c _ 0 hrep.consume, hrep.pend_eq]
    exact congrArg some (List.append_nil _).symm
  | cons b bs' ih =>
    intro fuel r pend hf hrep
    rcases fuel with _ | f1
    · omega
    obtain ⟨he, hr'⟩ := readChunk_rep_cons c hg _ b bs' 0 hrep.consume
    rw [List.length_cons] at hf
    have hf' : bs'.length < f1 := Nat.lt_of_succ_lt_succ hf
    rw [writeTo_chunk, he, hrep.pend_eq]
    -- only an empty block fits a buffer of 0 bytes
    by_cases hle : b.length ≤ 0
    · obtain rfl : b = [] := List.eq_nil_of_length_eq_zero (by omega)
      rw [if_pos hle] at hr' ⊢
      simp [ih f1 _ [] hf' hr']
    · rw [if_neg hle] at hr' ⊢
      simp [ih f1 _ b hf' hr']

theorem readsThenWriteTo_rep (c : Codec) (hg : Good c) (ks : List Nat) (r : Reader) (pend : Bytes) (bs : List Bytes)
    (hks : ∀ k ∈ ks, 1 ≤ k) (hrep : Rep c r pend bs) :
    readsThenWriteTo c r ks = some (pend ++ bs.flatten) := by
  have hfuel := hrep.stream.blocks_le_rest
  induction ks generalizing r pend bs with
  | nil => exact writeTo_rep c hg bs (r.rest.length + 2) r pend (by omega) hrep
  | cons k ks ih =>
    rcases read_rep c hg k (hks k List.mem_cons_self) bs (r.rest.length + 2) r pend (by omega) hrep with
      ⟨hnil, r', he⟩ | ⟨r', d, pend', bs', he, _, hrep', htot⟩
    · simp only [readsThenWriteTo, he, hnil]
    · simp only [readsThenWriteTo, he, htot, Option.map_some,
        ih r' pend' bs' (fun k hk => hks k (List.mem_cons_of_mem _ hk)) hrep' hrep'.stream.blocks_le_rest]

end KV.Model.Xerial
