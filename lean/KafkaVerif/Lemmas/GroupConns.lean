/-
Lemmas/GroupConns.lean — connection accounting of `(*ConsumerGroup).run` (Model/GroupConns.lean): connections appear only
through a successful connect (`gain_step`), and the accounting invariant `K`.
-/
import KafkaVerif.Model.GroupConns
import KafkaVerif.Lemmas.GroupRunStruct
namespace KV.GroupConns
open KV.Group

/-- how many of the two connections (bootstrap, coordinator) are held at `pc'` and were not at `pc` -/
def gain (pc pc' : PC) : Nat := b2n (!bootPC pc && bootPC pc') + b2n (!connPC pc && connPC pc')

theorem gain_self (p : PC) : gain p p = 0 := by
  simp [gain, b2n]

theorem gain_none {p p' : PC} (hb : bootPC p' = false) (hc : connPC p' = false) : gain p p' = 0 := by
  simp [gain, b2n, hb, hc]

theorem isConnectOk_runLoop {e : Ev} (h : e.runLoop = false) : isConnectOk e = false := by
  cases e <;> first | rfl | cases h

theorem gain_step (c : Cfg) (g g' : St) (e : Ev) (h : step c g e = some g') :
    gain g.pc g'.pc = b2n (isConnectOk e) := by
  cases step_effect h with
  | gen he _ | env _ _ _ _ he _ _ => rw [isConnectOk_runLoop he]; exact gain_self _
  | startHb hp _ | startWatch hp =>
    rw [hp]; rcases afterStart_cases c _ with ⟨_, h⟩ | ⟨_, h⟩ <;> (dsimp only; rw [h]; rfl)
  | move hm =>
    cases hm with
    | @connectFail _ lv _ _ _ | @findFail lv _ _ =>
      cases lv with
      | none => exact gain_none rfl rfl
      | some a => cases a <;> exact gain_none rfl rfl
    | @leaveNone a _ _ | @leaveRes a _ _ => cases a <;> exact gain_none rfl rfl
    | retOk _ | retClosed _ | retRebalance _ | retErr _ => exact gain_none rfl rfl
    -- the other arrows go between two given pcs: `bootPC`, `connPC` and `isConnectOk` are evaluated there; only
    -- `boot`, `dialedJoin` and `dialedLeave` (a successful `connectRes`) enter one of the two
    | _ => rw [‹g.pc = _›]; rfl

theorem exited_cases {c : Cfg} {g g' : St} {e : Ev} (h : step c g e = some g') (hx : g'.pc = .exited) :
    (g.pc = .exited ∧ isConnectOk e = false) ∨ e = .runExit := by
  cases step_effect h with
  | gen he _ | env _ _ _ _ he _ _ => exact .inl ⟨hx, isConnectOk_runLoop he⟩
  | startHb _ _ | startWatch _ =>
    rcases afterStart_cases c _ with ⟨_, h⟩ | ⟨_, h⟩ <;> (dsimp only at hx; rw [h] at hx; cases hx)
  | move hm =>
    cases hm with
    | runExit _ => exact .inr rfl
    | @connectFail _ lv _ _ _ | @findFail lv _ _ =>
      cases lv with
      | none => cases hx
      | some a => cases a <;> cases hx
    | @leaveNone a _ _ | @leaveRes a _ _ => cases a <;> cases hx
    | _ => cases hx

/-- held afterwards + given up = held before + gained, per connection -/
theorem bit_id (x x' : Bool) : b2n x' + b2n (x && !x') = b2n x + b2n (!x && x') := by
  cases x <;> cases x' <;> simp [b2n]

/-- the accounting invariant: connections journalled as opened or still owed an `copen` = connections journalled as
closed, owed a `cclose`, or held at the current program point -/
structure K (cs : CS) : Prop where
  struct : Inv3 cs.g
  acct : cs.opened + cs.owedOpen = cs.closed + cs.owedClose + held cs.g.pc
  gone : cs.g.pc = .exited → cs.owedOpen = 0 ∧ cs.owedClose = 0

theorem k_init : K {} := ⟨inv3_init, by simp [held, bootPC, connPC, b2n], by intro h; simp at h⟩

theorem k_step (c : Cfg) (cs cs' : CS) (e : CEv) (hk : K cs) (h : stepC c cs e = some cs') : K cs' := by
  cases e with
  | copen | cclose =>
    simp only [stepC, Option.ite_none_right_eq_some, Option.some.injEq] at h
    obtain ⟨hg, rfl⟩ := h
    refine ⟨hk.struct, ?_, ?_⟩
    · have := hk.acct; simp only; omega
    · intro hx; have := hk.gone hx; simp only; omega
  | ev e =>
    simp only [stepC] at h
    split at h
    · simp at h
    · rename_i hq
      cases hs : step c cs.g e with
      | none => simp [hs] at h
      | some g' =>
        simp only [hs, Option.some.injEq] at h
        subst h
        have hg := gain_step c cs.g g' e hs
        have b1 := bit_id (bootPC cs.g.pc) (bootPC g'.pc)
        have b2 := bit_id (connPC cs.g.pc) (connPC g'.pc)
        refine ⟨inv3_step c _ _ e hk.struct hs, ?_, ?_⟩
        · have := hk.acct
          simp only [held, gain] at *
          omega
        · intro hx
          simp only at hx
          rcases exited_cases hs hx with ⟨hx0, hok⟩ | h1
          · have := hk.gone hx0
            simp only [hok, hx0, hx, bootPC, connPC, b2n]
            simp; omega
          · -- `runExit` is guarded by "nothing owed"
            subst h1
            cases step_move rfl hs
            rename_i hpc
            simp only [leavesQuiet, Bool.true_and, Bool.not_eq_true'] at hq
            simp [isConnectOk, hpc, bootPC, connPC, b2n]
            simpa using hq

theorem k_reachable (c : Cfg) (cs : CS) (h : ReachableC c cs) : K cs := by
  induction h with
  | init => exact k_init
  | step e _ hs ih => exact k_step c _ _ e ih hs

end KV.GroupConns
