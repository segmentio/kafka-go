/-
Lemmas/ReaderWorld.lean — the three layers composed: the decoder as written (Model/PullReader) on what a
contract-obeying broker serves (Spec/Layout) produces fetch rounds that are `Good` in the sense of Lemmas/ReaderLoopLTS
(`pull_round`; for a partition that is appended to while it is read, `serve_take`), so the invariant of the reader loop holds
with nothing assumed about the `read` calls (`world_good`, `rinv_world_run`).  What the loop has pushed is a prefix of the feed
from its start offset (`SInv`, `inv_prefix`, `world_msgs_prefix`; Lemmas/ReaderSystem.lean ties `SInv` to the front), and
fault-free rounds catch up with the log (`catch_up`).
-/
import KafkaVerif.Model.ReaderWorld
import KafkaVerif.Lemmas.ReaderLoopLTS
import KafkaVerif.Lemmas.PullReader
import KafkaVerif.Lemmas.FetchDecoder
import KafkaVerif.Model.ReaderFront

namespace KV.C02

/-- on what a broker serves from `q`, cut after any number of bytes, the decoder as written is the token machine -/
theorem fetch_round_pull (items : List Item) (nb : Int) (hnb : 0 ≤ nb) (hwf : LWF nb items) (hwm q : Int) (hq : 0 ≤ q)
    (e : Bool) (n : Nat) :
    Pull.readAll e q hwm (truncate (allTokens (dropBefore q items)) n)
      = readAll .fixed e q hwm (truncate (allTokens (dropBefore q items)) n) := by
  have h := fetch_round_gen items nb hnb hwf hwm q hq e n
  exact pull_eq_run_all e q hwm _ (allWF_truncate _ _ (allWF_tokens _ nb (dropBefore_spec q hwf).1)) h.2.2.2.1

theorem fetch_round_good (items : List Item) (nb : Int) (hnb : 0 ≤ nb) (hwf : LWF nb items) (hwm q : Int) (hq : 0 ≤ q) (b : Nat) :
    GoodData (allRecords items) q (fetchOnce .fixed items hwm q b).1 (fetchOnce .fixed items hwm q b).2.1 :=
  let ⟨f1, f2, f3, f4, _, _⟩ := fetch_round items nb hnb hwf hwm q hq b
  ⟨f4, f2, f3, f1⟩

/-- **iterated fetches**: `delivered = log ∩ [start, connOffset)`, strictly increasing -/
theorem fetchSeq_good (items : List Item) (nb : Int) (hnb : 0 ≤ nb) (hwf : LWF nb items) (hwm : Int) :
    ∀ (budgets : List Nat) (q : Int), 0 ≤ q →
      GoodData (allRecords items) q (fetchSeq .fixed items hwm q budgets).1 (fetchSeq .fixed items hwm q budgets).2
  | [], q, _ => GoodData.nil _ q
  | b :: bs, q, hq =>
    have h := fetch_round_good items nb hnb hwf hwm q hq b
    h.append (fetchSeq_good items nb hnb hwf hwm bs _ (Int.le_trans hq h.mono))

/-- what a broker holding only the first `m` items serves is what a broker holding all of them serves, cut after some
number `n` of bytes (the budget served, capped at the bytes the shorter log holds from `q` on); and the first item served is
whole in both views -/
theorem serve_take (items : List Item) (nb : Int) (hwf : LWF nb items) (m : Nat) (q : Int) (b : Nat) :
    ∃ n, serve (items.take m) q b = truncate (allTokens (dropBefore q items)) n ∧
      (dropBefore q (items.take m) = [] → serve (items.take m) q b = []) ∧
      (dropBefore q (items.take m) ≠ [] → ∀ it rest, dropBefore q items = it :: rest → it.size ≤ n) := by
  have hsplit : items = items.take m ++ items.drop m := (List.take_append_drop m items).symm
  have hdb := dropBefore_append q (items.take m) (items.drop m)
  rw [← hsplit] at hdb
  cases hsub : dropBefore q (items.take m) with
  | nil =>
    have hserve : serve (items.take m) q b = [] := by simp [serve, hsub, allTokens, serveBudget, truncate]
    have htr : truncate (allTokens (dropBefore q items)) 0 = [] := by
      cases hall : allTokens (dropBefore q items) with
      | nil => rfl
      | cons t ts =>
        have := allTokens_head_pos _ t ts hall
        have ht : ¬ t.size ≤ 0 := by omega
        simp [truncate, ht]
    exact ⟨0, by rw [hserve, htr], fun _ => hserve, fun h => absurd rfl h⟩
  | cons it rest =>
    rw [hsub] at hdb
    simp only [List.cons_ne_nil, if_false] at hdb
    have hwf1 : LWF nb (items.take m) := lwf_take m hwf
    obtain ⟨d1, _, _, _⟩ := dropBefore_spec q hwf1
    rw [hsub] at d1
    have hsz := tokensOf_size (lwf_cons.mp d1).1
    have htot : it.size ≤ totalSize (allTokens (it :: rest)) := by
      simp only [allTokens, List.flatMap_cons, totalSize_append, hsz]; omega
    refine ⟨min (serveBudget (it :: rest) b) (totalSize (allTokens (it :: rest))), ?_, fun h => (by cases h), ?_⟩
    · simp only [serve, hsub]
      rw [hdb, allTokens_append]
      rw [truncate_append_le _ _ _ (Nat.min_le_right _ _) (allTokens_head_pos (items.drop m))]
      by_cases hB : serveBudget (it :: rest) b ≤ totalSize (allTokens (it :: rest))
      · rw [Nat.min_eq_left hB]
      · rw [Nat.min_eq_right (by omega), truncate_full _ _ (by omega), truncate_full _ _ (Nat.le_refl _)]
    · intro _ it' rest' h'
      rw [hdb] at h'
      simp only [List.cons_append, List.cons.injEq] at h'
      rw [← h'.1]
      have : it.size ≤ serveBudget (it :: rest) b := by simp only [serveBudget]; omega
      exact Nat.le_min.mpr ⟨this, htot⟩

theorem goodcut_take {log : List Rec} {q off' : Int} {d : List Rec}
    (f1 : ∀ r ∈ d, r ∈ log ∧ q ≤ r.1 ∧ r.1 < off') (f2 : ∀ r ∈ log, q ≤ r.1 → r.1 < off' → r ∈ d)
    (f3 : d.Pairwise (fun a b => a.1 < b.1)) (k : Nat) : GoodCut log q (d.take k) := by
  refine ⟨f3.sublist (List.take_sublist k d), fun r hr => ⟨(f1 r (List.mem_of_mem_take hr)).1, (f1 r (List.mem_of_mem_take hr)).2.1⟩, ?_⟩
  intro r hrl x hx h1 h2
  have hxd := List.mem_of_mem_take hx
  have hrd : r ∈ d := f2 r hrl h1 (by have := (f1 x hxd).2.2; omega)
  rw [← List.take_append_drop k d] at hrd f3
  rw [List.mem_append] at hrd
  rcases hrd with h | h
  · exact h
  · have := (List.pairwise_append.mp f3).2.2 x hx r h
    omega

/-- a round read by the decoder as written, on any byte prefix of what the broker has from `q` on: every prefix (by
messages) of what it delivers is an initial segment of the log from `q`; with the first item whole it is a complete round -/
theorem pull_round (items : List Item) (nb : Int) (hnb : 0 ≤ nb) (hwf : LWF nb items) (hwm q : Int) (hq : 0 ≤ q)
    (e : Bool) (n : Nat) :
    let res := Pull.readAll e q hwm (truncate (allTokens (dropBefore q items)) n)
    (∀ k, GoodCut (allRecords items) q (res.1.take k)) ∧ res.2.2 ≠ .desync ∧
    ((∀ it rest, dropBefore q items = it :: rest → it.size ≤ n) → GoodData (allRecords items) q res.1 res.2.1) := by
  rw [fetch_round_pull items nb hnb hwf hwm q hq e n]
  obtain ⟨f1, f2, f3, f4, f5⟩ := fetch_round_gen items nb hnb hwf hwm q hq e n
  exact ⟨fun k => goodcut_take f1 f2 f3 k, f4, fun h => ⟨f3, f1, f2, (f5 h).1⟩⟩

/-- the computed events are `Good` wherever `rinv_step` asks for it -/
theorem world_good (items : List Item) (nb : Int) (hnb : 0 ≤ nb) (hwf : LWF nb items) {s : RR}
    (h : RInv (allRecords items) s) (x : Env) (hx : x.ok items) :
    (s.phase = .reading ∨ ∃ f l, worldEvent items s x = .initOk f l) → Good (allRecords items) s (worldEvent items s x) := by
  have round := fun hr hwm e n => pull_round items nb hnb hwf hwm s.connOff (h.connOff_nonneg hr) e n
  cases x with
  | fetch b hwm e =>
    rintro (hr | ⟨_, _, ⟨⟩⟩)
    obtain ⟨_, r2, r3⟩ := round hr hwm e (serveBudget (dropBefore s.connOff items) b)
    exact ⟨r3 (fun it rest hsub => serveBudget_first hsub b), r2⟩
  | fetchSnap m b hwm e =>
    rintro (hr | ⟨_, _, ⟨⟩⟩)
    simp only [worldEvent, Good]
    obtain ⟨n, hn, hnil, hfirst⟩ := serve_take items nb hwf m s.connOff b
    by_cases hsub : dropBefore s.connOff (items.take m) = []
    · -- the reader is at the end of what is stored at this moment: nothing is served
      rw [hnil hsub]
      have hnone := GoodData.nil (allRecords items) s.connOff
      by_cases hh : hwm = s.connOff
      · simpa [Pull.readAll, hh] using hnone
      · simpa [Pull.readAll, Pull.readHeader, hh] using hnone
    · rw [hn]
      obtain ⟨_, r2, r3⟩ := round hr hwm e n
      exact ⟨r3 (hfirst hsub), r2⟩
  | lost n hwm e =>
    rintro (hr | ⟨_, _, ⟨⟩⟩)
    have := (round hr hwm e n).1 (Pull.readAll e s.connOff hwm (truncate (allTokens (dropBefore s.connOff items)) n)).1.length
    rw [List.take_length] at this
    exact this
  | canceled b hwm e k =>
    rintro (hr | ⟨_, _, ⟨⟩⟩)
    exact (round hr hwm e (serveBudget (dropBefore s.connOff items) b)).1 k
  | initOk first last => intro _; simpa [worldEvent, Good, Env.ok] using hx
  | kerr code offs =>
    intro _
    simp only [worldEvent]
    unfold Good
    split <;> first | trivial | (rename_i heq; cases heq; simpa [Env.ok] using hx)
  | _ => exact fun _ => trivial

theorem rinv_world_step (cfg : RCfg) (items : List Item) (nb : Int) (hnb : 0 ≤ nb) (hwf : LWF nb items) {s : RR}
    (h : RInv (allRecords items) s) (x : Env) (hx : x.ok items) :
    RInv (allRecords items) (rstep cfg s (worldEvent items s x)) :=
  rinv_step cfg _ h (world_good items nb hnb hwf h x hx)

theorem rinv_world_run (cfg : RCfg) (items : List Item) (nb : Int) (hnb : 0 ≤ nb) (hwf : LWF nb items) :
    ∀ (xs : List Env) (s : RR), RInv (allRecords items) s → (∀ x ∈ xs, x.ok items) →
      RInv (allRecords items) (worldRun cfg items s xs) := by
  intro xs
  induction xs with
  | nil => intro s h _; exact h
  | cons x xs ih =>
    intro s h hx
    exact ih _ (rinv_world_step cfg items nb hnb hwf h x (hx x List.mem_cons_self)) (fun y hy => hx y (List.mem_cons_of_mem _ hy))

theorem sorted_ext (l1 l2 : List Rec) (h1 : l1.Pairwise (fun a b => a.1 < b.1)) (h2 : l2.Pairwise (fun a b => a.1 < b.1))
    (h : ∀ r, r ∈ l1 ↔ r ∈ l2) : l1 = l2 := by
  have nd : ∀ {l : List Rec}, l.Pairwise (fun a b => a.1 < b.1) → l.Nodup := fun hl =>
    hl.imp (fun hab e => by rw [e] at hab; exact Int.lt_irrefl _ hab)
  exact ((List.perm_ext_iff_of_nodup (nd h1) (nd h2)).mpr h).eq_of_pairwise
    (fun a b _ _ hab hba => absurd (Int.lt_trans hab hba) (Int.lt_irrefl _)) h1 h2

theorem filter_lt_prefix : ∀ (l : List Rec) (off : Int), l.Pairwise (fun a b => a.1 < b.1) →
    l.filter (fun r => r.1 < off) <+: l := by
  intro l
  induction l with
  | nil => intro _ _; simp
  | cons a l ih =>
    intro off h
    rw [List.pairwise_cons] at h
    by_cases ha : a.1 < off
    · simp only [List.filter_cons, ha, decide_true, if_true]
      exact List.prefix_cons_inj a |>.mpr (ih off h.2)
    · have : l.filter (fun r => r.1 < off) = [] := by
        apply List.filter_eq_nil_iff.mpr
        intro r hr
        have := h.1 r hr
        simp only [decide_eq_true_eq]; omega
      simp only [List.filter_cons, ha, decide_false, this]
      exact List.nil_prefix

theorem feed_sorted {log : List Rec} (hlog : log.Pairwise (fun a b => a.1 < b.1)) (o : Int) :
    (feed log o).Pairwise (fun a b => a.1 < b.1) := hlog.filter _

theorem feed_tail {log : List Rec} (hlog : log.Pairwise (fun a b => a.1 < b.1)) {pos : Int} {r : Rec} {rest : List Rec}
    (h : feed log pos = r :: rest) : rest = feed log (r.1 + 1) := by
  have hs := feed_sorted hlog pos
  rw [h, List.pairwise_cons] at hs
  apply sorted_ext _ _ hs.2 (feed_sorted hlog _)
  intro x
  have hmem : ∀ y, y ∈ feed log pos ↔ (y ∈ log ∧ pos ≤ y.1) := by intro y; simp [feed]
  have hr := (hmem r).1 (by rw [h]; simp)
  constructor
  · intro hx
    have := (hmem x).1 (by rw [h]; exact List.mem_cons_of_mem _ hx)
    have := hs.1 x hx
    simp only [feed, List.mem_filter, decide_eq_true_eq]
    exact ⟨‹x ∈ log ∧ pos ≤ x.1›.1, by omega⟩
  · intro hx
    simp only [feed, List.mem_filter, decide_eq_true_eq] at hx
    have := (hmem x).2 ⟨hx.1, by omega⟩
    rw [h, List.mem_cons] at this
    rcases this with rfl | this
    · omega
    · exact this

/-- what the loop has pushed into `r.msgs` is an initial segment of the stored records at or above its resolved start
offset, in log order: the loop is a fetcher in the sense of Model/ReaderFront.lean (`feed`) -/
theorem loop_msgs_prefix {log : List Rec} (hlog : log.Pairwise (fun a b => a.1 < b.1)) {s : RR} (h : RInv log s) (st : Int)
    (hst : s.start = some st) : s.msgs <+: feed log st := by
  obtain ⟨_, _, b2, b3⟩ := h.bounds st hst
  have hfeed := feed_sorted hlog st
  have heq : s.msgs = (feed log st).filter (fun r => r.1 < s.offset) := by
    apply sorted_ext _ _ h.sorted (hfeed.filter _)
    intro r
    simp only [feed, List.mem_filter, decide_eq_true_eq]
    constructor
    · intro hr; have := b2 r hr; exact ⟨⟨this.1, this.2.1⟩, this.2.2⟩
    · intro hr; exact b3 r hr.1.1 hr.1.2 hr.2
  rw [heq]
  exact filter_lt_prefix _ _ hfeed

theorem feed_resolve (log : List Rec) (o0 first last : Int) (hok : ∀ r ∈ log, first ≤ r.1) (hf : 0 ≤ first) (h1 : o0 ≠ -1) :
    feed log (resolve o0 first last) = feed log o0 := by
  unfold feed
  apply List.filter_congr
  intro r hr
  have := hok r hr
  have hiff : (resolve o0 first last ≤ r.1) ↔ (o0 ≤ r.1) := by
    unfold resolve
    repeat' split
    all_goals first | omega | exact Iff.rfl
  exact decide_eq_decide.mpr hiff

/-- before the first successful `initialize` the loop's offset is the one it was started with (`o0`); afterwards the
resolved start offset selects the same stored records as `from` — `o0` itself for an absolute offset or FirstOffset, the
last offset the broker reports at that moment for LastOffset -/
structure SInv (log : List Rec) (o0 : Int) («from» : Int) (s : RR) : Prop where
  unset : s.start = none → s.offset = o0
  set : ∀ st, s.start = some st → feed log st = feed log «from»

theorem sinv_step (cfg : RCfg) {log : List Rec} {o0 fr : Int} {s : RR} (e : REv) (hi : RInv log s) (h : SInv log o0 fr s)
    (hres : ∀ f l, e = .initOk f l → s.start = none → feed log (resolve o0 f l) = feed log fr) :
    SInv log o0 fr (rstep cfg s e) := by
  constructor
  · intro hs'
    obtain ⟨hs, ho⟩ := rstep_unset cfg e hi hs'
    rw [ho]; exact h.unset hs
  · intro st hs'
    rcases rstep_start cfg s e with h1 | ⟨hs, f, l, he, h2⟩
    · exact h.set st (by rw [← h1]; exact hs')
    · rw [h2] at hs'
      cases hs'
      rw [h.unset hs]
      exact hres f l he hs

theorem worldEvent_initOk {items : List Item} {s : RR} {x : Env} {f l : Int} (h : worldEvent items s x = .initOk f l) :
    x = .initOk f l := by
  cases x <;> simp [worldEvent] at h
  rw [h.1, h.2]

/-- `RInv` and `SInv` together along a step of the world; `hres`: the first successful `initialize` resolves the start
offset to one that selects the same stored records as `fr` -/
theorem winv_step (cfg : RCfg) (items : List Item) (nb : Int) (hnb : 0 ≤ nb) (hwf : LWF nb items) {o0 fr : Int} {s : RR}
    (h1 : RInv (allRecords items) s) (h2 : SInv (allRecords items) o0 fr s) (x : Env) (hx : x.ok items)
    (hres : ∀ f l, x = .initOk f l → s.start = none →
      feed (allRecords items) (resolve o0 f l) = feed (allRecords items) fr) :
    RInv (allRecords items) (rstep cfg s (worldEvent items s x)) ∧
    SInv (allRecords items) o0 fr (rstep cfg s (worldEvent items s x)) :=
  ⟨rinv_world_step cfg items nb hnb hwf h1 x hx,
   sinv_step cfg _ h1 h2 (fun f l he hs0 => hres f l (worldEvent_initOk he) hs0)⟩

/-- the `hres` of `winv_step` for a loop started at an absolute offset or FirstOffset -/
theorem sinv_res_abs {items : List Item} {o0 : Int} (hne : o0 ≠ -1) {x : Env} (hx : x.ok items) :
    ∀ f l, x = .initOk f l → feed (allRecords items) (resolve o0 f l) = feed (allRecords items) o0 := by
  intro f l he
  subst he
  exact feed_resolve _ o0 f l hx.2.2 hx.1 hne

theorem winv_run (cfg : RCfg) (items : List Item) (nb : Int) (hnb : 0 ≤ nb) (hwf : LWF nb items) (o0 : Int) (hne : o0 ≠ -1) :
    ∀ (xs : List Env) (s : RR), RInv (allRecords items) s → SInv (allRecords items) o0 o0 s → (∀ x ∈ xs, x.ok items) →
      RInv (allRecords items) (worldRun cfg items s xs) ∧ SInv (allRecords items) o0 o0 (worldRun cfg items s xs)
  | [], _, h1, h2, _ => ⟨h1, h2⟩
  | x :: xs, s, h1, h2, hx => by
    have hxo := hx x List.mem_cons_self
    obtain ⟨h1', h2'⟩ := winv_step cfg items nb hnb hwf h1 h2 x hxo (fun f l he _ => sinv_res_abs hne hxo f l he)
    exact winv_run cfg items nb hnb hwf o0 hne xs _ h1' h2' (fun y hy => hx y (List.mem_cons_of_mem _ hy))

theorem inv_prefix {log : List Rec} (hlog : log.Pairwise (fun a b => a.1 < b.1)) {s : RR} {o0 fr : Int} (h1 : RInv log s)
    (h2 : SInv log o0 fr s) : s.msgs <+: feed log fr := by
  cases hs : s.start with
  | none => rw [(h1.nostart hs).1]; exact List.nil_prefix
  | some st =>
    rw [← h2.set st hs]
    exact loop_msgs_prefix hlog h1 st hs

theorem world_msgs_prefix (cfg : RCfg) (items : List Item) (nb : Int) (hnb : 0 ≤ nb) (hwf : LWF nb items) (o0 : Int)
    (ho : -2 ≤ o0) (hne : o0 ≠ -1) (xs : List Env) (hx : ∀ x ∈ xs, x.ok items) :
    (worldRun cfg items { offset := o0 } xs).msgs <+: feed (allRecords items) o0 := by
  obtain ⟨h1, h2⟩ := winv_run cfg items nb hnb hwf o0 hne xs { offset := o0 } (rinv_init _ o0 ho)
    ⟨fun _ => rfl, fun st hs => by cases hs⟩ hx
  exact inv_prefix (allRecords_sorted items nb hnb hwf) h1 h2

/-- a fault-free fetch of the loop when the broker has data at or after the connection's position: the first item served
arrives whole (`serveBudget_first`), so the round does not end in `.unexpectedEOF` (`fetch_whole_started`) and the loop keeps
its connection, and the connection moves past that item (`fetch_round_gen`, last clause) -/
theorem world_fetch_step (cfg : RCfg) (items : List Item) (nb : Int) (hnb : 0 ≤ nb) (hwf : LWF nb items) (s : RR)
    (hp : s.phase = .reading) (hs : s.slept = true) (hq : 0 ≤ s.connOff) (b : Nat) (hwm : Int) (e : Bool)
    (hne : hwm ≠ s.connOff) {it : Item} {rest : List Item} (hsub : dropBefore s.connOff items = it :: rest) :
    (rstep cfg s (worldEvent items s (.fetch b hwm e))).phase = .reading ∧
    it.last + 1 ≤ (rstep cfg s (worldEvent items s (.fetch b hwm e))).connOff := by
  have hsz : it.size ≤ serveBudget (dropBefore s.connOff items) b := serveBudget_first hsub b
  obtain ⟨_, _, _, f4, f5⟩ := fetch_round_gen items nb hnb hwf hwm s.connOff hq e (serveBudget (dropBefore s.connOff items) b)
  have hprog := (f5 (by intro it' rest' h'; rw [hsub] at h'; cases h'; exact hsz)).2.2 hne it rest hsub
  have hnu : (readAll .fixed e s.connOff hwm (truncate (allTokens (dropBefore s.connOff items))
      (serveBudget (dropBefore s.connOff items) b))).2.2 ≠ .unexpectedEOF := by
    have d1 := (dropBefore_spec s.connOff hwf).1
    rw [hsub] at d1 ⊢
    exact fetch_whole_started nb it rest d1 e s.connOff hwm hne _ (by rw [hsub] at hsz; exact hsz)
  simp only [worldEvent, serve]
  rw [fetch_round_pull items nb hnb hwf hwm s.connOff hq e _]
  -- the round as a variable: `f4`, `hprog`, `hnu` and the goal speak of `res` only
  obtain ⟨res, hres⟩ : ∃ res, res = readAll .fixed e s.connOff hwm
      (truncate (allTokens (dropBefore s.connOff items)) (serveBudget (dropBefore s.connOff items) b)) := ⟨_, rfl⟩
  rw [← hres] at f4 hprog hnu ⊢
  rw [rstep_data cfg s hp hs]
  cases hoc : res.2.2 with
  | eof => exact ⟨hp, hprog⟩
  | timedOut => exact ⟨hp, hprog⟩
  | unexpectedEOF => exact absurd hoc hnu
  | desync => exact absurd hoc f4

theorem world_fetch_progress (cfg : RCfg) (items : List Item) (nb : Int) (hnb : 0 ≤ nb) (hwf : LWF nb items) (s : RR)
    (hp : s.phase = .reading) (hs : s.slept = true) (hq : 0 ≤ s.connOff) (b : Nat) (hwm : Int) (e : Bool)
    (hne : hwm ≠ s.connOff) (hdata : dropBefore s.connOff items ≠ []) :
    s.connOff < (rstep cfg s (worldEvent items s (.fetch b hwm e))).connOff := by
  cases hsub : dropBefore s.connOff items with
  | nil => exact absurd hsub hdata
  | cons it rest =>
    have := (world_fetch_step cfg items nb hnb hwf s hp hs hq b hwm e hne hsub).2
    have := (dropBefore_spec s.connOff hwf).2.2.2 it rest hsub
    omega

/-- everything stored at or above the start offset has been pushed -/
def Done (log : List Rec) (s : RR) : Prop := ∃ st, s.start = some st ∧ ∀ r ∈ log, st ≤ r.1 → r ∈ s.msgs

theorem done_step (cfg : RCfg) {log : List Rec} {s : RR} (e : REv) (h : Done log s) : Done log (rstep cfg s e) := by
  obtain ⟨st, hst, hall⟩ := h
  obtain ⟨d, hd⟩ := rstep_msgs cfg s e
  refine ⟨st, ?_, ?_⟩
  · rcases rstep_start cfg s e with h1 | ⟨h1, _⟩
    · rw [h1]; exact hst
    · rw [hst] at h1; cases h1
  · intro r hr h1
    rw [hd]
    exact List.mem_append_left _ (hall r hr h1)

theorem done_of_passed {log : List Rec} {s : RR} (h : RInv log s) (hr : s.phase = .reading) (hall : ∀ r ∈ log, r.1 < s.connOff) :
    Done log s := by
  obtain ⟨hst, _, hgap⟩ := h.conn hr
  cases hs : s.start with
  | none => exact absurd hs hst
  | some st =>
    refine ⟨st, hs, ?_⟩
    intro r hrl h1
    by_cases hlt : r.1 < s.offset
    · exact (h.bounds st hs).2.2.2 r hrl h1 hlt
    · exact absurd (hgap r hrl (by omega) (hall r hrl)) id

/-- **no starvation**: however far behind the loop is, fault-free rounds (sleep, fetch — any byte budgets, deadline passed or
not) at a high watermark above everything stored (`hh`), at least as many as there are stored batches / messages from the
connection's position on, deliver every stored record from the start offset on -/
theorem catch_up (cfg : RCfg) (items : List Item) (nb : Int) (hnb : 0 ≤ nb) (hwf : LWF nb items) (hwm : Int)
    (hh : ∀ it ∈ items, it.last < hwm) :
    ∀ (moves : List (Nat × Bool)) (s : RR), RInv (allRecords items) s →
      (Done (allRecords items) s ∨ (s.phase = .reading ∧ (dropBefore s.connOff items).length ≤ moves.length)) →
      Done (allRecords items) (worldRun cfg items s (moves.flatMap fun m => [Env.sleepOk, Env.fetch m.1 hwm m.2])) := by
  intro moves
  induction moves with
  | nil =>
    intro s h hc
    simp only [List.flatMap_nil, worldRun]
    rcases hc with hd | ⟨hr, hl⟩
    · exact hd
    · have : dropBefore s.connOff items = [] := List.eq_nil_of_length_eq_zero (by simpa using hl)
      exact done_of_passed h hr (dropBefore_nil_all hwf _ this)
  | cons mv moves ih =>
    intro s h hc
    obtain ⟨b, e⟩ := mv
    simp only [List.flatMap_cons, List.cons_append, List.nil_append, worldRun]
    have h1 := rinv_world_step cfg items nb hnb hwf h .sleepOk trivial
    have h2 := rinv_world_step cfg items nb hnb hwf h1 (.fetch b hwm e) trivial
    apply ih _ h2
    have hdone : Done (allRecords items) s → Done (allRecords items)
        (rstep cfg (rstep cfg s (worldEvent items s .sleepOk)) (worldEvent items (rstep cfg s (worldEvent items s .sleepOk)) (.fetch b hwm e))) :=
      fun hd => done_step cfg _ (done_step cfg _ hd)
    rcases hc with hd | ⟨hr, hl⟩
    · exact Or.inl (hdone hd)
    · cases hsub : dropBefore s.connOff items with
      | nil => exact Or.inl (hdone (done_of_passed h hr (dropBefore_nil_all hwf _ hsub)))
      | cons it rest =>
        right
        -- the state after the sleep, then the state after the round, as variables
        rw [show worldEvent items s .sleepOk = .sleepOk from rfl]
        obtain ⟨p1, p2, p3⟩ := rstep_sleep_reading cfg s hr
        obtain ⟨s1, hs1⟩ : ∃ s1, s1 = rstep cfg s .sleepOk := ⟨_, rfl⟩
        rw [← hs1] at p1 p2 p3 ⊢
        have hlast := (dropBefore_spec s.connOff hwf).2.2.2 it rest hsub
        have hne : hwm ≠ s.connOff := by have := hh it (dropBefore_mem s.connOff items it (by rw [hsub]; simp)); omega
        obtain ⟨q1, q2⟩ := world_fetch_step cfg items nb hnb hwf s1 p1 p3 (by rw [p2]; exact h.connOff_nonneg hr) b hwm e
          (by rw [p2]; exact hne) (by rw [p2]; exact hsub)
        obtain ⟨s2, hs2⟩ : ∃ s2, s2 = rstep cfg s1 (worldEvent items s1 (.fetch b hwm e)) := ⟨_, rfl⟩
        rw [← hs2] at q1 q2 ⊢
        refine ⟨q1, ?_⟩
        have hlt : it.last < s2.connOff := by omega
        rw [← dropBefore_trans s.connOff s2.connOff (by omega) items, hsub]
        simp only [dropBefore, hlt, if_true]
        have := dropBefore_length_le s2.connOff rest
        rw [hsub] at hl
        simp only [List.length_cons] at hl
        omega

end KV.C02
