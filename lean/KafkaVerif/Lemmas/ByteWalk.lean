/-
Lemmas/ByteWalk.lean — `BR.walk` on the reference encoding of uncompressed v2 batches and v0 / v1 messages, cut at any
byte, emits the truncated token stream of the layout: a header, a record, key + value of a message are pieces
(`Reads`, Lemmas/ByteLayout.lean) of the walk because their readers are `AllOrShort` on them and `Framed`.
-/
import KafkaVerif.Model.ByteWalk
import KafkaVerif.Lemmas.ByteLocal
import KafkaVerif.Lemmas.ByteLayout

namespace KV.C02.BR
open KV KV.RW KV.Spec.RB KV.C02

theorem aos_whole {α : Type} {p : M α} {e : Bytes} {v : α} (h : AllOrShort p e v) (R : Bytes) :
    p ⟨e ++ R, (e ++ R).length⟩ = .ok (v, ⟨R, R.length⟩) := by
  have := (h R (e ++ R).length).1 (by simp)
  rw [this]; simp

/-- `AllOrShort` has the whole `e ++ X` in the stream with `remain = n` ending inside `e`; the walk runs its reader on a set that
IS cut, `⟨bs, bs.length⟩` with only `e.take n` in the stream.  Both have the window `e.take n`: `Framed` carries the error over. -/
theorem aos_cut {α : Type} {p : M α} {e : Bytes} {v : α} (h : AllOrShort p e v) (hf : Framed p) (X : Bytes) (n : Nat)
    (hn : n < e.length) : ∃ er, p ⟨(e ++ X).take n, ((e ++ X).take n).length⟩ = .error er := by
  obtain ⟨r', hr, _⟩ := cut_is_short h hf [] n hn
  rw [length_take_append X hn, List.take_append_of_le_length (by omega), ← List.append_nil (e.take n)]
  exact ⟨_, hr⟩

section
variable (dgv : Int → RecView → Nat) (dgm : H1 → Int → Option Bytes → Option Bytes → Nat)

theorem walk_nil (fuel : Nat) (st : WS) : walk dgv dgm fuel st [] = [] := by
  cases fuel <;> simp [walk]

theorem walk_piece {α : Type} {p : M α} {e : Bytes} {v : α} (haos : AllOrShort p e v) (hfr : Framed p) (hpos : 0 < e.length)
    {s s₁ : WS} {t : Tok} (hsz : t.size = e.length)
    (hok : ∀ fuel X, p ⟨e ++ X, (e ++ X).length⟩ = .ok (v, ⟨X, X.length⟩) →
      walk dgv dgm (fuel + 1) s (e ++ X) = t :: walk dgv dgm fuel s₁ X)
    (herr : ∀ fuel bs er, bs.isEmpty = false → p ⟨bs, bs.length⟩ = .error er → walk dgv dgm (fuel + 1) s bs = [.cut]) :
    Piece (walk dgv dgm) s e t s₁ :=
  ⟨hsz, hpos, fun fuel X => hok fuel X (aos_whole haos X), fun fuel k X hk hlt =>
    let ⟨er, h⟩ := aos_cut haos hfr X k hlt
    herr fuel _ er (isEmpty_take_append X hk hpos) h⟩

theorem walk_hdr_err (fuel : Nat) (bs : Bytes) (er : RErr × Rd) (hne : bs.isEmpty = false)
    (h : readHeaderB ⟨bs, bs.length⟩ = .error er) : walk dgv dgm (fuel + 1) .hdr bs = [.cut] := by
  simp only [walk, hne, Bool.false_eq_true, if_false, h]

theorem walk_recs (dg2 : Int → RecV2 → Nat) (hdg : ∀ fts r, dgv fts (viewOf r) = dg2 fts r) (h : H2) : ∀ recs : List RecV2,
    Reads (walk dgv dgm) (if recs.length = 0 then .hdr else .recs h recs.length) (encRecs recs)
      (recs.map (r2Tok dg2 h.firstTs)) .hdr
  | [] => .nil _
  | r :: rs => by
    have hpos := encRec_pos r
    refine .cons (walk_piece dgv dgm (readRecordV2_spec r) framed_readRecordV2 hpos (t := r2Tok dg2 h.firstTs r) rfl
      (fun fuel X hr => ?_) (fun fuel bs er hne hr => ?_)) (walk_recs dg2 hdg h rs)
    · simp only [List.length_cons, Nat.add_one_ne_zero, if_false, walk, isEmpty_append_false hpos, Bool.false_eq_true, hr,
        hdg, Nat.add_one_le_iff, Nat.lt_one_iff, Nat.add_sub_cancel]
      rfl
    · simp only [List.length_cons, Nat.add_one_ne_zero, if_false, walk, hne, Bool.false_eq_true, hr]

theorem walk_plain2 (dg2 : Int → RecV2 → Nat) (hdg : ∀ fts r, dgv fts (viewOf r) = dg2 fts r) (crc : Bytes → Nat)
    (b : BBatch) (hb : b.frame.WF) :
    Reads (walk dgv dgm) .hdr (encFrame crc b.frame) (tokensOf (b.item dg2)) .hdr := by
  have hpos := encH2_pos (crc (frameBody b.frame)) b.frame
  rw [encFrame_split, tokensOf_plain2]
  refine .cons (walk_piece dgv dgm (readHeaderB_v2 _ b.frame hb) framed_readHeaderB hpos (encH2_length _ _).symm
    (fun fuel X hr => ?_) (walk_hdr_err dgv dgm)) (walk_recs dgv dgm dg2 hdg (h2Of b.frame) b.recs)
  simp only [walk, isEmpty_append_false hpos, Bool.false_eq_true, if_false, hr]
  rw [show b.frame.count.toNat = b.recs.length from rfl]
  rfl

theorem walk_v1 (dg1 : Msg → Nat)
    (hdm : ∀ m : Msg, m.WF → dgm (h1Of m) m.ts m.key m.value = dg1 m)
    (cv : Nat) (m : Msg) (hwf : m.WF) :
    Reads (walk dgv dgm) .hdr (encH1 cv m ++ encB1 m)
      [Tok.h1 m.magic.toNat m.offset (m.attributes % 8 != 0), Tok.kv (dg1 m) (encB1 m).length] .hdr := by
  have hposH := encH1_pos cv m
  have ⟨_, hmag, _⟩ := hwf
  have hpos := encB1_pos m
  have hkv : InRange M32 (optLen m.key : Int) ∧ InRange M32 (optLen m.value : Int) := by
    have ⟨_, _, _, _, _, hsizes⟩ := hwf; unfold InRange M32 at *; omega
  refine .cons (s₁ := .body (h1Of m) m.ts)
    (walk_piece dgv dgm (readHeaderB_v1 cv m hwf) framed_readHeaderB hposH (hdr1Size_eq cv m hmag) (fun fuel X hr => ?_)
      (walk_hdr_err dgv dgm))
    (.single <| walk_piece dgv dgm (readBodyV1_spec m hkv.1 hkv.2) framed_readBodyV1 hpos rfl (fun fuel X hr => ?_)
      (fun fuel bs er hne hr => ?_))
  · simp only [walk, isEmpty_append_false hposH, Bool.false_eq_true, if_false, hr]
    rfl
  · simp only [walk, isEmpty_append_false hpos, Bool.false_eq_true, if_false, hr, hdm m hwf]
    rw [List.length_append, Nat.add_sub_cancel]
  · simp only [walk, hne, Bool.false_eq_true, if_false, hr]

end

/-- what the walk covers: uncompressed v2 batches and uncompressed v0 / v1 messages -/
def PlainItem : BItem → Prop
  | .plain2 _ => True
  | .msg _ => True
  | _ => False

theorem walk_items (dgv : Int → RecView → Nat) (dgm : H1 → Int → Option Bytes → Option Bytes → Nat) (c : TokCfg)
    (enc : Int → Bytes → Bytes) (hdg : ∀ fts r, dgv fts (viewOf r) = c.dg2 fts r)
    (hdm : ∀ m : Msg, m.WF → dgm ⟨m.offset, m.magic, m.attributes, (encB1 m).length⟩ m.ts m.key m.value = c.dg1 m) :
    ∀ (its : List BItem), (∀ it ∈ its, it.WF c enc ∧ PlainItem it) → ∀ (n fuel : Nat), n < fuel →
      walk dgv dgm fuel .hdr ((encItems c enc its).take n) = truncate (allTokens (layoutOfItems c enc its)) n := by
  intro its hwf
  refine Reads.truncated (walk_nil dgv dgm) (s' := .hdr) ?_
  induction its with
  | nil => exact .nil _
  | cons it its ih =>
    refine Reads.append ?_ (ih fun x hx => hwf x (by simp [hx]))
    obtain ⟨hit, hplain⟩ := hwf it (by simp)
    cases it with
    | plain2 b => exact walk_plain2 dgv dgm c.dg2 hdg _ b hit
    | msg m =>
      rw [BItem.bytes, encMsg_split, tokensOf_msg c enc m hit.1 hit.2]
      exact walk_v1 dgv dgm c.dg1 hdm _ m hit.1
    | comp2 hdr codec recs => exact hplain.elim
    | wrap m codec inner => exact hplain.elim

/-- `walk_items` for a set of uncompressed v2 batches only, on the encoder `encSetV2` and the layout `layoutOf` -/
theorem walk_set (dgv : Int → RecView → Nat) (dgm : H1 → Int → Option Bytes → Option Bytes → Nat) (dg2 : Int → RecV2 → Nat) (hdg : ∀ fts r, dgv fts (viewOf r) = dg2 fts r)
    (crc : Bytes → Nat) :
    ∀ (bs : List BBatch), (∀ b ∈ bs, b.frame.WF) → ∀ (n fuel : Nat), n < fuel →
      walk dgv dgm fuel .hdr ((encSetV2 crc bs).take n) = truncate (allTokens (layoutOf dg2 bs)) n := by
  intro bs hwf
  refine Reads.truncated (walk_nil dgv dgm) (s' := .hdr) ?_
  induction bs with
  | nil => exact .nil _
  | cons b bs ih =>
    exact (walk_plain2 dgv dgm dg2 hdg crc b (hwf b (by simp))).append (ih fun x hx => hwf x (by simp [hx]))

end KV.C02.BR
