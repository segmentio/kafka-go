/- Lemmas/Pool.lean — the three pool models of Model/Pool.lean: `Pool` (who wraps which object: the invariant is preserved by
every step of the code as it is), `CfgPool` (objects keep their configuration under the pool-key policy), `LibWrapper`
(a recycled library object keeps its configuration).  `sync.Pool` is modelled a second time, for the hasher pool of the
balancers, with callers in place of wrappers: `Balancer.Pool` in Model/Balancer.lean, Lemmas/BalancerPool.lean. -/
import KafkaVerif.Model.Pool
import KafkaVerif.Base.Run

namespace KV.Model.Pool

/-- closing wrapper `h` takes exactly its object `x` out of the live list (the `close` case of `step_occ`) -/
theorem live_set_none (hs : List (Option Nat)) (h x : Nat) (hx : hs[h]? = some (some x)) :
    (x :: (hs.set h none).filterMap id).Perm (hs.filterMap id) := by
  induction hs generalizing h with
  | nil => simp at hx
  | cons a t ih =>
    cases h with
    | zero =>
      simp at hx; subst hx
      simp
    | succ h =>
      simp only [List.getElem?_cons_succ] at hx
      have := ih h hx
      cases a with
      | none => simpa [List.filterMap_cons] using this
      | some y =>
        simp only [List.set_cons_succ, List.filterMap_cons, id]
        exact (List.Perm.swap y x _).trans (this.cons y)

theorem inv_init : Inv init := by intro x; simp [init, occ, live]

/-- What a step of the code as it is does to the number of places an object is in: only `acquire none` adds a place, for
the fresh object; `acquire (some y)` and `close` move an object between pool and wrapper; `drop` only removes, `touch` changes
nothing.  `dangling` is left as it is (that it is empty is carried along by `inv_run`). -/
theorem step_occ (s s' : PState) (e : PEv) (hf : faithfulEv e = true) (h : step s e = some s') :
    s'.dangling = s.dangling ∧
      ((s'.fresh = s.fresh ∧ ∀ x, occ s' x ≤ occ s x) ∨
       (s'.fresh = s.fresh + 1 ∧ ∀ x, occ s' x = occ s x + if s.fresh = x then 1 else 0)) := by
  cases e with
  | acquire sel =>
    cases sel with
    | none =>
      cases h
      refine ⟨rfl, .inr ⟨rfl, fun x => ?_⟩⟩
      simp only [occ, live, List.filterMap_append, List.filterMap_cons, List.filterMap_nil, id, List.count_append, List.count_singleton, beq_iff_eq, Nat.add_assoc]
    | some y =>
      simp only [step] at h
      split at h
      · rename_i hy
        cases h
        refine ⟨rfl, .inl ⟨rfl, fun x => ?_⟩⟩
        have hpos : 0 < s.pool.count y := List.count_pos_iff.mpr hy
        simp only [occ, live, List.filterMap_append, List.filterMap_cons, List.filterMap_nil, id, List.count_append, List.count_singleton]
        by_cases hxe : y = x
        · subst hxe
          rw [List.count_erase_self, beq_self_eq_true, if_pos rfl]; omega
        · rw [List.count_erase_of_ne (Ne.symm hxe), if_neg (by simpa using hxe)]; omega
      · cases h
  | close hd =>
    simp only [step] at h
    cases hg : s.handles[hd]? with
    | none => rw [hg] at h; cases h
    | some o =>
      rw [hg] at h
      cases o with
      | none => cases h; exact ⟨rfl, .inl ⟨rfl, fun _ => Nat.le_refl _⟩⟩
      | some y =>
        cases h
        refine ⟨rfl, .inl ⟨rfl, fun x => ?_⟩⟩
        have hperm := (live_set_none s.handles hd y hg).count_eq x
        simp only [occ, live, List.count_cons] at hperm ⊢
        omega
  | drop y =>
    simp only [step] at h
    split at h
    · cases h
      exact ⟨rfl, .inl ⟨rfl, fun x => Nat.add_le_add_right ((List.erase_sublist (a := y) (l := s.pool)).count_le x) _⟩⟩
    · cases h
  | touch hd =>
    simp only [step] at h
    split at h
    · cases h; exact ⟨rfl, .inl ⟨rfl, fun _ => Nat.le_refl _⟩⟩
    · cases h
  | closeKeep hd => cases hf
  | putKeep hd => cases hf
  | touchDangling x => cases hf

theorem inv_step (s s' : PState) (e : PEv) (hf : faithfulEv e = true) (hi : Inv s) (h : step s e = some s') : Inv s' := by
  intro x
  obtain ⟨h1, h2⟩ := hi x
  rcases (step_occ s s' e hf h).2 with ⟨hfr, hle⟩ | ⟨hfr, heq⟩
  · have := hle x
    exact ⟨by omega, fun hp => hfr ▸ h2 (by omega)⟩
  · -- the fresh object was nowhere before
    rw [hfr, heq x]
    by_cases hx : s.fresh = x
    · subst hx
      have h0 : occ s s.fresh = 0 := Nat.eq_zero_of_not_pos fun hp => Nat.lt_irrefl _ (h2 hp)
      rw [h0, if_pos rfl]; exact ⟨Nat.le_refl _, fun _ => Nat.lt_succ_self _⟩
    · rw [if_neg hx]; exact ⟨h1, fun hp => Nat.lt_succ_of_lt (h2 hp)⟩

namespace Inv

theorem no_sharing {s : PState} (hi : Inv s) : (live s).Nodup ∧ s.pool.Nodup ∧ ∀ x ∈ s.pool, x ∉ live s := by
  refine ⟨List.nodup_iff_count.mpr fun x => ?_, List.nodup_iff_count.mpr fun x => ?_, fun x hx hl => ?_⟩
  · have := (hi x).1; unfold occ at this; omega
  · have := (hi x).1; unfold occ at this; omega
  · have := (hi x).1
    have h1 : 0 < s.pool.count x := List.count_pos_iff.mpr hx
    have h2 : 0 < (live s).count x := List.count_pos_iff.mpr hl
    unfold occ at this; omega

theorem touch {s : PState} (hi : Inv s) (hd x : Nat) (hx : s.handles[hd]? = some (some x)) :
    step s (.touch hd) = some s ∧ x ∉ s.pool ∧ (live s).count x = 1 := by
  have hmem : x ∈ live s := by
    simp only [live, List.mem_filterMap, id]
    exact ⟨some x, List.mem_of_getElem? hx, rfl⟩
  have hpos : 0 < (live s).count x := List.count_pos_iff.mpr hmem
  have hocc := (hi x).1
  unfold occ at hocc
  refine ⟨by simp [step, hx], fun hp => ?_, by omega⟩
  have : 0 < s.pool.count x := List.count_pos_iff.mpr hp
  omega

end Inv

theorem run_eq (s : PState) (es : List PEv) : run s es = es.foldlM step s :=
  Run.eq_foldlM (fun _ => rfl) (fun s e es => by rw [run]; cases step s e <;> rfl) es s

/-- (`dangling = []` is carried along: `touch_exclusive` needs it) -/
theorem inv_run (es : List PEv) (s0 s : PState) (hf : faithful es = true) (h0 : Inv s0 ∧ s0.dangling = [])
    (hr : run s0 es = some s) : Inv s ∧ s.dangling = [] :=
  Run.invariant_mem (P := fun s => Inv s ∧ s.dangling = [])
    (fun s e s' he h hs =>
      have hfe := List.all_eq_true.mp hf e he
      ⟨inv_step s s' e hfe h.1 hs, (step_occ s s' e hfe hs).1.trans h.2⟩)
    (run_eq s0 es ▸ hr) h0

end KV.Model.Pool

namespace KV.Model.CfgPool

theorem takeKey_spec (key : Nat) (pool : List (Nat × Obj)) (o : Obj) (rest : List (Nat × Obj))
    (h : takeKey key pool = some (o, rest)) : (key, o) ∈ pool ∧ ∀ e ∈ rest, e ∈ pool := by
  induction pool generalizing o rest with
  | nil => simp [takeKey] at h
  | cons x xs ih =>
    obtain ⟨k, ob⟩ := x
    simp only [takeKey] at h
    by_cases hk : k = key
    · simp only [hk, if_true, Option.some.injEq, Prod.mk.injEq] at h
      obtain ⟨h1, h2⟩ := h
      subst h1; subst h2; subst hk
      exact ⟨by simp, fun e he => by simp [he]⟩
    · simp only [hk, if_false] at h
      cases ht : takeKey key xs with
      | none => simp [ht] at h
      | some p =>
        obtain ⟨o', rest'⟩ := p
        simp only [ht, Option.some.injEq, Prod.mk.injEq] at h
        obtain ⟨h1, h2⟩ := h
        subst h1; subst h2
        have := ih o' rest' ht
        refine ⟨by simp [this.1], fun e he => ?_⟩
        simp only [List.mem_cons] at he ⊢
        rcases he with he | he
        · exact Or.inl he
        · exact Or.inr (this.2 e he)

theorem inv_init (rp : Nat → Bool) : Inv rp init := by simp [Inv, init]

theorem inv_step (rp : Nat → Bool) (s s' : St) (e : Ev) (hp : policyEv rp e = true) (hi : Inv rp s)
    (h : step s e = some s') : Inv rp s' := by
  obtain ⟨hh, hpool⟩ := hi
  -- a new wrapper whose object is configured as requested, over a pool that only lost entries
  have push : ∀ (hd : Handle) (pool' : List (Nat × Obj)) (f' : Nat), hd.obj.baked = hd.cfg →
      (rp hd.key = false → hd.cfg = hd.key) → (∀ e ∈ pool', e ∈ s.pool) → Inv rp ⟨pool', s.handles ++ [hd], f'⟩ := by
    intro hd pool' f' h1 h2 hsub
    refine ⟨fun x hx => ?_, fun e he => hpool e (hsub e he)⟩
    rcases List.mem_append.mp hx with hx | hx
    · exact hh x hx
    · cases List.mem_singleton.mp hx; exact ⟨h1, h2⟩
  cases e with
  | acquire key cfg reuse reapply =>
    simp only [policyEv, Bool.and_eq_true, beq_iff_eq, Bool.or_eq_true] at hp
    obtain ⟨hre, hkc⟩ := hp
    have hkey : rp key = false → cfg = key := fun hrf => by
      rcases hkc with hk | hk
      · rw [hrf] at hk; cases hk
      · exact hk.symm
    simp only [step] at h
    cases hf : (if reuse = true then takeKey key s.pool else none) with
    | none => rw [hf] at h; cases h; exact push _ _ _ rfl hkey (fun _ h => h)
    | some p =>
      obtain ⟨o, rest⟩ := p
      rw [hf] at h; cases h
      have hreuse : takeKey key s.pool = some (o, rest) := by
        cases reuse with
        | true => exact hf
        | false => cases hf
      have hts := takeKey_spec key s.pool o rest hreuse
      refine push _ _ _ ?_ hkey hts.2
      -- an object that is not re-configured comes from the pool of its own configuration
      cases reapply with
      | true => rfl
      | false => exact (hpool (key, o) hts.1 hre.symm).trans (hkey hre.symm).symm
  | close hx =>
    simp only [step] at h
    cases hg : s.handles[hx]? with
    | none => rw [hg] at h; cases h
    | some hd =>
      rw [hg] at h; cases h
      refine ⟨fun x hxm => hh x ((List.eraseIdx_sublist s.handles hx).subset hxm), fun e he hrf => ?_⟩
      rcases List.mem_cons.mp he with rfl | he
      · have := hh hd (List.mem_of_getElem? hg)
        exact this.1.trans (this.2 hrf)
      · exact hpool e he hrf

theorem run_eq (s : St) (es : List Ev) : run s es = es.foldlM step s :=
  Run.eq_foldlM (fun _ => rfl) (fun s e es => by rw [run]; cases step s e <;> rfl) es s

theorem inv_run (rp : Nat → Bool) (es : List Ev) (s0 s : St) (hp : policy rp es = true) (h0 : Inv rp s0)
    (hr : run s0 es = some s) : Inv rp s :=
  Run.invariant_mem (fun s e s' he h hs => inv_step rp s s' e (List.all_eq_true.mp hp e he) h hs) (run_eq s0 es ▸ hr) h0

end KV.Model.CfgPool

namespace KV.Model.LibWrapper

theorem cfg_after {σ ι ω : Type} (L : Lib σ ι ω) (cfgOf : σ → Nat) (h : ResetContract L cfgOf) (s : σ) (hist : List ι) :
    cfgOf (after L s hist) = cfgOf s := by
  induction hist generalizing s with
  | nil => rfl
  | cons i is ih =>
    simp only [after, List.foldl_cons] at ih ⊢
    rw [ih (useOnce L s i)]
    simp only [useOnce, h.cfg_reset, h.cfg_run]

end KV.Model.LibWrapper
