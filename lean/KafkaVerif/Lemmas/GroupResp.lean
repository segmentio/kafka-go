/-
Lemmas/GroupResp.lean — the regenerated parser programs of the group operations of `Conn` (Gen/ConnLegacy.lean, run by
Model/ConnOps.lean `opRead`) applied to the encodings of the responses.  `Parses v f w ks`: at version `v` the parser `f`
reads exactly `w`, appends the error codes `ks` and keeps the version.  A parser applied to a context is a reader
(`P = Ctx → R Ctx`) and the programs chain their steps by `rbind` (Lemmas/ConnOps.lean), so `Parses` is `Reads` of
Lemmas/GroupWire.lean plus what happens to the context.  `opRead_parses` turns a derivation along the program into the
conclusion `Conn` draws from the response.
-/
import KafkaVerif.Lemmas.GroupWire
import KafkaVerif.Lemmas.ConnOps
import KafkaVerif.Model.ConnSpecs
import KafkaVerif.Spec.GroupWire

namespace KV.GroupResp
open KV KV.Reader KV.Legacy KV.Wire KV.ConnOps KV.GroupWire

def Parses (v : Nat) (f : P) (w : Bytes) (ks : List Int) : Prop :=
  ∀ c : Ctx, c.ver = v → ∃ c', Reads (f c) w c' ∧ c'.ver = v ∧ c'.errs = c.errs ++ ks

def evCodes : Ev → List Int
  | .err k => [k]
  | _ => []

theorem errs_push {c c' : Ctx} {e : Ev} (h : c'.evs = e :: c.evs) : c'.errs = c.errs ++ evCodes e := by
  unfold Ctx.errs
  rw [h, List.reverse_cons, List.filterMap_append]
  cases e <;> rfl

theorem parses_nil (v : Nat) : Parses v (runSteps []) [] [] := by
  intro c hc
  exact ⟨c, Reads.pure c, hc, (List.append_nil _).symm⟩

namespace Parses

theorem congr {v : Nat} {f : P} {w w' : Bytes} {ks ks' : List Int} (h : Parses v f w ks) (hw : w' = w)
    (hk : ks' = ks) : Parses v f w' ks' := by
  subst hw hk; exact h

theorem of_reads {α : Type} {v : Nat} {m : R α} {w : Bytes} {a : α} (hm : Reads m w a) {f : Ctx → α → Ctx} {ks : List Int}
    (hv : ∀ c, (f c a).ver = c.ver) (he : ∀ c, (f c a).errs = c.errs ++ ks) : Parses v (lift m f) w ks :=
  fun c hc => ⟨f c a, hm.bind_pure (f c), (hv c).trans hc, he c⟩

theorem seq {v : Nat} {f g : P} {w w' : Bytes} {ks ks' : List Int} (h1 : Parses v f w ks) (h2 : Parses v g w' ks') :
    Parses v (fun c => rbind (f c) g) (w ++ w') (ks ++ ks') := by
  intro c hc
  obtain ⟨c1, r1, v1, k1⟩ := h1 c hc
  obtain ⟨c2, r2, v2, k2⟩ := h2 c1 v1
  exact ⟨c2, r1.bind r2, v2, by rw [k2, k1, List.append_assoc]⟩

theorem cons {v : Nat} {st : Step} {rest : List Step} {w w' : Bytes} {ks ks' : List Int}
    (h1 : Parses v (runStep st) w ks) (h2 : Parses v (runSteps rest) w' ks') :
    Parses v (runSteps (st :: rest)) (w ++ w') (ks ++ ks') := by
  rw [runSteps_cons]; exact h1.seq h2

theorem single {v : Nat} {st : Step} {w : Bytes} {ks : List Int} (h : Parses v (runStep st) w ks) :
    Parses v (runSteps [st]) w ks :=
  (h.cons (parses_nil v)).congr (List.append_nil w).symm (List.append_nil ks).symm

end Parses

theorem parses_int {v n : Nat} {i : Int} (hn : 0 < n) (h : Fits n i) : Parses v (runStep (.int n)) (encInt n i) [] := by
  rw [runStep]; exact Parses.of_reads (reads_int hn h) (fun _ => rfl) (fun _ => errs_push (e := .int i) rfl)

theorem parses_err {v : Nat} {k : Int} (h : Fits 2 k) : Parses v (runStep .err) (encInt 2 k) [k] := by
  rw [runStep]; exact Parses.of_reads (reads_int (by decide) h) (fun _ => rfl) (fun _ => errs_push (e := .err k) rfl)

theorem parses_str {v : Nat} {b : Bytes} (h : b.length < 32768) : Parses v (runStep .str) (writeString b) [] := by
  rw [runStep]; exact Parses.of_reads (reads_string h) (fun _ => rfl) (fun _ => errs_push (e := .str b) rfl)

theorem parses_bytes {v : Nat} {b : Bytes} (h : b.length < 2147483648) : Parses v (runStep .bytes) (writeBytes b) [] := by
  rw [runStep]; exact Parses.of_reads (reads_bytes h) (fun _ => rfl) (fun _ => errs_push (e := .int b.length) rfl)

theorem parses_ifGe_lt {v n : Nat} (body : List Step) (h : v < n) : Parses v (runStep (.ifGe n body)) [] [] := by
  intro c hc
  have hlt : ¬ c.ver ≥ n := hc ▸ Nat.not_le.mpr h
  refine ⟨c, ?_, hc, (List.append_nil _).symm⟩
  rw [runStep]
  simp only [hlt, ↓reduceIte]
  exact Reads.pure c

theorem parses_iter {α : Type} {v : Nat} {f : P} {w : α → Bytes} {k : α → List Int} :
    ∀ {l : List α}, (∀ x ∈ l, Parses v f (w x) (k x)) → Parses v (iter l.length f) (l.map w).flatten (l.flatMap k)
  | [], _ => fun c hc => ⟨c, Reads.pure c, hc, (List.append_nil _).symm⟩
  | x :: l, h => by
    rw [List.length_cons, iter_succ]
    exact (h x List.mem_cons_self).seq (parses_iter fun y hy => h y (List.mem_cons_of_mem _ hy))

theorem parses_arr {α : Type} {v : Nat} {body : List Step} {w : α → Bytes} {k : α → List Int} {l : List α}
    (hn : l.length < 2147483648) (h : ∀ x ∈ l, Parses v (runSteps body) (w x) (k x)) :
    Parses v (runStep (.arr body)) (encInt 4 l.length ++ (l.map w).flatten) (l.flatMap k) := by
  intro c hc
  obtain ⟨c', r, hv, hk⟩ := parses_iter h c hc
  refine ⟨c', ?_, hv, hk⟩
  rw [runStep_arr]
  exact (reads_int (by decide) (natCast_inRng 4 _ hn)).bind (by rw [Int.toNat_natCast]; exact r)

/-- what `Conn` concludes from a response whose parse recorded the codes `ks`: the first non-zero one -/
def firstCode (ks : List Int) : Outcome :=
  match ks.find? (fun k => k != 0) with | some k => Outcome.kafka k | none => Outcome.ok

/-- what `Conn` concludes from a response with one error code -/
def concl (code : Int) : Outcome := if code = 0 then .ok else .kafka code

theorem firstCode_single (code : Int) : firstCode [code] = concl code := by
  unfold firstCode concl
  by_cases h0 : code = 0 <;> simp [h0]

theorem firstCode_eq_concl (ks : List Int) : firstCode ks = concl (KV.Spec.GroupWire.firstError ks) := by
  unfold firstCode KV.Spec.GroupWire.firstError
  cases h : ks.find? (fun k => k != 0) with
  | none => rfl
  | some k =>
    have hk : k ≠ 0 := by simpa using List.find?_some h
    simp [concl, hk]

theorem opRead_parses {v : Nat} {prog : List Step} {w : Bytes} {ks : List Int} (h : Parses v (runSteps prog) w ks)
    (method : String) (topic : Bytes) :
    opRead (simpleOp method prog) v topic ⟨w, w.length⟩ = (firstCode ks, ⟨[], 0⟩) := by
  obtain ⟨c', r, _, hk⟩ := h { ver := v } rfl
  have e := r.tight []
  rw [List.append_nil] at e
  have he : c'.errs = ks := hk
  unfold opRead
  simp only [simpleOp, e, Post.eval, he, firstCode]
  -- `simpleOp` skips no code: `Post.firstErr []`
  have hf : (List.find? (fun k => k ≠ 0 && !([] : List Int).contains k) ks) = ks.find? (fun k => k != 0) := by
    congr 1; funext k; by_cases hk : k = 0 <;> simp [hk]
  simp only [hf]
  cases ks.find? (fun k => k != 0) <;> simp

/-! ### OffsetCommit v2 response: [topic [partition error_code]] -/

def encCPart (pc : Int × Int) : Bytes := encInt 4 pc.1 ++ encInt 2 pc.2
def encCTopic (t : Bytes × List (Int × Int)) : Bytes := writeString t.1 ++ encInt 4 t.2.length ++ (t.2.map encCPart).flatten
def encCResp (ts : List (Bytes × List (Int × Int))) : Bytes := encInt 4 ts.length ++ (ts.map encCTopic).flatten

def PartOK (pc : Int × Int) : Prop := Fits 4 pc.1 ∧ Fits 2 pc.2
def CTopicOK (t : Bytes × List (Int × Int)) : Prop := t.1.length < 32768 ∧ t.2.length < 2147483648 ∧ ∀ pc ∈ t.2, PartOK pc

def ccodesOf (ts : List (Bytes × List (Int × Int))) : List Int := ts.flatMap (fun t => t.2.map (·.2))

theorem parses_cpart {v : Nat} {pc : Int × Int} (h : PartOK pc) : Parses v (runSteps [.int 4, .err]) (encCPart pc) [pc.2] :=
  (parses_int (by decide) h.1).cons (parses_err h.2).single

theorem parses_ctopic {v : Nat} {t : Bytes × List (Int × Int)} (h : CTopicOK t) :
    Parses v (runSteps [.str, .arr [.int 4, .err]]) (encCTopic t) (t.2.map (·.2)) :=
  ((parses_str h.1).cons (parses_arr h.2.1 fun pc hpc => parses_cpart (h.2.2 pc hpc)).single).congr
    (List.append_assoc ..) List.map_eq_flatMap

theorem offsetCommit_conclusion (ts : List (Bytes × List (Int × Int))) (hn : ts.length < 2147483648)
    (h : ∀ t ∈ ts, CTopicOK t) (topic : Bytes) :
    opRead (simpleOp "offsetCommit" KV.Gen.ConnLegacy.offsetCommitResponseV2) 2 topic ⟨encCResp ts, (encCResp ts).length⟩ =
      (firstCode (ccodesOf ts), ⟨[], 0⟩) :=
  opRead_parses (parses_arr hn fun t ht => parses_ctopic (h t ht)).single _ topic

/-! ### OffsetFetch v1 response: [topic [partition offset metadata error_code]] -/

abbrev FPart := Int × Int × Bytes × Int     -- partition, offset, metadata, error code

def encFPart (x : FPart) : Bytes := encInt 4 x.1 ++ encInt 8 x.2.1 ++ writeString x.2.2.1 ++ encInt 2 x.2.2.2
def encFTopic (t : Bytes × List FPart) : Bytes := writeString t.1 ++ encInt 4 t.2.length ++ (t.2.map encFPart).flatten
def encFResp (ts : List (Bytes × List FPart)) : Bytes := encInt 4 ts.length ++ (ts.map encFTopic).flatten

def FPartOK (x : FPart) : Prop := Fits 4 x.1 ∧ Fits 8 x.2.1 ∧ x.2.2.1.length < 32768 ∧ Fits 2 x.2.2.2
def FTopicOK (t : Bytes × List FPart) : Prop := t.1.length < 32768 ∧ t.2.length < 2147483648 ∧ ∀ x ∈ t.2, FPartOK x

def fcodesOf (ts : List (Bytes × List FPart)) : List Int := ts.flatMap (fun t => t.2.map (·.2.2.2))

theorem parses_fpart {v : Nat} {x : FPart} (h : FPartOK x) :
    Parses v (runSteps [.int 4, .int 8, .str, .err]) (encFPart x) [x.2.2.2] :=
  ((parses_int (by decide) h.1).cons ((parses_int (by decide) h.2.1).cons
    ((parses_str h.2.2.1).cons (parses_err h.2.2.2).single))).congr (by simp only [encFPart, List.append_assoc]) rfl

theorem parses_ftopic {v : Nat} {t : Bytes × List FPart} (h : FTopicOK t) :
    Parses v (runSteps [.str, .arr [.int 4, .int 8, .str, .err]]) (encFTopic t) (t.2.map (·.2.2.2)) :=
  ((parses_str h.1).cons (parses_arr h.2.1 fun x hx => parses_fpart (h.2.2 x hx)).single).congr
    (List.append_assoc ..) List.map_eq_flatMap

theorem offsetFetch_conclusion (ts : List (Bytes × List FPart)) (hn : ts.length < 2147483648)
    (h : ∀ t ∈ ts, FTopicOK t) (topic : Bytes) :
    opRead (simpleOp "offsetFetch" KV.Gen.ConnLegacy.offsetFetchResponseV1) 1 topic ⟨encFResp ts, (encFResp ts).length⟩ =
      (firstCode (fcodesOf ts), ⟨[], 0⟩) :=
  opRead_parses (parses_arr hn fun t ht => parses_ftopic (h t ht)).single _ topic

/-! ### Heartbeat v0, LeaveGroup v0: error_code -/

/-- The program is a variable with an equation so that callers can
pass the generated constant (`heartbeatResponseV0`, `leaveGroupResponseV0`) and close `hp` by `rfl`. -/
theorem errOnly_conclusion (method : String) (prog : List Step) (hp : prog = [.err]) (code : Int) (hc : Fits 2 code) (topic : Bytes) :
    opRead (simpleOp method prog) 0 topic ⟨encInt 2 code, 2⟩ = (concl code, ⟨[], 0⟩) := by
  subst hp
  have := opRead_parses (v := 0) (parses_err hc).single method topic
  rwa [encInt_length, firstCode_single] at this

/-! ### FindCoordinator v0: error_code node_id host port -/

def encFind (code node : Int) (host : Bytes) (port : Int) : Bytes :=
  encInt 2 code ++ encInt 4 node ++ writeString host ++ encInt 4 port

theorem findCoordinator_conclusion (code node port : Int) (host topic : Bytes)
    (h1 : Fits 2 code) (h2 : Fits 4 node) (h3 : host.length < 32768) (h4 : Fits 4 port) :
    opRead (simpleOp "findCoordinator" KV.Gen.ConnLegacy.findCoordinatorResponseV0) 0 topic
        ⟨encFind code node host port, (encFind code node host port).length⟩ = (concl code, ⟨[], 0⟩) := by
  have p : Parses 0 (runSteps KV.Gen.ConnLegacy.findCoordinatorResponseV0) (encFind code node host port) [code] :=
    ((parses_err h1).cons ((parses_int (by decide) h2).cons ((parses_str h3).cons (parses_int (by decide) h4).single))).congr
      (by simp only [encFind, List.append_assoc]) rfl
  rw [opRead_parses p, firstCode_single]

/-! ### SyncGroup v0: error_code assignment(bytes) -/

def encSync (code : Int) (a : Bytes) : Bytes := encInt 2 code ++ writeBytes a

theorem syncGroup_conclusion (code : Int) (a topic : Bytes) (h1 : Fits 2 code) (h2 : a.length < 2147483648) :
    opRead (simpleOp "syncGroup" KV.Gen.ConnLegacy.syncGroupResponseV0) 0 topic
        ⟨encSync code a, (encSync code a).length⟩ = (concl code, ⟨[], 0⟩) := by
  have p : Parses 0 (runSteps KV.Gen.ConnLegacy.syncGroupResponseV0) (encSync code a) [code] :=
    (parses_err h1).cons (parses_bytes h2).single
  rw [opRead_parses p, firstCode_single]

/-! ### JoinGroup v1: error_code generation_id protocol leader member [member_id metadata] -/

def encMember (m : Bytes × Bytes) : Bytes := writeString m.1 ++ writeBytes m.2
def MemberOK (m : Bytes × Bytes) : Prop := m.1.length < 32768 ∧ m.2.length < 2147483648

def encJoin (code gen : Int) (proto leader member : Bytes) (ms : List (Bytes × Bytes)) : Bytes :=
  encInt 2 code ++ encInt 4 gen ++ writeString proto ++ writeString leader ++ writeString member ++
    encInt 4 ms.length ++ (ms.map encMember).flatten

theorem parses_member {v : Nat} {m : Bytes × Bytes} (h : MemberOK m) : Parses v (runSteps [.str, .bytes]) (encMember m) [] :=
  (parses_str h.1).cons (parses_bytes h.2).single

theorem parses_join {code gen : Int} {proto leader member : Bytes} {ms : List (Bytes × Bytes)}
    (h1 : Fits 2 code) (h2 : Fits 4 gen) (h3 : proto.length < 32768) (h4 : leader.length < 32768)
    (h5 : member.length < 32768) (h6 : ms.length < 2147483648) (h7 : ∀ m ∈ ms, MemberOK m) :
    Parses 1 (runSteps KV.Gen.ConnLegacy.joinGroupResponse) (encJoin code gen proto leader member ms) [code] :=
  ((parses_ifGe_lt _ (by decide)).cons ((parses_err h1).cons ((parses_int (by decide) h2).cons ((parses_str h3).cons
    ((parses_str h4).cons ((parses_str h5).cons (parses_arr h6 fun m hm => parses_member (h7 m hm)).single)))))).congr
    (by simp only [encJoin, List.append_assoc, List.nil_append])
    (by simp only [List.nil_append, List.flatMap_eq_nil_iff.mpr fun _ _ => rfl, List.append_nil])

theorem joinGroup_conclusion (code gen : Int) (proto leader member topic : Bytes) (ms : List (Bytes × Bytes))
    (h1 : Fits 2 code) (h2 : Fits 4 gen) (h3 : proto.length < 32768) (h4 : leader.length < 32768)
    (h5 : member.length < 32768) (h6 : ms.length < 2147483648) (h7 : ∀ m ∈ ms, MemberOK m) :
    opRead (simpleOp "joinGroup" KV.Gen.ConnLegacy.joinGroupResponse) 1 topic
        ⟨encJoin code gen proto leader member ms, (encJoin code gen proto leader member ms).length⟩ = (concl code, ⟨[], 0⟩) := by
  rw [opRead_parses (parses_join h1 h2 h3 h4 h5 h6 h7), firstCode_single]

/-! ### the reference encoders of Spec/GroupWire.lean (strings) for OffsetCommit, FindCoordinator, SyncGroup and JoinGroup
are these byte-level encoders.  `Spec.GroupWire.errOnly` is `encInt 2` by unfolding.  There is no such equation for
OffsetFetch: `encFResp` carries any metadata, `Spec.GroupWire.offsetFetchResp` fixes it to the empty string. -/
section Spec
open KV.Spec.GroupWire

theorem spec_offsetCommitResp (ts : List (String × List (Int × Int))) :
    offsetCommitResp ts = encCResp (ts.map fun t => (t.1.toUTF8.toList, t.2)) := by
  simp only [offsetCommitResp, arr, encCResp, encCTopic, List.length_map, List.map_map,
    Function.comp_def, List.append_assoc]
  rfl

theorem spec_findCoordinatorResp (c : Int) (host : String) (port : Int) :
    findCoordinatorResp c host port = encFind c 1 host.toUTF8.toList port := by
  rfl

theorem spec_syncGroupResp (c : Int) (a : Bytes) : syncGroupResp c a = encSync c a := by
  rfl

theorem spec_joinGroupResp (c g : Int) (proto leader member : String) (ms : List (String × List String)) :
    joinGroupResp c g proto leader member ms =
      encJoin c g proto.toUTF8.toList leader.toUTF8.toList member.toUTF8.toList
        (ms.map fun m => (m.1.toUTF8.toList, subscription m.2)) := by
  simp only [joinGroupResp, encJoin, arr, List.length_map, List.map_map, List.append_assoc]
  rfl
end Spec

end KV.GroupResp
