/-
Lemmas/ReaderStack.lean — the reader stack of message_reader.go keeps to the fetch response: every operation, as a function
of the root (the stack above it given), conserves bytes and looks at the bytes of the response only (`Bound`,
Lemmas/ConnLocal.lean), and so does every run.
-/
import KafkaVerif.Model.ReaderStack
import KafkaVerif.Lemmas.ConnLocal

namespace KV.ReaderStack
open KV KV.Reader KV.ConnOps

theorem Facts.all_true {f : Facts} (h : f.all = true) :
    f.discardRewinds = true ∧ f.v2AccountsConsumed = true ∧ f.v1AccountsConsumed = true := by
  simpa [Facts.all, and_assoc] using h

/-- the codec takes from the Conn what it used, never more than the batch, the frame or the stream holds, and the root is
charged exactly that -/
theorem rootTake_bound {β : Type} (b : β) (used lim : Nat) :
    Bound fun r => (b, rootTake r (min used (min lim (min r.sz r.inp.length))) (min used (min lim (min r.sz r.inp.length)))) := by
  refine ⟨fun r => ?_, fun rest r he => ?_⟩
  · have h : min used (min lim (min r.sz r.inp.length)) ≤ min r.sz r.inp.length :=
      Nat.le_trans (Nat.min_le_right _ _) (Nat.min_le_right _ _)
    exact Adv.drop r _ (Nat.le_trans h (Nat.min_le_left _ _)) (Nat.le_trans h (Nat.min_le_right _ _))
  · have hlen : r.sz ≤ r.inp.length := he
    simp only [ext, List.length_append, rootTake]
    rw [Nat.min_eq_left (Nat.le_trans hlen (Nat.le_add_right _ _)), Nat.min_eq_left hlen,
      List.drop_append_of_le_length (Nat.le_trans (Nat.le_trans (Nat.min_le_right _ _) (Nat.min_le_right _ _)) hlen)]

theorem discardRest_bound {β : Type} (b : β) : Bound fun r => (b, (discardN (↑r.sz) r).2) :=
  ⟨fun r => conserves_discardN _ r, fun rest r he => congrArg (fun p => (b, p.2)) (rlocal_discardN (↑r.sz) rest r he)⟩

/-- with the three accounting facts, every operation of the stack keeps the root's `remain` in step with the bytes taken
from the Conn and leaves what follows the response alone; what it does to the buffers above the root does not depend on
what follows either -/
theorem step_bound (f : Facts) (hf : f.all = true) (ch : List Nat) (o : Op) :
    Bound fun r => ((step f ⟨r, ch⟩ o).children, (step f ⟨r, ch⟩ o).root) := by
  obtain ⟨h1, h2, h3⟩ := Facts.all_true hf
  cases o with
  | read n =>
    cases ch with
    | nil => exact (bound_closed.discardN n).andThen fun _ => .ret []
    | cons c cs => simp only [step]; exact .ret _
  | pushV2 b u d | pushV1 b u d =>
    cases ch with
    | nil => simp only [step, h2, h3, ↓reduceIte]; exact rootTake_bound _ _ _
    | cons c cs => simp only [step]; exact .ret _
  | pop => simp only [step]; exact .ret _
  | discard => simp only [step, h1, ↓reduceIte]; exact discardRest_bound _

theorem run_bound (f : Facts) (hf : f.all = true) :
    ∀ (os : List Op) (ch : List Nat), Bound fun r => ((run f ⟨r, ch⟩ os).children, (run f ⟨r, ch⟩ os).root)
  | [], ch => .ret ch
  | o :: os, ch => (step_bound f hf ch o).andThen fun ch' => run_bound f hf os ch'

end KV.ReaderStack
