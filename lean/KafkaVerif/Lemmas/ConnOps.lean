/-
Lemmas/ConnOps.lean — a parser program is built from three primitives of read.go by sequencing and tests on the frame
counter, so a property kept by those (`Closed`) holds of every program, by one induction over `Step`.  Then `Framed` (a read
closure conserves and, unless it fails, leaves the counter at 0) for `opRead` and `fetchRead`; the one `exchange` that `connDo`
and `connFetch` both are, with what `waitResponse` returns on a given header (`wait_*`); and `LockFacts.all` unpacked
(`LockFacts.all_true`).
-/
import KafkaVerif.Model.ConnOps

namespace KV.ConnOps
open KV KV.Reader

/-! ### a program is a Kleisli arrow of the reader

Model/ConnOps writes the sequencing of its programs as inline `match`es; each is `rbind` (by cases once: the matches are
other auxiliary functions than the one inside `rbind`). -/

theorem runSteps_cons (st : Step) (rest : List Step) :
    runSteps (st :: rest) = fun c => rbind (runStep st c) (runSteps rest) := by
  funext c s
  rw [runSteps]
  unfold rbind
  simp only []
  cases runStep st c s with
  | mk r s' => cases r <;> rfl

theorem iter_succ (n : Nat) (f : P) : iter (n + 1) f = fun c => rbind (f c) (iter n f) := by
  funext c s
  unfold iter rbind
  cases f c s with
  | mk r s' => cases r <;> rfl

theorem readInt_eq_bind (k : Nat) : readInt k = rbind (peekRead k) fun b => rpure (beInt b) := by
  funext s
  unfold readInt rbind
  cases peekRead k s with
  | mk r s' => cases r <;> rfl

theorem runStep_arr (body : List Step) :
    runStep (.arr body) = fun c => rbind (readInt 4) fun n => iter n.toNat (runSteps body) c := by
  funext c s
  unfold runStep rbind
  cases readInt 4 s with
  | mk r s' => cases r <;> rfl

structure Closed (Q : ∀ {α : Type}, R α → Prop) : Prop where
  pure : ∀ {α : Type} (a : α), Q (rpure a)
  throw : ∀ {α : Type} (e : Err), (∀ k, e ≠ .kafka k) → Q (rthrow (α := α) e)
  bind : ∀ {α β : Type} {m : R α} {f : α → R β}, Q m → (∀ a, Q (f a)) → Q (rbind m f)
  /-- a test on the frame counter (`n > sz`, `size != messageSetSize`, `n > size/6`) -/
  onSize : ∀ {α : Type} (p : Nat → Prop) [DecidablePred p] {a b : R α}, Q a → Q b → Q fun s => if p s.sz then a s else b s
  peekRead : ∀ n, Q (peekRead n)
  discardN : ∀ n, Q (discardN n)
  readNewBytes : ∀ n, Q (readNewBytes n)

namespace Closed
variable {Q : ∀ {α : Type}, R α → Prop} (h : Closed Q)
include h

/-- a test that does not look at the state is a test on the counter that ignores it -/
theorem ite {α : Type} (c : Prop) [Decidable c] {a b : R α} (ha : Q a) (hb : Q b) : Q fun s => if c then a s else b s :=
  h.onSize (fun _ => c) ha hb

theorem readInt (k : Nat) : Q (readInt k) := by
  rw [readInt_eq_bind]
  exact h.bind (h.peekRead k) fun b => h.pure _

/-- `rbind (readInt k) g`, in the shape the steps of `runStep` are written in -/
theorem readIntThen {β : Type} (k : Nat) {g : Int → R β} (hg : ∀ n, Q (g n)) :
    Q fun s => match Reader.readInt k s with
      | (.error e, s') => (.error e, s')
      | (.ok n, s') => g n s' := by
  have e : (fun s => match Reader.readInt k s with
      | (.error e, s') => (.error e, s')
      | (.ok n, s') => g n s') = rbind (Reader.readInt k) g := by
    funext s
    unfold rbind
    cases Reader.readInt k s with
    | mk r s' => cases r <;> rfl
  rw [e]
  exact h.bind (h.readInt k) hg

theorem readLenWith {α : Type} (k : Nat) {cb : Int → R α} (hcb : ∀ n, Q (cb n)) : Q (readLenWith k cb) :=
  h.readIntThen k fun n => h.onSize (fun z => n > (z : Int)) (h.throw .shortRead nofun) (hcb n)

theorem discardLen (k : Nat) : Q (discardLen k) :=
  h.readLenWith k fun n => by
    split
    · exact h.pure ()
    · exact h.discardN n

theorem lift {α : Type} {m : R α} (hm : Q m) (f : Ctx → α → Ctx) (c : Ctx) : Q (lift m f c) :=
  h.bind hm fun a => h.pure (f c a)

theorem iter {f : P} (hf : ∀ c, Q (f c)) : ∀ n c, Q (iter n f c)
  | 0, c => h.pure c
  | n + 1, c => by
    rw [iter_succ]
    exact h.bind (hf c) (Closed.iter hf n)

-- `failIfErr` is the one step that throws a kafka error: a program without it needs nothing of `Q` about such a throw
mutual
theorem runStep : ∀ st : Step, (st.hasFail = false ∨ ∀ k, Q (rthrow (α := Ctx) (.kafka k))) → ∀ c, Q (runStep st c)
  | .int n, _, c => by unfold ConnOps.runStep; exact h.lift (h.readInt n) _ c
  | .err, _, c => by unfold ConnOps.runStep; exact h.lift (h.readInt 2) _ c
  | .str, _, c => by unfold ConnOps.runStep; exact h.lift (h.readLenWith 2 h.readNewBytes) _ c
  | .bytes, _, c => by unfold ConnOps.runStep; exact h.lift (h.readLenWith 4 h.readNewBytes) _ c
  | .discStr, _, c => by unfold ConnOps.runStep; exact h.lift (h.discardLen 2) _ c
  | .discBytes, _, c => by unfold ConnOps.runStep; exact h.lift (h.discardLen 4) _ c
  | .disc n, _, c => by unfold ConnOps.runStep; exact h.lift (h.discardN n) _ c
  | .hwm, _, c => by unfold ConnOps.runStep; exact h.lift (h.readInt 8) _ c
  | .setSizeRead, _, c => by unfold ConnOps.runStep; exact h.lift (h.readInt 4) _ c
  | .arr body, hk, c => by
    rw [runStep_arr]
    exact h.bind (h.readInt 4) fun n => h.iter (Closed.runSteps body hk) n.toNat c
  | .arrB elem body, hk, c => by
    unfold ConnOps.runStep
    exact h.readIntThen 4 fun n => h.onSize (fun z => n < 0 ∨ n > (z / elem : Nat)) (h.throw _ nofun)
      (h.iter (Closed.runSteps body hk) n.toNat c)
  | .ifGe v body, hk, c => by
    unfold ConnOps.runStep
    exact h.ite (c.ver ≥ v) (Closed.runSteps body hk c) (h.pure c)
  | .failIfErr, hk, c => by
    unfold ConnOps.runStep
    exact h.ite (c.lastErr ≠ 0) (hk.resolve_left nofun _) (h.pure c)
  | .setSizeCheck, _, c => by
    unfold ConnOps.runStep
    exact h.onSize (fun z => (z : Int) ≠ c.setSize) (h.throw _ nofun) (h.pure c)
  | .expect1, _, c => by
    unfold ConnOps.runStep
    exact h.readIntThen 4 fun n => h.ite (n ≠ 1) (h.throw _ nofun) (h.pure c)
  | .abortedTxs, _, c => by
    unfold ConnOps.runStep
    exact h.readIntThen 4 fun n => h.ite (n = -1) (h.pure c) <| h.ite (n < 0) (h.throw _ nofun) <|
      h.iter (fun c => h.readIntThen 8 fun _ => h.lift (h.readInt 8) _ c) n.toNat c
theorem runSteps : ∀ ps : List Step, (hasFailList ps = false ∨ ∀ k, Q (rthrow (α := Ctx) (.kafka k))) → ∀ c, Q (runSteps ps c)
  | [], _, c => h.pure c
  | st :: rest, hk, c => by
    rw [runSteps_cons]
    exact h.bind (Closed.runStep st (hk.imp_left fun hf => (Bool.or_eq_false_iff.mp hf).1) c)
      (Closed.runSteps rest (hk.imp_left fun hf => (Bool.or_eq_false_iff.mp hf).2))
end

end Closed

def PAdv (f : P) : Prop := ∀ c s, Adv s (f c s).2

theorem conserves_closed : Closed Conserves where
  pure := conserves_pure
  throw e _ := conserves_throw e
  bind := conserves_bind
  onSize p _ a b ha hb := fun s => by
    simp only []
    split
    · exact ha s
    · exact hb s
  peekRead := conserves_peekRead
  discardN := conserves_discardN
  readNewBytes := conserves_readNewBytes

theorem runSteps_adv (ps : List Step) : PAdv (runSteps ps) := conserves_closed.runSteps ps (.inr fun _ => conserves_throw _)

def isKafka : Except Err Ctx → Bool
  | .error (.kafka _) => true
  | _ => false

/-- `f` never ends in a kafka error (as a Boolean test: `Props/C11.kafka_error_needs_check` states it so) -/
def PNoK (f : P) : Prop := ∀ c s, isKafka (f c s).1 = false

/-- the same for a reader, whose result type varies.  The primitives of read.go are trees of tests whose error leaves are
constants, none of them a kafka error: `ne_kafka_ite` at each test. -/
def RNoK {α : Type} (m : R α) : Prop := ∀ s k, (m s).1 ≠ .error (.kafka k)

theorem ne_kafka_ite {α : Type} {k : Int} {c : Prop} [Decidable c] {a b : Except Err α × RS}
    (ha : a.1 ≠ .error (.kafka k)) (hb : b.1 ≠ .error (.kafka k)) : (if c then a else b).1 ≠ .error (.kafka k) := by
  split <;> assumption

theorem rnok_peekRead (n : Nat) : RNoK (peekRead n) := fun s k => by
  unfold peekRead
  exact ne_kafka_ite nofun (ne_kafka_ite nofun nofun)

theorem rnok_discardN (n : Int) : RNoK (discardN n) := fun s k => by
  unfold discardN
  exact ne_kafka_ite (ne_kafka_ite nofun (ne_kafka_ite nofun nofun)) (ne_kafka_ite nofun nofun)

theorem rnok_readNewBytes (n : Int) : RNoK (readNewBytes n) := fun s k => by
  unfold readNewBytes
  exact ne_kafka_ite nofun (ne_kafka_ite (by split <;> nofun) (ne_kafka_ite nofun nofun))

theorem rnok_closed : Closed RNoK where
  pure a := fun _ _ => nofun
  throw e he := fun _ k hk => he k (by cases hk; rfl)
  bind := by
    intro α β m f hm hf s k
    unfold rbind
    cases hp : m s with
    | mk r s' =>
      cases r with
      | ok a => exact hf a s' k
      | error e => exact fun hk => hm s k (by rw [hp]; cases hk; rfl)
  onSize p _ a b ha hb := fun s k => ne_kafka_ite (ha s k) (hb s k)
  peekRead := rnok_peekRead
  discardN := rnok_discardN
  readNewBytes := rnok_readNewBytes

theorem pnok_of_rnok {f : P} (h : ∀ c, RNoK (f c)) : PNoK f := by
  intro c s
  cases hp : (f c s).1 with
  | ok a => rfl
  | error e =>
    cases e with
    | kafka k => exact absurd hp (h c s k)
    | _ => rfl

theorem runStep_nok : ∀ st : Step, st.hasFail = false → PNoK (runStep st) :=
  fun st hf => pnok_of_rnok (rnok_closed.runStep st (.inl hf))

theorem runSteps_nok : ∀ ps : List Step, hasFailList ps = false → PNoK (runSteps ps) :=
  fun ps hf => pnok_of_rnok (rnok_closed.runSteps ps (.inl hf))

theorem discardN_all_ok {s s2 : RS} {u : Unit} (h : discardN (↑s.sz) s = (.ok u, s2)) : s2.sz = 0 := by
  rw [discardN_rest] at h
  split at h <;> cases h
  rfl

theorem discardN_all_enough (s : RS) (he : s.sz ≤ s.inp.length) :
    discardN (↑s.sz) s = (.ok (), ⟨s.inp.drop s.sz, 0⟩) := by
  rw [discardN_rest, if_neg (by omega)]

theorem discardN_all_fail {s s2 : RS} {e : Err} (h : discardN (↑s.sz) s = (.error e, s2)) :
    s2.inp = [] ∧ s.inp.length < s.sz := by
  rw [discardN_rest] at h
  split at h <;> cases h
  exact ⟨rfl, by assumption⟩

theorem drainKafka_adv (fixed : Bool) (k : Int) (s : RS) : Adv s (drainKafka fixed k s).2 := by
  unfold drainKafka
  split
  · have hd := conserves_discardN (↑s.sz) s
    cases hq : discardN (↑s.sz) s with
    | mk r s2 => rw [hq] at hd; cases r <;> exact hd
  · exact Adv.refl s

theorem drainKafka_zero (k : Int) (s : RS) (hnf : (drainKafka true k s).1.isFail = false) :
    (drainKafka true k s).2.sz = 0 := by
  unfold drainKafka at hnf ⊢
  rw [discardN_rest] at hnf ⊢
  by_cases hpos : 0 < s.sz
  · by_cases hcut : s.inp.length < s.sz
    · simp [hpos, hcut, Outcome.isFail] at hnf
    · simp [hpos, hcut]
  · simp only [Bool.true_and, gt_iff_lt, hpos, decide_false, Bool.false_eq_true, ↓reduceIte]
    omega

/-- a result `r` reached from `s` keeps to the frame: bytes were conserved, and unless `r` is a failure none of the
announced bytes is left unread -/
def FramedAt (s : RS) (r : Outcome × RS) : Prop := Adv s r.2 ∧ (r.1.isFail = false → r.2.sz = 0)

/-- a read closure keeps to its frame.  `exchange_aligned_or_closed` and `exchange_cut` need nothing else of `opRead` and
`fetchRead`; the locality theorems need `Local` (Lemmas/ConnLocal.lean). -/
def Framed (f : RS → Outcome × RS) : Prop := ∀ s, FramedAt s (f s)

theorem FramedAt.after {s s1 : RS} {r : Outcome × RS} (h : FramedAt s1 r) (ha : Adv s s1) : FramedAt s r :=
  ⟨Adv.trans ha h.1, h.2⟩

theorem FramedAt.fail {s s' : RS} (e : Err) (ha : Adv s s') : FramedAt s (.fail e, s') := ⟨ha, nofun⟩

theorem Framed.aligned {f : RS → Outcome × RS} (hf : Framed f) {s : RS} (hnf : (f s).1.isFail = false) :
    s.sz ≤ s.inp.length ∧ (f s).2 = ⟨s.inp.drop s.sz, 0⟩ := by
  have hz := (hf s).2 hnf
  have ha := (hf s).1.consumed_all hz
  exact ⟨ha.1, by rw [← ha.2, ← hz]⟩

theorem Framed.cut {f : RS → Outcome × RS} (hf : Framed f) {s : RS} (hcut : s.inp.length < s.sz) :
    (f s).1.isFail = true := by
  cases h : (f s).1.isFail with
  | true => rfl
  | false => have := (hf.aligned h).1; omega

theorem opRead_adv (o : OpSpec) (v : Nat) (topic : Bytes) (s : RS) : Adv s (opRead o v topic s).2 := by
  have h := runSteps_adv (o.parse v) { ver := v } s
  unfold opRead
  cases hp : runSteps (o.parse v) { ver := v } s with
  | mk r s1 =>
    rw [hp] at h
    cases r with
    | ok c =>
      simp only
      split
      · exact h
      · split <;> exact h
    | error e =>
      cases e with
      -- the kafka branch of `opRead` is, word for word, `drainKafka o.drain k s1` (conn.go discardOnKafkaError)
      | kafka k => exact Adv.trans h (drainKafka_adv o.drain k s1)
      | _ => exact h

/-- a "good" operation that does not fail has consumed the whole frame: `expectZeroSize` after a parse that went
through; after a kafka error out of the parse, the drain — or no parse of this operation can end that way. -/
theorem opRead_not_fail_zero (o : OpSpec) (v : Nat) (topic : Bytes) (s : RS)
    (hz : o.expectZero = true) (hg : o.drain = true ∨ hasFailList (o.parse v) = false)
    (hnf : (opRead o v topic s).1.isFail = false) : (opRead o v topic s).2.sz = 0 := by
  have hk := fun h => runSteps_nok (o.parse v) h { ver := v } s
  unfold opRead at hnf ⊢
  cases hp : runSteps (o.parse v) { ver := v } s with
  | mk r s1 =>
    rw [hp] at hnf hk
    cases r with
    | ok c =>
      simp only [hz, Bool.true_and] at hnf ⊢
      by_cases h0 : s1.sz = 0
      · rw [if_neg (by simp [h0])]
        split <;> exact h0
      · rw [if_pos (by simp [h0])] at hnf
        cases hnf
    | error e =>
      cases e with
      | kafka k =>
        cases hg with
        | inr hnofail => cases hk hnofail
        | inl hdrain => rw [hdrain] at hnf ⊢; exact drainKafka_zero k s1 hnf
      | _ => cases hnf

theorem opRead_framed (o : OpSpec) (v : Nat) (topic : Bytes)
    (hz : o.expectZero = true) (hg : o.drain = true ∨ hasFailList (o.parse v) = false) : Framed (opRead o v topic) :=
  fun s => ⟨opRead_adv o v topic s, opRead_not_fail_zero o v topic s hz hg⟩

theorem drainKafka_framed (k : Int) (s : RS) : FramedAt s (drainKafka true k s) :=
  ⟨drainKafka_adv true k s, drainKafka_zero k s⟩

/-- fetch (`fixed = true`): every exit that is not a failure comes after a drain or a successful skip of the rest -/
theorem fetchRead_framed (v : Nat) (offset : Int) (b : Body) (hb : b.Conserves) : Framed (fetchRead true v offset b) := by
  intro s
  have hh := runSteps_adv (fetchHeader v) { ver := v } s
  unfold fetchRead
  cases hp : runSteps (fetchHeader v) { ver := v } s with
  | mk r s1 =>
    rw [hp] at hh
    cases r with
    | error e =>
      cases e with
      | kafka k => exact (drainKafka_framed k s1).after hh
      | _ => exact .fail _ hh
    | ok c =>
      simp only
      split
      · exact (drainKafka_framed 7 s1).after hh
      · have h1 := Adv.trans hh (hb.1 s1)
        cases hf : b.first s1 with
        | mk r1 s2 =>
          rw [hf] at h1
          cases r1 with
          | error e => cases e <;> exact .fail _ h1
          | ok u =>
            simp only
            have h3 := Adv.trans h1 (hb.2 s2)
            cases hr : b.rest s2 with
            | mk e3 s3 =>
              rw [hr] at h3
              have hd := Adv.trans h3 (conserves_discardN (↑s3.sz) s3)
              cases e3 with
              | shortRead | kafka k =>
                simp only
                cases hq : discardN (↑s3.sz) s3 with
                | mk r4 s4 =>
                  rw [hq] at hd
                  cases r4 with
                  | ok u4 => exact ⟨hd, fun _ => discardN_all_ok hq⟩
                  | error e4 => exact .fail _ hd
              | _ => exact .fail _ h3

/-! ### the exchange around a read closure

`(*Conn).do` and `ReadBatchWith` + `Batch` are the same exchange — `waitResponse`, the read closure on the announced
size, close on failure — around different closures. -/

def exchange (read : RS → Outcome × RS) (closeOnErr : Bool) (c : Conn) : Outcome × Conn :=
  if c.closed then (.fail (.other "use of closed connection"), c)
  else
    match waitResponse c with
    | .error e => (.fail e, { c with nextId := c.nextId + 1, closed := true })
    | .ok (sz, rest) =>
      let (out, s') := read ⟨rest, sz⟩
      (out, { stream := s'.inp, nextId := c.nextId + 1, closed := out.isFail && closeOnErr })

theorem connDo_eq_exchange (o : OpSpec) (v : Nat) (topic : Bytes) (c : Conn) :
    connDo o v topic c = exchange (opRead o v topic) o.closeOnErr c := rfl

theorem connFetch_eq_exchange (fixed : Bool) (v : Nat) (offset : Int) (b : Body) (c : Conn) :
    connFetch fixed v offset b c = exchange (fetchRead fixed v offset b) true c := by
  simp only [connFetch, exchange, Bool.and_true]
  rfl

theorem exchange_closed (read : RS → Outcome × RS) (cl : Bool) (c : Conn) (h : c.closed = true) :
    exchange read cl c = (.fail (.other "use of closed connection"), c) := by
  simp only [exchange, h, ↓reduceIte]

theorem exchange_wait_error (read : RS → Outcome × RS) (cl : Bool) (c : Conn) (e : Err)
    (hopen : c.closed = false) (hw : waitResponse c = .error e) :
    exchange read cl c = (.fail e, { c with nextId := c.nextId + 1, closed := true }) := by
  simp only [exchange, hopen, Bool.false_eq_true, ↓reduceIte, hw]

theorem waitResponse_hdr (c : Conn) (hdr tail : Bytes) (hstream : c.stream = hdr ++ tail) (hlen : hdr.length = 8)
    (hid : beInt (hdr.drop 4) = c.nextId) :
    waitResponse c = .ok ((beInt (hdr.take 4) - 4).toNat, tail) := by
  have h1 : ¬ c.stream.length < 8 := by rw [hstream, List.length_append]; omega
  have h2 : c.stream.take 4 = hdr.take 4 := by rw [hstream, List.take_append_of_le_length (by omega)]
  have h3 : (c.stream.drop 4).take 4 = hdr.drop 4 := by
    rw [hstream, List.drop_append_of_le_length (by omega), List.take_append_of_le_length (by simp; omega)]
    exact List.take_of_length_le (by simp; omega)
  have h4 : c.stream.drop 8 = tail := by rw [hstream, ← hlen, List.drop_left]
  simp only [waitResponse, h1, ↓reduceIte, h2, h3, hid, h4, ne_eq, not_true_eq_false]

theorem wait_hdr (c : Conn) (hdr tail : Bytes) (n : Nat) (hstream : c.stream = hdr ++ tail) (hlen : hdr.length = 8)
    (hsize : beInt (hdr.take 4) = n + 4) (hid : beInt (hdr.drop 4) = c.nextId) :
    waitResponse c = .ok (n, tail) := by
  rw [waitResponse_hdr c hdr tail hstream hlen hid, hsize]
  congr 2
  omega

theorem wait_ok (c : Conn) (hdr body rest : Bytes) (hstream : c.stream = hdr ++ body ++ rest) (hlen : hdr.length = 8)
    (hsize : beInt (hdr.take 4) = body.length + 4) (hid : beInt (hdr.drop 4) = c.nextId) :
    waitResponse c = .ok (body.length, body ++ rest) :=
  wait_hdr c hdr (body ++ rest) body.length (by rw [hstream, List.append_assoc]) hlen hsize hid

theorem wait_bad_size (c : Conn) (hdr rest : Bytes) (hstream : c.stream = hdr ++ rest) (hlen : hdr.length = 8)
    (hsize : beInt (hdr.take 4) < 4) (hid : beInt (hdr.drop 4) = c.nextId) :
    waitResponse c = .ok (0, rest) := by
  rw [waitResponse_hdr c hdr rest hstream hlen hid]
  congr 2
  omega

theorem exchange_body (read : RS → Outcome × RS) (cl : Bool) (c : Conn) (n : Nat) (tail : Bytes)
    (hopen : c.closed = false) (hw : waitResponse c = .ok (n, tail)) :
    exchange read cl c = ((read ⟨tail, n⟩).1,
      { stream := (read ⟨tail, n⟩).2.inp, nextId := c.nextId + 1, closed := (read ⟨tail, n⟩).1.isFail && cl }) := by
  simp only [exchange, hopen, Bool.false_eq_true, ↓reduceIte, hw]

theorem exchange_aligned_or_closed {read : RS → Outcome × RS} (hf : Framed read) (c : Conn) (body rest : Bytes)
    (hopen : c.closed = false) (hw : waitResponse c = .ok (body.length, body ++ rest)) :
    ((exchange read true c).1.isFail = false ∧
        (exchange read true c).2 = { stream := rest, nextId := c.nextId + 1, closed := false }) ∨
    ((exchange read true c).1.isFail = true ∧ (exchange read true c).2.closed = true) := by
  rw [exchange_body read true c _ _ hopen hw]
  cases h : (read ⟨body ++ rest, body.length⟩).1.isFail with
  | true => exact Or.inr ⟨rfl, rfl⟩
  | false =>
    have ha := (hf.aligned h).2
    simp only [List.drop_left] at ha
    exact Or.inl ⟨rfl, by rw [ha]; rfl⟩

theorem exchange_cut {read : RS → Outcome × RS} (hf : Framed read) (c : Conn) (n : Nat) (tail : Bytes)
    (hopen : c.closed = false) (hw : waitResponse c = .ok (n, tail)) (hcut : tail.length < n) :
    (exchange read true c).1.isFail = true ∧ (exchange read true c).2.closed = true := by
  have h : (read ⟨tail, n⟩).1.isFail = true := hf.cut hcut
  rw [exchange_body read true c n tail hopen hw]
  exact ⟨h, by simp only [h, Bool.and_true]⟩

/-- the facts `LockFacts.all` asks for, in the order of the fields of `LockFacts` -/
theorem LockFacts.all_true {lf : LockFacts} (h : lf.all = true) :
    lf.peekErr = true ∧ lf.noProgress = true ∧ lf.yield = true ∧ lf.take = true ∧ lf.desyncCloses = true ∧
    lf.leave = true ∧ lf.doBody = true ∧ lf.apiVersions = true ∧ lf.batchHandover = true ∧ lf.batchClose = true := by
  have : lf.peekErr = true ∧ lf.noProgress = true ∧ lf.desyncCloses = true ∧ lf.yield = true ∧ lf.take = true ∧
      lf.leave = true ∧ lf.doBody = true ∧ lf.apiVersions = true ∧ lf.batchHandover = true ∧ lf.batchClose = true := by
    simpa [LockFacts.all, and_assoc] using h
  obtain ⟨hPeek, hNoProgress, hDesync, hYield, hTake, hrest⟩ := this
  exact ⟨hPeek, hNoProgress, hYield, hTake, hDesync, hrest⟩

theorem released_of_all {lf : LockFacts} (h : lf.all = true) (viaDo : Bool) (p : ExitPath) : released lf viaDo p = true := by
  obtain ⟨hPeek, hNoProgress, _, hTake, _, hLeave, hDoBody, hApiVersions, _, _⟩ := LockFacts.all_true h
  cases p <;> cases viaDo <;> simp [released, hPeek, hNoProgress, hTake, hLeave, hDoBody, hApiVersions]

end KV.ConnOps
