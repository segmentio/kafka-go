/-
Lemmas/GroupFront.lean — the invariant of the group Reader front: per version tag the queue and the returned
messages are runs of consecutive offsets.  The front is taken as one stream per generation (`Stream`: what an `enqueue`, an
accepted and a rejected `recv` do to the generation they touch) under a version and a sample that only grow (`Stream.later`:
what they do to all the others); `finv_step` finds the generation an event touches.
-/
import KafkaVerif.Model.GroupFront
namespace KV.GroupFront

def tagged (l : List (Nat × Nat)) (t : Nat) : List Nat := (l.filter (fun e => e.1 == t)).map (·.2)

theorem tagged_cons (t' o : Nat) (l : List (Nat × Nat)) (t : Nat) :
    tagged ((t', o) :: l) t = if t' = t then o :: tagged l t else tagged l t := by
  by_cases h : t' = t <;> simp [tagged, h]

theorem tagged_concat (l : List (Nat × Nat)) (t' o t : Nat) :
    tagged (l ++ [(t', o)]) t = if t' = t then tagged l t ++ [o] else tagged l t := by
  by_cases h : t' = t <;> simp [tagged, List.filter_append, h]

theorem upd_same (f : Nat → Nat) (t v : Nat) : upd f t v t = v := by simp [upd]
theorem upd_other (f : Nat → Nat) (t v x : Nat) (h : x ≠ t) : upd f t v x = f x := by simp [upd, h]

/-- Generation `t`, when the current version is `V` and a pending call sampled `S`: its fetcher started at `a`, enqueued `n`
messages, `k` were taken off the queue, `r` returned; `q` are its offsets in the queue, `o` those returned. -/
structure Stream (V : Nat) (S : Option Nat) (t a n k r : Nat) (q o : List Nat) : Prop where
  le : k ≤ n
  q : q = List.range' (a + k) (n - k)
  o : o = List.range' a r
  /-- messages are only dropped from generations older than the pending call's sample -/
  dropped : k ≠ r → t < V ∧ ∀ v, S = some v → t < v
  fresh : V < t → n = 0 ∧ k = 0 ∧ r = 0

namespace Stream
variable {V : Nat} {S : Option Nat} {t a n k r : Nat} {q o : List Nat}

/-- the version grows, a new sample is the version of its moment -/
theorem later {V' : Nat} {S' : Option Nat} (h : Stream V S t a n k r q o) (hV : V ≤ V')
    (hS : ∀ v, S' = some v → S = some v ∨ V ≤ v) : Stream V' S' t a n k r q o :=
  ⟨h.le, h.q, h.o,
   fun hne => ⟨Nat.lt_of_lt_of_le (h.dropped hne).1 hV, fun v hv => (hS v hv).elim ((h.dropped hne).2 v)
     (Nat.lt_of_lt_of_le (h.dropped hne).1)⟩,
   fun ht => h.fresh (Nat.lt_of_le_of_lt hV ht)⟩

theorem subscribe (h : Stream V S (V + 1) a n k r q o) (st : Nat) : Stream (V + 1) S (V + 1) st n k r q o := by
  obtain ⟨rfl, rfl, rfl⟩ := h.fresh (Nat.lt_succ_self V)
  exact ⟨h.le, h.q, h.o, fun hne => absurd rfl hne, fun ht => absurd ht (Nat.lt_irrefl _)⟩

theorem enqueue (h : Stream V S t a n k r q o) (ht : t ≤ V) : Stream V S t a (n + 1) k r (q ++ [a + n]) o :=
  ⟨Nat.le_succ_of_le h.le,
   by rw [h.q, Nat.succ_sub h.le, List.range'_concat, Nat.one_mul, Nat.add_assoc, Nat.add_sub_cancel' h.le],
   h.o, h.dropped, fun hlt => absurd ht (Nat.not_le.mpr hlt)⟩

theorem head {x : Nat} {rest : List Nat} (h : Stream V S t a n k r (x :: rest) o) :
    x = a + k ∧ k < n ∧ rest = List.range' (a + (k + 1)) (n - (k + 1)) := by
  obtain ⟨h1, h2, h3⟩ := List.range'_eq_cons_iff.mp h.q.symm
  exact ⟨h1.symm, Nat.lt_of_sub_pos h2, by rw [h3, ← h1, Nat.add_assoc, Nat.sub_add_eq]⟩

/-- `recv` of a message the pending call accepts: nothing of this generation was dropped before, so the message continues
what was returned -/
theorem accept {x v : Nat} {rest : List Nat} (h : Stream V (some v) t a n k r (x :: rest) o) (hv : v ≤ t) :
    Stream V none t a n (k + 1) (r + 1) rest (o ++ [x]) := by
  obtain ⟨hx, hlt, hrest⟩ := h.head
  have heq : k = r :=
    Decidable.byContradiction fun hne => Nat.lt_irrefl _ (Nat.lt_of_lt_of_le ((h.dropped hne).2 v rfl) hv)
  refine ⟨hlt, hrest, ?_, fun hne => absurd (congrArg (· + 1) heq) hne, fun ht => ?_⟩
  · rw [h.o, List.range'_concat, hx, heq, Nat.one_mul]
  · rw [(h.fresh ht).1] at hlt; cases hlt

theorem reject {x v : Nat} {rest : List Nat} (h : Stream V (some v) t a n k r (x :: rest) o) (hv : t < v) (hvV : v ≤ V) :
    Stream V (some V) t a n (k + 1) r rest o := by
  obtain ⟨_, hlt, hrest⟩ := h.head
  have htV := Nat.lt_of_lt_of_le hv hvV
  exact ⟨hlt, hrest, h.o, fun _ => ⟨htV, fun v' hv' => by cases hv'; exact htV⟩, fun ht => absurd htV (Nat.lt_asymm ht)⟩

end Stream

structure FInv (s : GF) : Prop where
  sampled : ∀ v, s.sampled = some v → v ≤ s.version
  stream : ∀ t, Stream s.version s.sampled t (s.start t) (s.sent t) (s.taken t) (s.returned t) (tagged s.queue t) (tagged s.out t)

theorem finv_init : FInv {} :=
  ⟨nofun, fun _ => ⟨Nat.le_refl _, rfl, rfl, fun h => absurd rfl h, fun _ => ⟨rfl, rfl, rfl⟩⟩⟩

theorem finv_step (s s' : GF) (e : GFEv) (hi : FInv s) (h : fstep false s e = some s') : FInv s' := by
  have now : ∀ {S : Option Nat} w, some s.version = some w → S = some w ∨ s.version ≤ w :=
    fun w hw => .inr (by cases hw; exact Nat.le_refl _)
  cases e <;> rw [fstep] at h
  case call =>
    obtain ⟨_, h⟩ := Option.ite_none_right_eq_some.mp h
    cases h
    exact ⟨fun v hv => by cases hv; exact Nat.le_refl _, fun t => (hi.stream t).later (Nat.le_refl _) now⟩
  case subscribe st =>
    cases h
    refine ⟨fun v hv => Nat.le_succ_of_le (hi.sampled v hv), fun x => ?_⟩
    dsimp only  -- the components of the new state, so that `upd` and `tagged` show
    by_cases hx : x = s.version + 1
    · subst hx; rw [upd_same]; exact (hi.stream _).subscribe st
    · rw [upd_other _ _ _ _ hx]; exact (hi.stream x).later (Nat.le_succ _) fun v hv => .inl hv
  case enqueue t =>
    obtain ⟨hb, h⟩ := Option.ite_none_right_eq_some.mp h
    cases h
    refine ⟨hi.sampled, fun x => ?_⟩
    dsimp only
    rw [tagged_concat]
    by_cases hx : x = t
    · subst hx; rw [upd_same, if_pos rfl]; exact (hi.stream _).enqueue hb.2
    · rw [upd_other _ _ _ _ hx, if_neg (Ne.symm hx)]; exact hi.stream x
  case recv =>
    split at h
    · rename_i v t o rest hs hq
      have hv := hi.sampled v hs
      have hg : ∀ x, Stream s.version (some v) x (s.start x) (s.sent x) (s.taken x) (s.returned x)
          (if t = x then o :: tagged rest x else tagged rest x) (tagged s.out x) := fun x => by
        have := hi.stream x; rwa [hs, hq, tagged_cons] at this
      split at h
      · rename_i hacc
        cases h
        have hacc : v ≤ t := by simpa [accept] using hacc
        refine ⟨nofun, fun x => ?_⟩
        dsimp only
        have := hg x
        rw [tagged_concat]
        by_cases hx : x = t
        · subst hx; rw [if_pos rfl] at this; rw [upd_same, upd_same, if_pos rfl]; exact this.accept hacc
        · rw [if_neg (Ne.symm hx)] at this
          rw [upd_other _ _ _ _ hx, upd_other _ _ _ _ hx, if_neg (Ne.symm hx)]; exact this.later (Nat.le_refl _) nofun
      · rename_i hacc
        cases h
        have hacc : t < v := by simpa [accept] using hacc
        refine ⟨fun w hw => by cases hw; exact Nat.le_refl _, fun x => ?_⟩
        dsimp only
        have := hg x
        by_cases hx : x = t
        · subst hx; rw [if_pos rfl] at this; rw [upd_same]; exact this.reject hacc hv
        · rw [if_neg (Ne.symm hx)] at this
          rw [upd_other _ _ _ _ hx]; exact this.later (Nat.le_refl _) now
    · cases h

theorem finv_reachable (s : GF) (h : FReachable false s) : FInv s := by
  induction h with
  | init => exact finv_init
  | step e _ hs ih => exact finv_step _ _ e ih hs

end KV.GroupFront
