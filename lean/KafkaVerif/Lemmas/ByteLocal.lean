/-
Lemmas/ByteLocal.lean — the byte-level reads of the decoder (Model/ByteReader.lean, Model/ByteHeader.lean) never look at or
consume a byte beyond `remain`, the unread part of the current message set (`Local`); proved about one run (`Framed`,
`Framed.local`).  With it a cut item *followed by whatever comes next on the connection* is errShortRead (`cut_is_short`).

The programs are walked here with their continuations at every value, in Lemmas/ByteReader.lean (`AllOrShort`) along one
encoding with the continuation at the decoded value: a reader exact on its encoding can still look beyond the frame after
other bytes, so neither walk gives the other.
-/
import KafkaVerif.Lemmas.ByteReader
import KafkaVerif.Lemmas.ByteHeader

namespace KV.C02.BR
open KV KV.RW KV.Spec.RB KV.C02

def Pre (bs bs' : Bytes) (remain : Nat) : Prop :=
  bs.take remain = bs'.take remain ∧ remain ≤ bs.length ∧ remain ≤ bs'.length

def Rel (bs bs' : Bytes) (remain : Nat) (r r' : Rd) : Prop :=
  r.remain = r'.remain ∧ ∃ k, k ≤ remain ∧ r.remain = remain - k ∧ r.bs = bs.drop k ∧ r'.bs = bs'.drop k

def Agree {α : Type} (bs bs' : Bytes) (remain : Nat) :
    Except (RErr × Rd) (α × Rd) → Except (RErr × Rd) (α × Rd) → Prop
  | .ok (a, r), .ok (a', r') => a = a' ∧ Rel bs bs' remain r r'
  | .error (e, r), .error (e', r') => e = e' ∧ Rel bs bs' remain r r'
  | _, _ => False

def Local {α : Type} (p : M α) : Prop :=
  ∀ bs bs' remain, Pre bs bs' remain → Agree bs bs' remain (p ⟨bs, remain⟩) (p ⟨bs', remain⟩)

def ran {α : Type} (o : Except RErr α) (bs : Bytes) (remain k : Nat) : Except (RErr × Rd) (α × Rd) :=
  match o with
  | .ok a => .ok (a, ⟨bs.drop k, remain - k⟩)
  | .error e => .error (e, ⟨bs.drop k, remain - k⟩)

/-- `w` is the window, what is left of the message set (`remain = |w|`): it alone decides the value or error, the `k ≤ |w|`
bytes taken and the `remain` handed back; what follows the set on the connection (`Y`, the next response) is passed over. -/
def Framed {α : Type} (p : M α) : Prop :=
  ∀ w : Bytes, ∃ (o : Except RErr α) (k : Nat), k ≤ w.length ∧ ∀ Y, p ⟨w ++ Y, w.length⟩ = ran o (w ++ Y) w.length k

theorem Framed.local {α : Type} {p : M α} (h : Framed p) : Local p := by
  intro bs bs' remain ⟨h1, h2, h3⟩
  obtain ⟨o, k, hk, hw⟩ := h (bs.take remain)
  have hl : (bs.take remain).length = remain := by rw [List.length_take]; omega
  have e1 := hw (bs.drop remain)
  have e2 := hw (bs'.drop remain)
  rw [h1, List.take_append_drop, ← h1, hl] at e2
  rw [List.take_append_drop, hl] at e1
  rw [e1, e2]
  cases o <;> exact ⟨rfl, rfl, k, hl ▸ hk, rfl, rfl, rfl⟩

theorem framed_pure {α : Type} (a : α) : Framed (M.pure a) :=
  fun w => ⟨.ok a, 0, Nat.zero_le _, fun Y => by simp [M.pure, ran]⟩

theorem framed_bind {α β : Type} {p : M α} {q : α → M β} (hp : Framed p) (hq : ∀ a, Framed (q a)) : Framed (M.bind p q) := by
  intro w
  obtain ⟨o, k, hk, hw⟩ := hp w
  cases o with
  | error e => exact ⟨.error e, k, hk, fun Y => by simp only [M.bind, hw, ran]⟩
  | ok a =>
    -- `q a` goes on with the window `w.drop k`; the two `k`s add up
    obtain ⟨o2, k2, hk2, hw2⟩ := hq a (w.drop k)
    rw [List.length_drop] at hk2 hw2
    refine ⟨o2, k + k2, by omega, fun Y => ?_⟩
    simp only [M.bind, hw, ran, List.drop_append_of_le_length hk, hw2]
    cases o2 <;> simp only [List.drop_drop, Nat.sub_sub, ← List.drop_append_of_le_length hk]

/-- a reader that looks at `remain` before it reads (`remainBefore := r.remain`, `if n > r.remain { … }`) -/
theorem framed_remain {α : Type} {f : Nat → M α} (h : ∀ n, Framed (f n)) : Framed (fun r => f r.remain r) :=
  fun w => h w.length w

theorem framed_ite {α : Type} (c : Prop) [Decidable c] {p q : M α} (hp : Framed p) (hq : Framed q) :
    Framed (fun r => if c then p r else q r) := by
  by_cases h : c
  · simp only [h, if_true]; exact hp
  · simp only [h, if_false]; exact hq

theorem framed_guard {α : Type} (c : Nat → Prop) [DecidablePred c] {q : M α} (hq : Framed q) :
    Framed (fun r => if c r.remain then .error (.short, r) else q r) :=
  framed_remain (f := fun n r => if c n then .error (.short, r) else q r) fun n =>
    framed_ite (c n) (fun w => ⟨.error .short, 0, Nat.zero_le _, fun Y => by simp [ran]⟩) hq

theorem framed_readInt (k m : Nat) : Framed (readInt k m) := by
  intro w
  by_cases hk : k > w.length
  · exact ⟨.error .short, 0, Nat.zero_le _, fun Y => by simp [readInt, hk, ran]⟩
  · have hk' : k ≤ w.length := by omega
    exact ⟨.ok (toS m (deN (w.take k))), k, hk', fun Y => by
      simp [readInt, hk, readI, readN, ran, List.take_append_of_le_length hk', Nat.le_add_right_of_le hk']⟩

theorem framed_readVarInt : Framed readVarInt := by
  intro w
  cases hu : readUvarint w with
  | none => exact ⟨.error .short, w.length, Nat.le_refl _, fun Y => by simp [readVarInt, hu, ran]⟩
  | some p => exact ⟨.ok (unzigzag p.1), w.length - p.2.length, Nat.sub_le _ _, fun Y => by simp [readVarInt, hu, ran]⟩

theorem framed_readNewBytes (n : Int) : Framed (readNewBytes n) := by
  intro w
  by_cases hn : n ≤ 0
  · exact ⟨.ok [], 0, Nat.zero_le _, fun Y => by simp [readNewBytes, hn, ran]⟩
  by_cases hr : w.length < n.toNat
  · exact ⟨.error .short, w.length, Nat.le_refl _, fun Y => by simp [readNewBytes, hn, hr, ran]⟩
  · have hk : n.toNat ≤ w.length := by omega
    exact ⟨.ok (w.take n.toNat), n.toNat, hk, fun Y => by
      simp [readNewBytes, hn, hr, ran, List.take_append_of_le_length hk, show ¬ w.length + Y.length < n.toNat by omega]⟩

theorem framed_discardN (n : Nat) : Framed (discardN n) := by
  intro w
  by_cases hn : n ≤ w.length
  · exact ⟨.ok (), n, hn, fun Y => by simp [discardN, hn, ran, Nat.le_add_right_of_le hn]⟩
  · exact ⟨.error .short, w.length, Nat.le_refl _, fun Y => by simp [discardN, hn, ran]⟩

theorem framed_readMessageBytes (n : Int) : Framed (readMessageBytes n) :=
  framed_bind (framed_readNewBytes n) (fun _ => framed_pure _)

theorem framed_runFunc : Framed runFunc :=
  framed_bind framed_readVarInt (fun n => framed_readMessageBytes n)

theorem framed_readMessageHeader : Framed readMessageHeader :=
  framed_bind framed_readVarInt fun keyLen =>
    framed_bind (framed_readNewBytes keyLen) fun _ =>
      framed_bind framed_readVarInt fun valLen =>
        framed_bind (framed_readMessageBytes valLen) fun _ => framed_pure _

theorem framed_readMessageHeaders : ∀ n, Framed (readMessageHeaders n)
  | 0 => framed_pure _
  | n + 1 => framed_bind framed_readMessageHeader fun _ =>
      framed_bind (framed_readMessageHeaders n) fun _ => framed_pure _

theorem framed_recTail (length lol : Int) : Framed (recTail length lol) :=
  framed_bind (framed_readInt 1 M8) fun _ =>
    framed_bind framed_readVarInt fun _ =>
      framed_bind framed_readVarInt fun _ =>
        framed_bind framed_runFunc fun _ =>
          framed_bind framed_runFunc fun _ =>
            framed_bind framed_readVarInt fun headerCount =>
              framed_bind
                (by
                  split
                  · exact framed_readMessageHeaders _
                  · exact framed_pure _)
                fun _ => framed_pure _

/-- the record part of readMessageV2 is a bind whose continuation knows the `remain` it started with (`lengthOfLength :=
remainBefore - r.remain` needs `r0.remain` after the first read, so the model is a `match` on that read, not an `M.bind`) -/
theorem readRecordV2_eq_bind (r0 : Rd) :
    readRecordV2 r0 = M.bind readVarInt (fun len r1 => recTail len ((r0.remain : Int) - (r1.remain : Int)) r1) r0 := by
  simp only [readRecordV2, M.bind]
  split <;> simp_all

theorem framed_readRecordV2 : Framed readRecordV2 := fun w => by
  obtain ⟨o, k, hk, hw⟩ := framed_bind framed_readVarInt
    (fun len => framed_remain fun n => framed_recTail len ((w.length : Int) - (n : Int))) w
  exact ⟨o, k, hk, fun Y => by rw [readRecordV2_eq_bind]; exact hw Y⟩

theorem framed_readBytes32 : Framed readBytes32 :=
  framed_bind (framed_readInt 4 M32) fun n =>
    framed_guard (fun rem => n > (rem : Int)) (framed_readMessageBytes n)

theorem framed_discardBytes32 : Framed discardBytes32 :=
  framed_bind (framed_readInt 4 M32) fun n =>
    framed_guard (fun rem => n > (rem : Int)) (framed_ite (n < 0) (framed_pure ()) (framed_discardN _))

theorem framed_readBodyV1 : Framed readBodyV1 :=
  framed_bind framed_readBytes32 fun _ => framed_bind framed_readBytes32 fun _ => framed_pure _

theorem framed_skipBodyV1 : Framed skipBodyV1 :=
  framed_bind framed_discardBytes32 fun _ => framed_discardBytes32

theorem framed_readWrapV1 : Framed readWrapV1 :=
  framed_bind framed_discardBytes32 fun _ => framed_readBytes32

theorem framed_hdrBranch (fo len magic : Int) : Framed (hdrBranch fo len magic) := by
  unfold hdrBranch
  split
  · exact framed_bind (framed_readInt 1 M8) fun _ => framed_pure _
  split
  · exact framed_bind (framed_readInt 1 M8) fun _ => framed_bind (framed_readInt 8 M64) fun _ => framed_pure _
  split
  · exact framed_bind (framed_readInt 4 M32) fun _ => framed_bind (framed_readInt 2 M16) fun _ =>
      framed_bind (framed_readInt 4 M32) fun _ => framed_bind (framed_readInt 8 M64) fun _ =>
      framed_bind (framed_readInt 8 M64) fun _ => framed_bind (framed_readInt 8 M64) fun _ =>
      framed_bind (framed_readInt 2 M16) fun _ => framed_bind (framed_readInt 4 M32) fun _ =>
      framed_bind (framed_readInt 4 M32) fun _ => framed_pure _
  · exact framed_pure _

theorem framed_readHeaderB : Framed readHeaderB :=
  framed_bind (framed_readInt 8 M64) fun fo => framed_bind (framed_readInt 4 M32) fun len =>
    framed_bind (framed_readInt 4 M32) fun _ => framed_bind (framed_readInt 1 M8) fun magic => framed_hdrBranch fo len magic

theorem cut_is_short {α : Type} {p : M α} {e : Bytes} {v : α} (h : AllOrShort p e v) (hf : Framed p)
    (Y : Bytes) (remain : Nat) (hlt : remain < e.length) :
    ∃ r', p ⟨e.take remain ++ Y, remain⟩ = .error (.short, r') ∧ r'.remain ≤ remain := by
  -- `AllOrShort` speaks of the whole `e` with `remain` short of it: that run and the one on the cut connection have the
  -- window `e.take remain`, so the same outcome
  obtain ⟨o, k, hk, hw⟩ := hf (e.take remain)
  have hl : (e.take remain).length = remain := by rw [List.length_take]; omega
  obtain ⟨r, hr⟩ := (h [] remain).2 hlt
  have he := hw (e.drop remain)
  rw [hl, List.take_append_drop, ← List.append_nil e, hr] at he
  have hy := hw Y
  rw [hl] at hy
  cases o with
  | ok a => simp [ran] at he
  | error e' =>
    simp only [ran, Except.error.injEq, Prod.mk.injEq] at he
    exact ⟨_, by rw [hy, ← he.1]; rfl, Nat.sub_le _ _⟩

end KV.C02.BR
