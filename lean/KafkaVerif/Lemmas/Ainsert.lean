/-
Lemmas/Ainsert.lean — `Routing.ainsert` (the Go map assignment of Model/Routing.lean, Model/Mappings.lean and, with the
same body, Model/ListOffsets.lean) is an assignment in the sense of Lemmas/AssocList.lean.
-/
import KafkaVerif.Model.Routing
import KafkaVerif.Lemmas.AssocList

namespace KV.Lemmas.Ainsert
open KV.Routing (ainsert)
open KV.AssocList

variable {κ ν : Type} [BEq κ] [LawfulBEq κ]

theorem lookup_map_replace_self (m : List (κ × ν)) (k : κ) (v : ν) (h : m.any (·.1 == k) = true) :
    (m.map (fun e => if e.1 == k then (k, v) else e)).lookup k = some v := by
  induction m with
  | nil => cases h
  | cons e es ih =>
    obtain ⟨ek, ev⟩ := e
    rw [List.map_cons]
    by_cases he : (ek == k) = true
    · rw [if_pos he, List.lookup_cons_self]
    · rw [List.any_cons, Bool.or_eq_true] at h
      rw [if_neg he, List.lookup_cons, BEq.comm, (Bool.not_eq_true _).mp he]
      exact ih (h.resolve_left he)

theorem lookup_map_replace_other (m : List (κ × ν)) (k k' : κ) (v : ν) (h : k' ≠ k) :
    (m.map (fun e => if e.1 == k then (k, v) else e)).lookup k' = m.lookup k' := by
  induction m with
  | nil => rfl
  | cons e es ih =>
    obtain ⟨ek, ev⟩ := e
    rw [List.map_cons, List.lookup_cons (k := ek), ← ih]
    by_cases he : (ek == k) = true
    · rw [if_pos he, List.lookup_cons, beq_false_of_ne h, ← beq_iff_eq.mp he, beq_false_of_ne (beq_iff_eq.mp he ▸ h)]
    · rw [if_neg he, List.lookup_cons]

theorem lookup_ainsert_self (m : List (κ × ν)) (k : κ) (v : ν) : (ainsert m k v).lookup k = some v := by
  unfold ainsert
  split
  · next h => exact lookup_map_replace_self m k v h
  · next h =>
    have : m.lookup k = none := List.lookup_eq_none_iff.mpr fun p hp => by
      simpa [bne, BEq.comm] using fun hk : p.1 == k => h (List.any_eq_true.mpr ⟨p, hp, hk⟩)
    simp [List.lookup_append, this]

theorem lookup_ainsert_other (m : List (κ × ν)) (k k' : κ) (v : ν) (h : k' ≠ k) :
    (ainsert m k v).lookup k' = m.lookup k' := by
  unfold ainsert
  split
  · exact lookup_map_replace_other m k k' v h
  · have : (k' == k) = false := by simpa using h
    simp [List.lookup_append, List.lookup_cons, this]

theorem ainsert_assigns : Assigns (ainsert (κ := κ) (ν := ν)) := fun m k v k' => by
  rw [List.lookup_cons]
  by_cases h : k' = k
  · rw [h, lookup_ainsert_self, beq_self_eq_true]
  · rw [lookup_ainsert_other m k k' v h, beq_false_of_ne h]

end KV.Lemmas.Ainsert
