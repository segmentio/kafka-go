/-
Lemmas/CodecAcct.lean — the prefix form of Lemmas/CodecAccount.lean, for the cut streams of Props/C17.  There "the stream and
`decoder.remain` moved together" is `Codec.DAdv d d'` (`n` bytes dropped); here it is `Acct d r`: the bytes consumed are an explicit
prefix `pre` of the stream (`acct_of_dadv` / `dadv_of_acct` go between the two).  The names of this namespace shadow those of `KV.Codec`
(`DA`, `da_all`, `da_list`, `RecsAcct` for `RecsAcc`): they are the same statements over `Acct`.
-/
import KafkaVerif.Lemmas.CodecAccount

namespace KV.CodecAcct
open KV KV.Wire KV.Codec

/-- `ok` results advance the stream and `remain` by the same amount: the conservation law `Reader.Adv` of the Conn-side
reader, for the decoder state `Dec` (and for `ok` results only: `remain` is not meaningful after an error) -/
def Acct {α : Type} (d : Dec) : Res α → Prop
  | .ok _ d' => ∃ pre : Bytes, d.inp = pre ++ d'.inp ∧ d.remain = pre.length + d'.remain
  | _ => True

theorem acct_of_dadv {α : Type} {d : Dec} {r : Res α} (h : ∀ a d', r = .ok a d' → DAdv d d') : Acct d r := by
  cases r with
  | ok a d' =>
    obtain ⟨n, hn, hi, hr⟩ := h a d' rfl
    exact ⟨d.inp.take n, by rw [hi, List.take_append_drop], by rw [List.length_take]; omega⟩
  | _ => trivial

theorem dadv_of_acct {α : Type} {d d' : Dec} {a : α} (h : Acct d (.ok a d')) : DAdv d d' := by
  obtain ⟨pre, hp, hs⟩ := h
  exact ⟨pre.length, by rw [hp, List.length_append]; omega, by rw [hp, List.drop_left], by omega⟩

def DA (cfg : Cfg) (t : Ty) : Prop := ∀ d, Acct d (decode cfg t d)

/-- a detailed record-set reader plugged into the frame decoder (`Cfg.recs`, C20's Model/CodecRecords.lean) must itself account
for the bytes it takes; with `recs = none` (the opaque-payload view, what `Gen.decoderCfg` is) this is vacuous -/
def RecsAcct (cfg : Cfg) : Prop := ∀ h, cfg.recs = some h → ∀ d, Acct d (h d)

theorem recsAcct_none (cfg : Cfg) (h : cfg.recs = none) : RecsAcct cfg := fun _ hh => by rw [h] at hh; cases hh

theorem RecsAcct.acc {cfg : Cfg} (hr : RecsAcct cfg) : RecsAcc cfg :=
  fun f e d _ _ h => dadv_of_acct (h ▸ hr f e d)

theorem da_all (cfg : Cfg) (hr : RecsAcct cfg) (t : Ty) : DA cfg t :=
  fun d => acct_of_dadv (Codec.da_all cfg hr.acc t d)

theorem da_list (cfg : Cfg) (hr : RecsAcct cfg) (ts : List Ty) : ∀ t ∈ ts, DA cfg t :=
  fun t _ => da_all cfg hr t

/-- `ok` results have consumed everything that `remain` announced -/
def AcctZ {α : Type} (d : Dec) : Res α → Prop
  | .ok _ d' => (∃ pre : Bytes, d.inp = pre ++ d'.inp ∧ d.remain = pre.length) ∧ d'.remain = 0
  | _ => True

def announced (stream : Bytes) : Int := toS 32 (fromBE (stream.take 4))

/-- what ReadResponse does after the size prefix, from the state ⟨rest of the stream, announced size⟩ -/
def respTail (cfg : Cfg) (flex : Bool) (t : Ty) (d : Dec) : Res (Int × Val) :=
  (Codec.readInt 4 d).bind fun corr d =>
    (if flex then
      (readUvarint d).bind fun n d => (tagCount cfg n d).bind fun k d => skipHeaderTags cfg k d
     else .ok () d).bind fun _ d =>
    (decode cfg t d).bind fun v d =>
    (discardAll d).bind fun _ d => .ok (corr, v) d

theorem respTail_acctz (cfg : Cfg) (hr : RecsAcct cfg) (flex : Bool) (t : Ty) (d : Dec) : AcctZ d (respTail cfg flex t d) := by
  have h := frameTail_walk cfg (acct := True) (guards := False) False.elim hr.acc.walk flex t d
  unfold respTail
  generalize (Codec.readInt 4 d).bind _ = r at h ⊢
  cases r with
  | ok a d' =>
    obtain ⟨hle, rfl⟩ := h trivial
    exact ⟨⟨d.inp.take d.remain, (List.take_append_drop ..).symm, by rw [List.length_take]; omega⟩, rfl⟩
  | _ => trivial

/-- what the `Decoder` contract of Props/C17 asks for -/
theorem readResponse_ok_consumes_frame (cfg : Cfg) (hr : RecsAcct cfg) (flex : Bool) (t : Ty) (stream : Bytes) (r : Int × Val) (d : Dec)
    (h : readResponse cfg flex t stream = .ok r d) :
    4 ≤ stream.length ∧ 0 ≤ announced stream ∧ 4 + (announced stream).toNat ≤ stream.length ∧
    d.inp = stream.drop (4 + (announced stream).toNat) ∧ d.remain = 0 := by
  obtain ⟨size, hlen, hs, hi, hz⟩ := (readResponse_walk cfg (guards := False) False.elim hr.acc.walk flex t stream).ok h trivial
  have ha : announced stream = size := hs
  rw [ha, Int.toNat_natCast]
  exact ⟨by omega, by omega, hlen, hi, hz⟩

/-- … hence on ANY strict prefix of a frame — cut inside the size prefix, the correlation id, the tag buffer, the body,
a record set — the structural decoder does not return a message -/
theorem readResponse_cut_structural (cfg : Cfg) (hr : RecsAcct cfg) (flex : Bool) (t : Ty) (frame : Bytes)
    (hframe : frame.length = 4 + (announced frame).toNat) (k : Nat) (hk : k < frame.length)
    (r : Int × Val) (d : Dec) : readResponse cfg flex t (frame.take k) ≠ .ok r d := by
  intro h
  obtain ⟨h4, _, hlen, _, _⟩ := readResponse_ok_consumes_frame cfg hr flex t (frame.take k) r d h
  have hk4 : 4 ≤ k := by simp only [List.length_take] at h4; omega
  have hann : announced (frame.take k) = announced frame := by
    unfold announced
    rw [List.take_take, Nat.min_eq_left hk4]
  rw [hann] at hlen
  simp only [List.length_take] at hlen
  omega

end KV.CodecAcct
