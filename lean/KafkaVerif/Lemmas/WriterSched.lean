/-
Lemmas/WriterSched.lean — scheduling facts of the Writer LTS for C08 (`InvSched`).

A batch is attached exactly as long as its `detached` field is none (`InvLife`: every later stage has it set).  So what
the invariant says about "the attached batch of a partition writer" is a fact about single batch records (`BatSched`), kept
by every step record by record, and `currOpen` is a reading of `InvLife` and `InvOrd`; the index facts (`InvIndex`) change at
`newPW` only.
-/
import KafkaVerif.Lemmas.WriterLife

namespace KV.Writer

variable {cfg : Cfg} {s s' : State}

/-- the reason recorded when a batch was detached still holds (the Prop over a batch; `whyOk` of Model/Writer.lean is
the guard `detach` checks).  No clause for `nofit`: that reason speaks of the next message, not of the batch -/
def WhyOK (cfg : Cfg) (closed : Bool) (B : Batch) : Prop :=
  (B.detached = some .full → B.full cfg = true) ∧ (B.detached = some .timer → B.timerFired = true) ∧
  (B.detached = some .close → closed = true)

structure InvSched (cfg : Cfg) (s : State) : Prop where
  pwListed : ∀ pw P, s.pws pw = some P → pw ∈ s.pwIds
  qOfInv : ∀ pw P, s.pws pw = some P → s.qOf P.q = some pw
  currOpen : ∀ pw P, s.pws pw = some P → ∀ b, P.curr = some b → ∃ B, s.batches b = some B ∧ B.pw = pw ∧ B.detached = none
  why : ∀ b B, s.batches b = some B → WhyOK cfg s.closed B
  notFull : s.wlock.isCall = false → ∀ pw P b B, s.pws pw = some P → P.curr = some b → s.batches b = some B → B.full cfg = false

theorem whyOK_of_open {cfg : Cfg} {closed : Bool} {B : Batch} (h : B.detached = none) : WhyOK cfg closed B := by
  refine ⟨?_, ?_, ?_⟩ <;> (rw [h]; nofun)

theorem full_congr {cfg : Cfg} {B B' : Batch} (h1 : B'.msgs = B.msgs) (h2 : B'.bytes = B.bytes) : B'.full cfg = B.full cfg := by
  simp [Batch.full, h1, h2]

theorem noFull_elim {cfg : Cfg} {s : State} (h : noFullAttached cfg s = true) {pw b : Nat} {P : PW} {B : Batch}
    (hmem : pw ∈ s.pwIds) (hP : s.pws pw = some P) (hc : P.curr = some b) (hB : s.batches b = some B) : B.full cfg = false := by
  unfold noFullAttached at h
  rw [List.all_eq_true] at h
  have := h pw hmem
  simp only [hP, hc, hB] at this
  simpa using this

def InvIndex (s : State) : Prop := ∀ pw P, s.pws pw = some P → pw ∈ s.pwIds ∧ s.qOf P.q = some pw

theorem invIndex_step {e : Event} (hI : InvIndex s) (h : Step cfg s e s') : InvIndex s' := by
  induction h with
  | @newPW pw q tp hg =>
    have h3 : s.qOf q = none := Option.isNone_iff_eq_none.mp hg.qFree
    refine forall_upd_key _ _ _ (fun x X _ hx => ?_) ⟨List.mem_append_right _ (List.mem_singleton.mpr rfl), upd_same ..⟩
    -- an existing partition writer's queue is indexed, so it is not the new queue
    obtain ⟨h1, h2⟩ := hI x X hx
    refine ⟨List.mem_append_left _ h1, (upd_other _ _ _ _ fun e => ?_).trans h2⟩
    rw [e, h3] at h2; cases h2
  | newBatch hP | detach hP | qput _ hP | qgetSome _ hP | qgetNone _ hP | qclose _ hP | attempt hP | produce hP
  | attemptDone hP | completion hP | complete hP =>
    -- the record of one partition writer is rewritten, with its queue id
    exact forall_upd_key _ _ _ (fun x X _ hx => hI x X hx) (hI _ _ hP :)
  | _ => exact hI

theorem invIndex (cfg : Cfg) : ∀ s, Reachable cfg s → InvIndex s :=
  Reachable.step_induction (fun _ _ h => by cases h) fun _ _ _ _ hI h => invIndex_step hI h

/-- what the scheduling invariant says of one batch: the reason recorded when it was detached holds, and outside
batchMessages (`locked = false`) it is not full as long as it is attached -/
def BatSched (cfg : Cfg) (closed locked : Bool) (B : Batch) : Prop :=
  WhyOK cfg closed B ∧ (locked = false → B.detached = none → B.full cfg = false)

def InvBatSched (cfg : Cfg) (s : State) : Prop :=
  ∀ b B, s.batches b = some B → BatSched cfg s.closed s.wlock.isCall B

theorem BatSched.congr {closed locked : Bool} {B B' : Batch} (h : BatSched cfg closed locked B)
    (hd : B'.detached = B.detached) (hm : B'.msgs = B.msgs) (hby : B'.bytes = B.bytes)
    (ht : B.timerFired = true → B'.timerFired = true) : BatSched cfg closed locked B' := by
  obtain ⟨⟨w1, w2, w3⟩, hf⟩ := h
  rw [BatSched, WhyOK, hd, full_congr hm hby]
  exact ⟨⟨w1, fun h => ht (w2 h), w3⟩, hf⟩

theorem invBatSched_step {e : Event} (hL : InvLife cfg s) (hX : InvIndex s) (hI : InvBatSched cfg s)
    (h : Step cfg s e s') : InvBatSched cfg s' := by
  induction h with
  | newBatch hP hg => exact forall_upd _ _ _ hI ⟨whyOK_of_open rfl, fun hl => by rw [hg.lock] at hl; cases hl⟩
  | add hP hB hC hg =>
    exact forall_upd _ _ _ hI ⟨whyOK_of_open hg.detached, fun hl => by rw [hg.lock] at hl; cases hl⟩
  | @detach pw b size why P B hP hB hg =>
    refine forall_upd _ _ _ hI ⟨?_, nofun⟩
    -- the reason recorded is the one the guard checked
    have hwhy := hg.reason
    refine ⟨?_, ?_, ?_⟩ <;> rintro ⟨⟩ <;> simp only [whyOk, Bool.and_eq_true, decide_eq_true_eq] at hwhy
    · exact hwhy.1
    · exact hwhy
    · exact hwhy.1
  | timerFire hP hB hg => exact forall_upd _ _ _ hI ((hI _ _ hB).congr rfl rfl rfl fun _ => rfl)
  | produce hP _ hB | completion hP hB | complete hP hB => exact forall_upd _ _ _ hI ((hI _ _ hB).congr rfl rfl rfl id)
  | closeBegin hg =>
    exact fun b B hB => ⟨⟨(hI b B hB).1.1, (hI b B hB).1.2.1, fun _ => rfl⟩, fun _ => (hI b B hB).2 (by rw [hg]; rfl)⟩
  | batch => exact fun b B hB => ⟨(hI b B hB).1, nofun⟩
  | closeMarked hg => exact fun b B hB => ⟨(hI b B hB).1, fun _ => (hI b B hB).2 (by rw [hg.lock]; rfl)⟩
  | batched hC hg =>
    -- w.mutex is released only when no attached batch is full, and an open batch is an attached one
    refine fun b B hB => ⟨(hI b B hB).1, fun _ hd => ?_⟩
    obtain ⟨P, hP, hc, -⟩ := hL.attached_of_open hB hd
    exact noFull_elim hg.noFull (hX _ P hP).1 hP hc hB
  | _ => exact hI

theorem invBatSched (cfg : Cfg) : ∀ s, Reachable cfg s → InvBatSched cfg s :=
  Reachable.step_induction (fun _ _ h => by cases h) fun s _ _ hr hI h =>
    invBatSched_step (invLife cfg s hr) (invIndex cfg s hr) hI h

theorem invSched (cfg : Cfg) : ∀ s, Reachable cfg s → InvSched cfg s := by
  intro s hr
  have hX := invIndex cfg s hr
  have hW := invBatSched cfg s hr
  have hC := (invLife cfg s hr).currOpen (invOrd cfg s hr)
  refine ⟨fun pw P h => (hX pw P h).1, fun pw P h => (hX pw P h).2, hC, fun b B h => (hW b B h).1, ?_⟩
  intro hl pw P b B hP hc hB
  obtain ⟨B0, hB0, -, hd⟩ := hC pw P hP b hc
  cases hB.symm.trans hB0
  exact (hW b B hB).2 hl hd

end KV.Writer
