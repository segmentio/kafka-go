/-
Lemmas/Stash.lean — `Stash.merge`: where its entries come from, key uniqueness, and "the stash dominates a commit".
-/
import KafkaVerif.Model.Commit
import KafkaVerif.Lemmas.AssocList
namespace KV.Commit

/-- overwriting the offset of key `k` (the `map` in `merge1`) -/
theorem mem_update {s : Stash} {k : TP} {v : Int} {e : TP × Int} :
    e ∈ s.map (fun e => if e.1 == k then (e.1, v) else e) ↔ (e.1 ≠ k ∧ e ∈ s) ∨ (e = (k, v) ∧ ∃ o, (k, o) ∈ s) := by
  simp only [List.mem_map]
  constructor
  · rintro ⟨a, ha, rfl⟩
    by_cases hk : a.1 = k
    · exact .inr ⟨by simp [hk], a.2, hk ▸ ha⟩
    · exact .inl ⟨by simp [hk], by simpa [hk] using ha⟩
  · rintro (⟨hk, he⟩ | ⟨rfl, o, ho⟩)
    · exact ⟨e, he, by simp [hk]⟩
    · exact ⟨(k, o), ho, by simp⟩

theorem merge1_cases (s : Stash) (c : Commit) :
    ((∀ e ∈ s, e.1 ≠ c.tp) ∧ s.merge1 c = s ++ [(c.tp, c.offset)]) ∨
    ∃ o, (c.tp, o) ∈ s ∧
      ((o < c.offset ∧ s.merge1 c = s.map fun e => if e.1 == c.tp then (e.1, c.offset) else e) ∨
        (c.offset ≤ o ∧ s.merge1 c = s)) := by
  unfold Stash.merge1
  split
  · rename_i hn
    exact .inl ⟨fun e he hk => by simpa [hk] using List.lookup_eq_none_iff.mp hn e he, rfl⟩
  · rename_i o ho
    refine .inr ⟨o, AssocList.mem_of_lookup ho, ?_⟩
    split
    · rename_i hgt; exact .inl ⟨hgt, rfl⟩
    · rename_i hgt; exact .inr ⟨by omega, rfl⟩

theorem merge1_mem (s : Stash) (c : Commit) (e : TP × Int) (h : e ∈ s.merge1 c) :
    e ∈ s ∨ e = (c.tp, c.offset) := by
  rcases merge1_cases s c with ⟨_, he⟩ | ⟨o, _, ⟨_, he⟩ | ⟨_, he⟩⟩ <;> rw [he] at h
  · rcases List.mem_append.mp h with h | h
    · exact .inl h
    · exact .inr (List.mem_singleton.mp h)
  · rcases mem_update.mp h with ⟨_, h⟩ | ⟨h, _⟩
    · exact .inl h
    · exact .inr h
  · exact .inl h

theorem merge_mem (cs : List Commit) (s : Stash) (e : TP × Int) (h : e ∈ s.merge cs) :
    e ∈ s ∨ ∃ c ∈ cs, e = (c.tp, c.offset) := by
  induction cs generalizing s with
  | nil => exact .inl h
  | cons c cs ih =>
    simp only [Stash.merge, List.foldl_cons] at h
    rcases ih (s.merge1 c) h with h1 | ⟨c', hc', rfl⟩
    · rcases merge1_mem s c e h1 with h2 | rfl
      · exact .inl h2
      · exact .inr ⟨c, List.mem_cons_self, rfl⟩
    · exact .inr ⟨c', List.mem_cons_of_mem _ hc', rfl⟩

/-- keys are unique (the Go stash is a map) -/
def Uniq (s : Stash) : Prop := ∀ e1 ∈ s, ∀ e2 ∈ s, e1.1 = e2.1 → e1 = e2

theorem uniq_nil : Uniq [] := by intro e1 h; cases h

theorem uniq_merge1 (s : Stash) (c : Commit) (h : Uniq s) : Uniq (s.merge1 c) := by
  rcases merge1_cases s c with ⟨hk, he⟩ | ⟨o, _, ⟨_, he⟩ | ⟨_, he⟩⟩ <;> rw [he]
  · intro e1 h1 e2 h2 heq
    rcases List.mem_append.mp h1 with h1 | h1 <;> rcases List.mem_append.mp h2 with h2 | h2
    · exact h e1 h1 e2 h2 heq
    · cases List.mem_singleton.mp h2; exact absurd heq (hk e1 h1)
    · cases List.mem_singleton.mp h1; exact absurd heq.symm (hk e2 h2)
    · rw [List.mem_singleton.mp h1, List.mem_singleton.mp h2]
  · intro e1 h1 e2 h2 heq
    rcases mem_update.mp h1 with ⟨k1, h1⟩ | ⟨rfl, _⟩ <;> rcases mem_update.mp h2 with ⟨k2, h2⟩ | ⟨rfl, _⟩
    · exact h e1 h1 e2 h2 heq
    · exact absurd heq k1
    · exact absurd heq.symm k2
    · rfl
  · exact h

theorem uniq_merge (cs : List Commit) (s : Stash) (h : Uniq s) : Uniq (s.merge cs) := by
  induction cs generalizing s with
  | nil => exact h
  | cons c cs ih => simp only [Stash.merge, List.foldl_cons]; exact ih _ (uniq_merge1 s c h)

/-- the stash holds, for the key `tp`, an offset at least `o` -/
def Has (s : Stash) (tp : TP) (o : Int) : Prop := ∃ o', (tp, o') ∈ s ∧ o ≤ o'

theorem has_merge1_self (s : Stash) (c : Commit) : Has (s.merge1 c) c.tp c.offset := by
  rcases merge1_cases s c with ⟨_, he⟩ | ⟨o, hm, ⟨_, he⟩ | ⟨hle, he⟩⟩ <;> rw [he]
  · exact ⟨c.offset, List.mem_append_right _ (List.mem_singleton.mpr rfl), Int.le_refl _⟩
  · exact ⟨c.offset, mem_update.mpr (.inr ⟨rfl, o, hm⟩), Int.le_refl _⟩
  · exact ⟨o, hm, hle⟩

theorem has_merge1_mono (s : Stash) (c : Commit) (hu : Uniq s) (tp : TP) (o : Int) (h : Has s tp o) :
    Has (s.merge1 c) tp o := by
  obtain ⟨o', hm, hle⟩ := h
  rcases merge1_cases s c with ⟨_, he⟩ | ⟨o1, hm1, ⟨hlt, he⟩ | ⟨_, he⟩⟩ <;> rw [he]
  · exact ⟨o', List.mem_append_left _ hm, hle⟩
  · by_cases hk : tp = c.tp
    · -- the overwritten entry: by uniqueness `o'` is the old offset, below the new one
      subst hk
      have ho' : o' = o1 := by simpa using hu _ hm _ hm1 rfl
      exact ⟨c.offset, mem_update.mpr (.inr ⟨rfl, o1, hm1⟩), by omega⟩
    · exact ⟨o', mem_update.mpr (.inl ⟨hk, hm⟩), hle⟩
  · exact ⟨o', hm, hle⟩

theorem has_merge_mono (cs : List Commit) (s : Stash) (hu : Uniq s) (tp : TP) (o : Int) (h : Has s tp o) :
    Has (s.merge cs) tp o := by
  induction cs generalizing s with
  | nil => exact h
  | cons c cs ih =>
    simp only [Stash.merge, List.foldl_cons]
    exact ih _ (uniq_merge1 s c hu) (has_merge1_mono s c hu tp o h)

theorem has_merge_self (cs : List Commit) (s : Stash) (hu : Uniq s) : ∀ c ∈ cs, Has (s.merge cs) c.tp c.offset := by
  induction cs generalizing s with
  | nil => intro c hc; cases hc
  | cons a cs ih =>
    intro c hc
    simp only [Stash.merge, List.foldl_cons]
    rcases List.mem_cons.mp hc with rfl | hc
    · exact has_merge_mono cs _ (uniq_merge1 s c hu) _ _ (has_merge1_self s c)
    · exact ih _ (uniq_merge1 s a hu) c hc

end KV.Commit
