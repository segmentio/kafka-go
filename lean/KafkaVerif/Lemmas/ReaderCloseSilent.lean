/-
Lemmas/ReaderCloseSilent.lean — `Reader.Close` as a system (Model/ReaderCloseSystem.lean) against a broker and a
coordinator that have stopped answering: with a deadline on every blocking network operation of the fetchers
(Model/FetcherDeadlines.lean) and on every coordinator request (Model/GroupDeadlines.lean) some component can always move.
-/
import KafkaVerif.Lemmas.FetcherDeadlines
import KafkaVerif.Lemmas.GroupCloseProgress
import KafkaVerif.Lemmas.ReaderCloseSystem
namespace KV.GroupClose
open KV KV.Group KV.ReaderCloseSystem

/-- `ReaderCloseSystem.step` against a broker and a coordinator that have stopped answering: the fetchers step with
`FetcherLife.stepSilent fn`, the group with `Group.stepSilentG fc` -/
def stepSilentSys (fn : FetcherLife.NetFacts) (fc : Bool) (c : Cfg) (s : ReaderCloseSystem.State) :
    ReaderCloseSystem.Event → Option ReaderCloseSystem.State
  | .fetcher i e =>
    match s.fetchers[i]? with
    | none => none
    | some f =>
      if e = .ctxCancel then none
      else (FetcherLife.stepSilent fn f e).map fun f' => { s with fetchers := s.fetchers.set i f' }
  | .group e =>
    match s.group with
    | none => none
    | some g =>
      if s.closed && (e == .nextCall || e == .closeCall) then none
      else (Group.stepSilentG fc c g e).map fun g' => { s with group := some g' }
  | e => ReaderCloseSystem.step c s e

theorem stepSilentSys_eq_sysStep (fn : FetcherLife.NetFacts) (fc : Bool) (c : Cfg) (s : ReaderCloseSystem.State)
    (e : ReaderCloseSystem.Event) :
    stepSilentSys fn fc c s e = sysStep (FetcherLife.stepSilent fn) (Group.stepSilentG fc c) c s e := by
  cases e <;> rfl

theorem system_progress_silent (fn : FetcherLife.NetFacts) (ho : fn.offsets = true) (hrd : fn.read = true) (c : Cfg)
    (s : ReaderCloseSystem.State) (hi : ReaderCloseSystem.Inv c s) (hm : s.close = 2) :
    ∃ e, (ReaderCloseSystem.internal e = true ∨ (∃ gi acc, e = .group (.gStart gi acc)) ∨
          ∃ ge, e = .group ge ∧ genEvS ge = true) ∧ (stepSilentSys fn true c s e).isSome = true := by
  obtain ⟨e, he, hen⟩ := sysStep_progress (FetcherLife.stepSilent fn) (Group.stepSilentG true c) c s hi hm
    (fun ge => (∃ gi acc, ge = .gStart gi acc) ∨ genEvS ge = true)
    (fun _ h => h.elim (fun ⟨_, _, h⟩ => h ▸ rfl) genEvS_not_appCall)
    (fun f hc hx => let ⟨e, hec, hen, _⟩ := FetcherLife.progress_after_cancel_silent fn ho hrd f hc hx; ⟨e, hec, hen⟩)
    (fun g hgs hx => run_progress_full_silent c g (hi.grp g hgs).1 ((hi.grp g hgs).2 (hi.mark (by omega))) hx)
  exact ⟨e, he.imp_right fun ⟨ge, h, hq⟩ => hq.imp (fun ⟨gi, acc, h'⟩ => ⟨gi, acc, h' ▸ h⟩) fun hq => ⟨ge, h, hq⟩,
    stepSilentSys_eq_sysStep fn true c s e ▸ hen⟩

end KV.GroupClose
