/-
Lemmas/ConnMux.lean — `ConnMux.step` read as a relation (`Step`), and the invariant of the multiplexer: per call what its
status says of it (`CallOk`), per conn `Good`.
-/
import KafkaVerif.Model.ConnMux
import KafkaVerif.Base.Run

namespace KV.ConnMux

theorem _root_.List.getElem?_of_drop_eq_cons {α : Type} {l : List α} {n : Nat} {a : α} {t : List α} (h : l.drop n = a :: t) :
    l[n]? = some a := by
  have := List.getElem?_drop (xs := l) (i := n) (j := 0)
  rw [h] at this; exact this.symm

theorem upd_eq_some {m : Nat → Option Call} {k i : Nat} {v c : Call} (h : upd m k v i = some c) :
    (i = k ∧ c = v) ∨ (i ≠ k ∧ m i = some c) := by
  unfold upd at h
  split at h
  · next hik => exact .inl ⟨hik, (Option.some.inj h).symm⟩
  · next hik => exact .inr ⟨hik, h⟩

theorem setStatus_eq_upd {s : State} {seq : Nat} {c0 : Call} (h0 : s.calls seq = some c0) (st : Status) :
    setStatus s seq st = upd s.calls seq { c0 with st := st } := by
  funext i; unfold setStatus upd; split
  · rw [h0]; rfl
  · rfl

theorem setStatus_isSome (s : State) (seq : Nat) (st : Status) (i : Nat) :
    (setStatus s seq st i).isSome = (s.calls i).isSome := by
  unfold setStatus
  split
  · next heq => subst heq; cases s.calls i <;> rfl
  · rfl

theorem statusOf_eq_some {s : State} {seq : Nat} {st : Status} :
    statusOf s seq = some st ↔ ∃ c, s.calls seq = some c ∧ c.st = st := by
  simp only [statusOf, Option.map_eq_some_iff]

theorem statusOf_setStatus_same {s s' : State} {seq : Nat} {st0 st : Status} (h : statusOf s seq = some st0)
    (hs' : s'.calls = setStatus s seq st) : statusOf s' seq = some st := by
  obtain ⟨c, hc, _⟩ := statusOf_eq_some.mp h
  simp only [statusOf, hs', setStatus, ↓reduceIte, hc, Option.map_some]

theorem aloneWaiting_iff {s : State} {seq : Nat} :
    aloneWaiting s seq = true ↔ ∀ j, j ≤ s.nextSeq → j = seq ∨ statusOf s j ≠ some .waiting := by
  simp only [aloneWaiting, List.all_eq_true, List.mem_range, Bool.or_eq_true, beq_iff_eq, bne_iff_ne, ne_eq,
    Nat.lt_succ_iff]

theorem Status.frame_or (st : Status) : (∃ p f, st.frame = some (p, f)) ∨ st = .waiting ∨ st = .done .err := by
  cases st with
  | waiting => exact .inr (.inl rfl)
  | reading p f => exact .inl ⟨p, f, rfl⟩
  | done r => cases r with
    | err => exact .inr (.inr rfl)
    | resp p f => exact .inl ⟨p, f, rfl⟩
    | kafkaErr p f => exact .inl ⟨p, f, rfl⟩

def Body.result : Body → Nat → Frame → Result
  | .ok, p, f => .resp p f
  | .kafka, p, f => .kafkaErr p f
  | .io, _, _ => .err

theorem Body.frame_result {o : Body} {pos p : Nat} {f g : Frame}
    (h : (Status.done (o.result pos f)).frame = some (p, g)) : (Status.reading pos f).frame = some (p, g) := by
  cases o <;> first | exact h | cases h

/-- `step` as a relation: the guard of each event and the state it leads to -/
inductive Step (s : State) : Event → State → Prop
  | write (tag ok) : Step s (.write tag ok (wire (s.nextSeq + 1)))
      { s with nextSeq := s.nextSeq + 1,
               calls := upd s.calls (s.nextSeq + 1) ⟨tag, if ok then .waiting else .done .err⟩,
               closed := if ok then s.closed else true }
  | take (seq f rest) : s.rdead = false → s.rlock = none → statusOf s seq = some .waiting → s.stream = f :: rest →
      f.id = wire seq →
      Step s (.take seq) { s with rlock := some seq, stream := rest, consumed := s.consumed + 1,
                                  calls := setStatus s seq (.reading s.consumed f) }
  | yield (seq seen f rest) : s.rdead = false → s.rlock = none → statusOf s seq = some .waiting →
      s.stream = f :: rest → f.id = seen → seen ≠ wire seq → Step s (.yield seq seen) s
  | lone (seq seen f rest) : s.rdead = false → s.rlock = none → statusOf s seq = some .waiting →
      s.stream = f :: rest → f.id = seen → seen ≠ wire seq → aloneWaiting s seq = true →
      Step s (.lone seq seen) { s with calls := setStatus s seq (.done .err), closed := true }
  | peekErr (seq) : s.rlock = none → statusOf s seq = some .waiting →
      Step s (.peekErr seq) { s with calls := setStatus s seq (.done .err), closed := true, rdead := true }
  | finish (seq pos f o) : s.rlock = some seq → statusOf s seq = some (.reading pos f) →
      Step s (.finish seq o) { s with rlock := none, calls := setStatus s seq (.done (o.result pos f)),
                                      closed := if o = .io then true else s.closed,
                                      rdead := if o = .io then true else s.rdead }
  | close : Step s .close { s with closed := true }

theorem step_iff {s s' : State} {e : Event} : step s e = some s' ↔ Step s e s' := by
  constructor
  · -- one goal per branch of `step`; each successful branch is the constructor of its event, with its guard
    intro h
    revert h
    fun_cases step s e <;> intro h <;> cases h
    all_goals try simp only [ne_eq, Decidable.not_not, Bool.not_eq_true] at *
    all_goals subst_vars
    all_goals constructor <;> first | assumption | simp_all
  · intro h
    cases h with
    | write tag ok => cases ok <;> simp [step]
    | finish seq pos f o h1 h2 => cases o <;> simp [step, h1, h2, Body.result]
    | _ => simp [step, *]

theorem runFrom_eq (s : State) (es : List Event) : runFrom s es = es.foldlM step s :=
  Run.eq_foldlM (fun _ => rfl) (fun s e es => by rw [runFrom]; cases step s e <;> rfl) es s

theorem runFrom_induction {P : State → Prop} {es : List Event}
    (hstep : ∀ s e s', e ∈ es → P s → step s e = some s' → P s') {s s' : State} (hp : P s)
    (h : runFrom s es = some s') : P s' :=
  Run.invariant_mem hstep (runFrom_eq s es ▸ h) hp

/-- what is known of call `i` with record `c` in state `s`: the clauses `range`, `own`, `reader` of `C06.Inv` (Props/C06.lean,
where each is explained) for one call, and `noFailure` -/
structure CallOk (stream0 : List Frame) (s : State) (i : Nat) (c : Call) : Prop where
  range : 1 ≤ i ∧ i ≤ s.nextSeq
  own : ∀ p f, c.st.frame = some (p, f) → stream0[p]? = some f ∧ f.id = wire i ∧ p < s.consumed
  reader : ∀ p f, c.st = .reading p f → s.rlock = some i
  /-- each failure closes the conn -/
  noFailure : s.closed = false → c.st ≠ .done .err

theorem CallOk.mono {stream0 : List Frame} {s s' : State} {i : Nat} {c : Call} (h : CallOk stream0 s i c)
    (hn : s.nextSeq ≤ s'.nextSeq) (hc : s.consumed ≤ s'.consumed)
    (hl : ∀ p f, c.st = .reading p f → s'.rlock = some i) (hcl : s'.closed = false → s.closed = false) :
    CallOk stream0 s' i c :=
  ⟨⟨h.range.1, Nat.le_trans h.range.2 hn⟩,
   fun p f hf => ⟨(h.own p f hf).1, (h.own p f hf).2.1, Nat.lt_of_lt_of_le (h.own p f hf).2.2 hc⟩, hl,
   fun hc' => h.noFailure (hcl hc')⟩

/-- the invariant of the multiplexer, relative to the stream `stream0` the broker sends: `rest`, `once` and the clauses of
`call` are those of `C06.Inv` (Props/C06.lean) -/
structure Good (stream0 : List Frame) (s : State) : Prop where
  rest : stream0.drop s.consumed = s.stream
  /-- every number 1 … nextSeq is a call -/
  total : ∀ i, 1 ≤ i → i ≤ s.nextSeq → (s.calls i).isSome = true
  call : ∀ i c, s.calls i = some c → CallOk stream0 s i c
  once : ∀ i j ci cj p fi fj, s.calls i = some ci → s.calls j = some cj →
      ci.st.frame = some (p, fi) → cj.st.frame = some (p, fj) → i = j
  /-- `abortRead` and the failed-`Peek` branch close first -/
  rdeadClosed : s.rdead = true → s.closed = true

theorem good_init (stream0 : List Frame) : Good stream0 (init stream0) :=
  ⟨rfl, fun _ h1 h2 => absurd (Nat.le_trans h1 h2) (Nat.not_succ_le_zero 0), fun _ _ h => (nomatch h),
    fun _ _ _ _ _ _ _ h => (nomatch h), fun h => (nomatch h)⟩

/-- one call `k` gets the record `c1`, the others keep theirs: the invariant survives if `c1` is in order in the new state,
its frame (if any) is nobody else's, and the others' facts carry over -/
theorem Good.put {stream0 : List Frame} {s s' : State} (hg : Good stream0 s) {k : Nat} {c1 : Call}
    (hcalls : s'.calls = upd s.calls k c1) (hrest : stream0.drop s'.consumed = s'.stream)
    (hseq : ∀ i, i ≠ k → i ≤ s'.nextSeq → i ≤ s.nextSeq) (hk : CallOk stream0 s' k c1)
    (hfresh : ∀ p f, c1.st.frame = some (p, f) → ∀ j cj fj, j ≠ k → s.calls j = some cj → cj.st.frame ≠ some (p, fj))
    (hothers : ∀ i c, i ≠ k → s.calls i = some c → CallOk stream0 s' i c)
    (hdead : s'.rdead = true → s'.closed = true) : Good stream0 s' := by
  have hc : ∀ i c, s'.calls i = some c → (i = k ∧ c = c1) ∨ (i ≠ k ∧ s.calls i = some c) :=
    fun i c h => upd_eq_some (hcalls ▸ h)
  refine ⟨hrest, fun i h1 h2 => ?_, fun i c h => ?_, fun i j ci cj p fi fj hci hcj hfi hfj => ?_, hdead⟩
  · rw [hcalls, upd]; split
    · rfl
    · next hik => exact hg.total i h1 (hseq i hik h2)
  · rcases hc i c h with ⟨rfl, rfl⟩ | ⟨hik, h⟩
    · exact hk
    · exact hothers i c hik h
  · rcases hc i ci hci with ⟨hik, rfl⟩ | ⟨hik, hci⟩ <;> rcases hc j cj hcj with ⟨hjk, rfl⟩ | ⟨hjk, hcj⟩
    · rw [hik, hjk]
    · exact absurd hfj (hfresh p fi hfi j cj fj hjk hcj)
    · exact absurd hfi (hfresh p fj hfj i ci fi hik hci)
    · exact hg.once i j ci cj p fi fj hci hcj hfi hfj

/-- a waiting call ends in an error and the conn closes (`ErrNoProgress`; a failed `Peek`, which also kills the read
side) -/
theorem Good.fail {stream0 : List Frame} {s : State} (hg : Good stream0 s) {seq : Nat}
    (hw : statusOf s seq = some .waiting) (rd : Bool) :
    Good stream0 { s with calls := setStatus s seq (.done .err), closed := true, rdead := rd } := by
  obtain ⟨c0, hc0, _⟩ := statusOf_eq_some.mp hw
  exact hg.put (k := seq) (setStatus_eq_upd hc0 _) hg.rest (fun _ _ h => h)
    ⟨(hg.call seq c0 hc0).range, nofun, nofun, nofun⟩ nofun
    (fun i c _ hc => (hg.call i c hc).mono (Nat.le_refl _) (Nat.le_refl _) (hg.call i c hc).reader nofun)
    fun _ => rfl

theorem Good.step {stream0 : List Frame} {s s' : State} {e : Event} (hg : Good stream0 s) (h : step s e = some s') :
    Good stream0 s' := by
  cases step_iff.mp h with
  | write tag ok =>
    refine hg.put (k := s.nextSeq + 1) rfl hg.rest (fun i hik h2 => Nat.le_of_lt_succ (Nat.lt_of_le_of_ne h2 hik))
      ⟨⟨Nat.le_add_left _ _, Nat.le_refl _⟩, by cases ok <;> nofun, by cases ok <;> nofun, by cases ok <;> nofun⟩
      (by cases ok <;> nofun)
      (fun i c _ hc => (hg.call i c hc).mono (Nat.le_succ _) (Nat.le_refl _) (hg.call i c hc).reader
        (by cases ok <;> first | exact id | nofun))
      (fun hd => by cases ok <;> first | exact hg.rdeadClosed hd | rfl)
  | take seq f rest _ hl hw hs hid =>
    obtain ⟨c0, hc0, hw0⟩ := statusOf_eq_some.mp hw
    have hdrop : stream0.drop s.consumed = f :: rest := by rw [hg.rest, hs]
    refine hg.put (k := seq) (setStatus_eq_upd hc0 _) ?_ (fun _ _ h => h)
      ⟨(hg.call seq c0 hc0).range, fun p g hg' => ?_, fun _ _ _ => rfl, fun _ => nofun⟩
      (fun p g hg' j cj fj _ hcj hfj => ?_) (fun i c _ hc => ?_) hg.rdeadClosed
    · show stream0.drop (s.consumed + 1) = rest
      rw [← List.drop_drop, hdrop]; rfl
    · cases hg'
      exact ⟨List.getElem?_of_drop_eq_cons hdrop, hid, Nat.lt_succ_self _⟩
    · -- the position just consumed was nobody's
      cases hg'
      exact Nat.lt_irrefl _ ((hg.call j cj hcj).own _ fj hfj).2.2
    · -- the lock was free: nobody else is reading
      refine (hg.call i c hc).mono (Nat.le_refl _) (Nat.le_succ _) (fun p g hr => ?_) id
      have := (hg.call i c hc).reader p g hr
      rw [hl] at this; cases this
  | yield => exact hg
  | lone seq seen f rest _ _ hw => exact hg.fail hw s.rdead
  | peekErr seq _ hw => exact hg.fail hw true
  | finish seq pos f o hl hr =>
    obtain ⟨c0, hc0, hr0⟩ := statusOf_eq_some.mp hr
    -- the frame it was reading, still its own
    have hkeep : ∀ {p g}, (Status.done (o.result pos f)).frame = some (p, g) → c0.st.frame = some (p, g) :=
      fun hg' => by rw [hr0]; exact Body.frame_result hg'
    refine hg.put (k := seq) (setStatus_eq_upd hc0 _) hg.rest (fun _ _ h => h)
      ⟨(hg.call seq c0 hc0).range, fun p g hg' => (hg.call seq c0 hc0).own p g (hkeep hg'), nofun,
        by cases o <;> nofun⟩
      (fun p g hg' j cj fj hjk hcj hfj => hjk (hg.once j seq cj c0 p fj g hcj hc0 hfj (hkeep hg')))
      (fun i c hik hc => ?_) (by cases o <;> first | exact hg.rdeadClosed | exact fun _ => rfl)
    -- the lock was `seq`'s: nobody else is reading
    refine (hg.call i c hc).mono (Nat.le_refl _) (Nat.le_refl _) (fun p g hr' => ?_)
      (by cases o <;> first | exact id | nofun)
    have := (hg.call i c hc).reader p g hr'
    rw [hl] at this; exact absurd (Option.some.inj this).symm hik
  | close => exact ⟨hg.rest, hg.total, fun i c hc => (hg.call i c hc).mono (Nat.le_refl _) (Nat.le_refl _)
      (hg.call i c hc).reader nofun, hg.once, fun _ => rfl⟩

theorem good_run {stream0 : List Frame} {es : List Event} {s : State} (h : run stream0 es = some s) : Good stream0 s :=
  runFrom_induction (fun _ _ _ _ hg => hg.step) (good_init stream0) h

end KV.ConnMux
