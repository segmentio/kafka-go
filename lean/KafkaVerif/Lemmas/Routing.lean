/-
Lemmas/Routing.lean — lemmas over Model/Routing.lean for Props/C12.lean; the Go maps (`ainsert`, `lookup`) are read through
Lemmas/Ainsert.lean and Lemmas/AssocList.lean.

The predicates Props/C12 is stated with are defined here: `BrokersWF`, `LedBy` in namespace `KV.Routing`, `SortedTopics`,
`ConnsInv` with the lemmas in `KV.Lemmas.Routing`; `Boundary` (what `sortSearch_spec` returns) and `newLayout` (the layout
`update_ok` writes) are used in this file only.

Facts about the regenerated constants of Gen/Routing.lean enter in three ways.  A constant that is data and on whose value
an argument turns (`updateCompare`, `updateApplyOrder`) is a hypothesis (`hc`, `ho`) supplied by Props/C12.  The five flags
that only select what `update` writes (`updateErrorKeepsKnown`, `updateErrorStoresErr`, `updateSuccessSetsMetadata`,
`updateSuccessSetsLayout`, `updateSuccessClearsErr`) are evaluated in `update_failed` and `update_ok` and nowhere else:
every other fact about `update` reads those two equations (Props/C12 `update_state_writes` names the values they hold for).
A constant that is a function body (`selectVersionSrc`, `searchPred`, `searchHit`, `usesBrokerConn`) is unfolded by the
proof that needs it.
-/
import KafkaVerif.Model.Routing
import KafkaVerif.Lemmas.Ainsert

namespace KV.Routing

/-- well-formed layout: the broker map is keyed by broker id (as `makeLayout` keys it, by `NodeID`) and ids are ≥ 0 (an
assumption on the metadata: Kafka node ids are non-negative) -/
def BrokersWF (c : Cluster) : Prop := ∀ k b, c.brokers.lookup k = some b → b.id = k ∧ 0 ≤ k

/-- the leader of (topic, partition) in the layout is the broker with id `b` -/
def LedBy (c : Cluster) (tn : String) (p : Int) (b : Int) : Prop :=
  ∃ t part br, c.topics.lookup tn = some t ∧ t.partitions.lookup p = some part ∧
    c.brokers.lookup part.leader = some br ∧ br.id = b

end KV.Routing

namespace KV.Lemmas.Routing
open KV.Routing KV.AssocList
open KV.Lemmas.Ainsert (lookup_ainsert_self lookup_ainsert_other)

theorem selectVersion_eq (cmin cmax bmin bmax : Int) :
    selectVersion cmin cmax bmin bmax = if bmax < cmin then cmin else min cmax bmax := by
  simp only [selectVersion, KV.Gen.Routing.selectVersionSrc, gt_iff_lt]
  split
  · rfl
  · split <;> omega

theorem negotiate_unlisted (client : Nat → Int × Int) (table : List (Nat × Int × Int)) (key : Nat)
    (h : ∀ e ∈ table, e.1 ≠ key) : (negotiate client table).lookup key = none :=
  lookup_foldl_other _ table [] key fun m e he => lookup_ainsert_other m e.1 key _ (h e he).symm

theorem negotiate_lookup (client : Nat → Int × Int) (pre post : List (Nat × Int × Int)) (key : Nat) (bmin bmax : Int)
    (hpost : ∀ e ∈ post, e.1 ≠ key) :
    negotiatedVersion (negotiate client (pre ++ (key, bmin, bmax) :: post)) key
      = selectVersion (client key).1 (client key).2 bmin bmax := by
  unfold negotiatedVersion negotiate lookupD
  rw [List.foldl_append, List.foldl_cons,
    lookup_foldl_other _ post _ key fun m e he => lookup_ainsert_other m e.1 key _ (hpost e he).symm,
    lookup_ainsert_self]
  rfl

theorem ledBy_unique (c : Cluster) {tn : String} {p b1 b2 : Int} (h1 : LedBy c tn p b1) (h2 : LedBy c tn p b2) :
    b1 = b2 := by
  obtain ⟨t, part, br, ht, hp, hb, hid⟩ := h1
  obtain ⟨t', part', br', ht', hp', hb', hid'⟩ := h2
  rw [ht] at ht'; cases ht'
  rw [hp] at hp'; cases hp'
  rw [hb] at hb'; cases hb'
  omega

theorem leaderParts_sound (c : Cluster) (hwf : BrokersWF c) (tn : String) (t : Topic) (ht : c.topics.lookup tn = some t)
    (ps : List Int) (cur r : Int) (h : leaderParts c t ps cur = .ok r) :
    (0 ≤ cur → r = cur) ∧ (ps ≠ [] → 0 ≤ r) ∧ (∀ p ∈ ps, LedBy c tn p r) := by
  induction ps generalizing cur with
  | nil => cases h; simp
  | cons p ps ih =>
    simp only [leaderParts] at h
    split at h
    · cases h
    · next part hpart =>
      split at h
      · cases h
      · next br hbr =>
        have hid := hwf _ _ hbr
        -- either way the loop goes on with `br.id`, which is ≥ 0
        have hnext : leaderParts c t ps br.id = .ok r ∧ (0 ≤ cur → br.id = cur) := by
          split at h
          · exact ⟨h, by omega⟩
          · split at h
            · cases h
            · next heq =>
              have : br.id = cur := by simpa using heq
              exact ⟨this ▸ h, fun _ => this⟩
        obtain ⟨hr, _, hled⟩ := ih br.id hnext.1
        have hr := hr (by omega)
        refine ⟨fun h0 => hr.trans (hnext.2 h0), fun _ => by omega, ?_⟩
        intro q hq
        rcases List.mem_cons.mp hq with rfl | hq
        · exact ⟨t, part, br, ht, hpart, hbr, hr.symm⟩
        · exact hled q hq

theorem leaderAll_sound (c : Cluster) (hwf : BrokersWF c) (tps : List (String × List Int)) (cur b : Int)
    (h : leaderAll c tps cur = .ok b) :
    (0 ≤ cur → b = cur) ∧ ∀ tn ps, (tn, ps) ∈ tps → ∀ p ∈ ps, LedBy c tn p b := by
  induction tps generalizing cur with
  | nil => cases h; exact ⟨fun _ => rfl, fun _ _ h => by cases h⟩
  | cons tp rest ih =>
    obtain ⟨tn0, ps0⟩ := tp
    simp only [leaderAll] at h
    split at h
    · cases h
    · next t ht =>
      split at h
      · cases h
      · next cur' hparts =>
        obtain ⟨hkeep, hpos, hled⟩ := leaderParts_sound c hwf tn0 t ht ps0 cur cur' hparts
        obtain ⟨hb, hrest⟩ := ih cur' h
        refine ⟨fun h0 => (hb (hkeep h0 ▸ h0)).trans (hkeep h0), ?_⟩
        intro tn ps hmem p hp
        rcases List.mem_cons.mp hmem with heq | hmem
        · cases heq
          -- a visited partition made the value ≥ 0, so the rest kept it
          rw [hb (hpos (List.ne_nil_of_mem hp))]
          exact hled p hp
        · exact hrest tn ps hmem p hp

theorem route_broker {cases : List KV.Gen.Routing.SwitchCase} {a : KV.Gen.Routing.ApiMethods}
    (ha : firstCase cases a = some .broker) (c : Cluster) (conns : List (Int × Addr)) (r : ReqInfo) :
    route cases a c conns r = ofExcept conns (brokerMethod a c r) := by
  simp only [route, ha]

theorem sendTarget_broker {conns : List (Int × Addr)} {id : Int} {addr : Addr} (h0 : 0 ≤ id)
    (hc : conns.lookup id = some addr) : sendTarget conns id = .broker id addr := by
  simp [sendTarget, KV.Gen.Routing.usesBrokerConn, h0, hc]

theorem sendTarget_broker_inv {conns : List (Int × Addr)} {id b : Int} {addr : Addr}
    (h : sendTarget conns id = .broker b addr) : id = b := by
  unfold sendTarget at h
  split at h
  · split at h
    · injection h
    · cases h
  · cases h

/-- what `sort.Search(n, f)` returns for any `f`: an index with `f` false just below it and true at it (for a monotone `f`,
the least index at which `f` holds) -/
def Boundary (f : Nat → Bool) (n r : Nat) : Prop := r ≤ n ∧ (∀ k, k + 1 = r → f k = false) ∧ (r < n → f r = true)

theorem searchLoop_spec (f : Nat → Bool) (n fuel i j : Nat) (hij : i ≤ j) (hjn : j ≤ n) (hfuel : j ≤ i + fuel)
    (hlo : ∀ k, k + 1 = i → f k = false) (hhi : j < n → f j = true) : Boundary f n (searchLoop f fuel i j) := by
  induction fuel generalizing i j with
  | zero =>
    obtain rfl : i = j := Nat.le_antisymm hij hfuel
    exact ⟨hjn, hlo, hhi⟩
  | succ fuel ih =>
    simp only [searchLoop]
    split
    · obtain ⟨h1, h2⟩ : i ≤ (i + j) / 2 ∧ (i + j) / 2 < j := by omega
      generalize (i + j) / 2 = h at h1 h2 ⊢
      cases hf : f h with
      | true => exact ih i h h1 (by omega) (by omega) hlo (fun _ => hf)
      | false => exact ih (h + 1) j h2 hjn (by omega) (fun k hk => Nat.succ.inj hk ▸ hf) hhi
    · next hge =>
      obtain rfl : i = j := Nat.le_antisymm hij (Nat.not_lt.mp hge)
      exact ⟨hjn, hlo, hhi⟩

theorem sortSearch_spec (f : Nat → Bool) (n : Nat) : Boundary f n (sortSearch n f) :=
  searchLoop_spec f n n 0 n (Nat.zero_le _) (Nat.le_refl _) (Nat.le_add_left _ _)
    (fun _ hk => absurd hk (Nat.succ_ne_zero _)) (fun h => absurd h (Nat.lt_irrefl _))

def SortedTopics (ts : List MTopic) : Prop := List.Pairwise (fun a b => a.name < b.name) ts

theorem sorted_get_lt (ts : List MTopic) (hs : SortedTopics ts) (a b : Nat) (hab : a < b) (ta tb : MTopic)
    (ha : ts[a]? = some ta) (hb : ts[b]? = some tb) : ta.name < tb.name := by
  obtain ⟨hal, rfl⟩ := List.getElem?_eq_some_iff.mp ha
  obtain ⟨hbl, rfl⟩ := List.getElem?_eq_some_iff.mp hb
  exact List.pairwise_iff_getElem.mp hs a b hal hbl hab

theorem find?_of_isolated {α : Type} (p : α → Bool) (l : List α) (r : Nat)
    (h : ∀ k t, k ≠ r → l[k]? = some t → p t = false) : l.find? p = (l[r]?).filter p := by
  induction l generalizing r with
  | nil => rfl
  | cons x xs ih =>
    cases r with
    | zero =>
      have : xs.find? p = none := List.find?_eq_none.mpr fun y hy => by
        obtain ⟨k, hk, rfl⟩ := List.getElem_of_mem hy
        rw [h (k + 1) xs[k] (Nat.succ_ne_zero k) (by rw [List.getElem?_cons_succ, List.getElem?_eq_getElem hk])]
        exact Bool.false_ne_true
      rw [List.find?_cons, this]
      cases hx : p x <;> simp [Option.filter, hx]
    | succ r =>
      rw [List.find?_cons, h 0 x (Nat.succ_ne_zero r).symm rfl, List.getElem?_cons_succ]
      exact ih r fun k t hk hget => h (k + 1) t (fun h' => hk (Nat.succ.inj h')) (by rw [List.getElem?_cons_succ]; exact hget)

/-- The left side is the body of the `map` in `filterMetadata` (Model/Routing.lean), so that `filter_eq_last_refresh` can
rewrite with it. -/
theorem findTopic_correct (ts : List MTopic) (hs : SortedTopics ts) (n : String) :
    (match findTopic ts n with
     | some j => ts.getD j (unknownTopic n)
     | none => unknownTopic n) = (ts.find? (fun x => x.name == n)).getD (unknownTopic n) := by
  let f : Nat → Bool := fun i => match ts[i]? with | some t => decide (n ≤ t.name) | none => true
  obtain ⟨hrn, hlo, hhi⟩ := sortSearch_spec f ts.length
  have hfind : findTopic ts n = (match ts[sortSearch ts.length f]? with
      | some t => if t.name == n then some (sortSearch ts.length f) else none
      | none => none) := rfl  -- unfolds the regenerated `searchPred` (elem ≥ target) and `searchHit` (elem = target)
  rw [hfind]
  generalize sortSearch ts.length f = r at hrn hlo hhi ⊢
  -- the bisection isolates index `r`: the name just before it is smaller than `n`, the name at it is not, and the list is sorted
  have hiso : ∀ k t, k ≠ r → ts[k]? = some t → (t.name == n) = false := by
    intro k t hk hget
    simp only [beq_eq_false_iff_ne, ne_eq]
    rintro rfl
    rcases Nat.lt_or_gt_of_ne hk with hlt | hgt
    · obtain ⟨q, rfl⟩ : ∃ q, r = q + 1 := ⟨r - 1, by omega⟩
      have hql : q < ts.length := by omega
      have hq := hlo q rfl
      simp only [f, List.getElem?_eq_getElem hql, decide_eq_false_iff_not] at hq
      rcases Nat.lt_or_ge k q with h | h
      · have := sorted_get_lt ts hs k q h t ts[q] hget (List.getElem?_eq_getElem hql)
        exact hq (String.not_lt.mp fun h' => String.lt_irrefl _ (String.lt_trans this h'))
      · obtain rfl : k = q := by omega
        rw [List.getElem?_eq_getElem hql] at hget; cases hget
        exact hq (String.le_refl _)
    · have hrl : r < ts.length := Nat.lt_trans hgt (List.getElem?_eq_some_iff.mp hget).1
      have hge := hhi hrl
      simp only [f, List.getElem?_eq_getElem hrl, decide_eq_true_eq] at hge
      exact String.not_lt.mpr hge (sorted_get_lt ts hs r k hgt ts[r] t (List.getElem?_eq_getElem hrl) hget)
  rw [find?_of_isolated _ ts r hiso]
  cases hr : ts[r]? with
  | none => rfl
  | some t => by_cases hname : t.name == n <;> simp [hname, Option.filter, List.getD, hr]

theorem mem_insertBy {α : Type} (lt : α → α → Bool) (x z : α) (l : List α) :
    z ∈ insertBy lt x l ↔ z = x ∨ z ∈ l := by
  induction l with
  | nil => simp [insertBy]
  | cons y ys ih =>
    simp only [insertBy]
    split
    · simp
    · simp only [List.mem_cons, ih]
      exact or_left_comm

theorem mem_sortBy {α : Type} (lt : α → α → Bool) (z : α) (l : List α) : z ∈ sortBy lt l ↔ z ∈ l := by
  induction l with
  | nil => simp [sortBy]
  | cons x xs ih => simp [sortBy, mem_insertBy, ih]

theorem insertBy_sorted (x : MTopic) (l : List MTopic) (hs : SortedTopics l) (hx : ∀ y ∈ l, y.name ≠ x.name) :
    SortedTopics (insertBy (fun a b => decide (a.name < b.name)) x l) := by
  induction l with
  | nil => simp [insertBy, SortedTopics]
  | cons y ys ih =>
    obtain ⟨hy, hys⟩ := List.pairwise_cons.mp hs
    simp only [insertBy]
    split
    · next hlt =>
      have hxy : x.name < y.name := by simpa using hlt
      exact List.pairwise_cons.mpr
        ⟨fun z hz => (List.mem_cons.mp hz).elim (· ▸ hxy) fun hz => String.lt_trans hxy (hy z hz), hs⟩
    · next hnlt =>
      have hyx : y.name < x.name :=
        Std.lt_of_le_of_ne (String.not_lt.mp (by simpa using hnlt)) (hx y List.mem_cons_self)
      exact List.pairwise_cons.mpr ⟨fun z hz => ((mem_insertBy _ x z ys).mp hz).elim (· ▸ hyx) (hy z),
        ih hys fun z hz => hx z (List.mem_cons_of_mem _ hz)⟩

theorem sortBy_sorted (l : List MTopic) (hnd : (l.map (·.name)).Nodup) :
    SortedTopics (sortBy (fun a b => decide (a.name < b.name)) l) := by
  induction l with
  | nil => simp [sortBy, SortedTopics]
  | cons x xs ih =>
    simp only [List.map_cons, List.nodup_cons] at hnd
    simp only [sortBy]
    apply insertBy_sorted x _ (ih hnd.2)
    intro y hy heq
    exact hnd.1 (List.mem_map.mpr ⟨y, (mem_sortBy _ y xs).mp hy, heq⟩)

theorem normalize_sorted (m : MResponse) (hnd : (m.topics.map (·.name)).Nodup) : SortedTopics (normalize m).topics := by
  unfold SortedTopics
  simp only [normalize]
  rw [List.pairwise_map]
  exact sortBy_sorted m.topics hnd

theorem differs_eq (hc : KV.Gen.Routing.updateCompare = .whole) (b1 : Broker) (o : Option Broker) :
    differs b1 o = (some b1 != o) := by
  cases o with
  | none => simp [differs]
  | some b2 =>
    simp only [differs, hc, brokersDiffer]
    by_cases h : b1 = b2 <;> simp [h, bne]

theorem mem_sets (hc : KV.Gen.Routing.updateCompare = .whole) (old new : List (Int × Broker)) (id : Int) :
    (id ∈ delSet old new ↔ ∃ b1, old.lookup id = some b1 ∧ some b1 ≠ new.lookup id) ∧
    (id ∈ addSet old new ↔ ∃ b2, new.lookup id = some b2 ∧ old.lookup id ≠ some b2) := by
  have hold : id ∈ keys old ↔ _ := mem_keys_iff_lookup old id
  have hnew : id ∈ keys new ↔ _ := mem_keys_iff_lookup new id
  simp only [delSet, addSet, newClass, oldClass, KV.Gen.Routing.updateNewEntry, KV.Gen.Routing.updateOldEntry,
    List.mem_append, List.mem_filter, hold, hnew]
  cases old.lookup id <;> cases new.lookup id <;> simp [differs_eq hc]
  -- left: the id is in both layouts, and `updateNewEntry` puts it into both sets or into neither, by whether its entry changed
  split <;> simp [*]

/-- A changed id is in both sets: its group is dropped and re-created at the new address.  The two halves of `mem_sets` are
the two hypotheses for the sets of `update`. -/
theorem conns_update (old new : List (Int × Broker)) (conns : List (Int × Addr)) (del add : List Int)
    (hdel : ∀ id, id ∈ del ↔ ∃ b1, old.lookup id = some b1 ∧ some b1 ≠ new.lookup id)
    (hadd : ∀ id, id ∈ add ↔ ∃ b2, new.lookup id = some b2 ∧ old.lookup id ≠ some b2)
    (inv : ∀ id, conns.lookup id = (old.lookup id).map Broker.addr) (id : Int) :
    (conns.filter (fun e => !del.contains e.1) ++ add.map fun id => (id, (lookupD new id Broker.zero).addr)).lookup id
      = (new.lookup id).map Broker.addr := by
  rw [List.lookup_append, lookup_filter_key conns (fun k => !del.contains k), lookup_map_ids, inv id]
  have hd := hdel id
  have ha := hadd id
  cases ho : old.lookup id with
  | none => cases hn : new.lookup id <;> simp [ho, hn] at hd ha <;> simp [hd, ha, lookupD, hn]
  | some b1 =>
    cases hn : new.lookup id with
    | none => simp [ho, hn] at hd ha; simp [hd, ha]
    | some b2 =>
      by_cases hb : b1 = b2 <;> simp [ho, hn, hb] at hd ha <;> simp [hd, ha, hb, lookupD, hn]

/-- the pool has a connection group for exactly the brokers of its cached layout, and each group's dial
address is the address the cached metadata gives for that broker -/
def ConnsInv (s : PoolState) : Prop :=
  ∀ id, s.conns.lookup id = (s.layout.brokers.lookup id).map Broker.addr

theorem update_failed (s : PoolState) (m : Option MResponse) :
    update s m true = if s.metadata.isSome = true then s else { s with err := true } := by
  cases h : s.metadata <;> simp [update, h, KV.Gen.Routing.updateErrorKeepsKnown, KV.Gen.Routing.updateErrorStoresErr]

/-- the layout a refresh installs: that of the normalised answer, the empty one without an answer -/
def newLayout (m : Option MResponse) : Cluster :=
  match m.map normalize with | some x => makeLayout x | none => Cluster.zero

theorem update_ok (s : PoolState) (m : Option MResponse) :
    update s m false =
      { metadata := m.map normalize, layout := newLayout m, err := false,
        conns := applySets KV.Gen.Routing.updateApplyOrder s.conns (delSet s.layout.brokers (newLayout m).brokers)
          ((addSet s.layout.brokers (newLayout m).brokers).map fun id =>
            (id, (lookupD (newLayout m).brokers id Broker.zero).addr)) } := rfl

theorem update_connsInv (hc : KV.Gen.Routing.updateCompare = .whole)
    (ho : KV.Gen.Routing.updateApplyOrder = [.del, .add]) (s : PoolState) (m : Option MResponse) (err : Bool)
    (h : ConnsInv s) : ConnsInv (update s m err) := by
  cases err with
  | true =>
    rw [update_failed]
    split <;> exact h
  | false =>
    rw [update_ok, ConnsInv, applySets, if_pos (by rw [ho]; rfl)]
    exact conns_update s.layout.brokers _ s.conns _ _ (fun id => (mem_sets hc _ _ id).1)
      (fun id => (mem_sets hc _ _ id).2) h

theorem optionOK_arrives {apiKey : Nat} {pkg option : String} {since : Int}
    (hs : KV.Spec.Routing.optionSince apiKey option = some since) (hc : splitCarries pkg option = true) (v : Int) :
    KV.Spec.Routing.optionOK apiKey option v (optionArrives pkg option since v) = true := by
  rw [KV.Spec.Routing.optionOK, hs, optionArrives, hc, Bool.true_and]
  exact beq_self_eq_true _

end KV.Lemmas.Routing
