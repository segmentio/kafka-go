/-
Lemmas/WriterCloseDetail.lean — C09 over the detailed Writer LTS (`Model/Writer.lean`, the model that C01/C07/C08 tie to the
code deterministically, hook event by hook event), safety: when `Close` may return, every call has returned and every
batch ever created is done.

Of `DI`, `lockClosed` and `qcl` are `InvClosedQ` (Lemmas/WriterPW.lean), `ids` is `InvSched.pwListed`, `live` is `InvLive`
(Lemmas/WriterLife.lean), `exi` is `PWPos.exitedEmpty` (`InvPos`, Lemmas/WriterPW.lean).

Invariant `CI`: the call ids are distinct and exactly the keys of `calls`, and `inflight = entered + #{calls not returned}`
(the model's WaitGroup counter), so the guard `inflight = 0 ∧ entered = 0` of `closeReturn` — `w.group.Wait()` — means
every call has returned.
-/
import KafkaVerif.Lemmas.WriterInv
import KafkaVerif.Lemmas.WriterPlace
import KafkaVerif.Lemmas.ListSums
import KafkaVerif.Lemmas.WriterSched
namespace KV.WriterCloseDetail
open KV.Writer

structure DI (s : State) : Prop where
  lockClosed : s.closed = true → s.wlock.isCall = false
  qcl : ∀ pw P, s.pws pw = some P → P.qclosed = true → s.closed = true ∧ P.curr = none ∧ P.pending = none
  exi : ∀ pw P, s.pws pw = some P → P.sender = .exited → P.qclosed = true ∧ P.queue = []
  ids : ∀ pw P, s.pws pw = some P → pw ∈ s.pwIds
  live : ∀ b B, s.batches b = some B → B.done = none → ∃ P, s.pws B.pw = some P ∧ b ∈ P.pipe

theorem di_reachable (cfg : Cfg) (s : State) (hr : Reachable cfg s) : DI s :=
  have hq := invClosedQ cfg s hr
  ⟨fun hc => Bool.eq_false_iff.mpr fun h => (by rw [hq.lockOpen h] at hc; cases hc),
    hq.closedQ, fun pw P hP he => ((invPos cfg s hr pw P hP).exitedEmpty he).symm, (invSched cfg s hr).pwListed,
    invLive cfg s hr⟩

theorem mem_pipe (P : PW) (b : Nat) :
    b ∈ P.pipe ↔ P.sender.batch? = some b ∨ b ∈ P.queue ∨ P.pending = some b ∨ P.curr = some b := by
  simp only [PW.pipe, List.mem_append, Option.mem_toList]
  constructor
  · rintro (((h | h) | h) | h)
    · exact Or.inl h
    · exact Or.inr (Or.inl h)
    · exact Or.inr (Or.inr (Or.inl h))
    · exact Or.inr (Or.inr (Or.inr h))
  · rintro (h | h | h | h)
    · exact Or.inl (Or.inl (Or.inl h))
    · exact Or.inl (Or.inl (Or.inr h))
    · exact Or.inl (Or.inr h)
    · exact Or.inr h

theorem exited_pipe_empty (s : State) (h : DI s) (pw : Nat) (P : PW) (hP : s.pws pw = some P) (he : P.sender = .exited) :
    P.pipe = [] := by
  obtain ⟨hq, hqu⟩ := h.exi pw P hP he
  obtain ⟨-, hc, hp⟩ := h.qcl pw P hP hq
  simp [PW.pipe, he, hqu, hc, hp, Sender.batch?]

theorem all_exited_of_listed (s : State) (h : DI s)
    (hex : s.pwIds.all (fun pw => match s.pws pw with | some P => P.sender == .exited | none => false) = true) :
    ∀ pw P, s.pws pw = some P → P.sender = .exited := by
  intro pw P hP
  have := List.all_eq_true.mp hex pw (h.ids pw P hP)
  rw [hP] at this; simpa using this

/-- once every sender goroutine has exited every batch is done: an undone one would sit in an (empty) pipe -/
theorem all_done_of_exited (s : State) (h : DI s) (hall : ∀ pw P, s.pws pw = some P → P.sender = .exited) :
    ∀ b B, s.batches b = some B → ∃ code, B.done = some code := by
  intro b B hB
  cases hd : B.done with
  | some code => exact ⟨code, rfl⟩
  | none =>
    obtain ⟨P, hP, hb⟩ := h.live b B hB hd
    rw [exited_pipe_empty s h _ P hP (hall _ P hP)] at hb
    cases hb

theorem all_done_at_closeReturn (cfg : Cfg) (s s' : State) (hr : Reachable cfg s) (hs : step cfg s .closeReturn = some s') :
    ∀ b B, s.batches b = some B → ∃ code, B.done = some code := by
  have h := di_reachable cfg s hr
  cases Step.of_step hs with
  | closeReturn hg =>
    exact all_done_of_exited s h (all_exited_of_listed s h hg.exited)

def openCall (s : State) (c : Nat) : Bool :=
  match s.calls c with
  | some C => C.phase != .returned
  | none => false

def nOpen (s : State) : Nat := s.callIds.countP (openCall s)

theorem upd_isSome_iff {β : Type} (f : Nat → Option β) (a x : Nat) (v : β) :
    (upd f a (some v) x).isSome = true ↔ x = a ∨ (f x).isSome = true := by
  by_cases hx : x = a
  · subst hx; simp
  · rw [upd_other _ _ _ _ hx]; exact ⟨Or.inr, fun h => h.resolve_left hx⟩

structure CI (s : State) : Prop where
  nodup : s.callIds.Nodup
  ids : ∀ c, c ∈ s.callIds ↔ (s.calls c).isSome = true
  cnt : s.inflight = s.entered + nOpen s

theorem ci_init : CI State.init := by
  constructor <;> simp [State.init, nOpen]

theorem openCall_upd (s s' : State) (c : Nat) (C' : Call) (e1 : s'.calls = upd s.calls c (some C')) (x : Nat) (hx : x ≠ c) :
    openCall s' x = openCall s x := by
  simp [openCall, e1, upd_other _ _ _ _ hx]

theorem countP_openCall_other (s s' : State) (c : Nat) (C' : Call) (e1 : s'.calls = upd s.calls c (some C'))
    (l : List Nat) (hnin : c ∉ l) : l.countP (openCall s') = l.countP (openCall s) := by
  apply List.countP_congr
  intro x hx
  have : x ≠ c := by intro he; subst he; exact hnin hx
  rw [openCall_upd s s' c C' e1 x this]

theorem ci_updCall (s s' : State) (h : CI s) (c : Nat) (C C' : Call) (hC : s.calls c = some C)
    (e1 : s'.calls = upd s.calls c (some C')) (e2 : s'.callIds = s.callIds) (e3 : s'.entered = s.entered)
    (hcase : ((C'.phase != .returned) = (C.phase != .returned) ∧ s'.inflight = s.inflight) ∨
             (C.phase ≠ .returned ∧ C'.phase = .returned ∧ s'.inflight = s.inflight - 1)) : CI s' := by
  have hcin : c ∈ s.callIds := (h.ids c).mpr (by simp [hC])
  have hcount := countP_upd s.callIds h.nodup (openCall s) (openCall s') c hcin (openCall_upd s s' c C' e1)
  have ho : openCall s c = (C.phase != .returned) := by simp [openCall, hC]
  have ho' : openCall s' c = (C'.phase != .returned) := by simp [openCall, e1]
  constructor
  · rw [e2]; exact h.nodup
  · intro x
    rw [e2, e1, upd_isSome_iff]
    exact ⟨fun hx => Or.inr ((h.ids x).mp hx), fun hx => hx.elim (fun he => he ▸ hcin) (h.ids x).mpr⟩
  · have hc := h.cnt
    unfold nOpen at hc ⊢
    rw [e2, e3]
    rcases hcase with ⟨hp, hi⟩ | ⟨hp, hp', hi⟩
    · rw [ho, ho', hp] at hcount
      rw [hi]; omega
    · rw [ho, ho'] at hcount
      have h1 : (C.phase != .returned) = true := by simpa using hp
      have h2 : (C'.phase != .returned) = false := by simp [hp']
      rw [h1, h2] at hcount
      simp at hcount
      rw [hi]; omega

theorem ci_counters (s s' : State) (h : CI s) (e1 : s'.calls = s.calls) (e2 : s'.callIds = s.callIds)
    (e34 : ∀ n, s.inflight = s.entered + n → s'.inflight = s'.entered + n) : CI s' := by
  refine ⟨e2 ▸ h.nodup, e2 ▸ e1 ▸ h.ids, ?_⟩
  have : nOpen s' = nOpen s := by
    unfold nOpen; rw [e2]
    exact List.countP_congr fun x _ => by simp only [openCall, e1]
  rw [this]; exact e34 _ h.cnt

theorem ci_frame (s s' : State) (h : CI s) (e1 : s'.calls = s.calls) (e2 : s'.callIds = s.callIds)
    (e3 : s'.entered = s.entered) (e4 : s'.inflight = s.inflight) : CI s' :=
  ci_counters s s' h e1 e2 fun _ hn => e4 ▸ e3 ▸ hn

theorem ci_step (cfg : Cfg) (s s' : State) (e : Event) (h : CI s) (hs : Step cfg s e s') : CI s' := by
  have returns : ∀ {c : Nat} {C C' : Call} {s' : State}, s.calls c = some C →
      s'.calls = upd s.calls c (some C') → s'.callIds = s.callIds → s'.entered = s.entered →
      s'.inflight = s.inflight - 1 → C.phase ≠ .returned → C'.phase = .returned → CI s' :=
    fun hC e1 e2 e3 e4 hp hp' => ci_updCall s _ h _ _ _ hC e1 e2 e3 (Or.inr ⟨hp, hp', e4⟩)
  have moves : ∀ {c : Nat} {C C' : Call} {s' : State}, s.calls c = some C →
      s'.calls = upd s.calls c (some C') → s'.callIds = s.callIds → s'.entered = s.entered →
      s'.inflight = s.inflight → C.phase ≠ .returned → C'.phase ≠ .returned → CI s' :=
    fun hC e1 e2 e3 e4 hp hp' => ci_updCall s _ h _ _ _ hC e1 e2 e3 (Or.inl ⟨by rw [bne_iff_ne.mpr hp, bne_iff_ne.mpr hp'], e4⟩)
  induction hs with
  | enterTrue => exact ci_counters s _ h rfl rfl (fun n hn => by show s.inflight + 1 = s.entered + 1 + n; omega)
  | empty hg => exact ci_counters s _ h rfl rfl (fun n hn => by show s.inflight - 1 = s.entered - 1 + n; omega)
  | @begin_ c msgs hg =>
    have hnone : s.calls c = none := by simpa using hg.free
    have hnin : c ∉ s.callIds := fun hc => by have := (h.ids c).mp hc; rw [hnone] at this; cases this
    refine ⟨List.nodup_append.mpr ⟨h.nodup, by simp, fun a ha b hb => ?_⟩, fun x => ?_, ?_⟩
    · rw [List.mem_singleton.mp hb]; exact fun he => hnin (he ▸ ha)
    · show x ∈ s.callIds ++ [c] ↔ (upd s.calls c _ x).isSome = true
      rw [upd_isSome_iff, List.mem_append, List.mem_singleton, h.ids x, or_comm]
    · have hc := h.cnt
      have hent := hg.entered
      unfold nOpen at hc ⊢
      simp only [List.countP_append, List.countP_cons, List.countP_nil]
      rw [countP_openCall_other s _ c _ rfl s.callIds hnin]
      simp [openCall]
      omega
  | rejectToolarge hC hg => exact returns hC rfl rfl rfl rfl (by rw [hg.phase]; decide) rfl
  | rejectTopic hC hg | rejectMetadata hC hg =>
    exact returns hC rfl rfl rfl rfl (by rcases hg.phase with h1 | h1 <;> rw [h1] <;> decide) rfl
  | rejectClosed hC hg => exact moves hC rfl rfl rfl rfl (by rw [hg.phase]; decide) nofun
  | assign hC hg => exact moves hC rfl rfl rfl rfl (by rcases hg.phase with h1 | h1 <;> rw [h1] <;> decide) nofun
  | batch hC hg => exact moves hC rfl rfl rfl rfl (by rw [hg.phase]; decide) nofun
  | batched hC hg => exact moves hC rfl rfl rfl rfl (by rw [hg.phase]; decide) nofun
  | add hP hB hC hg => exact ci_updCall s _ h _ _ _ hC rfl rfl rfl (Or.inl ⟨rfl, rfl⟩)
  | ret hC hg => exact returns hC rfl rfl rfl rfl (by rcases retOk_phase hg with h1 | h1 <;> rw [h1] <;> decide) rfl
  | _ => exact ci_frame s _ h rfl rfl rfl rfl

theorem ci_reachable (cfg : Cfg) : ∀ s, Reachable cfg s → CI s :=
  Reachable.step_induction ci_init (fun s e s' _ h hs => ci_step cfg s s' e h hs)

theorem all_returned_at_closeReturn (cfg : Cfg) (s s' : State) (hr : Reachable cfg s)
    (hs : step cfg s .closeReturn = some s') : ∀ c C, s.calls c = some C → C.phase = .returned := by
  intro c C hC
  have h := ci_reachable cfg s hr
  cases Step.of_step hs with
  | closeReturn hg =>
    have hc := h.cnt
    rw [hg.inflight, hg.entered] at hc
    have h0 : nOpen s = 0 := by omega
    have hcin : c ∈ s.callIds := (h.ids c).mpr (by simp [hC])
    unfold nOpen at h0
    rw [List.countP_eq_zero] at h0
    have := h0 c hcin
    simpa [openCall, hC] using this

/-- results of a call whose messages were all handed to batches -/
def resAccepted : Result → Bool
  | .ok => true
  | .async => true
  | .ctx => true
  | .werr _ => true
  | .closed => false
  | .rejected _ _ => false

/-- the call got through `batchMessages`: all its messages were put into batches -/
def accepted (C : Call) : Bool :=
  C.phase == .batched || (C.phase == .returned && (match C.result with | some r => resAccepted r | none => false))

def AI (s : State) : Prop := ∀ c C, s.calls c = some C → accepted C = true → C.placedAll = true

theorem accepted_iff (C : Call) : accepted C = true ↔ C.phase = .batched ∨ C.returnedOk := by
  cases hr : C.result with
  | none => simp [accepted, Call.returnedOk, hr]
  | some r => cases r <;> simp [accepted, Call.returnedOk, hr, resAccepted, Result.isReject]

theorem ai_reachable (cfg : Cfg) (s : State) (hr : Reachable cfg s) : AI s :=
  fun c C hC hacc => invQueued cfg s hr c C hC ((accepted_iff C).mp hacc)

theorem close_return_complete (cfg : Cfg) (s s' : State) (hr : Reachable cfg s)
    (hs : step cfg s .closeReturn = some s') :
    (∀ c C, s.calls c = some C → C.phase = .returned) ∧
    (∀ b B, s.batches b = some B → ∃ code, B.done = some code ∧
       (cfg.completion = true → B.ncompl = 1 ∧ B.cbCode = some code) ∧ (cfg.completion = false → B.ncompl = 0)) ∧
    (∀ c C, s.calls c = some C → accepted C = true → ∀ i, i < C.msgs.length →
       ∃ b B code, C.place i = some b ∧ s.batches b = some B ∧ (∃ m ∈ B.msgs, m.msg = (c, i)) ∧ B.done = some code) := by
  have hdone := all_done_at_closeReturn cfg s s' hr hs
  refine ⟨all_returned_at_closeReturn cfg s s' hr hs, ?_, ?_⟩
  · intro b B hB
    obtain ⟨code, hc⟩ := hdone b B hB
    exact ⟨code, hc, (invLife cfg s hr).complDone hB hc⟩
  · intro c C hC hacc i hi
    obtain ⟨b, hp⟩ := placedAll_elim (ai_reachable cfg s hr c C hC hacc) i hi
    obtain ⟨B, hB, hm, -⟩ := (invPlace cfg s hr).placed c C hC i b hp
    obtain ⟨code, hc⟩ := hdone b B hB
    exact ⟨b, B, code, hp, hB, hm, hc⟩

end KV.WriterCloseDetail
