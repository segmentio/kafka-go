/-
Lemmas/FetchDecoder.lean — the decoder machine of Model/MessageSetReader.lean (`Variant.fixed`) on well-formed layouts.
Two layers.  The invariant calculus: what one token does to the boundary state `Bnd`, to the state inside a v2 batch (`Mid`) and
inside a v0/v1 item (`W`).  Between the layers: `PostL`, what a run from a state must achieve (the records expected, no gap below the
final offset, `progLB` reached), which `postL_finish` gives for a state the run may end in and `PostL.prepend` extends by the
records read before it; and the byte budget: `runCut` is `run` on the tokens that `fit` the first `n` bytes, followed by a short
read (`run_truncate`).  The item layer: an item is consumed whole (`item_whole`, a statement about `run` on any continuation,
without a budget) or the budget cuts it (`item_cut`, a `PostL`); `layout_run`, a `PostL` for `runCut` on a layout, is the induction
over the items and the one place where the budget meets a whole item (`runCut_append`).
-/
import KafkaVerif.Model.Batch
import KafkaVerif.Lemmas.FetchLayout
import KafkaVerif.Lemmas.TokenMachine

namespace KV.C02

/-- what has been returned so far lies in [o, batch.offset) and is strictly increasing -/
def OutOK (o : Int) (s : St) : Prop :=
  (∀ r ∈ s.out, o ≤ r.1 ∧ r.1 < s.off) ∧ s.out.Pairwise (fun a b => a.1 < b.1)

/-- state between two items; `nb` bounds everything still to come from below; `v2n`: the next item is a v2 batch (then
the machine must not be inside readMessageV1's loop, `notV1`).  `offle`: the offset is still at or below the start offset
`o` (nothing at or above `o` seen yet) or has not passed `nb`.  `lastle`, `nb0`: `batch.lastOffset` starts at 0 and every v0/v1
message sets it to -1, so it stays at or below a non-negative `nb`; this keeps the compaction jump of `finish` behind `batchEnd`
when a retained empty batch follows (`bnd_afterH2_empty`).  `J` (the hypothesis of `finish_fixed`) and `init` are what
`postL_finish` asks of a state the run may end in: the compaction jump cannot pass the batch end, and before the first header
`batchEnd` is not ahead of the offset. -/
structure Bnd (o nb : Int) (v2n : Bool) (s : St) : Prop where
  count0 : s.count = 0
  notV1 : v2n = true → s.inV1 = false
  be : s.batchEnd ≤ nb
  offle : s.off ≤ o ∨ s.off ≤ nb
  lastle : s.lastOff ≤ nb
  nb0 : 0 ≤ nb
  J : s.started = true → s.lenRem = 0 → s.lastOff ≥ s.off → s.lastOff + 1 ≤ s.batchEnd
  init : s.started = false → s.batchEnd ≤ s.off
  outok : OutOK o s

theorem Bnd.weaken {o nb : Int} {v2n : Bool} {s : St} (h : Bnd o nb true s) : Bnd o nb v2n s :=
  ⟨h.count0, fun _ => h.notV1 rfl, h.be, h.offle, h.lastle, h.nb0, h.J, h.init, h.outok⟩

/-- state inside batch [base,last] with `recs` still to be read (at or above `lo` by `RecsWF base last lo recs`, passed alongside);
`be`, `offle`, `lo0` as `be`, `offle`, `nb0` of `Bnd` with `lo` for `nb`; `len`: in an uncompressed batch `lengthRemain` is exactly
the bytes of the records left -/
structure Mid (o base last lo : Int) (recs : List (Int × Nat × Nat)) (codec : Bool) (s : St) : Prop where
  magic : s.magic = 2
  count : s.count = recs.length
  first : s.first = base
  lastD : s.lastD = last - base
  started : s.started = true
  notV1 : s.inV1 = false
  be : s.batchEnd ≤ lo
  offle : s.off ≤ o ∨ s.off ≤ lo
  lo0 : 0 ≤ lo
  len : codec = false → s.lenRem = sumSizes recs
  codecEq : s.codec = codec
  outok : OutOK o s

theorem onRecord_outOK {o x lastOffset : Int} {tag : Nat} {s : St} (h : OutOK o s) (hoff : s.off ≤ o ∨ s.off ≤ x) :
    OutOK o (onRecord .fixed o s x lastOffset tag) := by
  obtain ⟨h1, h2⟩ := h
  have hlt : ∀ r ∈ s.out, r.1 < x := by
    intro r hr
    have := h1 r hr
    omega
  have hoff2 : x + 1 ≤ (onRecord .fixed o s x lastOffset tag).off := by
    simp only [onRecord]; split <;> omega
  constructor
  · intro r hr
    simp only [onRecord] at hr
    split at hr
    · have := h1 r hr; have := hlt r hr; omega
    · simp only [List.mem_append, List.mem_singleton] at hr
      rcases hr with hr | rfl
      · have := h1 r hr; have := hlt r hr; omega
      · simp only; omega
  · simp only [onRecord]
    split
    · exact h2
    · rw [List.pairwise_append]
      refine ⟨h2, by simp, ?_⟩
      intro a ha b hb
      simp only [List.mem_singleton] at hb
      subst hb
      exact hlt a ha

theorem recordV2_mid {o base last lo d : Int} {t z : Nat} {rs : List (Int × Nat × Nat)} {codec : Bool} {s : St}
    (hm : Mid o base last lo ((d, t, z) :: rs) codec s) (hw : RecsWF base last lo ((d, t, z) :: rs)) :
    (recordV2 .fixed o s d t z).out = s.out ++ [(base + d, t)].filter (fun r => o ≤ r.1) ∧
    (rs ≠ [] → Mid o base last (base + d + 1) rs codec (recordV2 .fixed o s d t z)) ∧
    (rs = [] → ∀ v2n, Bnd o (last + 1) v2n (recordV2 .fixed o s d t z) ∧ last + 1 ≤ (recordV2 .fixed o s d t z).batchEnd) ∧
    s.batchEnd ≤ (recordV2 .fixed o s d t z).batchEnd := by
  simp only [RecsWF] at hw
  obtain ⟨hlo, hle, hz, _⟩ := hw
  have hok : OutOK o (recordV2 .fixed o s d t z) :=
    onRecord_outOK hm.outok (by have := hm.offle; simp only [hm.first]; omega)
  -- the arithmetic, before the state after the record comes into view
  have hnum : s.batchEnd ≤ base + d + 1 ∧ 0 ≤ base + d + 1 ∧ base + d + 1 ≤ last + 1 ∧ base + (last - base) = last := by
    have := hm.be; have := hm.lo0; omega
  obtain ⟨n1, n2, n3, n4⟩ := hnum
  obtain ⟨estarted, ecount, emagic, efirst, elastD, ehcount, ecodec, elenRem, ebatchEnd, einV1, eoff, elastOff, eout⟩ := recordV2_fields o s d t z
  rw [hm.first, hm.lastD, n4] at ebatchEnd eoff elastOff
  rw [hm.first] at eout
  have hout : (recordV2 .fixed o s d t z).out = s.out ++ [(base + d, t)].filter (fun r => o ≤ r.1) := by
    rw [eout]
    by_cases h : o ≤ base + d
    · simp [h, Int.not_lt.mpr h]
    · simp [h, Int.not_le.mp h]
  by_cases hrs : rs = []
  · -- the last record of the batch: `batchEnd` and the offset move to the end of the batch
    subst hrs
    have hc1 : s.count = 1 := hm.count
    rw [if_pos hc1] at ebatchEnd eoff
    have hoff : (recordV2 .fixed o s d t z).off = last + 1 := by rw [eoff]; split <;> omega
    refine ⟨hout, fun h => absurd rfl h, fun _ v2n => ?_, by rw [ebatchEnd]; omega⟩
    exact ⟨⟨by rw [ecount, hc1], fun _ => einV1, by rw [ebatchEnd]; exact Int.le_refl _, Or.inr (by rw [hoff]; exact Int.le_refl _),
      by rw [elastOff]; omega, by omega, by rw [elastOff, ebatchEnd]; exact fun _ _ _ => Int.le_refl _,
      (by rw [estarted, hm.started]; intro h; cases h), hok⟩, by rw [ebatchEnd]; exact Int.le_refl _⟩
  · have hc1 : ¬ s.count = 1 := by
      have h1 := hm.count
      have : rs.length ≠ 0 := by simpa using hrs
      simp only [List.length_cons] at h1
      omega
    rw [if_neg hc1] at ebatchEnd eoff
    have hoff : (recordV2 .fixed o s d t z).off = base + d + 1 := by rw [eoff]; split <;> omega
    refine ⟨hout, fun _ => ?_, fun h => absurd h hrs, by rw [ebatchEnd]; exact Int.le_refl _⟩
    refine ⟨by rw [emagic]; exact hm.magic, by rw [ecount, hm.count]; rfl, by rw [efirst]; exact hm.first, by rw [elastD]; exact hm.lastD,
      by rw [estarted]; exact hm.started, einV1, by rw [ebatchEnd]; exact n1, Or.inr (by rw [hoff]; exact Int.le_refl _), n2, ?_,
      by rw [ecodec]; exact hm.codecEq, hok⟩
    intro hc
    have := hm.len hc
    simp only [sumSizes] at this
    rw [elenRem, this]
    omega

theorem recordsV2_all {o base last : Int} {codec : Bool} :
    ∀ (recs : List (Int × Nat × Nat)) (s : St) (lo : Int), recs ≠ [] → Mid o base last lo recs codec s → RecsWF base last lo recs →
      (recordsV2 .fixed o s recs).out = s.out ++ (absRecs base recs).filter (fun r => o ≤ r.1) ∧
      (∀ v2n, Bnd o (last + 1) v2n (recordsV2 .fixed o s recs)) ∧ last + 1 ≤ (recordsV2 .fixed o s recs).batchEnd := by
  intro recs
  induction recs with
  | nil => intro s lo h; exact absurd rfl h
  | cons x rs ih =>
    intro s lo _ hm hw
    obtain ⟨d, t, z⟩ := x
    obtain ⟨hout, hmid, hbnd, _⟩ := recordV2_mid hm hw
    simp only [RecsWF] at hw
    by_cases hrs : rs = []
    · subst hrs
      exact ⟨by simpa [recordsV2, absRecs] using hout, fun v => (hbnd rfl v).1, (hbnd rfl false).2⟩
    · obtain ⟨h1, h2, h3⟩ := ih (recordV2 .fixed o s d t z) (base + d + 1) hrs (hmid hrs) hw.2.2.2
      refine ⟨?_, h2, h3⟩
      simp only [recordsV2]
      rw [h1, hout, List.append_assoc, ← List.filter_append]
      rfl

/-- the offset a run on the first `n` bytes must reach: past the first item, when that arrives whole and reaches the start offset `o` -/
def progLB (o : Int) (items : List Item) (n : Nat) : Option Int :=
  match items with
  | it :: _ => if it.size ≤ n ∧ o ≤ it.last then some (it.last + 1) else none
  | [] => none

theorem progLB_cut {o : Int} {it : Item} {rest : List Item} {n : Nat} (h : ¬ it.size ≤ n) : progLB o (it :: rest) n = none :=
  if_neg (fun hc => h hc.1)

/-- what a run from state `s0` must achieve: exactly the expected records at or above `o` are appended, no
desynchronisation, no stored record at or above `o` below the final offset is missing, the offset ends at or
above the batch end known at the start (`lower`: what lets `PostL.prepend` pass a progress bound of the records read
before `s0` on to the end) and at or above `reach` when given (`prog`; `layout_run` puts `progLB` there), everything returned is
below the final offset -/
structure PostL (o : Int) (expect all : List Rec) (reach : Option Int) (s0 : St) (res : St × Outcome) : Prop where
  out : res.1.out = s0.out ++ expect.filter (fun r => o ≤ r.1)
  ok : res.2 ≠ .desync
  nogap : ∀ r ∈ all, o ≤ r.1 → r.1 < res.1.off → r ∈ expect
  lower : s0.batchEnd ≤ res.1.off
  resok : OutOK o res.1
  prog : ∀ b, reach = some b → b ≤ res.1.off

theorem postL_finish {e : Bool} {o lo : Int} {all : List Rec} {s : St}
    (hJ : s.started = true → s.lenRem = 0 → s.lastOff ≥ s.off → s.lastOff + 1 ≤ s.batchEnd)
    (hinit : s.started = false → s.batchEnd ≤ s.off)
    (hoff : s.off ≤ o ∨ s.off ≤ lo) (hbe : s.batchEnd ≤ lo) (hall : ∀ r ∈ all, lo ≤ r.1) (hok : OutOK o s) :
    PostL o [] all none s (finish .fixed e s) := by
  obtain ⟨h1, h2, h3⟩ := finish_fixed e s hJ
  have hmax : (finish .fixed e s).1.off = max s.off s.batchEnd := by
    rw [h2]
    cases hst : s.started
    · have := hinit hst; simp only [Bool.false_eq_true, if_false]; omega
    · rfl
  refine ⟨by simp [h1], h3, ?_, by omega, ⟨?_, by rw [h1]; exact hok.2⟩, by intro b hb; cases hb⟩
  · intro r hr ho hlt
    have := hall r hr
    omega
  · intro r hr
    rw [h1] at hr
    have := hok.1 r hr
    omega

/-- the records `recs` were read on the way from `s` to `s'`; the rest of the run starts at `s'` -/
theorem PostL.prepend {o : Int} {exp all : List Rec} {p p' : Option Int} {s s' : St} {res : St × Outcome}
    (hp : PostL o exp all p s' res) (recs : List Rec) (hout : s'.out = s.out ++ recs.filter (fun r => o ≤ r.1))
    (hbe : s.batchEnd ≤ s'.batchEnd) (hprog : ∀ b, p' = some b → b ≤ res.1.off) :
    PostL o (recs ++ exp) (recs ++ all) p' s res := by
  refine ⟨by rw [hp.out, hout, List.filter_append, List.append_assoc], hp.ok, ?_, by have := hp.lower; omega, hp.resok, hprog⟩
  intro r hr ho hlt
  rw [List.mem_append] at hr ⊢
  exact hr.imp id (fun h => hp.nogap r h ho hlt)

theorem PostL.mem_out_lt {o : Int} {exp all : List Rec} {p : Option Int} {s0 : St} {res : St × Outcome}
    (h : PostL o exp all p s0 res) {r : Rec} (hr : r ∈ s0.out) : r.1 < res.1.off :=
  (h.resok.1 r (by rw [h.out]; exact List.mem_append_left _ hr)).2

/-- the complete tokens among the first `n` bytes of a stream -/
def fit : List Tok → Nat → List Tok
  | [], _ => []
  | t :: ts, n => if t.size ≤ n then t :: fit ts (n - t.size) else []

/-- the run on the first `n` bytes of a stream: the tokens that fit, then a short read.  A stream that ends and a stream that is cut
both end in `finish`, so this is `run` on `truncate ts n` whether or not bytes of a further token remain (`run_truncate`). -/
def runCut (v : Variant) (e : Bool) (o : Int) (s : St) (ts : List Tok) (n : Nat) : St × Outcome :=
  run v e o s (fit ts n ++ [.cut])

theorem run_truncate (v : Variant) (e : Bool) (o : Int) (ts : List Tok) :
    ∀ (s : St) (n : Nat), run v e o s (truncate ts n) = runCut v e o s ts n := by
  induction ts with
  | nil => intro s n; simp [truncate, runCut, fit, run, step_cut]
  | cons t ts ih =>
    intro s n
    unfold truncate runCut fit
    by_cases h : t.size ≤ n
    · simp only [h, if_true, List.cons_append, run]
      cases step v e o s t with
      | cont s' => exact ih s' _
      | stop s' r => rfl
    · by_cases h0 : n = 0
      · subst h0
        have h' : ¬ t.size = 0 := by omega
        simp [h', run, step_cut]
      · simp [h, h0, run, step_cut]

theorem runCut_cons_fit {v : Variant} {e : Bool} {o : Int} {t : Tok} {ts : List Tok} {s s' : St} {n : Nat}
    (hfit : t.size ≤ n) (hstep : step v e o s t = .cont s') :
    runCut v e o s (t :: ts) n = runCut v e o s' ts (n - t.size) := by simp [runCut, fit, run, hfit, hstep]

theorem runCut_cons_cut {v : Variant} {e : Bool} {o : Int} {t : Tok} {ts : List Tok} {s : St} {n : Nat}
    (h : ¬ t.size ≤ n) : runCut v e o s (t :: ts) n = finish v e s := by simp [runCut, fit, run, step_cut, h]

/-- tokens that fit together are consumed as without a budget -/
theorem runCut_append {v : Variant} {e : Bool} {o : Int} {s s' : St} (ts : List Tok) :
    ∀ (p : List Tok) (n : Nat), totalSize p ≤ n → (∀ ts', run v e o s (p ++ ts') = run v e o s' ts') →
      runCut v e o s (p ++ ts) n = runCut v e o s' ts (n - totalSize p) := by
  intro p n hn hrun
  have hfit : ∀ (p : List Tok) (n : Nat), totalSize p ≤ n → fit (p ++ ts) n = p ++ fit ts (n - totalSize p) := by
    intro p
    induction p with
    | nil => intro n _; rfl
    | cons t p ih =>
      intro n h
      simp only [totalSize] at h
      have ht : t.size ≤ n := by omega
      simp only [List.cons_append, fit, ht, if_true, totalSize, ih (n - t.size) (by omega), Nat.sub_add_eq]
  simp only [runCut, hfit p n hn, List.append_assoc, hrun]

/-- uncompressed records are read one token at a time; the state after them is `recordsV2`, the one a decompressed payload
leaves in a single step -/
theorem run_r2 {e : Bool} {o : Int} (ts : List Tok) : ∀ (recs : List (Int × Nat × Nat)) (s : St),
    s.magic = 2 → s.codec = false → recs.length ≤ s.count →
    run .fixed e o s (r2Toks recs ++ ts) = run .fixed e o (recordsV2 .fixed o s recs) ts
  | [], _, _, _, _ => rfl
  | (d, t, z) :: recs, s, hm, hc, hl => by
    have hl' : recs.length + 1 ≤ s.count := hl
    show run .fixed e o s (Tok.r2 d t z :: (r2Toks recs ++ ts)) = _
    rw [run_cons_cont (step_expected (t := .r2 d t z) ⟨hm, by omega, hc⟩)]
    exact run_r2 ts recs (recordV2 .fixed o s d t z) hm hc (show recs.length ≤ s.count - 1 by omega)

theorem plain_cut {e : Bool} {o base last : Int} (ts : List Tok) {all : List Rec} (hall : ∀ r ∈ all, last + 1 ≤ r.1) :
    ∀ (recs : List (Int × Nat × Nat)) (s : St) (n : Nat) (lo : Int), Mid o base last lo recs false s → RecsWF base last lo recs →
      ¬ sumSizes recs ≤ n →
      PostL o (fitRecs base recs n) (absRecs base recs ++ all) none s (runCut .fixed e o s (r2Toks recs ++ ts) n)
  | [], _, n, _, _, _, hn => absurd (Nat.zero_le n) hn
  | (d, t, z) :: rs, s, n, lo, hm, hw, hn => by
    have hw' := hw
    simp only [RecsWF] at hw'
    simp only [sumSizes] at hn
    show PostL _ _ _ _ _ (runCut .fixed e o s (Tok.r2 d t z :: (r2Toks rs ++ ts)) n)
    by_cases hz : z ≤ n
    · obtain ⟨hout, hmid, _, hmono⟩ := recordV2_mid hm hw
      have hstep : step .fixed e o s (.r2 d t z) = .cont (recordV2 .fixed o s d t z) :=
        step_expected (t := .r2 d t z) ⟨hm.magic, by rw [hm.count]; exact Nat.succ_ne_zero _, hm.codecEq⟩
      have hrs : rs ≠ [] := by rintro rfl; simp only [sumSizes] at hn; omega
      rw [runCut_cons_fit (by exact hz) hstep]
      have ihr := plain_cut (e := e) ts hall rs (recordV2 .fixed o s d t z) (n - z) (base + d + 1) (hmid hrs) hw'.2.2.2 (by omega)
      simp only [fitRecs, hz, if_true]
      exact ihr.prepend [(base + d, t)] hout hmono (fun b hb => by cases hb)
    · rw [runCut_cons_cut (by exact hz)]
      simp only [fitRecs, hz, if_false]
      have hlen := hm.len rfl
      simp only [sumSizes] at hlen
      refine postL_finish (lo := lo) (fun _ h0 => by omega) (fun h => by rw [hm.started] at h; cases h) hm.offle hm.be ?_ hm.outok
      intro r hr
      rcases List.mem_append.mp hr with hr | hr
      · exact (recsWF_lb hw r hr).1
      · have := hall r hr; omega

/-- after the header of a v0/v1 item has been consumed and marked read (count = 0): what `messageV1` needs and keeps -/
structure W (o lo : Int) (s : St) : Prop where
  count0 : s.count = 0
  started : s.started = true
  len1 : s.lenRem = 1
  be : s.batchEnd ≤ lo
  offle : s.off ≤ o ∨ s.off ≤ lo
  lastle : s.lastOff ≤ lo
  lo0 : 0 ≤ lo
  outok : OutOK o s

theorem W.mono {o lo lo' : Int} {s : St} (h : W o lo s) (hle : lo ≤ lo') : W o lo' s :=
  ⟨h.count0, h.started, h.len1, by have := h.be; omega, by have := h.offle; omega, by have := h.lastle; omega,
   by have := h.lo0; omega, h.outok⟩

theorem W.bnd {o lo : Int} {s : St} (h : W o lo s) (v2n : Bool) (hv : v2n = true → s.inV1 = false) : Bnd o lo v2n s :=
  ⟨h.count0, hv, h.be, h.offle, h.lastle, h.lo0, by intro _ h0; have := h.len1; omega, by intro h0; simp [h.started] at h0, h.outok⟩

theorem messageV1_W {o lo x : Int} {t : Nat} {s : St} (h : W o lo s) (hx : lo ≤ x) :
    W o (x + 1) (messageV1 .fixed o s x t) ∧
    (messageV1 .fixed o s x t).out = s.out ++ [(x, t)].filter (fun r => o ≤ r.1) ∧
    (messageV1 .fixed o s x t).batchEnd = s.batchEnd ∧
    (o ≤ x → (messageV1 .fixed o s x t).inV1 = false) := by
  obtain ⟨hc, hst, hl, hbe, hoff, hlast, hlo0, hok⟩ := h
  unfold messageV1
  by_cases hskip : x < s.off
  · -- skipped inside readMessageV1: below `min`, hence below the start offset
    rw [if_pos hskip]
    have hxo : ¬ o ≤ x := by omega
    exact ⟨⟨hc, hst, hl, by simp only; omega, by simp only; omega, by simp only; omega, by omega, hok⟩, by simp [hxo], rfl,
      fun h => absurd h hxo⟩
  · rw [if_neg hskip]
    have hoffv : (onRecord .fixed o s x (-1) t).off = x + 1 := by simp only [onRecord]; split <;> omega
    refine ⟨⟨hc, hst, hl, by simp only [onRecord]; omega, Or.inr (by rw [hoffv]; exact Int.le_refl _), by simp only [onRecord]; omega,
      by omega, onRecord_outOK hok (by omega)⟩, ?_, rfl, fun _ => rfl⟩
    by_cases h : o ≤ x
    · simp [onRecord, h, Int.not_lt.mpr h]
    · simp [onRecord, h, Int.not_le.mp h]

theorem messagesV1_all {o base hi : Int} :
    ∀ (inner : List (Int × Nat)) (s : St) (lo : Int), W o lo s → lo ≤ hi + 1 → InnerWF base hi lo inner →
      W o (hi + 1) (messagesV1 .fixed o base s inner) ∧
      (messagesV1 .fixed o base s inner).out = s.out ++ (absInner base inner).filter (fun r => o ≤ r.1) ∧
      (messagesV1 .fixed o base s inner).batchEnd = s.batchEnd ∧
      (∀ l, inner.getLast? = some l → o ≤ l.1 + base → (messagesV1 .fixed o base s inner).inV1 = false) := by
  intro inner
  induction inner with
  | nil =>
    intro s lo hw hle _
    exact ⟨hw.mono hle, by simp [messagesV1, absInner], rfl, by intro l hl; simp at hl⟩
  | cons x ms ih =>
    intro s lo hw _ hin
    obtain ⟨f, t⟩ := x
    simp only [InnerWF] at hin
    obtain ⟨h1, h2, h3, h4⟩ := messageV1_W (t := t) hw hin.1
    obtain ⟨i1, i2, i3, i4⟩ := ih (messageV1 .fixed o s (f + base) t) (f + base + 1) h1 (by omega) hin.2.2
    refine ⟨i1, ?_, by simp only [messagesV1]; rw [i3, h3], ?_⟩
    · simp only [messagesV1]
      rw [i2, h2, List.append_assoc, ← List.filter_append]
      rfl
    · intro l hl hol
      simp only [messagesV1]
      cases ms with
      | nil =>
        simp only [List.getLast?_singleton, Option.some.injEq] at hl
        subst hl
        exact h4 hol
      | cons y ys => exact i4 l (by simpa [List.getLast?_cons_cons] using hl) hol

theorem wrapper_last {woff : Int} {inner : List (Int × Nat)} {l : Int × Nat} (h : inner.getLast? = some l) :
    l.1 + wrapperBase woff inner = woff := by
  simp only [wrapperBase, h, Option.map_some, Option.getD_some]
  omega

/-- the header of batch [base,last] read in a boundary state: `stH2` for the delta `last - base` -/
def afterH2 (s : St) (base last : Int) (c : Nat) (z : Bool) (pl : Nat) : St :=
  { s with started := true, count := c, magic := 2, first := base, lastD := last - base, hcount := c, codec := z,
           lenRem := pl, batchEnd := if Variant.fixed = Variant.fixed ∧ c = 0 then base + (last - base) + 1 else s.batchEnd,
           hr := s.hr - 1 }

@[simp] theorem afterH2_out (s : St) (b l : Int) (c : Nat) (z : Bool) (pl : Nat) : (afterH2 s b l c z pl).out = s.out := rfl
@[simp] theorem afterH2_off (s : St) (b l : Int) (c : Nat) (z : Bool) (pl : Nat) : (afterH2 s b l c z pl).off = s.off := rfl
@[simp] theorem afterH2_lastOff (s : St) (b l : Int) (c : Nat) (z : Bool) (pl : Nat) : (afterH2 s b l c z pl).lastOff = s.lastOff := rfl
@[simp] theorem afterH2_started (s : St) (b l : Int) (c : Nat) (z : Bool) (pl : Nat) : (afterH2 s b l c z pl).started = true := rfl
@[simp] theorem afterH2_lenRem (s : St) (b l : Int) (c : Nat) (z : Bool) (pl : Nat) : (afterH2 s b l c z pl).lenRem = pl := rfl
@[simp] theorem afterH2_count (s : St) (b l : Int) (c : Nat) (z : Bool) (pl : Nat) : (afterH2 s b l c z pl).count = c := rfl
@[simp] theorem afterH2_inV1 (s : St) (b l : Int) (c : Nat) (z : Bool) (pl : Nat) : (afterH2 s b l c z pl).inV1 = s.inV1 := rfl
theorem afterH2_be_pos (s : St) (b l : Int) {c : Nat} (z : Bool) (pl : Nat) (h : c ≠ 0) : (afterH2 s b l c z pl).batchEnd = s.batchEnd := by
  simp [afterH2, h]
theorem afterH2_be_zero (s : St) (b l : Int) (z : Bool) (pl : Nat) : (afterH2 s b l 0 z pl).batchEnd = l + 1 := by
  simp [afterH2]; omega
theorem afterH2_outOK {o : Int} {s : St} (h : OutOK o s) (b l : Int) (c : Nat) (z : Bool) (pl : Nat) : OutOK o (afterH2 s b l c z pl) := h

theorem afterH2_eq (s : St) (b l : Int) (c : Nat) (z : Bool) (pl : Nat) : afterH2 s b l c z pl = stH2 s b (l - b) c z pl := rfl

theorem step_h2 {e : Bool} {o nb : Int} {s : St} (hb : Bnd o nb true s) (base last : Int) (c : Nat) (z : Bool) (pl : Nat) :
    step .fixed e o s (.h2 base (last - base) c z pl) = .cont (afterH2 s base last c z pl) := by
  rw [afterH2_eq]
  exact step_expected (t := .h2 base (last - base) c z pl) ⟨hb.count0, hb.notV1 rfl⟩

theorem mid_afterH2 {o nb base last : Int} {s : St} (hb : Bnd o nb true s) (hnb : nb ≤ base) (recs : List (Int × Nat × Nat))
    (hne : recs ≠ []) (z : Bool) (pl : Nat) (hpl : z = false → pl = sumSizes recs) :
    Mid o base last base recs z (afterH2 s base last recs.length z pl) := by
  have hlen : recs.length ≠ 0 := by simpa using hne
  refine ⟨rfl, rfl, rfl, rfl, rfl, hb.notV1 rfl, ?_, ?_, ?_, ?_, rfl, afterH2_outOK hb.outok _ _ _ _ _⟩
  · rw [afterH2_be_pos _ _ _ _ _ hlen]; have := hb.be; omega
  · rw [afterH2_off]; have := hb.offle; omega
  · have := hb.nb0; omega
  · intro h; rw [afterH2_lenRem, hpl h]

theorem bnd_afterH2_empty {o nb base last : Int} {s : St} (hb : Bnd o nb true s) (hnb : nb ≤ base) (hbl : base ≤ last) (z : Bool)
    (v2n : Bool) : Bnd o (last + 1) v2n (afterH2 s base last 0 z 0) ∧ last + 1 ≤ (afterH2 s base last 0 z 0).batchEnd := by
  have h1 := hb.offle; have h2 := hb.lastle; have h3 := hb.nb0
  have hbe := afterH2_be_zero s base last z 0
  refine ⟨⟨rfl, fun _ => hb.notV1 rfl, by omega, ?_, ?_, by omega, ?_, ?_, afterH2_outOK hb.outok _ _ _ _ _⟩, by omega⟩
  · rw [afterH2_off]; omega
  · rw [afterH2_lastOff]; omega
  · intro _ _ h
    rw [afterH2_lastOff, afterH2_off] at h
    rw [afterH2_lastOff, hbe]
    omega
  · intro h; simp at h

theorem step_h1 {e : Bool} {o nb : Int} {v2n : Bool} {s : St} (hb : Bnd o nb v2n s) (m : Nat) (f : Int) (z : Bool) :
    step .fixed e o s (.h1 m f z) = .cont (afterH1 s m f z) :=
  step_expected (t := .h1 m f z) hb.count0

theorem w_afterH1 {o nb : Int} {v2n : Bool} {s : St} (hb : Bnd o nb v2n s) (m : Nat) (f : Int) (z : Bool) (iv : Bool) :
    W o nb { afterH1 s m f z with count := 0, inV1 := iv } :=
  ⟨rfl, rfl, rfl, hb.be, hb.offle, hb.lastle, hb.nb0, hb.outok⟩

/-- a v0/v1 item is a header token and one body token; when it is not there completely nothing of it is returned
(`lengthRemain = 1` after the header: no compaction jump) -/
theorem v1_cut {e : Bool} {o nb : Int} {v2n : Bool} {s : St} (hb : Bnd o nb v2n s) (m : Nat) (f : Int) (z : Bool) (body : Tok)
    (ts : List Tok) {size n : Nat} (hbody : body.size = size - hdr1Size m) (hn : ¬ size ≤ n) {all : List Rec}
    (hall : ∀ r ∈ all, nb ≤ r.1) :
    PostL o [] all none s (runCut .fixed e o s (.h1 m f z :: body :: ts) n) := by
  by_cases hh : hdr1Size m ≤ n
  · rw [runCut_cons_fit (t := .h1 m f z) hh (step_h1 hb m f z),
      runCut_cons_cut (by rw [hbody]; show ¬ _ ≤ n - hdr1Size m; omega)]
    have := postL_finish (e := e) (o := o) (lo := nb) (all := all) (s := afterH1 s m f z)
      (by intro _ h0; simp [afterH1] at h0) (by intro h; simp [afterH1] at h) hb.offle hb.be hall hb.outok
    -- `afterH1` leaves `out` and `batchEnd` alone: a `PostL` from `afterH1 s …` is one from `s`, field by field
    exact ⟨this.out, this.ok, this.nogap, this.lower, this.resok, this.prog⟩
  · rw [runCut_cons_cut (t := .h1 m f z) hh]
    exact postL_finish hb.J hb.init hb.offle hb.be hall hb.outok

/-- **the decoder consumes an item**: it ends in a boundary state after the item, the item's records at or above `o`
appended.  Last clause: an item that reaches `o` pushes the batch end past itself (v2) or hands out its last message
(v0/v1) — either way the final offset lies beyond it (the offset itself may move back during a run). -/
theorem item_whole {e : Bool} {o nb : Int} {s : St} {it : Item} {v2n : Bool}
    (hb : Bnd o nb (isB2 it) s) (hw : IWF nb it) (hsafe : v2n = true → isB2 it = true ∨ o ≤ it.last) :
    ∃ s', (∀ ts, run .fixed e o s (tokensOf it ++ ts) = run .fixed e o s' ts) ∧
      Bnd o (it.last + 1) v2n s' ∧ s'.out = s.out ++ it.records.filter (fun r => o ≤ r.1) ∧
      s.batchEnd ≤ s'.batchEnd ∧ (o ≤ it.last → it.last + 1 ≤ s'.batchEnd ∨ ∃ r ∈ s'.out, r.1 = it.last) := by
  have hilast := hw.bounds.2
  cases it with
  | b2 base last codec plen recs =>
    obtain ⟨hnb, hbl, hrw, hplain, hcomp⟩ := hw
    have hs1 := step_h2 (e := e) hb base last recs.length codec plen
    have hbe := hb.be
    show ∃ s', _ ∧ Bnd o (last + 1) _ s' ∧ s'.out = s.out ++ (absRecs base recs).filter _ ∧ _ ∧ (_ → last + 1 ≤ _ ∨ _)
    by_cases hne : recs = []
    · -- a retained empty batch: a bare header
      subst hne
      have hc : codec = false := by cases codec; rfl; exact absurd rfl (hcomp rfl).1
      subst hc
      have hpl : plen = 0 := hplain rfl
      subst hpl
      obtain ⟨b1, b2⟩ := bnd_afterH2_empty hb hnb hbl false v2n
      exact ⟨_, fun _ => run_cons_cont hs1, b1, by simp [absRecs],
        by show s.batchEnd ≤ (afterH2 s base last 0 false 0).batchEnd; omega, fun _ => Or.inl b2⟩
    · -- the records arrive one token at a time or all at once: `recordsV2` either way
      have hmid : Mid o base last base recs codec (afterH2 s base last recs.length codec plen) :=
        mid_afterH2 hb hnb recs hne codec plen hplain
      obtain ⟨hout, hbnd, hend⟩ := recordsV2_all recs _ base hne hmid hrw
      refine ⟨recordsV2 .fixed o (afterH2 s base last recs.length codec plen) recs, fun ts => ?_, hbnd _, by rw [hout, afterH2_out],
        by omega, fun _ => Or.inl hend⟩
      cases codec with
      | false => exact (run_cons_cont hs1).trans (run_r2 ts recs _ rfl rfl (Nat.le_refl _))
      | true =>
        have hlen : recs.length ≠ 0 := by simpa using hne
        exact (run_cons_cont hs1).trans (run_cons_cont (step_expected (t := .z2 plen recs) ⟨rfl, hlen, rfl, rfl, rfl⟩))
  | m magic off tag size =>
    obtain ⟨hmag, hnbo, hsz⟩ := hw
    obtain ⟨m1, m2, m3, m4⟩ := messageV1_W (t := tag) (w_afterH1 hb magic off false s.inV1) hnbo
    have hs2 : step .fixed e o (afterH1 s magic off false) (.kv tag (size - hdr1Size magic))
        = .cont (messageV1 .fixed o { afterH1 s magic off false with count := 0, inV1 := s.inV1 } off tag) :=
      step_expected (t := .kv tag _) ⟨show magic ≤ 1 by omega, Nat.one_ne_zero, rfl⟩
    refine ⟨_, fun _ => (run_cons_cont (step_h1 hb magic off false)).trans (run_cons_cont hs2),
      m1.bnd _ (fun hv => m4 (by simpa [isB2, Item.last] using hsafe hv)), m2, by rw [m3]; exact Int.le_refl _,
      fun ho => Or.inr ⟨(off, tag), ?_, rfl⟩⟩
    rw [m2]; simp [show o ≤ off from ho]
  | w magic woff size inner =>
    obtain ⟨hmag, hne, hin, hsz⟩ := hw
    have hilast : nb ≤ woff := hilast
    obtain ⟨m1, m2, m3, m4⟩ := messagesV1_all inner _ nb (w_afterH1 hb magic woff true true) (by omega) hin
    have hs2 : step .fixed e o (afterH1 s magic woff true) (.zv (size - hdr1Size magic) inner)
        = .cont (messagesV1 .fixed o (wrapperBase woff inner) { afterH1 s magic woff true with count := 0, inV1 := true } inner) :=
      step_expected (t := .zv _ inner) ⟨show magic ≤ 1 by omega, Nat.one_ne_zero, rfl⟩
    -- the wrapper's offset is that of its last inner message
    obtain ⟨l, hl⟩ : ∃ l, inner.getLast? = some l := by
      cases hgl : inner.getLast? with
      | none => exact absurd (List.getLast?_eq_none_iff.mp hgl) hne
      | some l => exact ⟨l, rfl⟩
    have hlast := wrapper_last (woff := woff) hl
    refine ⟨_, fun _ => (run_cons_cont (step_h1 hb magic woff true)).trans (run_cons_cont hs2),
      m1.bnd _ (fun hv => m4 l hl ?_), m2, by rw [m3]; exact Int.le_refl _, fun ho => Or.inr ⟨(woff, l.2), ?_, rfl⟩⟩
    · have := hsafe hv
      simp only [isB2, Bool.false_eq_true, false_or, Item.last] at this
      omega
    · rw [m2]
      apply List.mem_append_right
      simp only [List.mem_filter, decide_eq_true_eq, absInner, List.mem_map]
      exact ⟨⟨l, List.mem_of_getLast? hl, by simp [hlast]⟩, ho⟩

/-- **the budget cuts the item**: the run ends inside it, where `postL_finish` applies because `batchEnd` and the offset have
not passed `nb`; only a plain v2 batch has handed out the records before the cut -/
theorem item_cut {e : Bool} {o nb : Int} {s : St} {it : Item} {n : Nat} (ts : List Tok)
    (hb : Bnd o nb (isB2 it) s) (hw : IWF nb it) (hcut : ¬ it.size ≤ n) {all : List Rec}
    (hall : ∀ r ∈ all, it.last + 1 ≤ r.1) :
    PostL o (contained [it] n) (it.records ++ all) none s (runCut .fixed e o s (tokensOf it ++ ts) n) := by
  obtain ⟨hib, hilast⟩ := hw.bounds
  have hall' : ∀ r ∈ it.records ++ all, nb ≤ r.1 := by
    intro r hr
    rcases List.mem_append.mp hr with h | h
    · exact (hib r h).1
    · have := hall r h; omega
  cases it with
  | m magic off tag size =>
    have hexp : contained [Item.m magic off tag size] n = [] := by simp [contained, Item.size, show ¬ size ≤ n from hcut]
    rw [hexp]
    exact v1_cut hb magic off false _ ts rfl hcut hall'
  | w magic woff size inner =>
    have hexp : contained [Item.w magic woff size inner] n = [] := by simp [contained, Item.size, show ¬ size ≤ n from hcut]
    rw [hexp]
    exact v1_cut hb magic woff true _ ts rfl hcut hall'
  | b2 base last codec plen recs =>
    obtain ⟨hnb, hbl, hrw, hplain, hcomp⟩ := hw
    simp only [Item.size] at hcut
    simp only [Item.last] at hall
    rw [records_b2] at hall' ⊢
    by_cases h61 : 61 ≤ n
    · have hs1 := step_h2 (e := e) hb base last recs.length codec plen
      cases codec with
      | true =>
        -- the payload is cut: batchRemain > r.remain
        obtain ⟨hne, _⟩ := hcomp rfl
        have hlen : recs.length ≠ 0 := by simpa using hne
        have hexp : contained [Item.b2 base last true plen recs] n = [] := by simp [contained, Item.size, hcut]
        rw [hexp]
        show PostL _ _ _ _ _ (runCut .fixed e o s (Tok.h2 base (last - base) recs.length true plen :: Tok.z2 plen recs :: ts) n)
        rw [runCut_cons_fit (t := .h2 base (last - base) recs.length true plen) h61 hs1,
          runCut_cons_cut (t := .z2 plen recs) (by show ¬ plen ≤ n - 61; omega)]
        have hp := postL_finish (e := e) (o := o) (lo := nb) (all := absRecs base recs ++ all)
          (s := afterH2 s base last recs.length true plen)
          (by intro _ h0; rw [afterH2_lenRem] at h0; omega) (by intro h; simp at h) (by rw [afterH2_off]; exact hb.offle)
          (by rw [afterH2_be_pos _ _ _ _ _ hlen]; exact hb.be) hall' (afterH2_outOK hb.outok _ _ _ _ _)
        exact hp.prepend [] (by simp) (by rw [afterH2_be_pos _ _ _ _ _ hlen]; exact Int.le_refl _) (fun b hb => by cases hb)
      | false =>
        have hpl := hplain rfl
        have hexp : contained [Item.b2 base last false plen recs] n = fitRecs base recs (n - 61) := by
          simp [contained, Item.size, hcut, h61]
        have hne : recs ≠ [] := by rintro rfl; simp only [sumSizes] at hpl; omega
        have hlen : recs.length ≠ 0 := by simpa using hne
        rw [hexp]
        show PostL _ _ _ _ _ (runCut .fixed e o s (Tok.h2 base (last - base) recs.length false plen :: (r2Toks recs ++ ts)) n)
        rw [runCut_cons_fit (t := .h2 base (last - base) recs.length false plen) h61 hs1]
        have hp := plain_cut (e := e) ts hall recs _ (n - 61) base (mid_afterH2 hb hnb recs hne false plen (fun _ => hpl)) hrw
          (by rw [← hpl]; omega)
        exact hp.prepend [] (by simp) (by rw [afterH2_be_pos _ _ _ _ _ hlen]; exact Int.le_refl _) (fun b hb => by cases hb)
    · have hexp : contained [Item.b2 base last codec plen recs] n = [] := by
        cases codec <;> simp [contained, Item.size, hcut, h61]
      have hrun : runCut .fixed e o s (tokensOf (Item.b2 base last codec plen recs) ++ ts) n = finish .fixed e s := by
        cases codec <;> exact runCut_cons_cut (t := .h2 base (last - base) recs.length _ plen) h61
      rw [hexp, hrun]
      exact postL_finish hb.J hb.init hb.offle hb.be hall' hb.outok

/-- **Main lemma**: the decoder (`Variant.fixed`) on any well-formed layout that is `Safe` for the start offset `o`, any byte
budget, from any boundary state. -/
theorem layout_run (e : Bool) (o : Int) :
    ∀ (items : List Item) (nb : Int) (s : St) (n : Nat), LWF nb items → Safe o items → Bnd o nb (headB2 items) s →
      PostL o (contained items n) (allRecords items) (progLB o items n) s (runCut .fixed e o s (allTokens items) n) := by
  intro items
  induction items with
  | nil =>
    intro nb s n _ _ hb
    exact postL_finish (lo := nb) hb.J hb.init hb.offle hb.be (by simp [allRecords]) hb.outok
  | cons it rest ih =>
    intro nb s n hw hsafe hb
    obtain ⟨hit, hrestwf⟩ := lwf_cons.mp hw
    rw [allRecords_cons, allTokens_cons]
    by_cases hfit : it.size ≤ n
    · obtain ⟨s', hrun, hb', hout, hbe, hprog⟩ := item_whole (e := e) hb hit hsafe.1
      have hp := ih (it.last + 1) s' (n - it.size) hrestwf hsafe.2 hb'
      rw [runCut_append _ _ _ ((tokensOf_size hit).symm ▸ hfit) hrun, tokensOf_size hit, contained_cons_fit hfit]
      refine hp.prepend _ hout hbe ?_
      intro b hb'
      obtain ⟨hc, rfl⟩ := Option.ite_some_none_eq_some.mp hb'
      rcases hprog hc.2 with h | ⟨r, hr, hle⟩
      · have := hp.lower; omega
      · have := hp.mem_out_lt hr; omega
    · rw [contained_cons_cut hfit, progLB_cut hfit]
      exact item_cut (allTokens rest) hb hit hfit (lwf_lb hrestwf)

theorem bnd_init {o nb : Int} (ho : 0 ≤ o) (hnb : 0 ≤ nb) (v2n : Bool) : Bnd o nb v2n { off := o } := by
  refine ⟨rfl, fun _ => rfl, ?_, ?_, ?_, hnb, ?_, ?_, ⟨by simp, by simp⟩⟩ <;> simp <;> omega

/-- **one round on the first `n` bytes of a well-formed layout**, from a fresh Batch on a Conn positioned at `o`:
`layout_run` in terms of `readAll` -/
theorem readAll_layout (e : Bool) (items : List Item) (nb : Int) (hnb : 0 ≤ nb) (hwf : LWF nb items) (o hwm : Int) (ho : 0 ≤ o)
    (hsafe : Safe o items) (hne : hwm ≠ o) (n : Nat) :
    let res := readAll .fixed e o hwm (truncate (allTokens items) n)
    res.1 = (contained items n).filter (fun r => o ≤ r.1) ∧ res.2.2 ≠ .desync ∧
    (∀ r ∈ allRecords items, o ≤ r.1 → r.1 < res.2.1 → r ∈ res.1) ∧
    (∀ r ∈ res.1, o ≤ r.1 ∧ r.1 < res.2.1) ∧ res.1.Pairwise (fun a b => a.1 < b.1) ∧
    (∀ b, progLB o items n = some b → b ≤ res.2.1) := by
  have hp := layout_run e o items nb { off := o } n hwf hsafe (bnd_init ho hnb _)
  simp only [readAll, hne, if_false, run_truncate]
  have hout : (runCut .fixed e o { off := o } (allTokens items) n).1.out = (contained items n).filter (fun r => o ≤ r.1) := hp.out
  refine ⟨hout, hp.ok, ?_, hp.resok.1, hp.resok.2, hp.prog⟩
  intro r hr h1 h2
  rw [hout]
  exact List.mem_filter.mpr ⟨hp.nogap r hr h1 h2, decide_eq_true h1⟩

/-- the stored records of a well-formed layout have strictly increasing offsets.  Read off the decoder theorem: a run over
the whole layout from offset 0 returns all records (`contained_all`) and what a run returns is sorted (`OutOK`). -/
theorem allRecords_sorted (items : List Item) (nb : Int) (hnb : 0 ≤ nb) (hwf : LWF nb items) :
    (allRecords items).Pairwise (fun a b => a.1 < b.1) := by
  have hsafe : Safe 0 items := safe_of_lasts (fun it hit => by have := lasts_ge hwf it hit; omega)
  obtain ⟨h1, _, _, _, h5, _⟩ := readAll_layout false items nb hnb hwf 0 1 (Int.le_refl 0) hsafe (by decide) (itemsSize items)
  rw [h1, contained_all items _ (Nat.le_refl _)] at h5
  rwa [List.filter_eq_self.mpr (fun r hr => decide_eq_true (Int.le_trans hnb (lwf_lb hwf r hr)))] at h5

/-- the first item of a response that arrives whole starts with a complete header: the round does not end with
io.ErrUnexpectedEOF -/
theorem fetch_whole_started (nb : Int) (it : Item) (rest : List Item) (hwf : LWF nb (it :: rest)) (e : Bool) (q hwm : Int)
    (hne : hwm ≠ q) (n : Nat) (hn : it.size ≤ n) :
    (readAll .fixed e q hwm (truncate (allTokens (it :: rest)) n)).2.2 ≠ .unexpectedEOF := by
  have hit := (lwf_cons.mp hwf).1
  obtain ⟨hd, tl, htoks, hsz, hx, hst⟩ : ∃ hd tl, allTokens (it :: rest) = hd :: tl ∧ hd.size ≤ n ∧
      ({ off := q } : St).expects hd ∧ (({ off := q } : St).eat q hd).started = true := by
    cases it with
    | b2 base last codec plen recs =>
      exact ⟨.h2 base (last - base) recs.length codec plen, (allTokens (.b2 base last codec plen recs :: rest)).tail, by cases codec <;> rfl,
        Nat.le_trans (Nat.le_add_right 61 plen) hn, ⟨rfl, rfl⟩, rfl⟩
    | m magic off tag size => exact ⟨_, _, rfl, Nat.le_trans hit.2.2 hn, rfl, rfl⟩
    | w magic woff size inner => exact ⟨_, _, rfl, Nat.le_trans hit.2.2.2 hn, rfl, rfl⟩
  simp only [readAll, hne, if_false, run_truncate, htoks, runCut_cons_fit hsz (step_expected hx)]
  exact run_started e q _ _ hst

/-- one fetch round at conn offset `q` on the first `n` bytes of what the broker has from `q` on, deadline passed or
not -/
theorem fetch_round_gen (items : List Item) (nb : Int) (hnb : 0 ≤ nb) (hwf : LWF nb items) (hwm q : Int) (hq : 0 ≤ q)
    (e : Bool) (n : Nat) :
    let res := readAll .fixed e q hwm (truncate (allTokens (dropBefore q items)) n)
    (∀ r ∈ res.1, r ∈ allRecords items ∧ q ≤ r.1 ∧ r.1 < res.2.1) ∧
    (∀ r ∈ allRecords items, q ≤ r.1 → r.1 < res.2.1 → r ∈ res.1) ∧
    res.1.Pairwise (fun a b => a.1 < b.1) ∧
    res.2.2 ≠ .desync ∧
    ((∀ it rest, dropBefore q items = it :: rest → it.size ≤ n) →
      q ≤ res.2.1 ∧ (hwm ≠ q → dropBefore q items ≠ [] → q < res.2.1) ∧
      (hwm ≠ q → ∀ it rest, dropBefore q items = it :: rest → it.last + 1 ≤ res.2.1)) := by
  by_cases hne : hwm = q
  · simp [readAll, hne]
  · obtain ⟨d1, d2, d3, d4⟩ := dropBefore_spec q hwf
    have hsafe : Safe q (dropBefore q items) := by
      cases hsub : dropBefore q items with
      | nil => trivial
      | cons it rest => rw [hsub] at d1; exact safe_of_contract d1 (d4 it rest hsub)
    obtain ⟨h1, h2, h3, h4, h5, h6⟩ := readAll_layout e (dropBefore q items) nb hnb d1 q hwm hq hsafe hne n
    refine ⟨fun r hr => ⟨d3 r (contained_subset _ _ r (List.mem_filter.mp (h1 ▸ hr)).1), h4 r hr⟩, ?_, h5, h2, ?_⟩
    · intro r hr hq1 hlt
      rcases d2 r hr with hlt' | hsub
      · omega
      · exact h3 r hsub hq1 hlt
    · intro hfirst
      cases hsub : dropBefore q items with
      | nil =>
        have : (readAll .fixed e q hwm (truncate (allTokens []) n)).2.1 = q := by
          cases e <;> simp [readAll, hne, allTokens, truncate, run, finish]
        exact ⟨by rw [this]; exact Int.le_refl _, fun _ h => absurd rfl h, fun _ it rest h => by cases h⟩
      | cons it rest =>
        rw [hsub] at h6
        have : it.size ≤ n := hfirst it rest hsub
        have hlast := d4 it rest hsub
        have := h6 (it.last + 1) (by simp [progLB, this, hlast])
        exact ⟨by omega, fun _ _ => by omega, fun _ it' rest' h' => by cases h'; omega⟩

/-- **one fetch round against a contract-obeying broker** (`fetch_progress` is the first and the last clause) -/
theorem fetch_round (items : List Item) (nb : Int) (hnb : 0 ≤ nb) (hwf : LWF nb items) (hwm q : Int) (hq : 0 ≤ q) (b : Nat) :
    let res := fetchOnce .fixed items hwm q b
    q ≤ res.2.1 ∧
    (∀ r ∈ res.1, r ∈ allRecords items ∧ q ≤ r.1 ∧ r.1 < res.2.1) ∧
    (∀ r ∈ allRecords items, q ≤ r.1 → r.1 < res.2.1 → r ∈ res.1) ∧
    res.1.Pairwise (fun a b => a.1 < b.1) ∧
    res.2.2 ≠ .desync ∧
    (hwm ≠ q → dropBefore q items ≠ [] → q < res.2.1) := by
  obtain ⟨f1, f2, f3, f4, f5⟩ := fetch_round_gen items nb hnb hwf hwm q hq false (serveBudget (dropBefore q items) b)
  obtain ⟨g1, g2, _⟩ := f5 (fun it rest h => serveBudget_first h b)
  exact ⟨g1, f1, f2, f3, f4, g2⟩

/-! ### The token streams of layouts are `allWF`: what `pull_eq_run_all` asks of a stream -/

theorem allWF_truncate : ∀ (ts : List Tok) (n : Nat), allWF ts → allWF (truncate ts n) := by
  intro ts
  induction ts with
  | nil => intro n _; simp [truncate, allWF]
  | cons t ts ih =>
    intro n h
    have ht : t.wf = true := h t List.mem_cons_self
    have hts : allWF ts := h.tail
    unfold truncate
    split
    · intro x hx
      simp only [List.mem_cons] at hx
      rcases hx with rfl | hx
      · exact ht
      · exact ih _ hts x hx
    · split
      · simp [allWF]
      · intro x hx; simp only [List.mem_singleton] at hx; subst hx; rfl

theorem IWF.allWF {nb : Int} {it : Item} (h : IWF nb it) : allWF (tokensOf it) := by
  have hm : ∀ magic : Nat, magic = 0 ∨ magic = 1 → ∀ (f : Int) (z : Bool), (Tok.h1 magic f z).wf = true := by
    intro magic hmag f z
    simp only [Tok.wf, decide_eq_true_eq]; omega
  intro x hx
  cases it with
  | b2 base last codec plen recs =>
    cases codec
    · simp only [tokensOf, Bool.false_eq_true, if_false, List.mem_cons, List.mem_map] at hx
      rcases hx with hx | ⟨y, _, hx⟩
      · rw [hx]; rfl
      · rw [← hx]; rfl
    · simp only [tokensOf, if_true, List.mem_cons, List.not_mem_nil, or_false] at hx
      rcases hx with hx | hx <;> (rw [hx]; rfl)
  | m magic off tag size =>
    simp only [tokensOf, List.mem_cons, List.not_mem_nil, or_false] at hx
    rcases hx with hx | hx
    · rw [hx]; exact hm magic h.1 _ _
    · rw [hx]; rfl
  | w magic woff size inner =>
    simp only [tokensOf, List.mem_cons, List.not_mem_nil, or_false] at hx
    rcases hx with hx | hx
    · rw [hx]; exact hm magic h.1 _ _
    · rw [hx]; rfl

theorem allWF_tokens (items : List Item) (nb : Int) (h : LWF nb items) : allWF (allTokens items) := by
  intro x hx
  obtain ⟨it, hit, hx⟩ := List.mem_flatMap.mp hx
  exact (lwf_mem h hit).allWF x hx

end KV.C02
