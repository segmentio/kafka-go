/-
Lemmas/WriterQuiesce.lean — the whole writer drains by itself (C08 "flushed without further input", C01 "the caller
gets its answer"): flushing the partition writers one after the other with their internal events only — timer, queue,
sender, broker answers; no WriteMessages step, no Close step — reaches a state in which every batch is completed, while
no call record changes.
-/
import KafkaVerif.Lemmas.WriterProgress

namespace KV.Writer

theorem internalRun_frame (cfg : Cfg) (pw : Nat) (es : List Event) (s s' : State) (h : internalRun cfg pw s es = some s') :
    OnlyPW pw s s' ∧ es.all Event.internal = true :=
  Run.rec (R := fun s es s' => OnlyPW pw s s' ∧ es.all Event.internal = true) (fun s => ⟨.refl pw s, rfl⟩)
    (fun s e s1 es s' hs ⟨b, b'⟩ => by
      obtain ⟨hint, hs⟩ := Option.ite_none_right_eq_some.mp hs
      refine ⟨(internal_frame hint (.of_step hs)).trans b, ?_⟩
      rw [List.all_cons, internal_of_internalFor hint, b']; rfl)
    (internalRun_eq cfg pw s es ▸ h)

theorem drain_list (cfg : Cfg) (hmax : 1 ≤ cfg.maxAttempts) : ∀ (l : List Nat) (s : State), Reachable cfg s → s.fresh = none →
    ∃ es s', run cfg s es = some s' ∧ es.all Event.internal = true ∧ s'.calls = s.calls ∧ s'.wlock = s.wlock ∧
      s'.fresh = none ∧ s'.pwIds = s.pwIds ∧
      (∀ pw ∈ l, ∀ P', s'.pws pw = some P' → P'.pipe = []) := by
  intro l
  induction l with
  | nil =>
    intro s hr hf
    exact ⟨[], s, rfl, rfl, rfl, rfl, hf, rfl, by intro pw hpw; cases hpw⟩
  | cons pw l ih =>
    intro s hr hf
    obtain ⟨es1, s1, hrun1, hint1, hc1, hw1, hf1, hi1, hall1⟩ := ih s hr hf
    have hr1 := hr.run hrun1
    cases hP1 : s1.pws pw with
    | none =>
      refine ⟨es1, s1, hrun1, hint1, hc1, hw1, hf1, hi1, ?_⟩
      intro x hx P' hP'
      rcases List.mem_cons.mp hx with rfl | hx
      · rw [hP1] at hP'; cases hP'
      · exact hall1 x hx P' hP'
    | some P1 =>
      obtain ⟨es2, s2, P2, hir, hP2, hpipe2, -, -⟩ :=
        flush_completes cfg hmax _ s1 hr1 hf1 pw P1 hP1 (Nat.le_refl _)
      obtain ⟨o2, int2⟩ := internalRun_frame cfg pw es2 s1 s2 hir
      have hrun2 := internalRun_is_run cfg pw es2 s1 s2 hir
      refine ⟨es1 ++ es2, s2, ?_, ?_, o2.calls.trans hc1, o2.wlock.trans hw1, o2.fresh.trans hf1, o2.pwIds.trans hi1, ?_⟩
      · rw [run_append, hrun1]; exact hrun2
      · rw [List.all_append, hint1, int2]; rfl
      · -- flushing pw touches no other partition writer (`o2`), so the ones flushed before stay empty
        intro x hx X' hX'
        rcases List.mem_cons.mp hx with rfl | hx
        · rw [hP2] at hX'; cases hX'; exact hpipe2
        · by_cases hxp : x = pw
          · subst hxp; rw [hP2] at hX'; cases hX'; exact hpipe2
          · have hX1 : s1.pws x = some X' := by rw [← o2.others x hxp]; exact hX'
            exact hall1 x hx X' hX1

/-- when every pipeline is empty every batch is completed: one that is not would sit in some pipeline (`InvLive`) -/
theorem done_of_empty_pipes (cfg : Cfg) (s : State) (hr : Reachable cfg s)
    (hall : ∀ pw ∈ s.pwIds, ∀ P, s.pws pw = some P → P.pipe = []) :
    ∀ b B, s.batches b = some B → ∃ code, B.done = some code := by
  intro b B hB
  cases hd : B.done with
  | some code => exact ⟨code, rfl⟩
  | none =>
    obtain ⟨P, hP, hmem⟩ := invLive cfg s hr b B hB hd
    rw [hall B.pw ((invSched cfg s hr).pwListed B.pw P hP) P hP] at hmem
    cases hmem

/-- from every reachable state in which no batch is between its creation and its first `add` (`fresh = none`; so in
particular whenever no call is inside batchMessages) there is a continuation made of internal events only after which
every batch of the writer is completed; the continuation changes no call record and not the holder of w.mutex. -/
theorem drains (cfg : Cfg) (hmax : 1 ≤ cfg.maxAttempts) (s : State) (hr : Reachable cfg s) (hfresh : s.fresh = none) :
    ∃ es s', run cfg s es = some s' ∧ es.all Event.internal = true ∧ s'.calls = s.calls ∧ s'.wlock = s.wlock ∧
      ∀ b B, s'.batches b = some B → ∃ code, B.done = some code := by
  obtain ⟨es, s', hrun, hint, hc, hw, -, hids, hall⟩ := drain_list cfg hmax s.pwIds s hr hfresh
  exact ⟨es, s', hrun, hint, hc, hw, done_of_empty_pipes cfg s' (hr.run hrun) (hids ▸ hall)⟩

end KV.Writer
