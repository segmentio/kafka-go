/-
Lemmas/GroupWireRd.lean — the leader's SyncGroup v0 request as the coordinator and the member read it.  The request body is
written by the REGENERATED `syncGroupRequestV0.writeTo` (Gen/Legacy.lean) and parsed by `readSyncRequest` (specification:
the library never reads a request); a member's payload is written by `KV.GroupWire.writeAssignment` (Model/GroupWire.lean)
and read by `readAssignment`: syncgroup.go `groupAssignment.readFrom`, whose map loop the legacy translator does not
handle, written by hand in the parser monad of the regenerated codec (`Base/LegacyRead.lean`).
-/
import KafkaVerif.Gen.Legacy
import KafkaVerif.Model.GroupWire

namespace KV.GroupWireRd
open KV KV.Legacy KV.Wire KV.Gen.Legacy

/-- one iteration of `readMapStringInt32` -/
def readEntry : Rd (Bytes × List Int) := fun bs =>
  match Legacy.readString bs with
  | none => none
  | some (k, r) => match Legacy.readInt32Array r with
    | none => none
    | some (vs, r') => some ((k, vs), r')

/-- syncgroup.go `groupAssignment.readFrom` on the bytes of one member's assignment (`size == 0` ⇒ empty):
version, entries in wire order, user data -/
def readAssignment : Rd (Int × List (Bytes × List Int) × Bytes) := fun bs =>
  if bs.length = 0 then some ((0, [], []), bs) else
  match Legacy.readInt16 bs with
  | none => none
  | some (v, r) => match Legacy.readArrayWith readEntry r with
    | none => none
    | some (es, r') => match Legacy.readBytes r' with
      | none => none
      | some (u, r'') => some ((v, es, u), r'')

/-- one `(member id, bytes)` entry of the request -/
def readGroupAssignment : Rd syncGroupRequestGroupAssignmentV0 := fun bs =>
  match Legacy.readString bs with
  | none => none
  | some (m, r) => match Legacy.readBytes r with
    | none => none
    | some (b, r') => some (⟨m, b⟩, r')

def readSyncRequest : Rd syncGroupRequestV0 := fun bs =>
  match Legacy.readString bs with
  | none => none
  | some (g, r1) => match Legacy.readInt32 r1 with
    | none => none
    | some (gen, r2) => match Legacy.readString r2 with
      | none => none
      | some (m, r3) => match Legacy.readArrayWith readGroupAssignment r3 with
        | none => none
        | some (gas, r4) => some (⟨g, gen, m, gas⟩, r4)

/-- well-formed entry: the name fits an int16 length, the values fit int32 -/
def WFEntry (e : Bytes × List Int) : Prop := e.1.length < 2 ^ 15 ∧ e.2.length < 2 ^ 31 ∧ ∀ v ∈ e.2, inRng 32 v

theorem readEntry_write (e : Bytes × List Int) (h : WFEntry e) (rest : Bytes) :
    readEntry (KV.GroupWire.writeEntry e ++ rest) = some (e, rest) := by
  unfold readEntry KV.GroupWire.writeEntry
  rw [List.append_assoc, Legacy.readString_write _ _ h.1]
  simp only
  rw [Legacy.readInt32Array_write _ _ h.2.2 h.2.1]

theorem readBytes_nil (rest : Bytes) : Legacy.readBytes (encInt 4 (-1) ++ rest) = some ([], rest) := by
  have hr : inRng (8 * 4) (-1 : Int) := by constructor <;> simp
  simp [Legacy.readBytes, rdInt_enc 4 (-1) rest (by decide) hr, rdBlob]

theorem readAssignment_write (es : List (Bytes × List Int)) (hn : es.length < 2 ^ 31) (he : ∀ e ∈ es, WFEntry e) (rest : Bytes) :
    readAssignment (KV.GroupWire.writeAssignment ⟨1, es, none⟩ ++ rest) = some ((1, es, []), rest) := by
  unfold readAssignment KV.GroupWire.writeAssignment
  simp only [List.append_assoc]
  rw [if_neg (by simp [List.length_append, len_writeInt16])]
  rw [Legacy.readInt16_write 1 _ (by constructor <;> simp)]
  simp only
  have harr := Legacy.readArrayWith_writeArray readEntry KV.GroupWire.writeEntry es
    (KV.GroupWire.writeOptBytes none ++ rest) (fun e he' r => readEntry_write e (he e he') r) hn
  simp only [writeArray, writeArrayLen, List.append_assoc] at harr
  rw [show writeInt32 (es.length : Int) = encInt 4 (es.length : Int) from rfl, harr]
  simp only [KV.GroupWire.writeOptBytes]
  rw [readBytes_nil]

theorem readGroupAssignment_write (x : syncGroupRequestGroupAssignmentV0) (h1 : x.MemberID.length < 2 ^ 15)
    (h2 : x.MemberAssignments.length < 2 ^ 31) (rest : Bytes) :
    readGroupAssignment (syncGroupRequestGroupAssignmentV0.writeTo x ++ rest) = some (x, rest) := by
  unfold readGroupAssignment syncGroupRequestGroupAssignmentV0.writeTo
  rw [List.append_assoc, Legacy.readString_write _ _ h1]
  simp only
  rw [Legacy.readBytes_write _ _ h2]

/-- the values fit their wire fields: strings an int16 length, the generation id an int32, arrays and byte blobs an int32 length -/
structure SyncReqOk (t : syncGroupRequestV0) : Prop where
  group : t.GroupID.length < 2 ^ 15
  gen : inRng 32 t.GenerationID
  member : t.MemberID.length < 2 ^ 15
  count : t.GroupAssignments.length < 2 ^ 31
  each : ∀ x ∈ t.GroupAssignments, x.MemberID.length < 2 ^ 15 ∧ x.MemberAssignments.length < 2 ^ 31

theorem readSyncRequest_write (t : syncGroupRequestV0) (h : SyncReqOk t) (rest : Bytes) :
    readSyncRequest (syncGroupRequestV0.writeTo t ++ rest) = some (t, rest) := by
  unfold readSyncRequest syncGroupRequestV0.writeTo
  simp only [List.append_assoc]
  rw [Legacy.readString_write _ _ h.group]
  simp only
  rw [Legacy.readInt32_write _ _ h.gen]
  simp only
  rw [Legacy.readString_write _ _ h.member]
  simp only
  rw [Legacy.readArrayWith_writeArray readGroupAssignment syncGroupRequestGroupAssignmentV0.writeTo t.GroupAssignments rest
    (fun x hx r => readGroupAssignment_write x (h.each x hx).1 (h.each x hx).2 r) h.count]

end KV.GroupWireRd
