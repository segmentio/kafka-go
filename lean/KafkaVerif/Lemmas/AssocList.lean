/-
Lemmas/AssocList.lean — association lists read with `List.lookup`, and Go-map assignment on them (core Lean only).

The models write a Go map as a `List (κ × ν)` and `m[k] = v` as an insert function of their own (`Routing.ainsert`,
`GroupGlue.mapInsert`, …), each written in its own way.  What they share is stated here through one equation an insert
function may satisfy (`Assigns`): after the assignment the map reads as if the pair stood in front.  A loop of assignments
then reads like the list of the assigned pairs, latest first (`Assigns.lookup_foldl`); the rest is core list lemmas.
-/
namespace KV.AssocList

section
variable {κ ν : Type} [BEq κ] [LawfulBEq κ]

theorem lookup_of_mem {l : List (κ × ν)} {k : κ} {v : ν} (hnd : (l.map (·.1)).Nodup) (h : (k, v) ∈ l) :
    l.lookup k = some v := by
  obtain ⟨l₁, l₂, rfl⟩ := List.append_of_mem h
  rw [List.map_append, List.nodup_append] at hnd
  refine List.lookup_eq_some_iff.mpr ⟨l₁, l₂, rfl, fun p hp => ?_⟩
  rw [bne_iff_ne]
  exact fun hk => hnd.2.2 p.1 (List.mem_map_of_mem hp) k (List.mem_map.mpr ⟨(k, v), List.mem_cons_self, rfl⟩) hk.symm

theorem mem_of_lookup {l : List (κ × ν)} {k : κ} {v : ν} (h : l.lookup k = some v) : (k, v) ∈ l := by
  obtain ⟨l₁, l₂, rfl, -⟩ := List.lookup_eq_some_iff.mp h
  exact List.mem_append_right _ List.mem_cons_self

theorem lookup_perm {l₁ l₂ : List (κ × ν)} (hp : l₁.Perm l₂) (hnd : (l₁.map (·.1)).Nodup) (k : κ) :
    l₁.lookup k = l₂.lookup k := by
  cases h : l₂.lookup k with
  | some v => exact lookup_of_mem hnd (hp.mem_iff.mpr (mem_of_lookup h))
  | none =>
    rw [List.lookup_eq_none_iff] at h ⊢
    exact fun p hp' => h p (hp.mem_iff.mp hp')

omit [LawfulBEq κ] in
theorem lookup_map_snd {μ : Type} (f : ν → μ) (l : List (κ × ν)) (k : κ) :
    (l.map fun e => (e.1, f e.2)).lookup k = (l.lookup k).map f := by
  induction l with
  | nil => rfl
  | cons e es ih => rw [List.map_cons, List.lookup_cons, List.lookup_cons, ih]; cases k == e.1 <;> rfl

theorem find?_key (l : List (κ × ν)) (k : κ) : l.find? (fun e => e.1 == k) = (l.lookup k).map (k, ·) := by
  induction l with
  | nil => rfl
  | cons e es ih =>
    rw [List.find?_cons, List.lookup_cons, BEq.comm, ih]
    cases h : k == e.1
    · rfl
    · rw [beq_iff_eq.mp h]; rfl

theorem mem_keys_iff_lookup (m : List (κ × ν)) (k : κ) : k ∈ m.map (·.1) ↔ (m.lookup k).isSome = true := by
  rw [List.lookup_isSome_iff, List.mem_map]
  exact ⟨fun ⟨p, hp, h⟩ => ⟨p, hp, beq_iff_eq.mpr h.symm⟩, fun ⟨p, hp, h⟩ => ⟨p, hp, (beq_iff_eq.mp h).symm⟩⟩

theorem lookup_filter_key (l : List (κ × ν)) (p : κ → Bool) (k : κ) :
    (l.filter (fun e => p e.1)).lookup k = if p k then l.lookup k else none := by
  induction l with
  | nil => simp [List.lookup]
  | cons e es ih =>
    obtain ⟨ek, ev⟩ := e
    by_cases hk : k == ek
    · have : k = ek := by simpa using hk
      subst this
      by_cases hp : p k <;> simp [List.lookup, hp, ih]
    · by_cases hp : p ek <;> simp [List.lookup, hp, hk, ih]

theorem lookup_map_ids (ids : List κ) (f : κ → ν) (k : κ) :
    (ids.map (fun id => (id, f id))).lookup k = if k ∈ ids then some (f k) else none := by
  induction ids with
  | nil => simp
  | cons i is ih =>
    by_cases hk : k == i
    · have : k = i := by simpa using hk
      subst this
      simp
    · have hne : k ≠ i := by simpa using hk
      simp [List.lookup, hk, ih, hne]

end

theorem lookup_foldl_other {κ ν β : Type} [BEq κ] (step : List (κ × ν) → β → List (κ × ν)) (l : List β)
    (acc : List (κ × ν)) (k : κ) (h : ∀ m, ∀ x ∈ l, (step m x).lookup k = m.lookup k) :
    (l.foldl step acc).lookup k = acc.lookup k :=
  List.foldlRecOn (motive := fun m => m.lookup k = acc.lookup k) l step rfl fun m hm x hx => (h m x hx).trans hm

section
variable {κ ν : Type} [BEq κ]

/-- `ins m k v` behaves as the Go assignment `m[k] = v` -/
def Assigns (ins : List (κ × ν) → κ → ν → List (κ × ν)) : Prop :=
  ∀ m k v k', (ins m k v).lookup k' = ((k, v) :: m).lookup k'

variable {ins : List (κ × ν) → κ → ν → List (κ × ν)}

theorem Assigns.lookup_foldl (h : Assigns ins) (l acc : List (κ × ν)) (k : κ) :
    (l.foldl (fun m e => ins m e.1 e.2) acc).lookup k = (l.reverse ++ acc).lookup k := by
  induction l generalizing acc with
  | nil => rfl
  | cons e es ih =>
    rw [List.foldl_cons, ih, List.reverse_cons, List.append_assoc, List.lookup_append, List.lookup_append, h]
    rfl

theorem Assigns.lookup_foldl_nodup [LawfulBEq κ] (h : Assigns ins) (l acc : List (κ × ν)) (hnd : (l.map (·.1)).Nodup)
    (k : κ) : (l.foldl (fun m e => ins m e.1 e.2) acc).lookup k = (l.lookup k).or (acc.lookup k) := by
  rw [h.lookup_foldl, List.lookup_append, lookup_perm (List.reverse_perm l) (by
    rw [List.map_reverse]; exact (List.reverse_perm _).nodup_iff.mpr hnd)]

end

end KV.AssocList
