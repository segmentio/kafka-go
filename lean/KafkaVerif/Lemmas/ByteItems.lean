/-
Lemmas/ByteItems.lean — every item of `Spec/ByteLayout` (`BItem`: what `encItems` encodes and `tokenize` reads back, at
any cut) is a described entry of `Spec/ByteTokens` (`descOf : BItem → Desc`): same bytes, same layout item, and the
description is `Good` for the Client-path decoder model.  With this `Props/C05.decoders_agree_items` puts the Conn/Batch
reader model (C02) and the Client-path model (C05) on the very same bytes, with the tokens `tokenize` reads off them.
-/
import KafkaVerif.Lemmas.ByteTokens
import KafkaVerif.Lemmas.ByteLayout
import KafkaVerif.Lemmas.FetchLayout

namespace KV.Spec.RB
open KV KV.RW KV.C02 KV.Model.RecordReader

/-- a digest of a record's content (not of its offset, which the layout carries separately) -/
def contentTag (tagC : Int → Option Bytes → Option Bytes → List Hdr → Nat) (r : Rec) : Nat :=
  tagC r.ts r.key r.value r.headers

/-- the tokenizer configuration whose opaque digests are `tagC` of the record's content -/
def cfgOf (tagC : Int → Option Bytes → Option Bytes → List Hdr → Nat) (c : Crcs) (dec : Int → Bytes → Option Bytes) : TokCfg :=
  ⟨c, dec, fun first x => tagC (first + x.tsDelta) x.key x.value x.headers, fun m => tagC m.ts m.key m.value []⟩

def descOf (c : Crcs) (enc : Int → Bytes → Bytes) : BItem → Desc
  | .plain2 b => .batch b.frame b.recs
  | .comp2 hdr codec recs => .batch (comp2Frame enc hdr codec recs) recs
  | .msg m => .msg m
  | .wrap m codec inner => .wrapper (wrapMsg enc c.ieee m codec inner) inner

/-- what the Client-path theorems need beyond `BItem.WF`: wrappers as brokers write them (magic 1, at least one inner
message, inner messages uncompressed, relative offsets ending at the wrapper's offset when that is 0) -/
def itemExtra : BItem → Prop
  | .wrap m _ inner => m.magic = 1 ∧ inner ≠ [] ∧ (∀ x ∈ inner, codecOf x.attributes = 0) ∧ (m.offset = 0 → lastOffset inner = 0)
  | _ => True

theorem codec_facts (codec : Int) (h0 : 0 < codec) (h8 : codec < 8) :
    codecOf codec = codec ∧ logAppend codec = false ∧ isControl codec = false := by
  have : codec = 1 ∨ codec = 2 ∨ codec = 3 ∨ codec = 4 ∨ codec = 5 ∨ codec = 6 ∨ codec = 7 := by omega
  rcases this with h | h | h | h | h | h | h <;> subst h <;> decide

section
variable (tagC : Int → Option Bytes → Option Bytes → List Hdr → Nat) (c : Crcs) (dec : Int → Bytes → Option Bytes)
  (enc : Int → Bytes → Bytes)

theorem bytes_descOf (it : BItem) :
    it.bytes (cfgOf tagC c dec) enc = encEntry c (descOf c enc it).entry := by
  cases it <;> rfl

theorem encItems_descs (its : List BItem) :
    encItems (cfgOf tagC c dec) enc its = encSet c ((its.map (descOf c enc)).map Desc.entry) := by
  induction its with
  | nil => rfl
  | cons it its ih => simp only [encItems, List.map_cons, encSet, bytes_descOf, ih]

theorem item_descOf (it : BItem) (hwf : it.WF (cfgOf tagC c dec) enc) :
    it.item (cfgOf tagC c dec) enc = (descOf c enc it).item c (contentTag tagC) := by
  cases it with
  | plain2 b =>
    simp only [BItem.item, BBatch.item, descOf, Desc.item, BBatch.frame, recToks, cfgOf]
    have h0 : (decide (codecOf 0 ≠ 0)) = false := by decide
    have hl : logAppend 0 = false := by decide
    simp [h0, contentTag, recOfV2, recOfV2c, stamp, hl]
  | comp2 hdr codec recs =>
    obtain ⟨_, h0, h8, _⟩ := hwf
    obtain ⟨hc, hl, _⟩ := codec_facts codec h0 h8
    have hd : (decide (codecOf codec ≠ 0)) = true := by rw [hc]; simp; omega
    simp [BItem.item, descOf, Desc.item, comp2Frame, recToks, cfgOf, hd, contentTag, recOfV2, recOfV2c, stamp, hl]
  | msg m => simp [BItem.item, descOf, Desc.item, cfgOf, contentTag, recOfMsg]
  | wrap m codec inner =>
    obtain ⟨_, h0, h8, _⟩ := hwf
    obtain ⟨_, hl, _⟩ := codec_facts codec h0 h8
    simp [BItem.item, descOf, Desc.item, wrapMsg, innerToks, cfgOf, contentTag, recOfMsg, stamp, hl]

theorem good_descOf (hdec : ∀ k b, dec k (enc k b) = some b) (it : BItem)
    (hwf : it.WF (cfgOf tagC c dec) enc) (hx : itemExtra it) : (descOf c enc it).Good c dec := by
  cases it with
  | plain2 b => exact ⟨hwf, by simp [BBatch.frame, codecOf], rfl⟩
  | comp2 hdr codec recs =>
    obtain ⟨hw, h0, h8, _⟩ := hwf
    obtain ⟨hc, _, _⟩ := codec_facts codec h0 h8
    refine ⟨hw, ?_, rfl⟩
    have hne : ¬ codec = 0 := by omega
    simp [comp2Frame, hc, hne, hdec]
  | msg m => exact ⟨hwf.1, by simpa [codecOf] using hwf.2⟩
  | wrap m codec inner =>
    obtain ⟨hw, h0, h8, hin⟩ := hwf
    obtain ⟨hmg, hne, hcod, hbase⟩ := hx
    obtain ⟨hc, _, _⟩ := codec_facts codec h0 h8
    exact ⟨hw, hmg, by simp only [wrapMsg, hc]; omega,
      ⟨_, rfl, by simp only [wrapMsg, hc, hdec]; rw [encMsgs_eq_encSet]⟩,
      fun x hx' => ⟨hin x hx', hcod x hx'⟩, hne, hbase⟩

theorem layoutOfItems_descs (its : List BItem) (hitems : ∀ it ∈ its, it.WF (cfgOf tagC c dec) enc) :
    layoutOfItems (cfgOf tagC c dec) enc its = (its.map (descOf c enc)).map (Desc.item c (contentTag tagC)) := by
  rw [layoutOfItems, List.map_map]
  exact List.map_congr_left fun it hit => item_descOf tagC c dec enc it (hitems it hit)

theorem good_descs (hdec : ∀ k b, dec k (enc k b) = some b) (its : List BItem)
    (hitems : ∀ it ∈ its, it.WF (cfgOf tagC c dec) enc) (hextra : ∀ it ∈ its, itemExtra it) :
    ∀ d ∈ its.map (descOf c enc), d.Good c dec := by
  intro d hd
  obtain ⟨it, hit, rfl⟩ := List.mem_map.mp hd
  exact good_descOf tagC c dec enc hdec it (hitems it hit) (hextra it hit)

/-- no item of the reference encoder is a control batch: a plain batch has attributes 0, a compressed one its codec number -/
theorem descOf_not_control (it : BItem) (h : it.WF (cfgOf tagC c dec) enc) : (descOf c enc it).group.1 = false := by
  cases it with
  | plain2 b => simp [descOf, Desc.group, BBatch.frame, isControl]
  | comp2 hdr codec recs =>
    obtain ⟨_, h0, h8, _⟩ := h
    simp [descOf, Desc.group, comp2Frame, (codec_facts codec h0 h8).2.2]
  | msg m => rfl
  | wrap m codec inner => rfl

theorem groups_not_control (its : List BItem) (hitems : ∀ it ∈ its, it.WF (cfgOf tagC c dec) enc) :
    ∀ g ∈ (its.map (descOf c enc)).map Desc.group, g.1 = false := by
  intro g hg
  simp only [List.mem_map] at hg
  obtain ⟨d, ⟨it, hit, rfl⟩, rfl⟩ := hg
  exact descOf_not_control tagC c dec enc it (hitems it hit)

theorem item_size_bytes (cfg : TokCfg) (it : BItem) : (it.item cfg enc).size = (it.bytes cfg enc).length := by
  cases it <;> simp only [BItem.item, BBatch.item, BItem.bytes, Item.size, encFrame_split, List.length_append, encH2_length] <;>
    rfl

theorem itemsSize_bytes (its : List BItem) :
    itemsSize (layoutOfItems (cfgOf tagC c dec) enc its) = (encItems (cfgOf tagC c dec) enc its).length := by
  induction its with
  | nil => rfl
  | cons it its ih =>
    simp only [layoutOfItems, List.map_cons, itemsSize, encItems, List.length_append] at ih ⊢
    rw [ih, item_size_bytes]

end

end KV.Spec.RB
