/-
Lemmas/GroupInv.lean — the invariant of `run`'s own variables in the group-run LTS, `Inv2`: a back-off is owed only on the
failure path, the member id is cleared where the error is delivered, and `exitWith` records how `run` returned.
-/
import KafkaVerif.Lemmas.GroupRunStep
namespace KV.Group

/-- program points at which a pending back-off obligation may exist -/
def PC.nb : PC → Bool
  | .coord _ lv => lv.isSome
  | .leaveP _ | .leaveCall _ | .delivering _ true | .backoffP _ | .exiting | .exited => true
  | _ => false

/-- after `leaveGroup` on the error path (`run` has cleared its member id): delivering the error, backing off -/
def PC.memberless : PC → Bool
  | .delivering _ true | .backoffP _ => true
  | _ => false

def PC.gone : PC → Bool
  | .exiting | .exited => true
  | _ => false

theorem returnsNow_plain {s : St} {m : String} {e : Option Err} (h : returnsNow s m e = true) :
    s.pc.nb = false ∧ s.pc.memberless = false ∧ s.pc.gone = false := by
  rcases returnsNow_cases h with h | ⟨h | h, _⟩ <;> rw [h] <;> exact ⟨rfl, rfl, rfl⟩

/-- `exitWith = some (m, b)`: `run` returned holding member id `m`; `b` = its last action was `leaveGroup(m)` -/
structure Inv2 (c : Cfg) (s : St) : Prop where
  nb : s.needBackoff = true → s.pc.nb = true
  dm : s.pc.memberless = true → s.member = ""
  gone : s.pc.gone = true → ∃ b, s.exitWith = some (s.member, b)
  /-- only a returning `run` has recorded how it left; with `fixD9` it has left the group (or held no id); and a
  `leaveGroup(m)` had nothing to send (`m = ""`), sent the request (`m ∈ left`) or failed to find the coordinator -/
  ex : ∀ m b, s.exitWith = some (m, b) →
    s.pc.gone = true ∧ (c.fixD9 = true → b = true ∨ m = "") ∧ (b = true → m = "" ∨ m ∈ s.left ∨ s.leaveFail = true)

namespace Inv2

theorem exitWith_none {c : Cfg} {s : St} (hi : Inv2 c s) (hg : s.pc.gone = false) : s.exitWith = none := by
  cases hx : s.exitWith with
  | none => rfl
  | some mb => have := (hi.ex mb.1 mb.2 hx).1; rw [hg] at this; cases this

theorem needBackoff_false {c : Cfg} {s : St} (hi : Inv2 c s) (hn : s.pc.nb = false) : s.needBackoff = false := by
  cases hb : s.needBackoff with
  | false => rfl
  | true => have := hi.nb hb; rw [hn] at this; cases this

theorem of_pc {c : Cfg} {s s' : St} (hi : Inv2 c s) (hb : s'.needBackoff = s.needBackoff)
    (hm : s'.member = s.member) (hx : s'.exitWith = s.exitWith)
    (hl : s.pc.gone = true → s'.left = s.left ∧ s'.leaveFail = s.leaveFail) (nb : s.pc.nb = true → s'.pc.nb = true)
    (ml : s'.pc.memberless = true → s.pc.memberless = true) (gn : s'.pc.gone = s.pc.gone) : Inv2 c s' := by
  refine ⟨fun h => nb (hi.nb (hb ▸ h)), fun h => hm ▸ hi.dm (ml h), fun h => ?_, fun m b h => ?_⟩
  · rw [hx, hm]; exact hi.gone (gn ▸ h)
  · obtain ⟨h1, h2, h3⟩ := hi.ex m b (hx ▸ h)
    obtain ⟨e1, e2⟩ := hl h1
    exact ⟨gn ▸ h1, h2, by rw [e1, e2]; exact h3⟩

theorem of_free {c : Cfg} {s : St} (hb : s.needBackoff = false ∨ s.pc.nb = true) (hm : s.pc.memberless = false)
    (hg : s.pc.gone = false) (hx : s.exitWith = none) : Inv2 c s := by
  refine ⟨fun h => hb.resolve_left (by simp [h]), fun h => ?_, fun h => ?_, fun m b h => ?_⟩
  · rw [hm] at h; cases h
  · rw [hg] at h; cases h
  · rw [hx] at h; cases h

end Inv2

theorem inv2_afterLeave {c : Cfg} {s : St} (a : After) (hx : s.exitWith = none)
    (hl : s.member = "" ∨ s.member ∈ s.left ∨ s.leaveFail = true) : Inv2 c (afterLeave s a) := by
  cases a with
  | exit =>
    refine ⟨fun _ => rfl, (fun h => by cases h), fun _ => ⟨true, rfl⟩, fun m b h => ?_⟩
    cases h; exact ⟨rfl, fun _ => .inl rfl, fun _ => hl⟩
  | deliver e => exact ⟨fun _ => rfl, fun _ => rfl, (fun h => by cases h), (fun m b h => by rw [show (afterLeave s (.deliver e)).exitWith = none from hx] at h; cases h)⟩

theorem inv2_exit {c : Cfg} {s : St} (hm : c.fixD9 = true → s.member = "") :
    Inv2 c { s with pc := .exiting, exitWith := some (s.member, false) } := by
  refine ⟨fun _ => rfl, (fun h => by cases h), fun _ => ⟨false, rfl⟩, fun m b h => ?_⟩
  cases h; exact ⟨rfl, fun hf => .inr (hm hf), fun hb => by cases hb⟩

theorem inv2_coordFail {c : Cfg} {s : St} {k : Nat} {lv : Option After} (e : Err) (hi : Inv2 c s)
    (hp : s.pc = .coord k lv) : Inv2 c (coordFail s lv e) := by
  have hx := hi.exitWith_none (by rw [hp]; rfl)
  cases lv with
  | none => exact .of_free (.inl (hi.needBackoff_false (by rw [hp]; rfl))) rfl rfl hx
  | some a => exact inv2_afterLeave a hx (.inr (.inr rfl))

theorem inv2_step (c : Cfg) (s s' : St) (e : Ev) (hi : Inv2 c s) (h : step c s e = some s') : Inv2 c s' := by
  cases step_effect h with
  | gen _ _ | env _ _ _ _ _ _ _ => exact ⟨hi.nb, hi.dm, hi.gone, hi.ex⟩
  | startHb hp _ | startWatch hp =>
    refine .of_free (.inl (hi.needBackoff_false (by rw [hp]; rfl))) ?_ ?_ (hi.exitWith_none (by rw [hp]; rfl)) <;>
      (rcases afterStart_cases c _ with ⟨_, h⟩ | ⟨_, h⟩ <;> (dsimp only; rw [h]; rfl))
  | move hm =>
    cases hm with
    | connectFail hp _ | findFail hp => exact inv2_coordFail _ hi hp
    | retOk hr | retClosed hr | retRebalance hr =>
      obtain ⟨p1, _, p3⟩ := returnsNow_plain hr
      exact .of_free (.inl (hi.needBackoff_false p1)) rfl rfl (hi.exitWith_none p3)
    | retErr hr => exact .of_free (.inr rfl) rfl rfl (hi.exitWith_none (returnsNow_plain hr).2.2)
    | leaveNone hp hm => exact inv2_afterLeave _ (hi.exitWith_none (by rw [hp]; rfl)) (.inl hm)
    | leaveRes hp => exact inv2_afterLeave _ (hi.exitWith_none (by rw [hp]; rfl)) (.inr (.inl (List.mem_cons_self ..)))
    | leaveSome hp => exact .of_free (.inr rfl) rfl rfl (hi.exitWith_none (by rw [hp]; rfl))
    | undeliveredExit hp hf => exact inv2_exit (fun h => by rw [hf] at h; cases h)
    | backoffClosed hp => exact inv2_exit (fun _ => hi.dm (by rw [hp]; rfl))
    | backoffEnd hp => exact .of_free (.inl rfl) rfl rfl (hi.exitWith_none (by rw [hp]; rfl))
    | deliveredBackoff hp _ =>
      exact hi.of_pc rfl rfl rfl (fun _ => ⟨rfl, rfl⟩) (fun _ => rfl) (fun _ => by rw [hp]; rfl) (by rw [hp]; rfl)
    | _ =>
      -- the other arrows (inside `coordinator()`, `nextGeneration`, the generation's life, `backoffBegin`, `runExit`,
      -- `deliveredRetry`, `undeliveredLeave`) set none of `needBackoff`, `member`, `exitWith`, `left`, `leaveFail` (the
      -- equations of `Inv2.of_pc`), may enter `nb` and leave `memberless` but not the reverse, and do not cross `gone`
      exact hi.of_pc rfl rfl rfl (fun _ => ⟨rfl, rfl⟩) (by simp [*, PC.nb]) (by simp [*, PC.memberless])
        (by simp [*, PC.gone])

theorem inv2_init (c : Cfg) : Inv2 c {} :=
  ⟨by simp, by simp [PC.memberless], by simp [PC.gone], by simp⟩

theorem inv2_reachable (c : Cfg) (s : St) (h : Reachable c s) : Inv2 c s := by
  induction h with
  | init => exact inv2_init c
  | step e _ hs ih => exact inv2_step c _ _ e ih hs

end KV.Group
