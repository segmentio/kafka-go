/-
Lemmas/ListOffsets.lean — lemmas for Props/C19.lean over Model/ListOffsets.lean: the grouping + sorting of Merge is a
permutation of the appended entries; the loops of Client.ListOffsets over the per-partition records.
-/
import KafkaVerif.Model.ListOffsets
import KafkaVerif.Lemmas.Ainsert
import KafkaVerif.Lemmas.ListPerm

namespace KV.Lemmas.ListOffsets
open KV.ListOffsets

theorem insertBy_perm {α : Type} (lt : α → α → Bool) (x : α) (l : List α) : (insertBy lt x l).Perm (x :: l) := by
  induction l with
  | nil => exact List.Perm.refl _
  | cons y ys ih =>
    simp only [insertBy]
    split
    · exact (List.Perm.cons y ih).trans (List.Perm.swap x y ys)
    · exact List.Perm.refl _

theorem sortBy_perm {α : Type} (lt : α → α → Bool) (l : List α) : (sortBy lt l).Perm l := by
  induction l with
  | nil => exact List.Perm.refl _
  | cons x xs ih => exact (insertBy_perm lt x _).trans (List.Perm.cons x ih)

theorem mem_dedup (l : List String) (x : String) : x ∈ dedup l ↔ x ∈ l := by
  induction l with
  | nil => simp [dedup]
  | cons y ys ih =>
    simp only [dedup]
    split
    · next h =>
      have hy : y ∈ dedup ys := by simpa using h
      constructor
      · intro hx; exact List.mem_cons_of_mem _ (ih.mp hx)
      · intro hx
        rcases List.mem_cons.mp hx with rfl | hx
        · exact hy
        · exact ih.mpr hx
    · simp [ih]

theorem nodup_dedup (l : List String) : (dedup l).Nodup := by
  induction l with
  | nil => simp [dedup]
  | cons y ys ih =>
    simp only [dedup]
    split
    · exact ih
    · next h =>
      have : y ∉ dedup ys := by simpa using h
      exact List.nodup_cons.mpr ⟨this, ih⟩

theorem flatMap_filter_perm {β : Type} (ns : List String) (es : List (String × β)) (hnd : ns.Nodup)
    (hcov : ∀ e ∈ es, e.1 ∈ ns) : (ns.flatMap (fun n => es.filter (·.1 == n))).Perm es := by
  have h := KV.flatMap_group_perm (fun e : String × β => e.1) (fun e : String × β => [e]) ns hnd es
    fun e he hne => absurd (hcov e he) hne
  simpa only [List.flatMap_singleton'] using h

theorem filter_map_pair {β : Type} (es : List (String × β)) (n : String) :
    ((es.filter (·.1 == n)).map (·.2)).map (fun p => (n, p)) = es.filter (·.1 == n) := by
  induction es with
  | nil => rfl
  | cons e es ih =>
    obtain ⟨t, p⟩ := e
    by_cases h : t == n
    · have : t = n := by simpa using h
      subst this
      simp [ih]
    · simp [h, ih]

theorem group_perm (es : List (String × ResPart)) : (flatRes (group es)).Perm es := by
  unfold flatRes group
  rw [List.flatMap_map]
  have hnd : (topicNames es).Nodup := by
    unfold topicNames
    exact ((sortBy_perm _ _).nodup_iff).mpr (nodup_dedup _)
  have hcov : ∀ e ∈ es, e.1 ∈ topicNames es := by
    intro e he
    unfold topicNames
    exact ((sortBy_perm _ _).mem_iff).mpr ((mem_dedup _ _).mpr (List.mem_map_of_mem he))
  refine List.Perm.trans ?_ (flatMap_filter_perm (topicNames es) es hnd hcov)
  refine KV.flatMap_perm_congr _ fun n _ => ?_
  have h := List.Perm.map (fun p => (n, p)) (sortBy_perm partLt ((es.filter (·.1 == n)).map (·.2)))
  rw [filter_map_pair] at h
  exact h

/-! Model/ListOffsets.lean defines its own `ainsert` with the body of `Routing.ainsert`; the two are definitionally equal, so
the lemmas of Lemmas/Ainsert.lean are accepted for it as they stand; those used under `rw` are restated with this file's
`ainsert`, which `rw` does not unfold into the other. -/

section records
variable {κ ν : Type} [BEq κ] [LawfulBEq κ]

theorem lookup_ainsert_self (m : List (κ × ν)) (k : κ) (v : ν) : (ainsert m k v).lookup k = some v :=
  Ainsert.lookup_ainsert_self m k v

theorem lookup_ainsert_other (m : List (κ × ν)) (k k' : κ) (v : ν) (h : k' ≠ k) :
    (ainsert m k v).lookup k' = m.lookup k' :=
  Ainsert.lookup_ainsert_other m k k' v h

theorem isSome_lookup_ainsert (m : List (κ × ν)) (k k' : κ) (v : ν) (h : (m.lookup k').isSome = true) :
    ((ainsert m k v).lookup k').isSome = true := by
  by_cases hk : k' = k
  · rw [hk, lookup_ainsert_self]; rfl
  · rw [lookup_ainsert_other m k k' v hk]; exact h

theorem isSome_lookup_foldl_ainsert {β : Type} (key : β → κ) (val : List (κ × ν) → β → ν) (l : List β)
    (acc : List (κ × ν)) (x : β) (hx : x ∈ l) :
    ((l.foldl (fun m y => ainsert m (key y) (val m y)) acc).lookup (key x)).isSome = true := by
  induction l generalizing acc with
  | nil => cases hx
  | cons y ys ih =>
    rcases List.mem_cons.mp hx with rfl | hx
    · exact List.foldlRecOn (motive := fun m : List (κ × ν) => (m.lookup (key x)).isSome = true) ys _
        (by rw [lookup_ainsert_self]; rfl) fun m hm y _ => isSome_lookup_ainsert m _ _ _ hm
    · exact ih _ hx

end records

/-- the record an entry of the merged response leaves for its partition, from the record so far: the offset goes where
the (restored) timestamp says, an error code replaces the record's -/
def stepRecord (cur : PartitionOffsets) (p : ResPart) : PartitionOffsets :=
  let cur :=
    if p.timestamp == firstOffset then { cur with first := p.offset }
    else if p.timestamp == lastOffset then { cur with last := p.offset }
    else { cur with offsets := ainsert cur.offsets p.offset p.timestamp }
  if p.error != 0 then { cur with error := p.error } else cur

theorem clientStep_hit {m : List ((String × Int) × PartitionOffsets)} {e : String × ResPart} {cur : PartitionOffsets}
    (h : m.lookup (e.1, e.2.partition) = some cur) :
    clientStep m e = some (ainsert m (e.1, e.2.partition) (stepRecord cur e.2)) := by
  simp only [clientStep, h]; rfl

theorem clientStep_eq_ainsert {m m' : List ((String × Int) × PartitionOffsets)} {e : String × ResPart}
    (h : clientStep m e = some m') : ∃ r, m' = ainsert m (e.1, e.2.partition) r := by
  cases hm : m.lookup (e.1, e.2.partition) with
  | some cur => exact ⟨_, Option.some.inj ((clientStep_hit hm).symm.trans h).symm⟩
  | none =>
    simp only [clientStep, hm] at h
    split at h
    · exact ⟨_, (Option.some.inj h).symm⟩
    · cases h

/-- the protocol request asks for exactly the (topic, (partition, timestamp)) pairs `clientInit` folds over, in order -/
theorem flat_clientRequest (iso : Int) (topics : List (String × List (Int × Int))) :
    flat (clientRequest iso topics) =
      (topics.flatMap fun x => x.2.map fun r => (x.1, r)).map fun x => (x.1, ⟨x.2.1, -1, x.2.2⟩) := by
  simp only [flat, clientRequest, List.flatMap_map, List.map_flatMap, List.map_map]
  rfl

end KV.Lemmas.ListOffsets
