/-
Lemmas/ListSums.lean — sums and counts over a list of which the entries are rewritten pointwise, or one entry changes
(`sum_map_update`, of which the strict and the counting form are corollaries): the arithmetic behind the WaitGroup count
and the termination measures of the Close models.
-/
namespace KV

theorem sum_map_le {α : Type} (l : List α) (g : α → α) (w : α → Nat)
    (hle : ∀ x ∈ l, w (g x) ≤ w x) : ((l.map g).map w).sum ≤ (l.map w).sum := by
  induction l with
  | nil => simp
  | cons x xs ih =>
    have h1 := hle x (by simp)
    have h2 := ih (fun y hy => hle y (by simp [hy]))
    simp only [List.map_cons, List.sum_cons]
    omega

theorem sum_map_lt {α : Type} (l : List α) (g : α → α) (w : α → Nat)
    (hle : ∀ x ∈ l, w (g x) ≤ w x) (hlt : ∃ x ∈ l, w (g x) < w x) :
    ((l.map g).map w).sum < (l.map w).sum := by
  induction l with
  | nil => obtain ⟨x, hx, _⟩ := hlt; simp at hx
  | cons x xs ih =>
    have h1 := hle x (by simp)
    have h2 := sum_map_le xs g w (fun y hy => hle y (by simp [hy]))
    simp only [List.map_cons, List.sum_cons]
    obtain ⟨y, hy, hyl⟩ := hlt
    rcases List.mem_cons.mp hy with rfl | hy'
    · omega
    · have := ih (fun z hz => hle z (by simp [hz])) ⟨y, hy', hyl⟩
      omega

theorem countP_map_le {α : Type} (l : List α) (g : α → α) (p : α → Bool) (h : ∀ x ∈ l, p (g x) = true → p x = true) :
    (l.map g).countP p ≤ l.countP p := by
  rw [List.countP_map]; exact List.countP_mono_left h

/-- changing the summand at one point `c` of a duplicate-free list, written without subtraction: both sides add the
other function's value at `c` -/
theorem sum_map_update (f g : Nat → Nat) (c : Nat) (h : ∀ x, x ≠ c → f x = g x) (l : List Nat) (hn : l.Nodup) :
    (l.map f).sum + (if c ∈ l then g c else 0) = (l.map g).sum + (if c ∈ l then f c else 0) := by
  induction l with
  | nil => rfl
  | cons x xs ih =>
    have hn' := List.nodup_cons.mp hn
    have ih := ih hn'.2
    rw [List.map_cons, List.map_cons, List.sum_cons, List.sum_cons]
    by_cases hx : x = c
    · subst hx
      rw [if_neg hn'.1, if_neg hn'.1] at ih
      rw [if_pos List.mem_cons_self, if_pos List.mem_cons_self]
      omega
    · have hc : ¬ c = x := fun e => hx e.symm
      simp only [List.mem_cons, hc, false_or, h x hx]
      omega

theorem sum_map_upd_lt (l : List Nat) (hnd : l.Nodup) (f g : Nat → Nat) (c : Nat) (hc : c ∈ l)
    (hfg : ∀ x, x ≠ c → g x = f x) (hlt : g c < f c) : (l.map g).sum < (l.map f).sum := by
  have := sum_map_update g f c hfg l hnd
  rw [if_pos hc, if_pos hc] at this
  omega

theorem countP_eq_sum (p : Nat → Bool) : ∀ (l : List Nat), l.countP p = (l.map fun x => if p x then 1 else 0).sum
  | [] => rfl
  | x :: xs => by rw [List.countP_cons, List.map_cons, List.sum_cons, countP_eq_sum p xs, Nat.add_comm]

theorem sum_map_ite {α : Type} {l : List α} {g : α → Nat} {q : α → Bool} {n : Nat}
    (h : ∀ a ∈ l, g a = if q a then n else 0) : (l.map g).sum = l.countP q * n := by
  induction l with
  | nil => simp
  | cons a t ih =>
    rw [List.map_cons, List.sum_cons, List.countP_cons, ih fun x hx => h x (List.mem_cons_of_mem _ hx),
      h a (List.mem_cons_self ..), Nat.add_mul, Nat.add_comm]
    cases q a <;> simp

theorem countP_upd (l : List Nat) (hnd : l.Nodup) (f g : Nat → Bool) (c : Nat) (hc : c ∈ l)
    (hfg : ∀ x, x ≠ c → g x = f x) :
    l.countP g + (if f c then 1 else 0) = l.countP f + (if g c then 1 else 0) := by
  have := sum_map_update (fun x => if g x then 1 else 0) (fun x => if f x then 1 else 0) c
    (fun x hx => by rw [hfg x hx]) l hnd
  rwa [if_pos hc, if_pos hc, ← countP_eq_sum, ← countP_eq_sum] at this

theorem sum_map_congr (l : List Nat) (f g : Nat → Nat) (h : ∀ x ∈ l, g x = f x) : (l.map g).sum = (l.map f).sum :=
  congrArg List.sum (List.map_congr_left h)

theorem sum_set_lt {α : Type} (w : α → Nat) (l : List α) (i : Nat) (f f' : α) (hi : l[i]? = some f) (h : w f' < w f) :
    ((l.set i f').map w).sum < (l.map w).sum := by
  induction l generalizing i with
  | nil => simp at hi
  | cons x xs ih =>
    cases i with
    | zero => simp at hi; subst hi; simp; omega
    | succ j =>
      simp only [List.getElem?_cons_succ] at hi
      have := ih j hi
      simp only [List.set_cons_succ, List.map_cons, List.sum_cons]
      omega

end KV
