/-
Lemmas/GroupRunMeasure.lean — a termination measure for the `run` goroutine of Model/GroupRun.lean (used by C09).
-/
import KafkaVerif.Lemmas.GroupRunStep

namespace KV.Group

def After.base : After → Nat
  | .exit => 0
  | .deliver _ => 7

/-! The table `rank`: every arrow of `run` goes to a smaller number (`runMu_move`), except the two that hand something
to a waiting `Next` call.  From the bottom: returning (0, 1); `leaveGroup` (`leaveCall`, the three stages of its
`coordinator()`, `leaveP`: 2 … 6, shifted by `After.base`); `delivering` (8) lies between the two uses of `leaveGroup`:
after it on the error path (`After.base (.deliver _) = 7` puts that whole call at 9 … 13, below every failed
`nextGeneration`, 14), before it on the close path (base 0); above 14 the way to a failed `nextGeneration`: a generation
that is closed with an error (`waiting`, `closing`, `handing`, `starting k`, which has `nWatch + 1 - k` starts to go) and
the join attempt back to `coord 0 none`; on top what leads into the next iteration: the back-off, and a generation that
ended by itself (`running`, `closing none`, `waiting none`, `retp _ none`).  `nWatch + 40` is any bound above the table
(`rank_lt`).  `min k 2`: stages above 2 do not occur (`Inv3.stage`) and no arrow leaves them. -/

/-- position of the `run` goroutine inside one iteration of its loop (larger = earlier) -/
def rank (c : Cfg) : PC → Nat
  | .exited => 0
  | .exiting => 1
  | .leaveCall a => 2 + a.base
  | .coord k (some a) => 5 + a.base - min k 2
  | .leaveP a => 6 + a.base
  | .delivering _ _ => 8
  | .retp _ (some _) => 14
  | .waiting (some _) _ => 15
  | .closing (some _) => 16
  | .handing => 17
  | .starting k => 18 + (c.nWatch + 1 - k)
  | .created => c.nWatch + 20
  | .fetching => c.nWatch + 21
  | .syncing => c.nWatch + 22
  | .assigning => c.nWatch + 23
  | .joining => c.nWatch + 24
  | .coord k none => c.nWatch + 27 - min k 2
  | .backoffP true => c.nWatch + 28
  | .retp _ none => c.nWatch + 28
  | .backoffP false => c.nWatch + 29
  | .waiting none _ => c.nWatch + 29
  | .closing none => c.nWatch + 30
  | .running => c.nWatch + 31

/-- work left for the `run` goroutine: every hand-over to a `Next` call starts at most one more iteration -/
def runMu (c : Cfg) (s : St) : Nat := s.nextWaiting * (c.nWatch + 40) + rank c s.pc

theorem rank_lt (c : Cfg) (p : PC) : rank c p < c.nWatch + 40 := by
  cases p with
  | leaveCall a => cases a <;> simp [rank, After.base] <;> omega
  | leaveP a => cases a <;> simp [rank, After.base] <;> omega
  | coord k lv => cases lv with
    | none => simp only [rank]; omega
    | some a => cases a <;> simp only [rank, After.base] <;> omega
  | retp m e => cases e <;> simp only [rank] <;> omega
  | waiting e r => cases e <;> simp only [rank] <;> omega
  | closing e => cases e <;> simp only [rank] <;> omega
  | backoffP b => cases b <;> simp only [rank] <;> omega
  | _ => simp only [rank] <;> omega

theorem runMu_handover (c : Cfg) (s : St) (p : PC) (inb : Option Msg) (h : s.nextWaiting > 0) :
    runMu c { s with pc := p, inbox := inb, nextWaiting := s.nextWaiting - 1 } < runMu c s := by
  obtain ⟨n, hn⟩ : ∃ n, s.nextWaiting = n + 1 := ⟨s.nextWaiting - 1, by omega⟩
  have := rank_lt c p
  simp only [runMu, hn, Nat.add_sub_cancel, Nat.succ_mul]
  omega

theorem runMu_arrow {c : Cfg} {s s' : St} {p : PC} (hp : s.pc = p) (hnw : s'.nextWaiting = s.nextWaiting)
    (hr : rank c s'.pc < rank c p) : runMu c s' < runMu c s := by
  simp only [runMu, hnw, hp]; omega

theorem afterLeave_rank (c : Cfg) (s : St) (a : After) :
    (afterLeave s a).nextWaiting = s.nextWaiting ∧ rank c (afterLeave s a).pc ≤ 1 + a.base := by
  cases a <;> exact ⟨rfl, Nat.le_refl _⟩

theorem coordFail_rank (c : Cfg) (s : St) (lv : Option After) (e : Err) (k : Nat) (hk : k ≤ 2) :
    (coordFail s lv e).nextWaiting = s.nextWaiting ∧ rank c (coordFail s lv e).pc < rank c (.coord k lv) := by
  cases lv with
  | none => exact ⟨rfl, by show 14 < c.nWatch + 27 - min k 2; omega⟩
  | some a =>
    obtain ⟨h1, h2⟩ := afterLeave_rank c { s with leaveFail := true } a
    have h2 : rank c (coordFail s (some a) e).pc ≤ 1 + a.base := h2
    exact ⟨h1, by show _ < 5 + a.base - min k 2; omega⟩

theorem runMu_move {c : Cfg} {s s' : St} {e : Ev} (hm : Move c s e s') : runMu c s' < runMu c s := by
  cases hm with
  | handed _ hn | deliveredBackoff _ hn | deliveredRetry _ hn => exact runMu_handover c s _ _ hn
  | @connectFail k _ e hp hk =>
    obtain ⟨h1, h2⟩ := coordFail_rank c s _ e k (by omega)
    exact runMu_arrow hp h1 h2
  | findFail hp =>
    obtain ⟨h1, h2⟩ := coordFail_rank c s _ _ 1 (by decide)
    exact runMu_arrow hp h1 h2
  | @leaveNone a hp _ =>
    obtain ⟨h1, h2⟩ := afterLeave_rank c { s with leaveFail := false } a
    exact runMu_arrow hp h1 (by show _ < 6 + a.base; omega)
  | @leaveRes a _ hp =>
    obtain ⟨h1, h2⟩ := afterLeave_rank c { s with left := s.member :: s.left } a
    exact runMu_arrow hp h1 (by show _ < 2 + a.base; omega)
  | @boot lv hp | @found lv hp => cases lv <;> exact runMu_arrow hp rfl (by simp only [rank] <;> omega)
  | @gClose ret _ hp | @gClosed ret _ _ hp _ => cases ret <;> exact runMu_arrow hp rfl (by simp only [rank] <;> omega)
  | retOk hr | retClosed hr | retRebalance hr =>
    rcases returnsNow_cases hr with hp | ⟨_, he⟩
    · exact runMu_arrow hp rfl (by simp only [rank, After.base] <;> omega)
    · cases he
  | retErr hr =>
    rcases returnsNow_cases hr with hp | ⟨hp | hp, _⟩ <;>
      exact runMu_arrow hp rfl (by simp only [rank, After.base] <;> omega)
  | _ => exact runMu_arrow ‹s.pc = _› rfl (by simp only [rank, After.base] <;> omega)

theorem runMu_decreases (c : Cfg) (s s' : St) (e : Ev) (he : e.runLoop = true) (h : step c s e = some s') :
    runMu c s' < runMu c s :=
  runMu_move (step_move he h)

theorem rank_afterStart (c : Cfg) (k : Nat) : rank c (afterStart c k) ≤ rank c (.starting k) := by
  rcases afterStart_cases c k with ⟨_, h⟩ | ⟨_, h⟩ <;> rw [h] <;> simp only [rank] <;> omega

theorem runMu_le (c : Cfg) (s s' : St) (e : Ev) (hn : e ≠ .nextCall) (h : step c s e = some s') :
    runMu c s' ≤ runMu c s := by
  cases step_effect h with
  | gen _ _ => exact Nat.le_refl _
  | env _ _ _ _ _ _ hnw => exact Nat.add_le_add_right (Nat.mul_le_mul_right _ (hnw hn)) _
  | startHb hp _ => have := rank_afterStart c 0; simp only [runMu, hp]; omega
  | @startWatch _ k hp => have := rank_afterStart c (k + 1); simp only [runMu, hp]; omega
  | move hm => exact Nat.le_of_lt (runMu_move hm)

end KV.Group
