/-
Lemmas/LegacyFrame.lean — from the hand-written Conn codec to the reference encoding: the two general steps the generated
`T.legacy_eq_spec_vK` / `T.legacy_read_spec_vK` of Gen/LegacyGolden.lean instantiate (`eq_spec_of`, `read_spec_of`), and the
request frame conn.go `writeRequest` puts around a body (`legacy_frame_eq_spec`).
-/
import KafkaVerif.Gen.Legacy
import KafkaVerif.Props.C04
import KafkaVerif.Spec.KafkaSchemas

namespace KV.Gen.Legacy
open KV KV.Legacy KV.Codec

/-- `Spec.denull`: Conn writes every string non-null.  The generated instances take `og := Spec.goldenTy key req version ty`,
the table asked with the writer's own type as hint: the nullable flags the table leaves open (`unsure`) are copied from the hint,
so `hg` compares everything but those -/
theorem eq_spec_of {ty : Ty} {v : Val} {bytes : Bytes} {og : Option Ty}
    (hg : og.map (fun g => Ty.beq ty (Spec.denull g)) = some true) (hm : encode ty v = bytes) (hwf : ty.wf = true) (hwt : wt ty v = true) :
    ∃ g, og = some g ∧ bytes = Spec.encode (Spec.denull g) v := by
  cases og with
  | none => simp at hg
  | some g =>
    simp only [Option.map_some, Option.some.injEq] at hg
    have := Ty.eq_of_beq ty (Spec.denull g) hg
    exact ⟨g, rfl, by rw [← hm, ← this]; exact KV.C04.encode_eq_spec ty v hwf hwt⟩

theorem read_spec_of {σ : Type} {og : Option Ty} {bytes : Bytes} {e : Ty → Bytes} {rd : Bytes → Option (σ × Bytes)} {t : σ}
    (h : ∃ g, og = some g ∧ bytes = e g) (hr : ∀ rest, rd (bytes ++ rest) = some (t, rest)) (rest : Bytes) :
    ∃ g, og = some g ∧ rd (e g ++ rest) = some (t, rest) :=
  let ⟨g, hg, hw⟩ := h
  ⟨g, hg, hw ▸ hr rest⟩

/-- conn.go writeRequest: the header (Size = hdr.size() + req.size() - 4) followed by the request body is the Kafka
request frame (header v1, non-null client id) around that body -/
theorem legacy_frame_eq_spec (h : requestHeader) (body : Bytes)
    (hsize : h.Size = requestHeader.size h + body.length - 4)
    (hk : KV.Codec.inRange 16 h.ApiKey = true) (hv : KV.Codec.inRange 16 h.ApiVersion = true)
    (hc : KV.Codec.inRange 32 h.CorrelationID = true) (hcid : h.ClientID.length < 2 ^ 15)
    (hlen : requestHeader.size h + body.length - 4 < 2 ^ 31) :
    requestHeader.writeTo h ++ body =
      Spec.frameRequest false h.ApiKey h.ApiVersion h.CorrelationID h.ClientID body := by
  have e16 := fun i => KV.C04.encInt_eq_sint_of_inRange 2 (by decide) i
  have e32 := fun i => KV.C04.encInt_eq_sint_of_inRange 4 (by decide) i
  have sl : ∀ (k : Nat) (i : Int), (Spec.sint k i).length = k := fun k i => by simp [Spec.sint, Spec.unsignedBE]
  simp only [requestHeader.size, sizeofString] at hsize hlen
  have hcl : KV.Codec.inRange 16 (h.ClientID.length : Int) = true := inRange_natCast 2 _ hcid
  have hS : KV.Codec.inRange 32 h.Size = true := by rw [inRange_iff]; omega
  -- both sides field by field; what is left is that `Size` is the length of what follows it
  simp only [requestHeader.writeTo, writeInt32, writeInt16, writeString, e32 _ hS, e16 _ hk, e16 _ hv, e32 _ hc, e16 _ hcl,
    Spec.frameRequest, Spec.frame, Spec.kString, Bool.false_eq_true, if_false, Bool.false_and, List.append_assoc, List.length_append, sl]
  refine congrArg (fun z => Spec.sint 4 z ++ _) ?_
  omega

end KV.Gen.Legacy
