/-
Lemmas/GroupLog.lean — invariants of the group history over a log with holes (Model/GroupLog.lean).  Of `GInv` (`Hist`
flattened) Props/C03.lean reads `cov`, `below`, `noskip`, `mine`, `bcom`; the steps are taken on `Hist`: the committed
offset, every reader's position and the offset after every delivered record are SETTLED positions (`Settled`: bounded by
the log, everything stored below delivered), and every reader's epoch is gap-free (`Epoch`); each has one lemma per event
that concerns it.
-/
import KafkaVerif.Model.GroupLog
namespace KV.GroupLog

def Del (s : G) (r : Nat) : Prop := ∃ m, (m, r) ∈ s.delivered

def Bounded (s : G) (x : Nat) : Prop := x = 0 ∨ ∃ r ∈ s.log, x ≤ r + 1

/-- `Hist` flattened into statements about the state (`Hist.ginv`) -/
structure GInv (s : G) : Prop where
  sorted : s.log.Pairwise (· < ·)
  cov : ∀ c, s.committed = some c → ∀ r ∈ s.log, r < c → Del s r
  below : ∀ rd ∈ s.readers, ∀ r ∈ s.log, r < rd.pos → Del s r
  down : ∀ d ∈ s.delivered, ∀ r ∈ s.log, r ≤ d.2 → Del s r
  noskip : ∀ rd ∈ s.readers, ∀ r ∈ s.log, rd.start ≤ r → r < rd.pos → r ∈ rd.epoch
  mine : ∀ rd ∈ s.readers, ∀ r ∈ rd.epoch, r ∈ s.log ∧ (rd.m, r) ∈ s.delivered ∧ rd.start ≤ r ∧ r < rd.pos
  bpos : ∀ rd ∈ s.readers, Bounded s rd.pos
  bcom : ∀ c, s.committed = some c → Bounded s c
  dlog : ∀ d ∈ s.delivered, d.2 ∈ s.log
  sle : ∀ rd ∈ s.readers, rd.start ≤ rd.pos

theorem find_least (l : List Nat) (hs : l.Pairwise (· < ·)) (p r : Nat) (h : l.find? (fun x => p ≤ x) = some r) :
    r ∈ l ∧ p ≤ r ∧ ∀ x ∈ l, p ≤ x → r ≤ x := by
  induction l with
  | nil => simp at h
  | cons a t ih =>
    rw [List.pairwise_cons] at hs
    simp only [List.find?_cons] at h
    split at h
    · rename_i ha
      cases h
      refine ⟨List.mem_cons_self, by simpa using ha, ?_⟩
      intro x hx _
      rcases List.mem_cons.mp hx with rfl | hx
      · exact Nat.le_refl _
      · exact Nat.le_of_lt (hs.1 x hx)
    · rename_i ha
      obtain ⟨h1, h2, h3⟩ := ih hs.2 h
      refine ⟨List.mem_cons_of_mem _ h1, h2, ?_⟩
      intro x hx hpx
      rcases List.mem_cons.mp hx with rfl | hx
      · simp at ha; omega
      · exact h3 x hx hpx

theorem Bounded.mono {s : G} {x : Nat} (l : List Nat) (h : Bounded s x) : Bounded { s with log := s.log ++ l } x := by
  rcases h with h | ⟨r, hr, hx⟩
  · exact .inl h
  · exact .inr ⟨r, List.mem_append_left _ hr, hx⟩

theorem mem_concat {α : Type} {l : List α} {a x : α} (h : x ∈ l ++ [a]) : x ∈ l ∨ x = a :=
  (List.mem_append.mp h).imp_right List.mem_singleton.mp

def Settled (s : G) (p : Nat) : Prop := Bounded s p ∧ ∀ r ∈ s.log, r < p → Del s r

structure Epoch (log : List Nat) (delivered : List (Nat × Nat)) (rd : Reader) : Prop where
  sle : rd.start ≤ rd.pos
  noskip : ∀ r ∈ log, rd.start ≤ r → r < rd.pos → r ∈ rd.epoch
  mine : ∀ r ∈ rd.epoch, r ∈ log ∧ (rd.m, r) ∈ delivered ∧ rd.start ≤ r ∧ r < rd.pos

/-- `sorted`: so that `find?` returns the LEAST stored offset at or above a position (`find_least`) -/
structure Hist (s : G) : Prop where
  sorted : s.log.Pairwise (· < ·)
  committed : ∀ c, s.committed = some c → Settled s c
  readers : ∀ rd ∈ s.readers, Settled s rd.pos ∧ Epoch s.log s.delivered rd
  delivered : ∀ d ∈ s.delivered, d.2 ∈ s.log ∧ Settled s (d.2 + 1)

namespace Settled

theorem zero (s : G) : Settled s 0 := ⟨.inl rfl, fun _ _ h => absurd h (Nat.not_lt_zero _)⟩

theorem not_above {s : G} {p o : Nat} (h : Settled s p) (hall : ∀ x ∈ s.log, x < o) : ¬ o < p := by
  intro hlt
  rcases h.1 with h0 | ⟨x, hx, hle⟩
  · exact absurd hlt (h0 ▸ Nat.not_lt_zero _)
  · exact absurd (Nat.lt_of_lt_of_le hlt hle) (Nat.not_lt.mpr (hall x hx))

theorem produce {s : G} {p o : Nat} (h : Settled s p) (hall : ∀ x ∈ s.log, x < o) :
    Settled { s with log := s.log ++ [o] } p := by
  refine ⟨h.1.mono _, fun r hr hlt => ?_⟩
  rcases mem_concat hr with hr | rfl
  · exact h.2 r hr hlt
  · exact absurd hlt (h.not_above hall)

theorem le {s : G} {p o : Nat} (h : Settled s p) (hle : o ≤ p) : Settled s o := by
  refine ⟨?_, fun r hr hlt => h.2 r hr (Nat.lt_of_lt_of_le hlt hle)⟩
  rcases h.1 with h0 | ⟨x, hx, hp⟩
  · exact .inl (Nat.le_zero.mp (h0 ▸ hle))
  · exact .inr ⟨x, hx, Nat.le_trans hle hp⟩

theorem more {s : G} {p : Nat} (d : Nat × Nat) (h : Settled s p) :
    Settled { s with delivered := s.delivered ++ [d] } p :=
  ⟨h.1, fun r hr hlt => let ⟨m, hm⟩ := h.2 r hr hlt; ⟨m, List.mem_append_left _ hm⟩⟩

theorem next {s : G} {p r m : Nat} (hs : s.log.Pairwise (· < ·)) (h : Settled s p)
    (hfind : s.log.find? (fun x => p ≤ x) = some r) : Settled { s with delivered := s.delivered ++ [(m, r)] } (r + 1) := by
  obtain ⟨hrl, hpr, hleast⟩ := find_least s.log hs p r hfind
  refine ⟨.inr ⟨r, hrl, Nat.le_refl _⟩, fun x hx hlt => ?_⟩
  rcases Nat.lt_or_ge x p with hxp | hxp
  · exact (h.more (m, r)).2 x hx hxp
  · -- a stored offset in [p, r] is r itself
    exact ⟨m, List.mem_append_right _ (List.mem_singleton.mpr
      (by rw [Nat.le_antisymm (Nat.le_of_lt_succ hlt) (hleast x hx hxp)]))⟩

end Settled

namespace Epoch
variable {log : List Nat} {delivered : List (Nat × Nat)} {rd : Reader}

theorem produce {o : Nat} (h : Epoch log delivered rd) (ho : ¬ o < rd.pos) : Epoch (log ++ [o]) delivered rd := by
  refine ⟨h.sle, fun r hr h1 h2 => ?_, fun r hr => ⟨List.mem_append_left _ (h.mine r hr).1, (h.mine r hr).2⟩⟩
  rcases mem_concat hr with hr | rfl
  · exact h.noskip r hr h1 h2
  · exact absurd h2 ho

theorem more (d : Nat × Nat) (h : Epoch log delivered rd) : Epoch log (delivered ++ [d]) rd :=
  ⟨h.sle, h.noskip, fun r hr => ⟨(h.mine r hr).1, List.mem_append_left _ (h.mine r hr).2.1, (h.mine r hr).2.2⟩⟩

theorem new (m p : Nat) : Epoch log delivered { m := m, start := p, pos := p, epoch := [] } :=
  ⟨Nat.le_refl _, fun _ _ h1 h2 => absurd (Nat.lt_of_le_of_lt h1 h2) (Nat.lt_irrefl _), fun _ hr => by cases hr⟩

theorem next {r : Nat} (hs : log.Pairwise (· < ·)) (h : Epoch log delivered rd)
    (hfind : log.find? (fun x => rd.pos ≤ x) = some r) :
    Epoch log (delivered ++ [(rd.m, r)]) { rd with pos := r + 1, epoch := rd.epoch ++ [r] } := by
  obtain ⟨hrl, hpr, hleast⟩ := find_least log hs rd.pos r hfind
  refine ⟨Nat.le_succ_of_le (Nat.le_trans h.sle hpr), fun y hy h1 h2 => ?_, fun y hy => ?_⟩
  · rcases Nat.lt_or_ge y rd.pos with hlt | hge
    · exact List.mem_append_left _ (h.noskip y hy h1 hlt)
    · exact List.mem_append_right _ (List.mem_singleton.mpr
        (Nat.le_antisymm (Nat.le_of_lt_succ h2) (hleast y hy hge)))
  · rcases mem_concat hy with hy | rfl
    · have := h.mine y hy
      exact ⟨this.1, List.mem_append_left _ this.2.1, this.2.2.1, Nat.lt_succ_of_lt (Nat.lt_of_lt_of_le this.2.2.2 hpr)⟩
    · exact ⟨hrl, List.mem_append_right _ (List.mem_singleton.mpr rfl), Nat.le_trans h.sle hpr, Nat.lt_succ_self _⟩

end Epoch

theorem hist_init : Hist {} :=
  ⟨List.Pairwise.nil, (by intro c h; cases h), (by intro rd h; cases h), (by intro d h; cases h)⟩

theorem hist_step (s s' : G) (e : GEv) (hi : Hist s) (h : gstep s e = some s') : Hist s' := by
  cases e <;> rw [gstep] at h
  case produce o =>
    obtain ⟨hall, h⟩ := Option.ite_none_right_eq_some.mp h
    cases h
    have hall : ∀ x ∈ s.log, x < o := by simpa only [List.all_eq_true, decide_eq_true_eq] using hall
    refine ⟨?_, fun c hc => (hi.committed c hc).produce hall,
      fun rd hrd => ⟨(hi.readers rd hrd).1.produce hall, (hi.readers rd hrd).2.produce ((hi.readers rd hrd).1.not_above hall)⟩,
      fun d hd => ⟨List.mem_append_left _ (hi.delivered d hd).1, (hi.delivered d hd).2.produce hall⟩⟩
    rw [List.pairwise_append]
    exact ⟨hi.sorted, List.pairwise_singleton _ _, fun a ha b hb => List.mem_singleton.mp hb ▸ hall a ha⟩
  case assign m =>
    cases h
    refine ⟨hi.sorted, hi.committed, fun rd hrd => ?_, hi.delivered⟩
    rcases mem_concat hrd with hrd | rfl
    · exact hi.readers rd hrd
    · refine ⟨?_, Epoch.new m _⟩
      cases hc : s.committed with
      | none => exact Settled.zero s
      | some c => exact hi.committed c hc
  case revoke i =>
    obtain ⟨_, h⟩ := Option.ite_none_right_eq_some.mp h
    cases h
    exact ⟨hi.sorted, hi.committed, fun rd hrd => hi.readers rd (List.mem_of_mem_eraseIdx hrd), hi.delivered⟩
  case deliver i =>
    split at h
    · rename_i rd hget
      split at h
      · rename_i r hfind
        cases h
        obtain ⟨hp, he⟩ := hi.readers rd (List.mem_of_getElem? hget)
        have hnext := hp.next (m := rd.m) hi.sorted hfind
        refine ⟨hi.sorted, fun c hc => (hi.committed c hc).more _, fun x hx => ?_, fun d hd => ?_⟩
        · rcases List.mem_or_eq_of_mem_set hx with hx | rfl
          · exact ⟨(hi.readers x hx).1.more _, (hi.readers x hx).2.more _⟩
          · exact ⟨hnext, he.next hi.sorted hfind⟩
        · rcases mem_concat hd with hd | rfl
          · exact ⟨(hi.delivered d hd).1, (hi.delivered d hd).2.more _⟩
          · exact ⟨List.mem_of_find?_eq_some hfind, hnext⟩
      · cases h
    · cases h
  case commit m o ack =>
    obtain ⟨hany, h⟩ := Option.ite_none_right_eq_some.mp h
    cases h
    cases ack with
    | false => exact hi
    | true =>
      simp only [List.any_eq_true, Bool.and_eq_true, decide_eq_true_eq] at hany
      obtain ⟨d, hd, _, hle⟩ := hany
      exact ⟨hi.sorted, fun c hc => by cases hc; exact (hi.delivered d hd).2.le hle, hi.readers, hi.delivered⟩

theorem Hist.ginv {s : G} (h : Hist s) : GInv s :=
  ⟨h.sorted, fun c hc => (h.committed c hc).2, fun rd hrd => (h.readers rd hrd).1.2,
   fun d hd r hr hle => (h.delivered d hd).2.2 r hr (Nat.lt_succ_of_le hle),
   fun rd hrd => (h.readers rd hrd).2.noskip, fun rd hrd => (h.readers rd hrd).2.mine,
   fun rd hrd => (h.readers rd hrd).1.1, fun c hc => (h.committed c hc).1, fun d hd => (h.delivered d hd).1,
   fun rd hrd => (h.readers rd hrd).2.sle⟩

theorem ginv_reachable (s : G) (h : GReachable s) : GInv s := by
  suffices Hist s from this.ginv
  induction h with
  | init => exact hist_init
  | step e _ hs ih => exact hist_step _ _ e ih hs

end KV.GroupLog
