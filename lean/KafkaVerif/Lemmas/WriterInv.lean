/-
Lemmas/WriterInv.lean — what the phase of a WriteMessages call says about its record, and the size limits (C08
`reject_before_send`, `rejected_nothing_queued`, `accepted_messages_all_queued`, `batch_limits`).
`Inv08`: every batch is within BatchSize / BatchBytes (`BatchOK`), because `add` is guarded by `full` / `nofit` and every
message of a call inside batchMessages passed the size check (`CallFit`).
-/
import KafkaVerif.Lemmas.WriterStep

namespace KV.Writer

variable {cfg : Cfg} {s s' : State}

/-- every assigned index has a message with that topic, and a call places messages only after its up-front validation
succeeded and all indexes are assigned -/
structure CallFit (cfg : Cfg) (C : Call) : Prop where
  assigned : ∀ (j : Nat) (tp : TP), C.assign[j]? = some tp → ∃ m, C.msgs[j]? = some m ∧ chooseTopic cfg m = some tp.1
  placed : (C.phase = .batching ∨ C.phase = .batched ∨ ∃ i, (C.place i).isSome = true) →
    allFit cfg C.msgs = true ∧ C.assign.length = C.msgs.length

def Result.isReject : Result → Bool
  | .closed => true
  | .rejected _ _ => true
  | _ => false

/-- the call has returned from WriteMessages with something other than a rejection: `nil`, a WriteErrors, the async
`nil`, or ctx.Err() -/
def Call.returnedOk (C : Call) : Prop := C.phase = .returned ∧ ∃ r, C.result = some r ∧ r.isReject = false

/-- (not: "the call was rejected") either the call got (or had) the right to queue its messages — it is inside / past
batchMessages and was not rejected — or nothing of it has been placed in any batch; and only a returned call has a result -/
def CallRej (C : Call) : Prop :=
  ((C.phase = .batching ∨ C.phase = .batched ∨ C.returnedOk) ∨
    (∀ i, C.place i = none)) ∧
  (∀ r, C.result = some r → C.phase = .returned)

/-- a call past batchMessages (waiting for its batches, or returned with anything but a rejection) has put every one of its
messages into a batch -/
def CallQueued (C : Call) : Prop :=
  (C.phase = .batched ∨ C.returnedOk) → C.placedAll = true

/-- what the phase of a call says about the rest of its record -/
structure CallLife (cfg : Cfg) (C : Call) : Prop where
  fit : CallFit cfg C
  rej : CallRej C
  queued : CallQueued C

def InvCall (cfg : Cfg) (s : State) : Prop := ∀ c C, s.calls c = some C → CallLife cfg C

theorem callFit_meta {C C' : Call} (h : CallFit cfg C) (h1 : C'.msgs = C.msgs) (h2 : C'.assign = C.assign)
    (h3 : C'.place = C.place)
    (hph : (C'.phase = .batching ∨ C'.phase = .batched) → (C.phase = .batching ∨ C.phase = .batched)) : CallFit cfg C' := by
  constructor
  · intro j tp hj; rw [h1]; exact h.assigned j tp (h2 ▸ hj)
  · intro hp
    rw [h1, h2]
    apply h.placed
    rcases hp with hp | hp | ⟨i, hi⟩
    · rcases hph (Or.inl hp) with h | h
      · exact Or.inl h
      · exact Or.inr (Or.inl h)
    · rcases hph (Or.inr hp) with h | h
      · exact Or.inl h
      · exact Or.inr (Or.inl h)
    · exact Or.inr (Or.inr ⟨i, h3 ▸ hi⟩)

theorem callRej_none_of_early {C : Call} (h : CallRej C)
    (hp : C.phase = .begun ∨ C.phase = .assigning ∨ C.phase = .rejectedClosed) : (∀ i, C.place i = none) ∧ C.result = none := by
  obtain ⟨h1, h2⟩ := h
  constructor
  · rcases h1 with (h | h | ⟨h, -⟩) | h
    · rcases hp with hp | hp | hp <;> rw [hp] at h <;> cases h
    · rcases hp with hp | hp | hp <;> rw [hp] at h <;> cases h
    · rcases hp with hp | hp | hp <;> rw [hp] at h <;> cases h
    · exact h
  · cases hr : C.result with
    | none => rfl
    | some r =>
      have := h2 r hr
      rcases hp with hp | hp | hp <;> rw [hp] at this <;> cases this

theorem CallLife.ret {C : Call} (h : CallLife cfg C) {r : Result} {e : Option Nat}
    (hr : r.isReject = true → ∀ i, C.place i = none) (hq : r.isReject = false → C.phase = .batched) :
    CallLife cfg { C with phase := .returned, result := some r, endSeq := e } :=
  ⟨callFit_meta h.fit rfl rfl rfl (fun h => by rcases h with h | h <;> cases h),
   ⟨by
      cases hrr : r.isReject
      · exact .inl (.inr (.inr ⟨rfl, r, rfl, hrr⟩))
      · exact .inr (hr hrr), fun _ _ => rfl⟩,
   by
    rintro (h' | ⟨-, r', hr', hn⟩)
    · cases h'
    · cases hr'; exact h.queued (.inl (hq hn))⟩

theorem retOk_batched {C : Call} {r : Result} (h : retOk cfg s C r) (hr : r.isReject = false) : C.phase = .batched := by
  cases r with
  | closed | rejected => cases hr
  | async | ctx => exact Guard.RetPlain.phase h
  | ok => exact Guard.RetNil.phase h
  | werr => exact Guard.RetWerr.phase h

theorem invCall_step {e : Event} (hI : InvCall cfg s) (h : Step cfg s e s') : InvCall cfg s' := by
  induction h with
  | rejectToolarge hC hg =>
    have := callRej_none_of_early (hI _ _ hC).rej (.inl hg.phase)
    exact forall_upd _ _ _ hI ((hI _ _ hC).ret (fun _ => this.1) nofun)
  | rejectTopic hC hg | rejectMetadata hC hg =>
    have := callRej_none_of_early (hI _ _ hC).rej (by rcases hg.phase with h | h <;> simp [h])
    exact forall_upd _ _ _ hI ((hI _ _ hC).ret (fun _ => this.1) nofun)
  | @ret _ r C hC hg =>
    refine forall_upd _ _ _ hI ((hI _ _ hC).ret (fun hr => ?_) fun hr => ?_)
    · cases r with
      | closed => exact (callRej_none_of_early (hI _ _ hC).rej (.inr (.inr hg))).1
      | rejected => exact hg.elim
      | _ => cases hr
    · exact retOk_batched hg hr
  | rejectClosed hC hg =>
    have h := hI _ _ hC
    have := callRej_none_of_early h.rej (.inr (.inl hg.phase))
    exact forall_upd _ _ _ hI ⟨callFit_meta h.fit rfl rfl rfl (fun h => by rcases h with h | h <;> cases h),
      ⟨.inr this.1, fun r hr => by rw [show _ = some r from hr] at this; cases this.2⟩,
      by rintro (h | ⟨h, -⟩) <;> cases h⟩
  | begin_ =>
    refine forall_upd _ _ _ hI ⟨⟨fun j tp hj => by simp at hj, ?_⟩, ⟨.inr fun _ => rfl, nofun⟩, by rintro (h | ⟨h, -⟩) <;> cases h⟩
    rintro (hp | hp | ⟨i, hi⟩)
    · cases hp
    · cases hp
    · simp at hi
  | @assign c i tp C hC hg =>
    obtain ⟨m, hmi, hch⟩ := msgAt_elim hg.msg
    have h := hI c C hC
    -- a call in the assign loop has placed nothing
    have hearly := callRej_none_of_early h.rej (by rcases hg.phase with h | h <;> simp [h])
    refine forall_upd _ _ _ hI ⟨⟨fun j tp' hj => ?_, ?_⟩,
      ⟨.inr hearly.1, fun r hr => by rw [show _ = some r from hr] at hearly; cases hearly.2⟩,
      by rintro (h | ⟨h, -⟩) <;> cases h⟩
    · show ∃ m, C.msgs[j]? = some m ∧ chooseTopic cfg m = some tp'.1
      rcases getElem?_concat.mp (show (C.assign ++ [tp])[j]? = some tp' from hj) with hj' | ⟨rfl, rfl⟩
      · exact h.fit.assigned j tp' hj'
      · exact ⟨m, hg.len ▸ hmi, by simpa using hch⟩
    · rintro (hp | hp | ⟨k, hk⟩)
      · cases hp
      · cases hp
      · rw [show C.place k = none from hearly.1 k] at hk; cases hk
  | batch hC hg =>
    have h := hI _ _ hC
    have := callRej_none_of_early h.rej (.inr (.inl hg.phase))
    exact forall_upd _ _ _ hI ⟨⟨h.fit.assigned, fun _ => ⟨hg.fit, hg.len⟩⟩,
      ⟨.inl (.inl rfl), fun r hr => by rw [show _ = some r from hr] at this; cases this.2⟩,
      by rintro (h | ⟨h, -⟩) <;> cases h⟩
  | batched hC hg =>
    have h := hI _ _ hC
    refine forall_upd _ _ _ hI ⟨callFit_meta h.fit rfl rfl rfl (fun _ => Or.inl hg.phase),
      ⟨.inl (.inr (.inl rfl)), fun r hr => ?_⟩, fun _ => hg.placed⟩
    have := h.rej.2 r hr
    rw [hg.phase] at this; cases this
  | add hP hB hC hg =>
    have h := hI _ _ hC
    exact forall_upd _ _ _ hI ⟨⟨h.fit.assigned, fun _ => h.fit.placed (Or.inl hg.phase)⟩, ⟨.inl (.inl hg.phase), h.rej.2⟩,
      by rintro (h | ⟨h, -⟩) <;> cases hg.phase.symm.trans h⟩
  | _ => exact hI

theorem invCall (cfg : Cfg) : ∀ s, Reachable cfg s → InvCall cfg s :=
  Reachable.step_induction (fun _ _ h => by cases h) fun _ _ _ _ hI h => invCall_step hI h

def InvFit (cfg : Cfg) (s : State) : Prop := ∀ c C, s.calls c = some C → CallFit cfg C

def InvQueued (s : State) : Prop := ∀ c C, s.calls c = some C → CallQueued C

theorem invFit (cfg : Cfg) : ∀ s, Reachable cfg s → InvFit cfg s := fun s hr c C hC => (invCall cfg s hr c C hC).fit

theorem invQueued (cfg : Cfg) : ∀ s, Reachable cfg s → InvQueued s := fun s hr c C hC => (invCall cfg s hr c C hC).queued

/-- a batch never exceeds BatchSize messages / BatchBytes bytes, and `bytes` is the sum of the message sizes -/
def BatchOK (cfg : Cfg) (B : Batch) : Prop :=
  B.msgs.length ≤ cfg.batchSize ∧ B.bytes ≤ cfg.batchBytes ∧ B.bytes = (B.msgs.map (·.size)).sum

def Inv08 (cfg : Cfg) (s : State) : Prop := ∀ b B, s.batches b = some B → BatchOK cfg B

theorem batchOK_new (cfg : Cfg) (pw : Nat) (tp : TP) (ord : Nat) : BatchOK cfg (Batch.new pw tp ord) := by
  simp [BatchOK, Batch.new]

theorem batchOK_push (cfg : Cfg) (B : Batch) (m : BMsg) (h : BatchOK cfg B) (hfull : B.full cfg = false)
    (hfit : B.nofit cfg m.size = false) (hsize : m.size ≤ cfg.batchBytes) : BatchOK cfg (B.push m) := by
  obtain ⟨h1, h2, h3⟩ := h
  simp only [Batch.full, Bool.or_eq_false_iff, decide_eq_false_iff_not, Nat.not_le] at hfull
  simp only [Batch.nofit, Bool.and_eq_false_iff, decide_eq_false_iff_not, Nat.not_lt] at hfit
  refine ⟨?_, ?_, ?_⟩
  · simp only [Batch.push, List.length_append, List.length_cons, List.length_nil]; omega
  · simp only [Batch.push]
    rcases hfit with h0 | h0
    · have : B.msgs = [] := by
        cases hm : B.msgs with
        | nil => rfl
        | cons a l => rw [hm] at h0; simp at h0
      rw [this] at h3; simp at h3; omega
    · exact h0
  · simp only [Batch.push, List.map_append, List.map_cons, List.map_nil, List.sum_append, List.sum_cons, List.sum_nil]
    omega

theorem inv08_step {cfg : Cfg} {s s' : State} {e : Event} (hF : InvFit cfg s) (hB : Inv08 cfg s)
    (h : Step cfg s e s') : Inv08 cfg s' := by
  induction h with
  | @add pw b c i size P B C hP hBq hCq hg =>
    have hsize := hg.msgSize
    apply forall_upd _ _ _ hB
    -- the call is inside batchMessages, so its messages passed the size check
    have hfit := ((hF _ _ hCq).placed (.inl hg.phase)).1
    cases hm : C.msgs[i]? with
    | none => rw [hm] at hsize; simp at hsize
    | some m =>
      rw [hm] at hsize; simp only [Option.map_some, Option.some.injEq] at hsize
      have := allFit_elim hfit hm
      exact batchOK_push cfg B _ (hB _ _ hBq) hg.full hg.nofit (by simpa [hsize] using this)
  | newBatch hP hg => exact forall_upd _ _ _ hB (batchOK_new ..)
  | detach _ hBq | timerFire _ hBq | completion _ hBq | complete _ hBq | produce _ _ hBq =>
    have := hB _ _ hBq
    exact forall_upd _ _ _ hB this
  | _ => exact hB

theorem inv08 (cfg : Cfg) : ∀ s, Reachable cfg s → Inv08 cfg s :=
  Reachable.step_induction (fun _ _ h => by cases h) fun s _ _ hr hI h => inv08_step (invFit cfg s hr) hI h

end KV.Writer
