/-
Lemmas/XerialContract.lean — the io.Reader contract of `xerialReader.Read` for buffers with len < cap: with the comparison
found in the source (`n <= len(dst)`) every Read hands out at most len(p) bytes; with `cap(dst)` it would not
(`cap_bound_counterexample`, Props/C16.lean).
For every stream and every reader state; the codec hypothesis is `Truthful` (the announced decoded length is the real one),
which neither implies nor follows from `Good` of Lemmas/XerialReader.lean (decoding inverts encoding).
-/
import KafkaVerif.Lemmas.XerialChunk

namespace KV.Model.Xerial
open KV KV.RW KV.Spec.Xerial

/-- the block codec reports decoded lengths truthfully (snappy.DecodedLen is the length snappy.Decode produces) -/
def Truthful (c : Codec) : Prop := ∀ input n b, c.decodedLen input = some n → c.dec input = some b → b.length = n

theorem decodeInto_direct_le (c : Codec) (ht : Truthful c) (r : Reader) (input : Bytes) (k : Nat) (b : Bytes)
    (h : (decodeInto c r input k).2 = .direct b) : b.length ≤ k := by
  unfold decodeInto at h
  cases hl : c.decodedLen input with
  | none => rw [hl] at h; cases hd : c.dec input <;> simp [hd] at h
  | some n =>
    rw [hl] at h
    cases hd : c.dec input with
    | none => simp [hd] at h
    | some b' =>
      simp only [hd] at h
      by_cases hn : n ≤ k
      · simp only [hn, if_true, Chunk.direct.injEq] at h
        subst h
        rw [ht input n b' hl hd]; exact hn
      · simp [hn] at h

theorem framedBody_direct_le (c : Codec) (ht : Truthful c) (r : Reader) (k : Nat) (b : Bytes)
    (h : (framedBody c r k).2 = .direct b) : b.length ≤ k := by
  by_cases hfull : 4 + deN (r.rest.take 4) ≤ r.rest.length
  · rw [framedBody_full c r k hfull] at h
    exact decodeInto_direct_le c ht _ _ k b h
  · rcases framedBody_short c r k hfull with e | e <;> rw [e] at h <;> cases h

theorem unframedBody_direct_le (c : Codec) (ht : Truthful c) (r : Reader) (pre k : Nat) (b : Bytes)
    (h : (unframedBody c r pre k).2 = .direct b) : b.length ≤ k := by
  simp only [unframedBody] at h
  split at h
  · simp at h
  · exact decodeInto_direct_le c ht _ _ k b h

theorem readChunk_direct_le (c : Codec) (ht : Truthful c) (r : Reader) (k : Nat) (b : Bytes)
    (h : (readChunk c r k).2 = .direct b) : b.length ≤ k := by
  rw [readChunk_eq] at h
  cases hh : headerPhase (clearOut r) with
  | none => rw [hh] at h; simp at h
  | some x =>
    obtain ⟨r', pre⟩ := x
    rw [hh] at h
    simp only at h
    split at h
    · exact framedBody_direct_le c ht _ k b h
    · exact unframedBody_direct_le c ht _ _ k b h

/-- Along the loop of `Read` (`readB.induct`): pending output is cut to `len` bytes, a block decoded straight into the caller's
buffer has at most `bound` bytes, and the other answers carry no data. -/
theorem readB_le (c : Codec) (ht : Truthful c) : ∀ (fuel : Nat) (r r' : Reader) (len bound : Nat) (d : Bytes),
    readB c fuel r len bound = (r', .data d) → d.length ≤ len ∨ d.length ≤ bound := by
  intro fuel r r' len bound d h
  fun_induction readB c fuel r len bound with
  | case1 => cases h
  -- (the answer is a `let` of the definition: `cases h` cannot eliminate it)
  | case2 => exact .inl (ReadRes.data.inj (Prod.mk.inj h).2 ▸ List.length_take_le _ _)
  | case3 fuel r len bound _ r2 b hrc => cases h; exact .inr (readChunk_direct_le c ht r bound d (by rw [hrc]))
  | case4 _ _ _ _ _ _ _ _ _ ih => exact ih h
  | case5 _ _ _ _ _ _ _ ih => exact ih h
  | case6 => cases h
  | case7 => cases h

theorem readB_eq_read (c : Codec) : ∀ (fuel : Nat) (r : Reader) (k : Nat), readB c fuel r k k = read c fuel r k := by
  intro fuel r k
  -- every case of `read` is the same case of `readB`
  fun_induction read c fuel r k <;> simp only [readB, *, if_true, if_false] <;> rfl

/-- the comparison in the source is with `len(dst)` (breaks when it becomes `cap(dst)`) -/
theorem directBound_len (len cap : Nat) : directBound len cap = len := by
  simp [directBound, Gen.XerialFacts.directDecodeBound]

end KV.Model.Xerial
