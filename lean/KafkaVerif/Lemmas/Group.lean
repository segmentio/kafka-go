/-
Lemmas/Group.lean — the abstract group history over a contiguous log (Model/Group.lean).  For StartOffset = FirstOffset it is
the history over a log with holes (Model/GroupLog.lean) on the log `0 … hi-1`: `abs_step` maps every step to the same step
there, so what holds of every reachable state of that model holds here (`ginv_abs`).  `NoGap` is proved on its own: it holds
for both StartOffsets and speaks of the ORDER of an epoch's deliveries.
-/
import KafkaVerif.Model.Group
import KafkaVerif.Lemmas.GroupLog
namespace KV.GroupHist

def absR (rd : Reader) : GroupLog.Reader := ⟨rd.m, rd.start, rd.pos, rd.epoch⟩

def abs (s : G) : GroupLog.G :=
  { log := List.range s.hi, committed := s.committed, readers := s.readers.map absR, delivered := s.delivered }

def absEv (s : G) : GEv → GroupLog.GEv
  | .produce => .produce s.hi
  | .assign m => .assign m
  | .revoke i => .revoke i
  | .deliver i => .deliver i
  | .commit m o ack => .commit m o ack

theorem map_eraseIdx {α β : Type} (f : α → β) : ∀ (l : List α) (i : Nat), (l.eraseIdx i).map f = (l.map f).eraseIdx i
  | [], _ => rfl
  | _ :: _, 0 => rfl
  | a :: l, i + 1 => congrArg (f a :: ·) (map_eraseIdx f l i)

theorem find_range {p n : Nat} (h : p < n) : (List.range n).find? (fun r => decide (p ≤ r)) = some p :=
  List.find?_range_eq_some.mpr
    ⟨decide_eq_true (Nat.le_refl p), List.mem_range.mpr h, fun j hj => by simpa using hj⟩

/-- For StartOffset = FirstOffset only: `GroupLog.gstep` assigns at the committed offset or at 0, and with LastOffset the
consequences fail (`C03.last_offset_counterexample`). -/
theorem abs_step {s s' : G} {e : GEv} (h : gstep false s e = some s') :
    GroupLog.gstep (abs s) (absEv s e) = some (abs s') := by
  cases e <;> rw [gstep] at h <;> rw [absEv, GroupLog.gstep]
  case produce =>
    cases h
    have : (List.range s.hi).all (fun x => decide (x < s.hi)) = true :=
      List.all_eq_true.mpr fun x hx => decide_eq_true (List.mem_range.mp hx)
    simp only [abs, this, ↓reduceIte, List.range_succ]
  case assign m =>
    cases h
    cases hc : s.committed <;> simp [abs, absR, hc]
  case revoke i =>
    obtain ⟨hlt, h⟩ := Option.ite_none_right_eq_some.mp h
    cases h
    simp only [abs, List.length_map, hlt, ↓reduceIte, map_eraseIdx]
  case deliver i =>
    split at h
    · rename_i rd hget
      obtain ⟨hlt, h⟩ := Option.ite_none_right_eq_some.mp h
      cases h
      simp only [abs, List.getElem?_map, hget, Option.map_some, absR, find_range hlt, List.map_set]
    · cases h
  case commit m o ack =>
    obtain ⟨hany, h⟩ := Option.ite_none_right_eq_some.mp h
    cases h
    simp only [abs, hany, ↓reduceIte]
    cases ack <;> rfl

theorem abs_reachable {s : G} (h : GReachable false s) : GroupLog.GReachable (abs s) := by
  induction h with
  | init => exact .init
  | step e _ hs ih => exact .step _ ih (abs_step hs)

theorem ginv_abs {s : G} (h : GReachable false s) : GroupLog.GInv (abs s) :=
  GroupLog.ginv_reachable _ (abs_reachable h)

structure NoGap (s : G) : Prop where
  shape : ∀ rd ∈ s.readers, rd.start ≤ rd.pos ∧ rd.epoch = List.range' rd.start (rd.pos - rd.start)
  mine : ∀ rd ∈ s.readers, ∀ r ∈ rd.epoch, (rd.m, r) ∈ s.delivered

theorem nogap_init : NoGap {} := ⟨(by intro rd h; cases h), (by intro rd h; cases h)⟩

theorem nogap_step (sl : Bool) (s s' : G) (e : GEv) (hi : NoGap s) (h : gstep sl s e = some s') : NoGap s' := by
  cases e <;> rw [gstep] at h
  case produce => cases h; exact ⟨hi.shape, hi.mine⟩
  case assign m =>
    cases h
    constructor
    · intro rd hrd
      rcases GroupLog.mem_concat hrd with hrd | rfl
      · exact hi.shape rd hrd
      · exact ⟨Nat.le_refl _, by rw [Nat.sub_self]; rfl⟩
    · intro rd hrd r hr
      rcases GroupLog.mem_concat hrd with hrd | rfl
      · exact hi.mine rd hrd r hr
      · cases hr
  case revoke i =>
    obtain ⟨_, h⟩ := Option.ite_none_right_eq_some.mp h
    cases h
    exact ⟨fun rd hrd => hi.shape rd (List.mem_of_mem_eraseIdx hrd), fun rd hrd => hi.mine rd (List.mem_of_mem_eraseIdx hrd)⟩
  case deliver i =>
    split at h
    · rename_i rd hget
      obtain ⟨_, h⟩ := Option.ite_none_right_eq_some.mp h
      cases h
      have hmem : rd ∈ s.readers := List.mem_of_getElem? hget
      obtain ⟨hle, hep⟩ := hi.shape rd hmem
      constructor
      · intro x hx
        rcases List.mem_or_eq_of_mem_set hx with hx | rfl
        · exact hi.shape x hx
        · refine ⟨Nat.le_succ_of_le hle, ?_⟩
          show rd.epoch ++ [rd.pos] = List.range' rd.start (rd.pos + 1 - rd.start)
          rw [Nat.succ_sub hle, List.range'_concat, ← hep, Nat.one_mul, Nat.add_sub_cancel' hle]
      · intro x hx r hr
        rcases List.mem_or_eq_of_mem_set hx with hx | rfl
        · exact List.mem_append_left _ (hi.mine x hx r hr)
        · rcases GroupLog.mem_concat hr with hr | rfl
          · exact List.mem_append_left _ (hi.mine rd hmem r hr)
          · exact List.mem_append_right _ (List.mem_singleton.mpr rfl)
    · cases h
  case commit m o ack =>
    obtain ⟨_, h⟩ := Option.ite_none_right_eq_some.mp h
    cases h
    cases ack <;> exact ⟨hi.shape, hi.mine⟩

theorem nogap_reachable (sl : Bool) (s : G) (h : GReachable sl s) : NoGap s := by
  induction h with
  | init => exact nogap_init
  | step e _ hs ih => exact nogap_step sl _ _ e ih hs

end KV.GroupHist
