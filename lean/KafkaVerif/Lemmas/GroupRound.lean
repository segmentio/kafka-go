/-
Lemmas/GroupRound.lean — the invariant of Model/GroupRound.lean (a running generation holds its part of the one assignment
its round's leader computed) and the soundness of the executable acceptor `stepB` / `runB` (for Props/C14.lean §8).
-/
import KafkaVerif.Model.GroupRound
import KafkaVerif.Lemmas.GroupGlue

namespace KV.GroupRound
open KV.GroupBalancer KV.GroupGlue

/-- the facts about a stored / carried assignment: computed by the round's leader from the round's members and from
what it read of the cluster -/
def FromRound (P : Params) (r : Round) (got : List Part) (A : Assignments) : Prop :=
  A = P.balance r.ms got ∧ ReadsTopics P.cluster (extractTopics r.ms) got

/-- invariant of the round model.  `gids`: a generation id names one round (`round_unique`); `stored` + `running` give
Props/C14.lean `generation_from_its_round`. -/
structure Inv (P : Params) (s : St) : Prop where
  gids : ∀ i r, s.rounds[i]? = some r → r.gid = i + 1
  leaderIn : ∀ r ∈ s.rounds, ∃ y ∈ r.ms, y.id = r.leader
  assigning : ∀ m gid ms, s.pc m = .assigning gid ms → ∃ r ∈ s.rounds, r.gid = gid ∧ r.leader = m ∧ r.ms = ms
  carrying : ∀ m gid got A, s.pc m = .syncing gid (some (got, A)) →
    ∃ r ∈ s.rounds, r.gid = gid ∧ r.leader = m ∧ FromRound P r got A
  waiting : ∀ m gid, s.pc m = .syncing gid none → ∃ r ∈ s.rounds, r.gid = gid ∧ ∃ y ∈ r.ms, y.id = m
  stored : ∀ x ∈ s.stored, ∃ r ∈ s.rounds, r.gid = x.gid ∧ r.ms = x.ms ∧ FromRound P r x.got x.asg
  running : ∀ m gid asg, s.pc m = .running gid asg →
    ∃ x, findStored s gid = some x ∧ asg = received P.ρ x.asg m ∧ ∃ r ∈ s.rounds, r.gid = gid ∧ ∃ y ∈ r.ms, y.id = m

theorem setPc_same (s : St) (m : Nat) (p : MPC) : (setPc s m p).pc m = p := by simp [setPc]
theorem setPc_other (s : St) (m x : Nat) (p : MPC) (h : x ≠ m) : (setPc s m p).pc x = s.pc x := by simp [setPc, h]
theorem setPc_rounds (s : St) (m : Nat) (p : MPC) : (setPc s m p).rounds = s.rounds := rfl
theorem setPc_stored (s : St) (m : Nat) (p : MPC) : (setPc s m p).stored = s.stored := rfl

/-- what the invariant says of member `m` when its pc is `p`: the four pc-indexed clauses of `Inv` as one function of the pc -/
def PcOk (P : Params) (s : St) (m : Nat) : MPC → Prop
  | .joining => True
  | .assigning gid ms => ∃ r ∈ s.rounds, r.gid = gid ∧ r.leader = m ∧ r.ms = ms
  | .syncing gid (some (got, A)) => ∃ r ∈ s.rounds, r.gid = gid ∧ r.leader = m ∧ FromRound P r got A
  | .syncing gid none => ∃ r ∈ s.rounds, r.gid = gid ∧ ∃ y ∈ r.ms, y.id = m
  | .running gid asg =>
    ∃ x, findStored s gid = some x ∧ asg = received P.ρ x.asg m ∧ ∃ r ∈ s.rounds, r.gid = gid ∧ ∃ y ∈ r.ms, y.id = m

theorem pcOk_of_inv {P : Params} {s : St} (h : Inv P s) (m : Nat) : PcOk P s m (s.pc m) := by
  cases hp : s.pc m with
  | joining => trivial
  | assigning gid ms => exact h.assigning m gid ms hp
  | syncing gid mine =>
    match mine, hp with
    | none, hp => exact h.waiting m gid hp
    | some (got, A), hp => exact h.carrying m gid got A hp
  | running gid asg => exact h.running m gid asg hp

theorem inv_of_pcOk {P : Params} {s : St} (hg : ∀ i r, s.rounds[i]? = some r → r.gid = i + 1)
    (hl : ∀ r ∈ s.rounds, ∃ y ∈ r.ms, y.id = r.leader)
    (hs : ∀ x ∈ s.stored, ∃ r ∈ s.rounds, r.gid = x.gid ∧ r.ms = x.ms ∧ FromRound P r x.got x.asg)
    (hpc : ∀ m, PcOk P s m (s.pc m)) : Inv P s :=
  ⟨hg, hl, fun m _ _ hp => by have := hpc m; rwa [hp] at this,
    fun m _ _ _ hp => by have := hpc m; rwa [hp] at this, fun m _ hp => by have := hpc m; rwa [hp] at this, hs,
    fun m _ _ hp => by have := hpc m; rwa [hp] at this⟩

theorem PcOk.mono {P : Params} {s s' : St} {m : Nat} {p : MPC} (hr : ∀ r ∈ s.rounds, r ∈ s'.rounds)
    (hst : ∀ gid x, findStored s gid = some x → findStored s' gid = some x) (h : PcOk P s m p) : PcOk P s' m p := by
  match p, h with
  | .joining, _ => trivial
  | .assigning _ _, ⟨r, hm, hh⟩ => exact ⟨r, hr r hm, hh⟩
  | .syncing _ (some (_, _)), ⟨r, hm, hh⟩ => exact ⟨r, hr r hm, hh⟩
  | .syncing _ none, ⟨r, hm, hh⟩ => exact ⟨r, hr r hm, hh⟩
  | .running gid _, ⟨x, hx, ha, r, hm, hh⟩ => exact ⟨x, hst gid x hx, ha, r, hr r hm, hh⟩

theorem inv_setPc {P : Params} {s : St} (h : Inv P s) (m : Nat) (p : MPC) (hp : PcOk P s m p) : Inv P (setPc s m p) :=
  inv_of_pcOk h.gids h.leaderIn h.stored fun x => by
    by_cases e : x = m
    · subst e; rw [setPc_same]; exact hp
    · rw [setPc_other _ _ _ _ e]; exact pcOk_of_inv h x

theorem findStored_append (s : St) (x : Stored) (gid : Nat) (y : Stored) (h : findStored s gid = some y) :
    findStored { s with stored := s.stored ++ [x] } gid = some y := by
  unfold findStored at *
  simp only
  rw [List.find?_append, h]; rfl

theorem findStored_some (s : St) (gid : Nat) (x : Stored) (h : findStored s gid = some x) : x ∈ s.stored ∧ x.gid = gid := by
  unfold findStored at h
  exact ⟨List.mem_of_find?_eq_some h, by simpa using List.find?_some h⟩

theorem round_unique (P : Params) (s : St) (h : Inv P s) (r r' : Round) (hr : r ∈ s.rounds) (hr' : r' ∈ s.rounds)
    (hg : r.gid = r'.gid) : r = r' := by
  obtain ⟨i, hi⟩ := List.getElem?_of_mem hr
  obtain ⟨j, hj⟩ := List.getElem?_of_mem hr'
  have := h.gids i r hi; have := h.gids j r' hj
  have : i = j := by omega
  subst this; rw [hi] at hj; injection hj

theorem inv_step (P : Params) (s s' : St) (e : Ev) (h : Inv P s) (hs : Step P s e s') : Inv P s' := by
  cases hs with
  | newRound ms leader hl =>
    have mono : ∀ r, r ∈ s.rounds → r ∈ s.rounds ++ [⟨nextGid s, ms, leader⟩] := fun r hr => List.mem_append_left _ hr
    refine inv_of_pcOk ?_ ?_ ?_ (fun m => (pcOk_of_inv h m).mono mono (fun _ _ hx => hx))
    · intro i r hi
      by_cases hlt : i < s.rounds.length
      · rw [List.getElem?_append_left hlt] at hi; exact h.gids i r hi
      · have hge : s.rounds.length ≤ i := by omega
        rw [List.getElem?_append_right hge] at hi
        cases hd : i - s.rounds.length with
        | zero => rw [hd] at hi; simp at hi; subst hi; simp [nextGid]; omega
        | succ k => rw [hd] at hi; simp at hi
    · intro r hr
      rcases List.mem_append.mp hr with hr | hr
      · exact h.leaderIn r hr
      · simp at hr; subst hr; exact hl
    · intro x hx; obtain ⟨r, hr, hh⟩ := h.stored x hx; exact ⟨r, mono r hr, hh⟩
  | joinOk m gid r hr hg hm hp =>
    refine inv_setPc h m _ ?_
    split
    · rename_i hl; exact ⟨r, hr, hg, hl, rfl⟩
    · exact ⟨r, hr, hg, hm⟩
  | assign m gid ms got hp hread =>
    obtain ⟨r, hr, hg, hl, hms⟩ := h.assigning m gid ms hp
    exact inv_setPc h m _ ⟨r, hr, hg, hl, by rw [hms], by rw [hms]; exact hread⟩
  | syncLeader m gid ms got A hp hr hcur hnone =>
    obtain ⟨r, hr', hg, hl, hfrom⟩ := h.carrying m gid got A hp
    obtain ⟨r2, hr2, hg2, hl2, hms2⟩ := hr
    -- the round named in the guard is the round the invariant knows for this generation id
    have huniq : r2 = r := round_unique P s h r2 r hr2 hr' (by rw [hg2, hg])
    subst huniq
    have hfind : findStored { s with stored := s.stored ++ [⟨gid, ms, got, A⟩] } gid = some ⟨gid, ms, got, A⟩ := by
      unfold findStored at *
      simp only
      rw [List.find?_append, hnone]; simp
    have base : Inv P { s with stored := s.stored ++ [⟨gid, ms, got, A⟩] } := by
      refine inv_of_pcOk h.gids h.leaderIn ?_
        (fun x => PcOk.mono (s := s) (fun _ hr => hr) (fun g y hy => findStored_append s _ g y hy) (pcOk_of_inv h x))
      intro x hx
      rcases List.mem_append.mp hx with hx | hx
      · exact h.stored x hx
      · simp at hx; subst hx; exact ⟨r2, hr2, hg2, hms2, hfrom⟩
    obtain ⟨y, hy, hyl⟩ := h.leaderIn r2 hr2
    exact inv_setPc base m _ ⟨_, hfind, rfl, r2, hr2, hg2, y, hy, by rw [hyl, hl2]⟩
  | syncMember m gid x hp hcur hx =>
    obtain ⟨r, hr, hg, hm⟩ := h.waiting m gid hp
    exact inv_setPc h m _ ⟨x, hx, rfl, r, hr, hg, hm⟩
  | rejoin m => exact inv_setPc h m _ trivial

theorem inv_reachable (P : Params) (s : St) (h : Reachable P s) : Inv P s := by
  induction h with
  | init =>
    exact inv_of_pcOk (by intro i r hi; simp at hi) (by intro r hr; simp at hr) (by intro x hx; simp at hx)
      (fun _ => trivial)
  | step s s' e _ hs ih => exact inv_step P s s' e ih hs

open KV.Spec.GroupAssign (ledIn)

theorem readsTopicsB_sound (cluster : List Part) (topics : List Nat) (got : List Part)
    (h : readsTopicsB cluster topics got = true) : ReadsTopics cluster topics got := by
  intro t ht
  simp only [readsTopicsB, List.all_eq_true, Bool.and_eq_true, decide_eq_true_eq] at h
  obtain ⟨h1, h2⟩ := h t ht
  refine ⟨h1, fun z => ?_⟩
  by_cases hz : z ∈ (got ++ cluster).map (·.zone)
  · exact h2 z hz
  · have hg : ¬ z ∈ got.map (·.zone) := fun hm => hz (by simp at hm ⊢; obtain ⟨p, hp, e⟩ := hm; exact Or.inl ⟨p, hp, e⟩)
    have hc : ¬ z ∈ cluster.map (·.zone) := fun hm => hz (by simp at hm ⊢; obtain ⟨p, hp, e⟩ := hm; exact Or.inr ⟨p, hp, e⟩)
    rw [ledIn_nil_of_zone got t z hg, ledIn_nil_of_zone cluster t z hc]

theorem isJoining_iff {p : MPC} : isJoining p = true ↔ p = .joining := by
  cases p <;> simp [isJoining]

/-- soundness only: the converse is not needed for trace acceptance and not proved -/
theorem stepB_sound (P : Params) (s s' : St) (e : Ev) (h : stepB P s e = some s') : Step P s e s' := by
  cases e with
  | newRound ms leader =>
    simp only [stepB] at h
    split at h
    · rename_i hl
      injection h with h; subst h
      have : ∃ m ∈ ms, m.id = leader := by
        obtain ⟨m, hm, he⟩ := List.any_eq_true.mp hl
        exact ⟨m, hm, by simpa using he⟩
      exact Step.newRound s ms leader this
    · cases h
  | joinOk m gid =>
    simp only [stepB] at h
    split at h
    · rename_i r hr
      split at h
      · rename_i hc
        injection h with h; subst h
        simp only [Bool.and_eq_true] at hc
        have hm : ∃ x ∈ r.ms, x.id = m := by
          obtain ⟨x, hx, he⟩ := List.any_eq_true.mp hc.1
          exact ⟨x, hx, by simpa using he⟩
        have hp : s.pc m = .joining := isJoining_iff.mp hc.2
        exact Step.joinOk s m gid r (List.mem_of_find?_eq_some hr) (by simpa using List.find?_some hr) hm hp
      · cases h
    · cases h
  | assign m got =>
    simp only [stepB] at h
    split at h
    · rename_i gid ms hp
      split at h
      · rename_i hr
        injection h with h; subst h
        exact Step.assign s m gid ms got hp (readsTopicsB_sound _ _ _ hr)
      · cases h
    · cases h
  | syncLeader m =>
    simp only [stepB] at h
    split at h
    · rename_i gid got A hp
      split at h
      · rename_i r hr
        split at h
        · rename_i hc
          injection h with h; subst h
          simp only [Bool.and_eq_true, beq_iff_eq] at hc
          have hr' := List.find?_some hr
          simp only [Bool.and_eq_true, beq_iff_eq] at hr'
          exact Step.syncLeader s m gid r.ms got A hp ⟨r, List.mem_of_find?_eq_some hr, hr'.1, hr'.2, rfl⟩ hc.1
            (by simpa using hc.2)
        · cases h
      · cases h
    · cases h
  | syncMember m =>
    simp only [stepB] at h
    split at h
    · rename_i gid hp
      split at h
      · rename_i x hx
        split at h
        · rename_i hc
          injection h with h; subst h
          exact Step.syncMember s m gid x hp (by simpa using hc) hx
        · cases h
      · cases h
    · cases h
  | rejoin m =>
    simp only [stepB] at h
    injection h with h; subst h
    exact Step.rejoin s m

theorem runB_reachable (P : Params) : ∀ (es : List Ev) (s s' : St) (k : Nat), Reachable P s → runB P s es k = .ok s' → Reachable P s'
  | [], s, s', _, hs, h => by simp [runB] at h; subst h; exact hs
  | e :: es, s, s', k, hs, h => by
    simp only [runB] at h
    split at h
    · rename_i s1 h1
      exact runB_reachable P es s1 s' (k + 1) (Reachable.step s s1 e hs (stepB_sound P s s1 e h1)) h
    · cases h
end KV.GroupRound
