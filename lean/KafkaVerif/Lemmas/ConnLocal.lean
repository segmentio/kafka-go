/-
Lemmas/ConnLocal.lean — locality: when the rest of the current frame is on the stream, what a parser does and returns
depends on those bytes only; whatever follows the frame is left exactly where it was.  (With byte conservation this is
"in no case are bytes of one response interpreted as part of another".)
-/
import KafkaVerif.Lemmas.ConnOps

namespace KV.ConnOps
open KV KV.Reader

/-- the rest of the frame is on the stream -/
def Enough (s : RS) : Prop := s.sz ≤ s.inp.length

theorem _root_.KV.Reader.Adv.enough {s s' : RS} (h : Adv s s') (he : Enough s) : Enough s' := by
  obtain ⟨p, hp, hs⟩ := h
  simp only [Enough, hp, List.length_append] at he ⊢
  omega

def ext (rest : Bytes) (s : RS) : RS := ⟨s.inp ++ rest, s.sz⟩

theorem ext_enough {rest : Bytes} {s : RS} (h : Enough s) : Enough (ext rest s) := by
  simp only [Enough, ext, List.length_append] at *; omega

/-- for readers (`R α`), read closures and (spelled out in `Body.Local`) the two halves of a `Body` -/
def Local {β : Type} (f : RS → β × RS) : Prop := ∀ rest s, Enough s → f (ext rest s) = ((f s).1, ext rest (f s).2)

def PLocal (f : P) : Prop := ∀ rest c s, Enough s → f c (ext rest s) = ((f c s).1, ext rest (f c s).2)

theorem rlocal_peekRead (n : Nat) : Local (peekRead n) := by
  intro rest s he
  simp only [Enough] at he
  unfold peekRead ext
  simp only [List.length_append]
  by_cases h1 : n > s.sz
  · simp [h1]
  · have h2 : ¬ s.inp.length < n := by omega
    have h3 : ¬ s.inp.length + rest.length < n := by omega
    simp only [h1, h2, h3, ↓reduceIte]
    rw [List.take_append_of_le_length (by omega), List.drop_append_of_le_length (by omega)]

theorem rlocal_discardN (n : Int) : Local (discardN n) := by
  intro rest s he
  simp only [Enough] at he
  unfold discardN ext
  simp only [List.length_append]
  by_cases h1 : n ≤ s.sz
  · simp only [h1, ↓reduceIte]
    by_cases h2 : n < 0
    · simp [h2]
    · have h3 : ¬ s.inp.length < n.toNat := by omega
      have h4 : ¬ s.inp.length + rest.length < n.toNat := by omega
      simp only [h2, h3, h4, ↓reduceIte]
      rw [List.drop_append_of_le_length (by omega)]
  · have h3 : ¬ s.inp.length < s.sz := by omega
    have h4 : ¬ s.inp.length + rest.length < s.sz := by omega
    simp only [h1, h3, h4, ↓reduceIte]
    rw [List.drop_append_of_le_length (by omega)]

theorem rlocal_readNewBytes (n : Int) : Local (readNewBytes n) := by
  intro rest s he
  simp only [Enough] at he
  unfold readNewBytes ext
  simp only [List.length_append]
  by_cases h1 : n ≤ 0
  · simp [h1]
  · have hm : min n.toNat s.sz ≤ s.inp.length := by omega
    have h3 : ¬ s.inp.length < min n.toNat s.sz := by omega
    have h4 : ¬ s.inp.length + rest.length < min n.toNat s.sz := by omega
    simp only [h1, h3, h4, ↓reduceIte]
    rw [List.take_append_of_le_length hm, List.drop_append_of_le_length hm]
    split <;> rfl

/-- `Local` alone is not kept by `rbind`: that the second reader still has its frame on the stream is conservation of
the first -/
def Bound {β : Type} (f : RS → β × RS) : Prop := (∀ s, Adv s (f s).2) ∧ Local f

theorem Bound.ret {β : Type} (b : β) : Bound fun s => (b, s) := ⟨fun s => Adv.refl s, fun _ _ _ => rfl⟩

theorem Bound.andThen {α β : Type} {m : RS → α × RS} {k : α → RS → β × RS} (hm : Bound m) (hk : ∀ a, Bound (k a)) :
    Bound fun s => k (m s).1 (m s).2 :=
  ⟨fun s => Adv.trans (hm.1 s) ((hk _).1 _), fun rest s he => by
    simp only [hm.2 rest s he]
    exact (hk _).2 rest _ (Adv.enough (hm.1 s) he)⟩

theorem Bound.bind {α β : Type} {m : R α} {f : α → R β} (hm : Bound m) (hf : ∀ a, Bound (f a)) : Bound (rbind m f) := by
  refine ⟨conserves_bind hm.1 fun a => (hf a).1, fun rest s he => ?_⟩
  have h2 := Adv.enough (hm.1 s) he
  unfold rbind
  rw [hm.2 rest s he]
  cases hp : m s with
  | mk r s' =>
    rw [hp] at h2
    cases r with
    | error e => rfl
    | ok a => exact (hf a).2 rest s' h2

theorem bound_closed : Closed Bound where
  pure _ := .ret _
  throw _ _ := .ret _
  bind := Bound.bind
  onSize p _ a b ha hb := by
    refine ⟨conserves_closed.onSize p ha.1 hb.1, fun rest s he => ?_⟩
    -- the test looks at the counter, which `ext` leaves alone
    by_cases hp : p s.sz
    · simp only [show (ext rest s).sz = s.sz from rfl, if_pos hp]
      exact ha.2 rest s he
    · simp only [show (ext rest s).sz = s.sz from rfl, if_neg hp]
      exact hb.2 rest s he
  peekRead n := ⟨conserves_peekRead n, rlocal_peekRead n⟩
  discardN n := ⟨conserves_discardN n, rlocal_discardN n⟩
  readNewBytes n := ⟨conserves_readNewBytes n, rlocal_readNewBytes n⟩

theorem runSteps_bound (ps : List Step) (c : Ctx) : Bound (runSteps ps c) :=
  bound_closed.runSteps ps (.inr fun _ => .ret _) c

theorem runStep_local : ∀ st : Step, PLocal (runStep st) :=
  fun st rest c s he => (bound_closed.runStep st (.inr fun _ => .ret _) c).2 rest s he

theorem runSteps_local : ∀ ps : List Step, PLocal (runSteps ps) :=
  fun ps rest c s he => (runSteps_bound ps c).2 rest s he

theorem drainKafka_local (fixed : Bool) (k : Int) : Local (drainKafka fixed k) := by
  intro rest s he
  have hd : discardN (↑(ext rest s).sz) (ext rest s) = _ := rlocal_discardN (↑s.sz) rest s he
  unfold drainKafka
  -- `(ext rest s).sz` is `s.sz` by computation only: the condition is restated for both sides
  by_cases hc : (fixed && decide (s.sz > 0)) = true
  · rw [if_pos (show (fixed && decide ((ext rest s).sz > 0)) = true from hc), if_pos hc, hd]
    cases discardN (↑s.sz) s with
    | mk r2 s2 => cases r2 <;> rfl
  · rw [if_neg (show ¬ (fixed && decide ((ext rest s).sz > 0)) = true from hc), if_neg hc]

theorem opRead_local (o : OpSpec) (v : Nat) (topic : Bytes) : Local (opRead o v topic) := by
  intro rest s he
  have h1 := runSteps_local (o.parse v) rest { ver := v } s he
  have h2 := Adv.enough (runSteps_adv (o.parse v) { ver := v } s) he
  unfold opRead
  rw [h1]
  cases hp : runSteps (o.parse v) { ver := v } s with
  | mk r s1 =>
    rw [hp] at h2
    cases r with
    | ok c =>
      simp only []  -- the match on the parse result, reduced
      by_cases hc : (o.expectZero && decide (s1.sz ≠ 0)) = true
      · rw [if_pos (show (o.expectZero && decide ((ext rest s1).sz ≠ 0)) = true from hc), if_pos hc]
      · rw [if_neg (show ¬ (o.expectZero && decide ((ext rest s1).sz ≠ 0)) = true from hc), if_neg hc]
        cases o.post.eval topic c <;> rfl
    | error e =>
      cases e with
      | kafka k => exact drainKafka_local o.drain k rest s1 h2
      | _ => rfl

def Body.Local (b : Body) : Prop :=
  (∀ rest s, Enough s → b.first (ext rest s) = ((b.first s).1, ext rest (b.first s).2)) ∧
  (∀ rest s, Enough s → b.rest (ext rest s) = ((b.rest s).1, ext rest (b.rest s).2))

theorem fetchRead_local (fixed : Bool) (v : Nat) (offset : Int) (b : Body) (hc : b.Conserves) (hl : b.Local) :
    Local (fetchRead fixed v offset b) := by
  intro rest s he
  have h1 := runSteps_local (fetchHeader v) rest { ver := v } s he
  have h2 := Adv.enough (runSteps_adv (fetchHeader v) { ver := v } s) he
  unfold fetchRead
  rw [h1]
  cases hp : runSteps (fetchHeader v) { ver := v } s with
  | mk r s1 =>
    rw [hp] at h2
    cases r with
    | error e =>
      cases e with
      | kafka k => exact drainKafka_local fixed k rest s1 h2
      | _ => rfl
    | ok c =>
      simp only []
      by_cases hw : c.hwm = offset
      · rw [if_pos hw, if_pos hw]; exact drainKafka_local fixed 7 rest s1 h2
      · rw [if_neg hw, if_neg hw]
        have h3 := Adv.enough (hc.1 s1) h2
        rw [hl.1 rest s1 h2]
        cases hq : b.first s1 with
        | mk r1 s2 =>
          rw [hq] at h3
          cases r1 with
          | error e => cases e <;> rfl
          | ok u =>
            simp only []
            have h4 := Adv.enough (hc.2 s2) h3
            rw [hl.2 rest s2 h3]
            cases hq2 : b.rest s2 with
            | mk e3 s3 =>
              rw [hq2] at h4
              have hd : discardN (↑s3.sz) (ext rest s3) = _ := rlocal_discardN (↑s3.sz) rest s3 h4
              cases e3 with
              | shortRead | kafka k =>
                simp only [ext] at hd ⊢
                rw [hd]
                cases discardN (↑s3.sz) s3 with
                | mk r4 s4 => cases r4 <;> cases fixed <;> rfl
              | _ => rfl

/-- for a frame whose size prefix is below 4 (`wait_bad_size`: the counter starts at 0): that a program ends in errShortRead at
counter 0 is decided on the empty stream and then holds on every stream, by `runSteps_local` (Props/C11 `bad_size_closes`) -/
theorem runSteps_shortRead_at_zero (ps : List Step) (c : Ctx) (inp : Bytes)
    (h : runSteps ps c ⟨[], 0⟩ = (.error .shortRead, ⟨[], 0⟩)) : runSteps ps c ⟨inp, 0⟩ = (.error .shortRead, ⟨inp, 0⟩) := by
  have hl := runSteps_local ps inp c ⟨[], 0⟩ (Nat.le_refl 0)
  rwa [h] at hl

theorem exchange_local {read : RS → Outcome × RS}
    (hl : Local read) (cl : Bool) (c : Conn)
    (body rest : Bytes) (hopen : c.closed = false) (hw : waitResponse c = .ok (body.length, body ++ rest)) :
    (exchange read cl c).1 = (read ⟨body, body.length⟩).1 ∧
    (exchange read cl c).2.stream = (read ⟨body, body.length⟩).2.inp ++ rest := by
  have h : read ⟨body ++ rest, body.length⟩ = _ := hl rest ⟨body, body.length⟩ (Nat.le_refl _)
  rw [exchange_body read cl c _ _ hopen hw, h]
  exact ⟨rfl, rfl⟩

end KV.ConnOps
