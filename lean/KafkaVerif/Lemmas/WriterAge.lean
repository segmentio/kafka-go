/-
Lemmas/WriterAge.lean — the age of the attached batch (C08 "closed once BatchTimeout has elapsed since it was opened"):
the model carries a clock (`tick`), the state records when every batch was created (`State.openedAt`), and the clock
cannot pass `openedAt + linger` of a batch that is still attached and whose timer has not fired — whatever was appended
to it meanwhile (`add` neither moves `openedAt` nor the clock: the timer is armed once, at creation).
-/
import KafkaVerif.Lemmas.WriterSched

namespace KV.Writer

/-- an attached batch whose timer has not fired is at most `linger` old (nothing is claimed for untimed runs,
`linger = 0`) -/
def InvAge (cfg : Cfg) (s : State) : Prop :=
  ∀ pw P, s.pws pw = some P → ∀ b, P.curr = some b → ∀ B, s.batches b = some B →
    B.timerFired = true ∨ cfg.linger = 0 ∨ s.now ≤ s.openedAt b + cfg.linger

/-- the same batch by batch: a batch is attached exactly while it is not detached (`InvLife`) -/
def InvOpenAge (cfg : Cfg) (s : State) : Prop :=
  ∀ b B, s.batches b = some B → B.detached = none →
    B.timerFired = true ∨ cfg.linger = 0 ∨ s.now ≤ s.openedAt b + cfg.linger

theorem notOverdue_elim {cfg : Cfg} {s : State} {t : Nat} (h : notOverdue cfg s t = true) {pw b : Nat} {P : PW} {B : Batch}
    (hmem : pw ∈ s.pwIds) (hP : s.pws pw = some P) (hc : P.curr = some b) (hB : s.batches b = some B) :
    B.timerFired = true ∨ cfg.linger = 0 ∨ t ≤ s.openedAt b + cfg.linger := by
  unfold notOverdue at h
  rcases Bool.or_eq_true_iff.mp h with h0 | hall
  · exact .inr (.inl (by simpa using h0))
  · have := List.all_eq_true.mp hall pw hmem
    simp only [hP, hc, hB] at this
    exact (Bool.or_eq_true_iff.mp this).imp id fun h2 => .inr (by simpa using h2)

theorem invOpenAge_step {cfg : Cfg} {s s' : State} {e : Event} (hL : InvLife cfg s) (hX : InvIndex s)
    (hI : InvOpenAge cfg s) (h : Step cfg s e s') : InvOpenAge cfg s' := by
  induction h with
  | tick hg =>
    -- the guard of `tick` is the invariant for the new clock value
    intro b B hB hd
    obtain ⟨P, hP, hc, -⟩ := hL.attached_of_open hB hd
    exact notOverdue_elim hg.due (hX _ P hP).1 hP hc hB
  | @newBatch pw b P hP hg =>
    refine forall_upd_key _ _ _ (fun y Y hy hY hd => ?_) fun _ => .inr (.inr ?_)
    · have := hI y Y hY hd
      rwa [← upd_other s.openedAt b y s.now hy] at this
    · show s.now ≤ upd s.openedAt b s.now b + cfg.linger
      rw [upd_same]; exact Nat.le_add_right _ _
  | add hP hB => exact forall_upd_key _ _ _ (fun y Y _ hY => hI y Y hY) (hI _ _ hB :)
  | detach hP hB => exact forall_upd_key _ _ _ (fun y Y _ hY => hI y Y hY) nofun
  | timerFire hP hB => exact forall_upd_key _ _ _ (fun y Y _ hY => hI y Y hY) fun _ => .inl rfl
  | produce hP _ hB | completion hP hB | complete hP hB =>
    exact forall_upd_key _ _ _ (fun y Y _ hY => hI y Y hY) (hI _ _ hB :)
  | _ => exact hI

theorem invOpenAge (cfg : Cfg) : ∀ s, Reachable cfg s → InvOpenAge cfg s :=
  Reachable.step_induction (fun _ _ h => by cases h) fun s _ _ hr hI h =>
    invOpenAge_step (invLife cfg s hr) (invIndex cfg s hr) hI h

theorem invAge (cfg : Cfg) : ∀ s, Reachable cfg s → InvAge cfg s := by
  intro s hr pw P hP b hc B hB
  obtain ⟨B0, hB0, -, hd⟩ := (invSched cfg s hr).currOpen pw P hP b hc
  cases hB.symm.trans hB0
  exact invOpenAge cfg s hr b B hB hd

end KV.Writer
