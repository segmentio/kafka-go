/-
Lemmas/TransportDeadlines.lean — a connection serving a request the broker never answers gets out iff the request's
context is bounded (Model/TransportDeadlines.lean).
-/
import KafkaVerif.Model.TransportDeadlines
import KafkaVerif.Lemmas.TransportConnC17
namespace KV.TransportConn

theorem serving_bounded_exits (f : TFacts) (bounded : Nat → Bool) (s : State) (c : Nat) (hs : get s c = some .serving)
    (hb : bounded c = true) :
    ∃ s1 s2, stepSilentT f bounded s (.done c false false) = some s1 ∧ stepSilentT f bounded s1 (.exit c) = some s2 ∧
      get s2 c = some .exited := by
  have h1 : step f s (.done c false false) = some (set s c .doneFail) := by
    simp [step, move, hs]
  have hg1 : get (set s c .doneFail) c = some .doneFail := get_set_same _ hs
  have h2 : step f (set s c .doneFail) (.exit c) = some (set (set s c .doneFail) c .exited) := by
    cases hd : f.dropFailed <;> simp [step, move, hg1, hd]
  exact ⟨set s c .doneFail, set (set s c .doneFail) c .exited, by simp [stepSilentT, hb, h1], by simpa [stepSilentT] using h2,
    get_set_same _ hg1⟩

theorem serving_unbounded_stranded (f : TFacts) (bounded : Nat → Bool) (s s' : State) (c : Nat) (e : Ev)
    (hs : get s c = some .serving) (hb : bounded c = false) (h : stepSilentT f bounded s e = some s') :
    get s' c = some .serving := by
  -- against a silent broker every step is a step of the connection LTS, and not the end of this exchange
  have hstep : step f s e = some s' ∧ ∀ ok nr, e ≠ .done c ok nr := by
    cases e
    case done c' ok nr =>
      simp only [stepSilentT] at h
      split at h
      · cases h
      · rename_i h1
        split at h
        · rename_i hb'
          have : ok = false ∧ nr = false := by simpa using h1
          rw [this.1, this.2]
          exact ⟨h, fun ok nr he => by cases he; rw [hb] at hb'; cases hb'⟩
        · cases h
    all_goals exact ⟨h, nofun⟩
  rcases step_conn f s s' e c .serving hstep.1 hs (by decide) with ⟨hc, hfrom, _⟩ | ⟨_, hsame⟩
  · obtain ⟨c', ok, nr, rfl⟩ := arrow_serving f e hfrom
    cases hc
    exact absurd rfl (hstep.2 ok nr)
  · exact hsame

end KV.TransportConn
