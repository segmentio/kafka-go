/-
Lemmas/WriterOrder.lean — the ordering invariant of the Writer LTS (for C07 `order_preserved`).

Ghost data: every `add` stamps the message with the global submission counter `s.seq`; log entries carry
the stamp and the batch they were copied from.  The invariant says, for every partition writer, that its
pipeline (batch being sent, queue, detached-not-yet-put, attached) is duplicate free, ordered by stamps,
and that everything already in the partition's log is older than everything still in the pipeline (or is a
copy of the very batch being sent).  With "one partition writer per topic-partition" (`uniq`) this gives the
pairwise order of the log.  The nine clauses fall into three groups (stamps, pipelines, order), each with a frame lemma;
`InvOrd.of_shrink` is the three frames together, for the events that touch none of the groups.
-/
import KafkaVerif.Lemmas.WriterStep

namespace KV.Writer

def SeqBefore (bt : Nat → Option Batch) (b b' : Nat) : Prop :=
  ∀ B B', bt b = some B → bt b' = some B' → ∀ m ∈ B.msgs, ∀ m' ∈ B'.msgs, m.seq < m'.seq

/-- the order of a partition's log: by submission stamp, except that the copies of one batch (appended by retried
attempts) are mutually unordered -/
def LogRel (x y : LogEntry) : Prop := x.seq < y.seq ∨ x.batch = y.batch

structure InvOrd (s : State) : Prop where
  counterB : ∀ b B, s.batches b = some B → ∀ m ∈ B.msgs, m.seq < s.seq
  counterL : ∀ tp, ∀ x ∈ s.log tp, x.seq < s.seq
  sorted : ∀ b B, s.batches b = some B → B.msgs.Pairwise (fun m m' => m.seq < m'.seq)
  uniq : ∀ pw P, s.pws pw = some P → s.pwOf P.tp = some pw
  pipeEx : ∀ pw P, s.pws pw = some P → ∀ b ∈ P.pipe, ∃ B, s.batches b = some B ∧ B.pw = pw
  pipeNodup : ∀ pw P, s.pws pw = some P → P.pipe.Nodup
  pipeSeq : ∀ pw P, s.pws pw = some P → P.pipe.Pairwise (SeqBefore s.batches)
  logSeq : ∀ pw P, s.pws pw = some P → ∀ x ∈ s.log P.tp, ∀ b ∈ P.pipe, ∀ B, s.batches b = some B →
    ∀ m ∈ B.msgs, x.seq < m.seq ∨ x.batch = b
  logOrd : ∀ tp, (s.log tp).Pairwise LogRel

theorem invOrd_init : InvOrd State.init := by
  constructor
  case logOrd => exact fun _ => .nil
  all_goals (intro _ _ h; cases h)

namespace InvOrd

theorem pipe_pw {s : State} (h : InvOrd s) {x b : Nat} {X : PW} {B : Batch} (hX : s.pws x = some X)
    (hb : b ∈ X.pipe) (hB : s.batches b = some B) : B.pw = x := by
  obtain ⟨B0, hB0, hpw⟩ := h.pipeEx x X hX b hb
  cases hB.symm.trans hB0; exact hpw

theorem pipe_ne {s : State} (h : InvOrd s) {x y b : Nat} {X : PW} (hX : s.pws x = some X) (hy : y ∈ X.pipe)
    (hb : s.batches b = none) : y ≠ b := by
  rintro rfl
  obtain ⟨B, hB, -⟩ := h.pipeEx x X hX y hy
  rw [hb] at hB; cases hB

theorem pipe_only {s : State} (h : InvOrd s) {pw x b : Nat} {X : PW} {B : Batch} (hB : s.batches b = some B)
    (hBpw : B.pw = pw) (hX : s.pws x = some X) (hne : x ≠ pw) : b ∉ X.pipe :=
  fun hmem => hne ((h.pipe_pw hX hmem hB).symm.trans hBpw)

end InvOrd

/-! ### The clauses in three groups

Each group has its frame; `newBatch` is outside the frames of the first and second (`stamps_frame` admits no new batch
record; `seq_frame` does), `add` and an applied `produce` outside those of the first and third. -/

structure OrdStamps (s : State) : Prop where
  counterB : ∀ b B, s.batches b = some B → ∀ m ∈ B.msgs, m.seq < s.seq
  counterL : ∀ tp, ∀ x ∈ s.log tp, x.seq < s.seq
  sorted : ∀ b B, s.batches b = some B → B.msgs.Pairwise (fun m m' => m.seq < m'.seq)

structure OrdPipes (s : State) : Prop where
  uniq : ∀ pw P, s.pws pw = some P → s.pwOf P.tp = some pw
  pipeEx : ∀ pw P, s.pws pw = some P → ∀ b ∈ P.pipe, ∃ B, s.batches b = some B ∧ B.pw = pw
  pipeNodup : ∀ pw P, s.pws pw = some P → P.pipe.Nodup

structure OrdSeq (s : State) : Prop where
  pipeSeq : ∀ pw P, s.pws pw = some P → P.pipe.Pairwise (SeqBefore s.batches)
  logSeq : ∀ pw P, s.pws pw = some P → ∀ x ∈ s.log P.tp, ∀ b ∈ P.pipe, ∀ B, s.batches b = some B →
    ∀ m ∈ B.msgs, x.seq < m.seq ∨ x.batch = b
  logOrd : ∀ tp, (s.log tp).Pairwise LogRel

/-- the structure `InvOrd` is stated clause by clause; the groups repeat its clauses so that each can have a frame, and here
the two spellings have to agree -/
theorem InvOrd.of_parts {s : State} (a : OrdStamps s) (b : OrdPipes s) (c : OrdSeq s) : InvOrd s :=
  ⟨a.counterB, a.counterL, a.sorted, b.uniq, b.pipeEx, b.pipeNodup, c.pipeSeq, c.logSeq, c.logOrd⟩

/-- what a step does to a partition writer as far as order goes: the topic-partition stays, the pipeline loses elements at
most -/
def ShrinkPW (P P' : PW) : Prop := P'.tp = P.tp ∧ P'.pipe.Sublist P.pipe

/-- ... or also gains, at its end, batches that are empty after the step (`newBatch`) -/
def GrowPW (s' : State) (P P' : PW) : Prop :=
  P'.tp = P.tp ∧ ∃ r, P'.pipe.Sublist (P.pipe ++ r) ∧ ∀ y ∈ r, ∀ B', s'.batches y = some B' → B'.msgs = []

def ShrinkBat (B B' : Batch) : Prop := B'.msgs = B.msgs ∧ B'.pw = B.pw

def OwnerKept (B B' : Batch) : Prop := B'.pw = B.pw

theorem ShrinkPW.refl (P : PW) : ShrinkPW P P := ⟨rfl, .refl _⟩
theorem ShrinkBat.refl (B : Batch) : ShrinkBat B B := ⟨rfl, rfl⟩
theorem OwnerKept.refl (B : Batch) : OwnerKept B B := rfl

theorem ShrinkPW.grow {s' : State} {P P' : PW} (h : ShrinkPW P P') : GrowPW s' P P' :=
  ⟨h.1, [], by rw [List.append_nil]; exact h.2, nofun⟩

theorem GrowPW.refl (s' : State) (P : PW) : GrowPW s' P P := (ShrinkPW.refl P).grow

theorem ShrinkPW.sender (P : PW) {σ : Sender} (h : σ.batch? = P.sender.batch?) : ShrinkPW P { P with sender := σ } :=
  ⟨rfl, pipe_sender P h ▸ .refl _⟩

namespace InvOrd

variable {s s' : State}

theorem stamps_frame (h : InvOrd s) (hseq : s'.seq = s.seq) (hlog : s'.log = s.log)
    (hbat : MapRel (fun _ => False) ShrinkBat s.batches s'.batches) : OrdStamps s' := by
  refine ⟨fun b B' hb m hm => ?_, fun tp x hx => ?_, fun b B' hb => ?_⟩
  · obtain ⟨B, hB, e, -⟩ := hbat.old _ _ hb
    rw [hseq]; exact h.counterB b B hB m (e ▸ hm)
  · rw [hseq]; rw [hlog] at hx; exact h.counterL tp x hx
  · obtain ⟨B, hB, e, -⟩ := hbat.old _ _ hb
    rw [e]; exact h.sorted b B hB

/-- a new partition writer has an empty pipeline and is entered in the index under its key -/
theorem pipes_frame (h : InvOrd s) (hpwOf : ∀ pw P, s.pws pw = some P → s'.pwOf P.tp = s.pwOf P.tp)
    (hpws : MapRel (fun P' => P'.pipe = [] ∧ ∀ pw, s.pws pw = none → s'.pws pw = some P' → s'.pwOf P'.tp = some pw)
      ShrinkPW s.pws s'.pws)
    (hbat : MapRel (fun _ => True) OwnerKept s.batches s'.batches) : OrdPipes s' := by
  refine ⟨fun pw P' hp => ?_, fun pw P' hp b hb => ?_, fun pw P' hp => ?_⟩
  · rcases hpws.back _ _ hp with ⟨hnone, -, hnew⟩ | ⟨P, hP, e, -⟩
    · exact hnew pw hnone hp
    · rw [e, hpwOf pw P hP]; exact h.uniq pw P hP
  · rcases hpws.back _ _ hp with ⟨-, he, -⟩ | ⟨P, hP, -, hsub⟩
    · rw [he] at hb; cases hb
    · obtain ⟨B, hB, hpw⟩ := h.pipeEx pw P hP b (hsub.subset hb)
      obtain ⟨B', hB', e⟩ := hbat.fwd _ _ hB
      exact ⟨B', hB', e ▸ hpw⟩
  · rcases hpws.back _ _ hp with ⟨-, he, -⟩ | ⟨P, hP, -, hsub⟩
    · rw [he]; exact List.nodup_nil
    · exact (h.pipeNodup pw P hP).sublist hsub

/-- an empty batch is in stamp order with everything, so a pipeline may gain empty batches at its end -/
theorem seq_frame (h : InvOrd s) (hlog : s'.log = s.log)
    (hpws : MapRel (fun P' => P'.pipe = []) (GrowPW s') s.pws s'.pws)
    (hbat : MapRel (fun B' => B'.msgs = []) ShrinkBat s.batches s'.batches) : OrdSeq s' := by
  have hmsgs : ∀ {b B' m}, s'.batches b = some B' → m ∈ B'.msgs → ∃ B, s.batches b = some B ∧ m ∈ B.msgs := by
    intro b B' m hb hm
    rcases hbat.back _ _ hb with ⟨-, e⟩ | ⟨B, hB, e, -⟩
    · rw [e] at hm; cases hm
    · exact ⟨B, hB, e ▸ hm⟩
  have hSB : ∀ y z, SeqBefore s.batches y z → SeqBefore s'.batches y z := by
    intro y z hr B1' B2' h1 h2 m hm m' hm'
    obtain ⟨B1, hB1, hm1⟩ := hmsgs h1 hm
    obtain ⟨B2, hB2, hm2⟩ := hmsgs h2 hm'
    exact hr B1 B2 hB1 hB2 m hm1 m' hm2
  refine ⟨fun pw P' hp => ?_, fun pw P' hp x hx b hb B' hB' m hm => ?_, fun tp => by rw [hlog]; exact h.logOrd tp⟩
  · rcases hpws.back _ _ hp with ⟨-, he⟩ | ⟨P, hP, -, r, hsub, hr⟩
    · rw [he]; exact .nil
    · refine List.Pairwise.sublist hsub (List.pairwise_append.mpr ⟨(h.pipeSeq pw P hP).imp (hSB _ _), ?_, ?_⟩)
      · exact List.pairwise_of_forall_mem_list fun y _ z hz B1 B2 _ h2 m _ m' hm' => by rw [hr z hz B2 h2] at hm'; cases hm'
      · exact fun y _ z hz B1 B2 _ h2 m _ m' hm' => by rw [hr z hz B2 h2] at hm'; cases hm'
  · rcases hpws.back _ _ hp with ⟨-, he⟩ | ⟨P, hP, e, r, hsub, hr⟩
    · rw [he] at hb; cases hb
    · obtain ⟨B, hB, hmB⟩ := hmsgs hB' hm
      rw [hlog, e] at hx
      rcases List.mem_append.mp (hsub.subset hb) with hb | hb
      · exact h.logSeq pw P hP x hx b hb B hB m hmB
      · rw [hr b hb B' hB'] at hm; cases hm

theorem of_shrink (h : InvOrd s)
    (hpwOf : ∀ pw P, s.pws pw = some P → s'.pwOf P.tp = s.pwOf P.tp) (hseq : s'.seq = s.seq) (hlog : s'.log = s.log)
    (hpws : MapRel (fun P' => P'.pipe = [] ∧ ∀ pw, s.pws pw = none → s'.pws pw = some P' → s'.pwOf P'.tp = some pw)
      ShrinkPW s.pws s'.pws)
    (hbat : MapRel (fun _ => False) ShrinkBat s.batches s'.batches) : InvOrd s' :=
  .of_parts (h.stamps_frame hseq hlog hbat) (h.pipes_frame hpwOf hpws (hbat.mono (fun _ => False.elim) fun _ _ h => h.2))
    (h.seq_frame hlog (hpws.mono (fun _ h => h.1) fun _ _ h => h.grow) (hbat.mono (fun _ => False.elim) fun _ _ h => h))

/-- `newBatch`: the pipeline of pw gains `b`, which did not exist, hence is in no pipeline -/
theorem pipes_newBatch (hI : InvOrd s) {pw b : Nat} {P P' : PW} {B' : Batch} (hP : s.pws pw = some P) (htp : P'.tp = P.tp)
    (hpipe : P'.pipe = P.pipe ++ [b]) (hb : s.batches b = none) (hB' : B'.pw = pw)
    (epws : s'.pws = upd s.pws pw (some P')) (ebat : s'.batches = upd s.batches b (some B'))
    (epwOf : s'.pwOf = s.pwOf) : OrdPipes s' := by
  have hold : ∀ x X, s.pws x = some X → ∀ y ∈ X.pipe, (∃ B, s'.batches y = some B ∧ B.pw = x) ∧ y ≠ b := by
    intro x X hx y hy
    have hne := hI.pipe_ne hx hy hb
    obtain ⟨B, hB, hpw⟩ := hI.pipeEx x X hx y hy
    exact ⟨⟨B, by rw [ebat, upd_other _ _ _ _ hne]; exact hB, hpw⟩, hne⟩
  refine ⟨fun x X hx => ?_, fun x X hx y hy => ?_, fun x X hx => ?_⟩ <;> rw [epws] at hx <;>
    rcases upd_some_elim hx with ⟨rfl, rfl⟩ | ⟨-, hx⟩
  · rw [epwOf, htp]; exact hI.uniq x P hP
  · rw [epwOf]; exact hI.uniq x X hx
  · rw [hpipe] at hy
    rcases List.mem_append.mp hy with hy | hy
    · exact (hold x P hP y hy).1
    · cases List.mem_singleton.mp hy; exact ⟨B', by rw [ebat]; exact upd_same .., hB'⟩
  · exact (hold x X hx y hy).1
  · rw [hpipe]
    refine List.nodup_append.mpr ⟨hI.pipeNodup x P hP, List.pairwise_singleton _ _, fun y hy z hz => ?_⟩
    cases List.mem_singleton.mp hz; exact (hold x P hP y hy).2
  · exact hI.pipeNodup x X hx

/-- `add`: the new message carries the counter, which is above every stamp there is; its batch is the last of its pipeline
and in no other -/
theorem seq_add (hI : InvOrd s) {pw b : Nat} {P : PW} {B : Batch} {m : BMsg}
    (hP : s.pws pw = some P) (hB : s.batches b = some B) (hc : P.curr = some b) (hpend : P.pending = none)
    (hBpw : B.pw = pw) (hm : m.seq = s.seq)
    (epws : s'.pws = s.pws) (ebat : s'.batches = upd s.batches b (some (B.push m))) (elog : s'.log = s.log) :
    OrdSeq s' := by
  have hpipe : P.pipe = (P.sender.batch?.toList ++ P.queue) ++ [b] := by simp [PW.pipe, hc, hpend]
  have hmem' : ∀ y Y', s'.batches y = some Y' → ∀ x ∈ Y'.msgs,
      (∃ Y, s.batches y = some Y ∧ x ∈ Y.msgs) ∨ x = m := by
    intro y Y' hy x hx
    rw [ebat] at hy
    rcases upd_some_elim hy with ⟨rfl, rfl⟩ | ⟨-, hy⟩
    · exact (List.mem_append.mp hx).imp (fun h => ⟨B, hB, h⟩) List.mem_singleton.mp
    · exact Or.inl ⟨Y', hy, hx⟩
  -- a batch other than `b` stays in order with whatever came after it: the new message is younger than all of it
  have hSB : ∀ y z, y ≠ b → SeqBefore s.batches y z → SeqBefore s'.batches y z := by
    intro y z hyb hr Y Z' hy hz a ha c hc'
    rw [ebat, upd_other _ _ _ _ hyb] at hy
    rcases hmem' z Z' hz c hc' with ⟨Z, hZ, hcz⟩ | rfl
    · exact hr Y Z hy hZ a ha c hcz
    · rw [hm]; exact hI.counterB y Y hy a ha
  refine ⟨fun x X hx => ?_, fun x X hx e he y hy Y' hY' a ha => ?_, fun tp => by rw [elog]; exact hI.logOrd tp⟩ <;>
    rw [epws] at hx
  · have hps := hI.pipeSeq x X hx
    by_cases hxpw : x = pw
    · subst hxpw; cases hP.symm.trans hx
      have hfront : ∀ y ∈ P.sender.batch?.toList ++ P.queue, y ≠ b := by
        have := hI.pipeNodup x P hP
        rw [hpipe] at this
        exact fun y hy e => (List.nodup_append.mp this).2.2 y hy b (List.mem_singleton.mpr rfl) e
      rw [hpipe] at hps ⊢
      obtain ⟨h1, -, h3⟩ := List.pairwise_append.mp hps
      exact List.pairwise_append.mpr ⟨h1.imp_of_mem fun hy _ hr => hSB _ _ (hfront _ hy) hr, List.pairwise_singleton _ _,
        fun y hy z hz => hSB y z (hfront y hy) (h3 y hy z hz)⟩
    · exact hps.imp_of_mem fun hy _ hr => hSB _ _ (fun e => hI.pipe_only hB hBpw hx hxpw (e ▸ hy)) hr
  · rw [elog] at he
    rcases hmem' y Y' hY' a ha with ⟨Y, hY, haY⟩ | rfl
    · exact hI.logSeq x X hx e he y hy Y hY a haY
    · left; rw [hm]; exact hI.counterL X.tp e he

/-- the applied `produce`: the batch the sender holds, the head of the pipeline, is copied to the end of the log -/
theorem seq_produce (hI : InvOrd s) {pw b k : Nat} {P : PW} {B : Batch} {tp : TP} {out : BrOut}
    (hP : s.pws pw = some P) (hB : s.batches b = some B) (hsend : P.sender = .attempting b k none) (hPtp : P.tp = tp)
    (epws : s'.pws = upd s.pws pw (some { P with sender := .attempting b k (some out) }))
    (ebat : s'.batches = upd s.batches b (some (B.noteProduce out)))
    (elog : s'.log = upd s.log tp (s.log tp ++ mkEntries pw b B)) : OrdSeq s' := by
  have hhead : P.pipe = b :: (P.queue ++ P.pending.toList ++ P.curr.toList) := by
    simp [PW.pipe, hsend, Sender.batch?]
  have hb : MapRel (fun _ => False) ShrinkBat s.batches s'.batches := ebat ▸ .upd ShrinkBat.refl hB ⟨rfl, rfl⟩
  have hpws : MapRel (fun _ => False) (fun X X' : PW => X'.tp = X.tp ∧ X'.pipe = X.pipe) s.pws s'.pws := by
    rw [epws]; exact .upd (fun _ => ⟨rfl, rfl⟩) hP ⟨rfl, pipe_sender P (by rw [hsend]; rfl)⟩
  obtain ⟨hlogtp, hlogne⟩ := log_after_append elog
  have hent : ∀ x ∈ mkEntries pw b B, ∃ m ∈ B.msgs, x.seq = m.seq ∧ x.batch = b := by
    intro x hx
    obtain ⟨m, hm, rfl⟩ := List.mem_map.mp hx
    exact ⟨m, hm, rfl, rfl⟩
  have hSB : ∀ y z, SeqBefore s.batches y z → SeqBefore s'.batches y z := by
    intro y z hr B1' B2' h1 h2 m hm m' hm'
    obtain ⟨B1, hB1, e1, -⟩ := hb.old _ _ h1
    obtain ⟨B2, hB2, e2, -⟩ := hb.old _ _ h2
    exact hr B1 B2 hB1 hB2 m (e1 ▸ hm) m' (e2 ▸ hm')
  refine ⟨fun x X' hx => ?_, fun x X' hx e he y hy Y' hY' a ha => ?_, fun t => ?_⟩
  · obtain ⟨X, hX, -, epipe⟩ := hpws.old _ _ hx
    rw [epipe]; exact (hI.pipeSeq x X hX).imp (hSB _ _)
  · obtain ⟨X, hX, etp, epipe⟩ := hpws.old _ _ hx
    obtain ⟨Y, hY, emsgs, -⟩ := hb.old _ _ hY'
    rw [epipe] at hy; rw [emsgs] at ha; rw [etp] at he
    by_cases ht : X.tp = tp
    · -- then x is the producing partition writer
      have hxpw : x = pw := by
        have h1 := hI.uniq x X hX
        have h2 := hI.uniq pw P hP
        rw [ht] at h1; rw [hPtp] at h2; rw [h1] at h2; cases h2; rfl
      subst hxpw; cases hP.symm.trans hX
      rw [ht, hlogtp] at he
      rcases List.mem_append.mp he with he | he
      · exact hI.logSeq x P hP e (ht ▸ he) y hy Y hY a ha
      · -- an entry of the copy: the same batch, or a batch behind the head of the pipeline
        obtain ⟨m0, hm0, es, eb⟩ := hent e he
        by_cases hyb : y = b
        · right; rw [eb, hyb]
        · left
          have hps := hI.pipeSeq x P hP
          rw [hhead] at hps hy
          rw [es]
          exact (List.pairwise_cons.mp hps).1 y ((List.mem_cons.mp hy).resolve_left hyb) B Y hB hY m0 hm0 a ha
    · rw [hlogne _ ht] at he
      exact hI.logSeq x X hX e he y hy Y hY a ha
  · by_cases ht : t = tp
    · subst ht; rw [hlogtp]
      refine List.pairwise_append.mpr ⟨hI.logOrd t, ?_, ?_⟩
      · exact List.Pairwise.map _ (fun m m' h => Or.inl h) (hI.sorted b B hB)
      · intro x hx y hy
        obtain ⟨m0, hm0, es, eb⟩ := hent y hy
        rcases hI.logSeq pw P hP x (hPtp ▸ hx) b (by rw [hhead]; exact List.mem_cons_self ..) B hB m0 hm0 with h | h
        · left; rw [es]; exact h
        · right; rw [eb]; exact h
    · rw [hlogne t ht]; exact hI.logOrd t

end InvOrd

theorem invOrd_step {cfg : Cfg} {s s' : State} {e : Event} (hI : InvOrd s) (h : Step cfg s e s') : InvOrd s' := by
  induction h with
  | detach hP hB hg =>
    exact hI.of_shrink (fun _ _ _ => rfl) rfl rfl (.upd ShrinkPW.refl hP ⟨rfl, pipe_detach hg.curr hg.pending ▸ .refl _⟩)
      (.upd ShrinkBat.refl hB ⟨rfl, rfl⟩)
  | qput hq hP hg =>
    exact hI.of_shrink (fun _ _ _ => rfl) rfl rfl (.upd ShrinkPW.refl hP ⟨rfl, pipe_qput hg.pending hg.curr⟩)
      (.refl ShrinkBat.refl)
  | qgetSome hq hP hg =>
    exact hI.of_shrink (fun _ _ _ => rfl) rfl rfl (.upd ShrinkPW.refl hP ⟨rfl, pipe_qget hg.idle hg.head ▸ .refl _⟩)
      (.refl ShrinkBat.refl)
  | qgetNone _ hP hg =>
    exact hI.of_shrink (fun _ _ _ => rfl) rfl rfl
      (.upd ShrinkPW.refl hP (.sender _ (by rw [hg.idle]; rfl))) (.refl ShrinkBat.refl)
  | attempt hP hg =>
    exact hI.of_shrink (fun _ _ _ => rfl) rfl rfl
      (.upd ShrinkPW.refl hP (.sender _ (by rw [hg.ready]; rfl))) (.refl ShrinkBat.refl)
  | qclose hq hP hg =>
    exact hI.of_shrink (fun _ _ _ => rfl) rfl rfl (.upd ShrinkPW.refl hP ⟨rfl, .refl _⟩) (.refl ShrinkBat.refl)
  | timerFire hP hB hg =>
    exact hI.of_shrink (fun _ _ _ => rfl) rfl rfl (.refl ShrinkPW.refl) (.upd ShrinkBat.refl hB ⟨rfl, rfl⟩)
  | attemptDone hP hsend hg =>
    exact hI.of_shrink (fun _ _ _ => rfl) rfl rfl
      (.upd ShrinkPW.refl hP (.sender _ (by rw [afterAttempt_batch, hsend]; rfl))) (.refl ShrinkBat.refl)
  | completion hP hB hg =>
    exact hI.of_shrink (fun _ _ _ => rfl) rfl rfl
      (.upd ShrinkPW.refl hP (.sender _ (by rw [hg.sender]; rfl))) (.upd ShrinkBat.refl hB ⟨rfl, rfl⟩)
  | complete hP hB hg =>
    exact hI.of_shrink (fun _ _ _ => rfl) rfl rfl
      (.upd ShrinkPW.refl hP ⟨rfl, pipe_complete hg ▸ List.sublist_cons_self ..⟩) (.upd ShrinkBat.refl hB ⟨rfl, rfl⟩)
  | @newPW pw q tp hg =>
    have h1 : s.pwOf tp = none := Option.isNone_iff_eq_none.mp hg.tpFree
    refine hI.of_shrink (fun x X hX => upd_other _ _ _ _ ?_) rfl rfl
      (.new ShrinkPW.refl (Option.isNone_iff_eq_none.mp hg.pwFree) ⟨rfl, fun x h0 hx => ?_⟩) (.refl ShrinkBat.refl)
    · -- an existing partition writer has an index entry, so its topic-partition is not the new one
      intro e
      have := hI.uniq x X hX
      rw [e, h1] at this; cases this
    · -- the only key that was free and is in use now is `pw`, and the index has it under the new writer's topic-partition
      rcases upd_some_elim hx with ⟨rfl, -⟩ | ⟨-, hx⟩
      · exact upd_same ..
      · rw [h0] at hx; cases hx
  | @newBatch pw b P hP hg =>
    have hnone : s.batches b = none := Option.isNone_iff_eq_none.mp hg.free
    have hpipe := pipe_newBatch (b := b) (n := P.nbatches + 1) hg.curr hg.pending
    exact .of_parts ⟨forall_upd _ _ _ hI.counterB nofun, hI.counterL, forall_upd _ _ _ hI.sorted .nil⟩
      (hI.pipes_newBatch (P' := { P with curr := some b, nbatches := P.nbatches + 1 }) hP rfl hpipe hnone rfl rfl rfl rfl)
      (hI.seq_frame rfl (.upd (GrowPW.refl _) hP ⟨rfl, [b], hpipe ▸ .refl _, fun y hy B' hB' => by
        cases List.mem_singleton.mp hy; cases (upd_same ..).symm.trans hB'; rfl⟩) (.new ShrinkBat.refl hnone rfl))
  | @add pw b c i size P B C hP hB hC hg =>
    refine .of_parts ⟨?_, fun tp x hx => Nat.lt_succ_of_lt (hI.counterL tp x hx), ?_⟩
      (hI.pipes_frame (fun _ _ _ => rfl) (.refl ShrinkPW.refl) (.upd OwnerKept.refl hB rfl))
      (hI.seq_add hP hB hg.curr hg.pending hg.owner rfl rfl rfl rfl)
    · -- the new message carries the old counter
      refine forall_upd _ _ _ (fun x X hX a ha => Nat.lt_succ_of_lt (hI.counterB x X hX a ha)) fun a ha => ?_
      rcases List.mem_append.mp ha with ha | ha
      · exact Nat.lt_succ_of_lt (hI.counterB b B hB a ha)
      · cases List.mem_singleton.mp ha; exact Nat.lt_succ_self _
    · refine forall_upd _ _ _ hI.sorted (List.pairwise_append.mpr ⟨hI.sorted b B hB, List.pairwise_singleton _ _, ?_⟩)
      intro a ha c hc'
      cases List.mem_singleton.mp hc'; exact hI.counterB b B hB a ha
  | @produce pw b k tp _ out P B hP hsend hB hg =>
    by_cases happ : out.applied = true
    · refine .of_parts ⟨forall_upd _ _ _ hI.counterB (hI.counterB b B hB), fun t x hx => ?_,
          forall_upd _ _ _ hI.sorted (hI.sorted b B hB)⟩
        (hI.pipes_frame (fun _ _ _ => rfl) (.upd ShrinkPW.refl hP (.sender _ (by rw [hsend]; rfl)))
          (.upd OwnerKept.refl hB rfl))
        (hI.seq_produce hP hB hsend hg.pwTp rfl rfl (produced_log_applied happ))
      -- an entry of the copy carries the stamp of a message of the batch
      rcases mem_produced_log.mp hx with h | ⟨-, -, h⟩
      · exact hI.counterL t x h
      · obtain ⟨m, hm, rfl⟩ := List.mem_map.mp h
        exact hI.counterB b B hB m hm
    · exact hI.of_shrink (fun _ _ _ => rfl) rfl (produced_log_unapplied happ)
        (.upd ShrinkPW.refl hP (.sender _ (by rw [hsend]; rfl))) (.upd ShrinkBat.refl hB ⟨rfl, rfl⟩)
  | _ => exact hI.of_shrink (fun _ _ _ => rfl) rfl rfl (.refl ShrinkPW.refl) (.refl ShrinkBat.refl)

theorem invOrd (cfg : Cfg) : ∀ s, Reachable cfg s → InvOrd s :=
  Reachable.step_induction invOrd_init fun _ _ _ _ hI h => invOrd_step hI h

end KV.Writer
