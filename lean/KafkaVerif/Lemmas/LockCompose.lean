/-
Lemmas/LockCompose.lean — from per-goroutine runs of program skeletons (Model/LockProg.lean) to the global
executions of Model/Lockset.lean.

The events of a run are a function of their shapes and the lockset at the start (`run_annot`), so an access records what
the events before it replay to (`acc_replay`), and that is really held (`replay_held`); together: `sim`.  The file starts
with what `C10.Conforms` and the hypotheses of Props/C10.lean §5 are stated with (down to `AsmOk`).
-/
import KafkaVerif.Lemmas.Lockset
import KafkaVerif.Lemmas.LockProg

namespace KV.LockProg
open KV.Lockset

/-- a local event without the lockset recorded at an access: what a global event can be compared with -/
inductive LSh where
  | acq (x : Hold) | asm (x : Hold) | rel (m : Mutex) | acc (k : Nat)
deriving DecidableEq, Repr

def shapeOf : LEv → LSh
  | .acq x => .acq x
  | .asm x => .asm x
  | .rel m => .rel m
  | .acc k _ => .acc k

/-- What a global event of goroutine `t` looks like in its own run.  Lock is an exclusive and a shared hold, as the
    skeletons are written: a table row recorded `shared` (some paths hold RLock, others Lock) is then found by plain
    membership (`Sub`) on the paths that hold the mutex exclusively.  A release of `m` in either mode ends every hold of
    `m` the run records (`dropM`): the recorded lockset only has to stay below what is really held (`sim`). -/
def locShape : Ev → List LSh
  | .acq _ m .excl => [.acq ⟨m, .excl⟩, .acq ⟨m, .shared⟩]
  | .acq _ m .shared => [.acq ⟨m, .shared⟩]
  | .rel _ m _ => [.rel m]
  | .acc _ a => [.acc a.site]
  | .assume _ m _ => [.asm ⟨m, .excl⟩, .asm ⟨m, .shared⟩]
  | _ => []

/-- the events of goroutine `t` in a global execution, as they look in its own run -/
def projT (t : Tid) (es : List Ev) : List LSh := es.flatMap fun e => if e.tid = t then locShape e else []

/-- annotations hold: wherever goroutine `t` is marked as assumed to hold a mutex, it does — exclusively, whatever mode
    the marker carries: the skeletons write an annotation like `Lock`, as an exclusive and a shared assumed hold
    (`locShape`) -/
def AsmOk (t : Tid) (s : LState) (es : List Ev) : Prop :=
  ∀ j m md s', es[j]? = some (.assume t m md) → runL s (es.take j) = some s' → holdsIn s' t ⟨m, .excl⟩

theorem projT_cons (t : Tid) (e : Ev) (es : List Ev) :
    projT t (e :: es) = (if e.tid = t then locShape e else []) ++ projT t es := rfl

/-- `HoldsAtLeast` of Model/Lockset.lean on a lock state: `x` is held in its mode or, if that is `shared`, exclusively -/
def holdsAL (s : LState) (t : Tid) (x : Hold) : Prop :=
  holdsIn s t x ∨ (x.mode = .shared ∧ holdsIn s t ⟨x.m, .excl⟩)

theorem holdsAtLeast_of_holdsAL {tr : List Ev} {i : Nat} {s : LState} {t : Tid} {x : Hold}
    (hr : runL LState.init (tr.take i) = some s) (h : holdsAL s t x) : HoldsAtLeast tr i t x :=
  h.imp (fun h1 => ⟨s, hr, h1⟩) (fun ⟨hm, h2⟩ => ⟨hm, s, hr, h2⟩)

theorem holdsAL_kept {s s' : LState} {e : Ev} {t : Tid} {x : Hold} (h : stepL s e = some s')
    (hh : holdsAL s t x) (hne : ∀ md, e ≠ .rel t x.m md) : holdsAL s' t x := by
  rcases hh with hh | ⟨hm, hh⟩
  · exact Or.inl (hold_kept (m := x.m) (mode := x.mode) h hh (hne x.mode))
  · exact Or.inr ⟨hm, hold_kept h hh (hne .excl)⟩

theorem asmOk_tail {t : Tid} {s s' : LState} {e : Ev} {es : List Ev} (hs : stepL s e = some s')
    (h : AsmOk t s (e :: es)) : AsmOk t s' es := by
  intro j m md s'' hj hr
  exact h (j + 1) m md s'' (by simpa using hj) (runL_cons.2 ⟨s', hs, hr⟩)

/-- what a local event does to the lockset of its goroutine (as the atom rules of `Run` do) -/
def applySh (H : LS) : LSh → LS
  | .acq x => x :: H
  | .asm x => x :: H
  | .rel m => dropM m H
  | .acc _ => H

/-- the lockset that the local events `p` replay to, from `H` -/
def replay (H : LS) (p : List LSh) : LS := p.foldl applySh H

theorem replay_append (H : LS) (p q : List LSh) : replay H (p ++ q) = replay (replay H p) q := List.foldl_append

/-- the local event of shape `x` performed with `H` held: an access records `H` -/
def evOf (H : LS) : LSh → LEv
  | .acq x => .acq x
  | .asm x => .asm x
  | .rel m => .rel m
  | .acc k => .acc k H

/-- the events of a goroutine that performs the shapes `p` starting with `H` held -/
def annot : LS → List LSh → List LEv
  | _, [] => []
  | H, x :: p => evOf H x :: annot (applySh H x) p

-- `(ms.map LEv.rel).map shapeOf` is what `List.map_append` leaves of the events of a call in `run_annot`
theorem annot_rels (ms : List Mutex) (H : LS) (rest : List LSh) :
    annot H ((ms.map LEv.rel).map shapeOf ++ rest) = ms.map .rel ++ annot (dropAll ms H) rest := by
  induction ms generalizing H with
  | nil => rw [show dropAll [] H = H by simp [dropAll]]; rfl
  | cons m ms ih => rw [dropAll_cons]; exact congrArg (LEv.rel m :: ·) (ih (dropM m H))

/-- `rest` is a continuation, so that the sequential rules compose by rewriting; `rest := []` gives
    `annot h (evs.map shapeOf) = evs`. -/
theorem run_annot {env : Nat → Option Cmd} {c : Cmd} {h h' : LS} {evs : List LEv} {t : Out}
    (hrun : Run env c h evs h' t) : ∀ rest, annot h (evs.map shapeOf ++ rest) = evs ++ annot h' rest := by
  induction hrun with
  | skip | dfr | ret | jump | loop0 | spawn | acq | asm | rel | acc => intro rest; rfl
  | blockN _ ih | blockR _ ih | block0 _ ih | blockS _ ih | altL _ ih | altR _ ih => exact ih
  | seqX _ _ ih | loopX _ _ ih => exact ih
  | seqN _ _ ih₁ ih₂ | loopS _ _ ih₁ ih₂ =>
    intro rest; rw [List.map_append, List.append_assoc, ih₁, ih₂, List.append_assoc]
  | icall _ _ _ ih | call _ _ ih =>
    intro rest; rw [List.map_append, List.append_assoc, ih, annot_rels, List.append_assoc]

theorem annot_append (H : LS) (p q : List LSh) : annot H (p ++ q) = annot H p ++ annot (replay H p) q := by
  induction p generalizing H with
  | nil => rfl
  | cons x p ih => exact congrArg (evOf H x :: ·) (ih _)

theorem acc_replay {k : Nat} {p sh : List LSh} {H : LS} (hp : p ++ [.acc k] <+: sh) :
    LEv.acc k (replay H p) ∈ annot H sh := by
  obtain ⟨q, rfl⟩ := hp
  rw [List.append_assoc, annot_append]
  exact List.mem_append_right _ List.mem_cons_self

theorem held_step (t : Tid) {s s' : LState} {e : Ev} {H : LS} (hs : stepL s e = some s')
    (hH : ∀ x, x ∈ H → holdsAL s t x) (hasm : ∀ m md, e = .assume t m md → holdsIn s t ⟨m, .excl⟩) :
    ∀ x, x ∈ replay H (if e.tid = t then locShape e else []) → holdsAL s' t x := by
  have keep : ∀ x, x ∈ H → (∀ md, e ≠ .rel t x.m md) → holdsAL s' t x := fun x hx => holdsAL_kept hs (hH x hx)
  by_cases het : e.tid = t
  case neg =>
    -- an event of another goroutine cannot take away what `t` holds
    rw [if_neg het]
    exact fun x hx => keep x hx fun md he => het (by rw [he]; rfl)
  rw [if_pos het]
  cases e with
  | acq t' m mode =>
    obtain rfl : t' = t := het
    have old : ∀ x, x ∈ H → holdsAL s' _ x := fun x hx => keep x hx (fun md he => by cases he)
    cases mode with
    | excl =>
      exact List.forall_mem_cons.2 ⟨Or.inr ⟨rfl, acq_holds hs⟩, List.forall_mem_cons.2 ⟨Or.inl (acq_holds hs), old⟩⟩
    | shared => exact List.forall_mem_cons.2 ⟨Or.inl (acq_holds hs), old⟩
  | rel t' m mode =>
    obtain rfl : t' = t := het
    intro x hx
    obtain ⟨hx, hne⟩ := mem_dropM.1 hx
    exact keep x hx (fun md he => by cases he; exact hne rfl)
  | assume t' m mode =>
    obtain rfl : t' = t := het
    cases stepL_eq_self hs nofun nofun
    exact List.forall_mem_cons.2 ⟨Or.inr ⟨rfl, hasm m mode rfl⟩, List.forall_mem_cons.2 ⟨Or.inl (hasm m mode rfl), hH⟩⟩
  | acc | spawn | signal | wait => cases stepL_eq_self hs nofun nofun; exact hH

theorem replay_held (t : Tid) {es : List Ev} : ∀ {s s' : LState} {H : LS}, runL s es = some s' →
    (∀ x, x ∈ H → holdsAL s t x) → AsmOk t s es → ∀ x, x ∈ replay H (projT t es) → holdsAL s' t x := by
  induction es with
  | nil => intro s s' H h hH _; cases h; exact hH
  | cons e es ih =>
    intro s s' H h hH hasm
    obtain ⟨s₁, hs, h⟩ := runL_cons.1 h
    rw [projT_cons, replay_append]
    exact ih h (held_step t hs hH fun m md he => hasm 0 m md s (by rw [he]; rfl) rfl) (asmOk_tail hs hasm)

theorem asmOk_take {t : Tid} {s : LState} {es : List Ev} (h : AsmOk t s es) (n : Nat) : AsmOk t s (es.take n) := by
  intro j m md s' hj hr
  rw [List.getElem?_take] at hj
  split at hj
  case isFalse => cases hj
  rw [List.take_take, Nat.min_eq_left (Nat.le_of_lt ‹_›)] at hr
  exact h j m md s' hj hr

theorem projT_take_succ (t : Tid) {es : List Ev} {j : Nat} {e : Ev} (hj : es[j]? = some e) :
    projT t (es.take j) ++ (if e.tid = t then locShape e else []) <+: projT t es := by
  have hlt : j < es.length := (List.getElem?_eq_some_iff.1 hj).1
  have he : es[j] = e := (List.getElem?_eq_some_iff.1 hj).2
  conv => rhs; rw [← List.take_append_drop j es, List.drop_eq_getElem_cons hlt, he]
  unfold projT
  rw [List.flatMap_append, List.flatMap_cons, ← List.append_assoc]
  exact List.prefix_append _ _

/-- **Simulation.**  In a well-formed execution whose `t`-events are a prefix of the shapes of the events `L` of a run
    from `[]` and whose annotations hold (`AsmOk`): at every access of `t` the lockset the run records is held in the global
    lock state (`holdsAL`: a shared hold also by holding exclusively). -/
theorem sim (t : Tid) {tr : List Ev} (hwf : WF tr) {env : Nat → Option Cmd} {c : Cmd} {L : List LEv} {h' : LS} {o : Out}
    (hrun : Run env c [] L h' o)
    (hpre : projT t tr <+: L.map shapeOf) (hasm : AsmOk t LState.init tr) {j : Nat} {a : Access}
    (hj : tr[j]? = some (.acc t a)) :
    ∃ sj hk, runL LState.init (tr.take j) = some sj ∧ LEv.acc a.site hk ∈ L ∧ ∀ x, x ∈ hk → holdsAL sj t x := by
  obtain ⟨sj, hsj⟩ := wf_take hwf j
  have hp := (projT_take_succ t hj).trans hpre
  rw [if_pos (show (Ev.acc t a).tid = t from rfl)] at hp
  have hL : annot [] (L.map shapeOf) = L := by simpa [annot] using run_annot hrun []
  exact ⟨sj, _, hsj, hL ▸ acc_replay hp,
    replay_held t hsj (fun x hx => absurd hx List.not_mem_nil) (asmOk_take hasm j)⟩

end KV.LockProg
