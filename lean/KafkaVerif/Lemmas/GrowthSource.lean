/-
Lemmas/GrowthSource.lean — the allocation policies of the source tree (Gen/DecoderCfg.lean: `decodeElems` and
`(*decoder).read` of protocol/decode.go, symbolically executed by go/extract/decodercfg) satisfy `Growth.Policy.Ok`.
-/
import KafkaVerif.Model.Growth
import KafkaVerif.Gen.DecoderCfg

namespace KV.GrowthSource
open KV.Growth

def arrayPolicy : Policy := ⟨KV.Gen.arrayInit, KV.Gen.arrayGrow⟩
def readPolicy : Policy := ⟨KV.Gen.readInit, KV.Gen.readGrow⟩

theorem arrayPolicy_ok : arrayPolicy.Ok KV.Gen.arrayChunk := by
  constructor <;> intros <;> simp only [arrayPolicy, KV.Gen.arrayInit, KV.Gen.arrayGrow, KV.Gen.arrayChunk] <;>
    (repeat' split) <;> omega

theorem readPolicy_ok : readPolicy.Ok KV.Gen.readChunk := by
  constructor <;> intros <;> simp only [readPolicy, KV.Gen.readInit, KV.Gen.readGrow, KV.Gen.readChunk] <;>
    (repeat' split) <;> omega

end KV.GrowthSource
