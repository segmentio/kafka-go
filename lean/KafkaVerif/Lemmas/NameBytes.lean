/-
Lemmas/NameBytes.lean — the name test `inheritOk` of Model/LockProg.lean, read off the UTF-8 bytes of the name.

`inheritOk` asks three things of the characters of a name: is one of them `$`, where is the last `.`, and is the
character after it one of `A`–`Z`.  All three are below 128, and every byte of a multi-byte UTF-8 sequence is ≥ 128, so
the same questions can be put to the bytes, for every string.  The point: `String.toList` of a literal is a UTF-8
decoding loop, which the kernel evaluates very slowly, whereas the bytes of a literal are a `flatMap` over its characters.
-/
import KafkaVerif.Model.LockProg

namespace KV.LockProg

/-- Of the last `dot`-separated segment of a list: `up` of its first element (`none` if the segment is empty);
    `st` is that answer for the segment read so far. -/
def segHead {α : Type} (dot up : α → Bool) : Option Bool → List α → Option Bool
  | st, [] => st
  | st, x :: xs => segHead dot up (if dot x then none else st.or (some (up x))) xs

def dotC (c : Char) : Bool := decide (c = '.')
def upC (c : Char) : Bool := decide (65 ≤ c.toNat) && decide (c.toNat ≤ 90)

def dotB (b : UInt8) : Bool := decide (b.toNat = 46)
def upB (b : UInt8) : Bool := decide (65 ≤ b.toNat) && decide (b.toNat ≤ 90)
def dolB (b : UInt8) : Bool := decide (b.toNat = 36)

def inheritOkBytes (bs : List UInt8) : Bool :=
  bs.any dolB || (match segHead dotB upB none bs with | some u => !u | none => false)

/-- `lastSeg` accumulates the current segment reversed, so the first character of the segment is `acc.getLast?` -/
theorem lastSeg_head (cs acc : List Char) :
    (lastSeg cs acc).head?.map upC = segHead dotC upC (acc.getLast?.map upC) cs := by
  induction cs generalizing acc with
  | nil => simp [lastSeg, segHead, List.head?_reverse]
  | cons c cs ih =>
    unfold lastSeg segHead
    by_cases hc : c = '.'
    · simp [hc, dotC, ih]
    · rw [if_neg hc, ih, List.getLast?_cons]
      cases acc.getLast? <;> simp [dotC, hc]

/-- a character below 128 is encoded as the one byte with its code; any other as bytes that are all ≥ 128
    (read off the body of core's `String.utf8EncodeChar`, which the proof unfolds) -/
theorem utf8EncodeChar_cases (c : Char) :
    (c.toNat ≤ 127 ∧ ∃ b : UInt8, String.utf8EncodeChar c = [b] ∧ b.toNat = c.toNat) ∨
    (127 < c.toNat ∧ String.utf8EncodeChar c ≠ [] ∧ ∀ b ∈ String.utf8EncodeChar c, 128 ≤ b.toNat) := by
  by_cases h : c.toNat ≤ 127
  · exact .inl ⟨h, UInt8.ofNat c.toNat, if_pos h, by rw [UInt8.toNat_ofNat']; omega⟩
  · refine .inr ⟨by omega, String.utf8EncodeChar_ne_nil, ?_⟩
    -- every byte of a multi-byte encoding is `UInt8.ofNat (x % k + off)` with `128 ≤ off` and `k + off ≤ 256`
    have key : ∀ x k off : Nat, 128 ≤ off ∧ k + off ≤ 256 ∧ 0 < k → 128 ≤ (UInt8.ofNat (x % k + off)).toNat := by
      intro x k off ⟨h1, h2, h3⟩
      have := Nat.mod_lt x h3
      rw [UInt8.toNat_ofNat']; omega
    have h' : ¬ c.val.toNat ≤ 127 := h
    simp only [String.utf8EncodeChar, if_neg h']
    split
    · simp only [List.forall_mem_cons]
      exact ⟨key _ _ _ (by decide), key _ _ _ (by decide), nofun⟩
    split
    · simp only [List.forall_mem_cons]
      exact ⟨key _ _ _ (by decide), key _ _ _ (by decide), key _ _ _ (by decide), nofun⟩
    · simp only [List.forall_mem_cons]
      exact ⟨key _ _ _ (by decide), key _ _ _ (by decide), key _ _ _ (by decide), key _ _ _ (by decide), nofun⟩

theorem segHead_plain {α : Type} {dot up : α → Bool} {xs : List α} (hne : xs ≠ [])
    (hx : ∀ x ∈ xs, dot x = false ∧ up x = false) (st : Option Bool) (rest : List α) :
    segHead dot up st (xs ++ rest) = segHead dot up (st.or (some false)) rest := by
  induction xs generalizing st with
  | nil => exact absurd rfl hne
  | cons x xs ih =>
    obtain ⟨hd, hu⟩ := hx x List.mem_cons_self
    simp only [List.cons_append, segHead, hd, hu, Bool.false_eq_true, if_false]
    cases xs with
    | nil => rfl
    | cons y ys =>
      rw [ih (List.cons_ne_nil _ _) (fun z hz => hx z (List.mem_cons_of_mem _ hz)), Option.or_assoc]
      rfl

theorem decide_char_eq (c d : Char) : decide (c = d) = decide (c.toNat = d.toNat) :=
  decide_eq_decide.2 Char.toNat_inj.symm

theorem segHead_encode (c : Char) (st : Option Bool) (rest : List UInt8) :
    segHead dotB upB st (String.utf8EncodeChar c ++ rest) =
      segHead dotB upB (if dotC c then none else st.or (some (upC c))) rest := by
  have hdot : dotC c = decide (c.toNat = 46) := decide_char_eq c '.'
  rcases utf8EncodeChar_cases c with ⟨_, b, hb, hbc⟩ | ⟨hc, hne, hhi⟩
  · rw [hb, hdot]
    simp only [List.cons_append, List.nil_append, segHead, dotB, upB, upC, hbc]
  · have hd : dotC c = false := by rw [hdot]; simp; omega
    have hu : upC c = false := by simp [upC]; omega
    rw [segHead_plain hne (fun b hb => ?_), hd, hu]; rfl
    have := hhi b hb
    constructor
    · simp [dotB]; omega
    · simp [upB]; omega

theorem segHead_bytes (cs : List Char) (st : Option Bool) :
    segHead dotB upB st (cs.flatMap String.utf8EncodeChar) = segHead dotC upC st cs := by
  induction cs generalizing st with
  | nil => rfl
  | cons c cs ih => rw [List.flatMap_cons, segHead_encode, ih]; rfl

theorem any_dolB_encode (c : Char) : (String.utf8EncodeChar c).any dolB = ('$' == c) := by
  show _ = decide ('$' = c)
  rw [decide_char_eq]
  rcases utf8EncodeChar_cases c with ⟨_, b, hb, hbc⟩ | ⟨hc, _, hhi⟩
  · simp only [hb, List.any_cons, List.any_nil, Bool.or_false, dolB, hbc]
    exact decide_eq_decide.2 eq_comm
  · have h1 : decide ('$'.toNat = c.toNat) = false := decide_eq_false (by show 36 ≠ c.toNat; omega)
    rw [h1, List.any_eq_false]
    intro b hb
    have := hhi b hb
    simp [dolB]; omega

theorem any_dolB_bytes (cs : List Char) : (cs.flatMap String.utf8EncodeChar).any dolB = cs.contains '$' := by
  induction cs with
  | nil => rfl
  | cons c cs ih => rw [List.flatMap_cons, List.any_append, any_dolB_encode, ih, List.contains_cons]

theorem bytes_eq_flatMap (s : String) : s.toByteArray.data.toList = s.toList.flatMap String.utf8EncodeChar := by
  rw [← String.utf8Encode_toList, List.utf8Encode, List.toList_data_toByteArray]

theorem inheritOk_eq_bytes (s : String) : inheritOk s = inheritOkBytes s.toByteArray.data.toList := by
  have h : (lastSeg s.toList []).head?.map upC = segHead dotC upC none s.toList := lastSeg_head s.toList []
  show (s.toList.contains '$' || _) = _
  unfold inheritOkBytes
  rw [bytes_eq_flatMap, any_dolB_bytes, segHead_bytes, ← h]
  cases lastSeg s.toList [] <;> rfl

def entryRootsOkBytes (names : List String) (entry : Trie LS) : Bool :=
  (names.zipIdx).all fun p => (getLS entry p.2).isEmpty || inheritOkBytes p.1.toByteArray.data.toList

theorem entryRootsOkB_eq_bytes (names : List String) (entry : Trie LS) :
    entryRootsOkB names entry = entryRootsOkBytes names entry := by
  unfold entryRootsOkB entryRootsOkBytes
  simp only [inheritOk_eq_bytes]

end KV.LockProg
