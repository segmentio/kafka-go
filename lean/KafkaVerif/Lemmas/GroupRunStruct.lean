/-
Lemmas/GroupRunStruct.lean — structural invariant of the `run` goroutine's program counter in Model/GroupRun.lean (`Inv3`):
coordinator stage ≤ 2; a generation exists while the pc is inside one; the generation is untouched until its first
internal function is started.
-/
import KafkaVerif.Lemmas.GroupRunStep
namespace KV.Group

/-- a generation no function of which has been started -/
def FreshGen (g : Gen) : Prop :=
  g.closed = false ∧ g.routines = 0 ∧ g.hb = none ∧ g.watchers = [] ∧ g.users = 0 ∧ g.late = 0 ∧ g.returning = 0

structure Inv3 (s : St) : Prop where
  stage : ∀ k lv, s.pc = .coord k lv → k ≤ 2
  hasGen : s.pc.quiet = false → 0 < s.gens
  fresh : s.pc = .starting 0 → FreshGen s.cur

namespace GenStep

theorem not_fresh {p : PC} {g g' : Gen} (h : GenStep p g g') (hp : p = .starting 0) (hg : FreshGen g) : False := by
  obtain ⟨h1, h2, h3, h4, h5, h6, -⟩ := hg
  cases h with
  | startUser hn _ | startLate hn _ => exact hn 0 hp
  | hb _ hx _ _ | hbExit hx _ => rw [h3] at hx; cases hx
  | watch _ hw _ _ | watchExit hw _ => rw [h4] at hw; cases hw
  | fnExit h => simp [Gen.fnExit, h2] at h
  | userRet h => omega
  | lateRet h => omega
  | ctx hc => rw [h1] at hc; cases hc

end GenStep

theorem inv3_init : Inv3 {} :=
  ⟨(fun k lv h => by cases h; decide), (fun h => by cases h), fun h => by cases h⟩

theorem inv3_of_quiet (s : St) (hq : s.pc.quiet = true) (hs : ∀ k lv, s.pc = .coord k lv → k ≤ 2) : Inv3 s :=
  ⟨hs, (fun h => by rw [hq] at h; cases h), (fun h => by rw [h] at hq; cases hq)⟩

theorem inv3_live {s : St} (hg : 0 < s.gens) (hc : ∀ k lv, s.pc ≠ .coord k lv) (hf : s.pc ≠ .starting 0) : Inv3 s :=
  ⟨fun k lv h => absurd h (hc k lv), fun _ => hg, fun h => absurd h hf⟩

theorem afterStart_inner (c : Cfg) (k : Nat) : (∀ j lv, afterStart c k ≠ .coord j lv) ∧ afterStart c k ≠ .starting 0 := by
  rcases afterStart_cases c k with ⟨_, h⟩ | ⟨_, h⟩ <;> rw [h] <;> exact ⟨(fun _ _ h => by cases h), fun h => by cases h⟩

theorem inv3_step (c : Cfg) (s s' : St) (e : Ev) (hi : Inv3 s) (h : step c s e = some s') : Inv3 s' := by
  cases step_effect h with
  | gen _ hg => exact ⟨hi.stage, hi.hasGen, fun hp => (hg.not_fresh hp (hi.fresh hp)).elim⟩
  | env _ _ _ _ _ _ _ => exact ⟨hi.stage, hi.hasGen, hi.fresh⟩
  | startHb hp _ | startWatch hp =>
    obtain ⟨h1, h2⟩ := afterStart_inner c _
    exact inv3_live (hi.hasGen (by rw [hp]; rfl)) h1 h2
  | move hm =>
    cases hm with
    | gNew _ =>
      exact ⟨(fun k lv h => by cases h), fun _ => Nat.succ_pos _, fun _ => ⟨rfl, rfl, rfl, rfl, rfl, rfl, rfl⟩⟩
    | sawCloseHanding hp _ | sawCloseRunning hp _ | handed hp _ | sawGenDone hp _ | gClose hp =>
      exact inv3_live (hi.hasGen (by rw [hp]; rfl)) (fun _ _ h => by cases h) (fun h => by cases h)
    | @connectFail _ lv _ _ _ | @findFail lv _ _ =>
      cases lv with
      | none => exact inv3_of_quiet _ rfl (fun k lv h => by cases h)
      | some a => cases a <;> exact inv3_of_quiet _ rfl (fun k lv h => by cases h)
    | @leaveNone a _ _ | @leaveRes a _ _ => cases a <;> exact inv3_of_quiet _ rfl (fun k lv h => by cases h)
    -- the other arrows end between generations, at a stage `0`, `1` or `2` when inside `coordinator()`
    | _ => exact inv3_of_quiet _ rfl (fun k lv h => by cases h <;> decide)

namespace Inv3

theorem isCur_last {s : St} (hi : Inv3 s) (hq : s.pc.quiet = false) : isCur s (s.gens - 1) = true := by
  have := hi.hasGen hq
  simp [isCur]; omega

end Inv3

theorem inv3_reachable (c : Cfg) (s : St) (h : Reachable c s) : Inv3 s := by
  induction h with
  | init => exact inv3_init
  | step e _ hs ih => exact inv3_step c _ _ e ih hs

end KV.Group
