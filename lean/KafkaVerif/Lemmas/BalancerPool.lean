/-
Lemmas/BalancerPool.lean — the ownership discipline of the hasher in Hash.Balance / ReferenceHash.Balance
(Model/Balancer.lean: `ownedRun`, `Pool`).  `Pool` is `sync.Pool` as the callers of `fnv1aPool` see it; the pool of the codec
wrappers is `Model.Pool` (Model/Pool.lean, Lemmas/Pool.lean), with the same exclusion invariant stated by counting.
-/
import KafkaVerif.Model.Balancer
import KafkaVerif.Base.Run

namespace KV.Balancer

theorem ownedRun_use_held : ∀ (es : List OwnEv) (h d : Bool), ownedRun es h d = true →
    ∀ pre post, es = pre ++ OwnEv.use :: post → holdingAfter pre h = true := by
  intro es
  induction es with
  | nil => intro h d _ pre post he; cases pre <;> simp at he
  | cons e es ih =>
    intro h d hr pre post he
    cases pre with
    | nil =>
      simp only [List.nil_append, List.cons.injEq] at he
      obtain ⟨rfl, _⟩ := he
      simp only [ownedRun, Bool.and_eq_true] at hr
      simpa [holdingAfter] using hr.1
    | cons a pre =>
      simp only [List.cons_append, List.cons.injEq] at he
      obtain ⟨rfl, rfl⟩ := he
      cases e with
      | acquire =>
        simp only [ownedRun, Bool.and_eq_true] at hr
        simpa [holdingAfter] using ih true d hr.2 pre post rfl
      | release =>
        simp only [ownedRun, Bool.and_eq_true] at hr
        simpa [holdingAfter] using ih false d hr.2 pre post rfl
      | deferRelease =>
        simp only [ownedRun, Bool.and_eq_true] at hr
        simpa [holdingAfter] using ih h true hr.2 pre post rfl
      | use =>
        simp only [ownedRun, Bool.and_eq_true] at hr
        simpa [holdingAfter] using ih h d hr.2 pre post rfl

namespace Pool

/-- the shared state: who holds what is exclusive, held objects are not in the pool -/
structure Inv (p : Pool) : Prop where
  excl : ∀ c o c', (c, o) ∈ p.held → (c', o) ∈ p.held → c = c'
  notFree : ∀ c o, (c, o) ∈ p.held → o ∉ p.free
  freeNodup : p.free.Nodup
  bound : ∀ o, (o ∈ p.free ∨ ∃ c, (c, o) ∈ p.held) → o < p.next   -- so that the object `New()` makes is held by nobody

theorem inv_init : Pool.init.Inv :=
  ⟨by simp [Pool.init], by simp [Pool.init], by simp [Pool.init], by simp [Pool.init]⟩

namespace Inv

/-- `Get` hands `o` to `c`: nobody held `o`, and it is not in what remains of the pool (`New()` made it, or it was taken out) -/
theorem acquire {p : Pool} (hi : p.Inv) (c o : Nat) (free' : List Nat) (next' : Nat)
    (hsub : free'.Sublist p.free) (hnext : p.next ≤ next') (ho : o < next')
    (hheld : ∀ c', (c', o) ∉ p.held) (hfree : o ∉ free') : Inv ⟨free', next', (c, o) :: p.held⟩ := by
  refine ⟨?_, ?_, hi.freeNodup.sublist hsub, ?_⟩
  · intro a x a' h1 h2
    rcases List.mem_cons.mp h1 with e1 | h1 <;> rcases List.mem_cons.mp h2 with e2 | h2
    · cases e1; cases e2; rfl
    · cases e1; exact absurd h2 (hheld _)
    · cases e2; exact absurd h1 (hheld _)
    · exact hi.excl _ _ _ h1 h2
  · intro a x h1 hf
    rcases List.mem_cons.mp h1 with e1 | h1
    · cases e1; exact hfree hf
    · exact hi.notFree _ _ h1 (hsub.subset hf)
  · intro x h
    rcases h with hf | ⟨a, ha⟩
    · exact Nat.lt_of_lt_of_le (hi.bound _ (.inl (hsub.subset hf))) hnext
    · rcases List.mem_cons.mp ha with e | ha
      · cases e; exact ho
      · exact Nat.lt_of_lt_of_le (hi.bound _ (.inr ⟨_, ha⟩)) hnext

end Inv

theorem inv_step (p p' : Pool) (e : PoolEv) (hi : p.Inv) (hs : p.step e = some p') : p'.Inv := by
  cases e with
  | get c pick =>
    cases pick with
    | none =>
      simp only [Pool.step] at hs
      split at hs
      · cases hs
      · cases hs
        exact hi.acquire c p.next p.free (p.next + 1) (List.Sublist.refl _) (Nat.le_succ _) (Nat.lt_succ_self _)
          (fun c' h => Nat.lt_irrefl _ (hi.bound _ (.inr ⟨c', h⟩))) (fun h => Nat.lt_irrefl _ (hi.bound _ (.inl h)))
    | some o =>
      simp only [Pool.step] at hs
      split at hs
      · cases hs
      · split at hs
        · rename_i hcont
          cases hs
          have hof : o ∈ p.free := by simpa using hcont
          exact hi.acquire c o (p.free.erase o) p.next List.erase_sublist (Nat.le_refl _) (hi.bound _ (.inl hof))
            (fun c' h => hi.notFree _ _ h hof) hi.freeNodup.not_mem_erase
        · cases hs
  | put c =>
    simp only [Pool.step] at hs
    split at hs
    · cases hs
    · rename_i c0 o hfind
      cases hs
      have hmem : (c0, o) ∈ p.held := List.mem_of_find?_eq_some hfind
      have hc0 : c0 = c := by simpa using List.find?_some hfind
      subst hc0
      refine ⟨?_, ?_, List.nodup_cons.mpr ⟨hi.notFree _ _ hmem, hi.freeNodup⟩, ?_⟩
      · intro a x a' h1 h2
        exact hi.excl _ _ _ (List.mem_filter.mp h1).1 (List.mem_filter.mp h2).1
      · -- the object put back was held by `c0` only, and `c0` holds nothing any more
        intro a x h1 hf
        simp only [List.mem_filter, bne_iff_ne, ne_eq] at h1
        rcases List.mem_cons.mp hf with rfl | hf
        · exact h1.2 (hi.excl _ _ _ h1.1 hmem)
        · exact hi.notFree _ _ h1.1 hf
      · intro x h
        rcases h with hf | ⟨a, ha⟩
        · rcases List.mem_cons.mp hf with rfl | hf
          · exact hi.bound _ (.inr ⟨_, hmem⟩)
          · exact hi.bound _ (.inl hf)
        · exact hi.bound _ (.inr ⟨_, (List.mem_filter.mp ha).1⟩)
  | drop o =>
    simp only [Pool.step] at hs
    split at hs
    · cases hs
      exact ⟨hi.excl, fun a x h1 hf => hi.notFree _ _ h1 (List.mem_of_mem_erase hf), hi.freeNodup.erase _,
        fun x h => hi.bound x (h.imp_left List.mem_of_mem_erase)⟩
    · cases hs

theorem run_eq (p : Pool) (evs : List PoolEv) : p.run evs = evs.foldlM Pool.step p :=
  Run.eq_foldlM (fun _ => rfl) (fun p e es => by rw [Pool.run]; cases p.step e <;> rfl) evs p

theorem inv_run (evs : List PoolEv) (p p' : Pool) (hi : p.Inv) (hr : p.run evs = some p') : p'.Inv :=
  Run.invariant (fun p e p' h hs => inv_step p p' e h hs) (run_eq p evs ▸ hr) hi

end Pool

end KV.Balancer
