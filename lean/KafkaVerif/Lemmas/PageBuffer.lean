/-
Lemmas/PageBuffer.lean — the page buffer behaves like one flat byte string: what the index arithmetic of
`contiguousPages` (indexOf / slice / page.slice / ReadAt / WriteAt / Truncate / refTo) computes is the corresponding
take/drop of the concatenation of the pages.

The pages `slice(b, e)` selects are a buffer of their own (`sub`) in which every range inside `[b, e)` reads as in the whole
buffer (`sub_seg`); `scan`, `ReadAt` and references are read off that.  `Holds P pb F` bundles what the writers maintain.

`ReadAt` and `WriteAt` walk the pages with an absolute offset and address the page at `po` by `off - po`, truncated: a page
with `off ≤ po` is read or written from its start.  So `readPages_withOffs` and `overwritePages_flatten` hold for every `off`
and are stated without `po ≤ off`: the page the range starts in hands on `off + copied ≤ po + P`, at or before the next page's
offset whether or not the range ended, and the rest is the induction hypothesis at offset 0.  The one case split left is the
model's own: a page that ends before `off` is passed over.
-/
import KafkaVerif.Model.PageBuffer

namespace KV.Model.PageBuffer
open KV

/-- bytes `[b, e)` of a byte string -/
def seg (F : Bytes) (b e : Nat) : Bytes := (F.take e).drop b

theorem seg_append (pg R : Bytes) (P B E : Nat) (hp : pg.length = P) :
    seg pg B E ++ seg R (B - P) (E - P) = seg (pg ++ R) B E := by
  unfold seg
  rw [List.take_append, List.drop_append, hp, List.length_take, hp]
  congr 1
  by_cases hE : P ≤ E
  · rw [Nat.min_eq_right hE]
  · have : E - P = 0 := by omega
    rw [this]; simp

theorem seg_take_drop (pg : Bytes) (rel n : Nat) : seg pg rel (rel + n) = (pg.drop rel).take n := by
  unfold seg
  rw [List.drop_take]
  congr 1
  omega

theorem seg_seg_cover (F : Bytes) (lo hi x y : Nat) (hlo : lo ≤ x) (hxy : x ≤ y) (hhi : y ≤ hi ∨ F.length ≤ hi) :
    seg (seg F lo hi) (x - lo) (y - lo) = seg F x y := by
  unfold seg
  rw [List.take_drop, List.drop_drop, List.take_take, show lo + (x - lo) = x by omega, show lo + (y - lo) = y by omega]
  congr 1
  rcases hhi with h | h
  · rw [Nat.min_eq_left h]
  · by_cases hy : y ≤ hi
    · rw [Nat.min_eq_left hy]
    · rw [Nat.min_eq_right (by omega), List.take_of_length_le h, List.take_of_length_le (by omega)]

theorem seg_mid (A B : Bytes) : seg (A ++ B) A.length (A.length + B.length) = B := by
  simp only [seg, ← List.length_append, List.take_length, List.drop_append, Nat.sub_self, List.drop_zero,
    List.drop_of_length_le (Nat.le_refl A.length), List.nil_append]

theorem contig_cons {P : Nat} {pg : Bytes} {rest : List Bytes} :
    Contig P (pg :: rest) ↔ pg.length ≤ P ∧ (rest = [] ∨ pg.length = P) ∧ Contig P rest := by
  cases rest with
  | nil => simp [Contig]
  | cons q r =>
    exact ⟨fun h => ⟨Nat.le_of_eq h.1, .inr h.1, h.2⟩, fun h => ⟨h.2.1.resolve_left (List.cons_ne_nil _ _), h.2.2⟩⟩

theorem contig_cons_full {P : Nat} {x : Bytes} {rest : List Bytes} (hx : x.length = P) (h : Contig P rest) :
    Contig P (x :: rest) :=
  contig_cons.mpr ⟨Nat.le_of_eq hx, .inr hx, h⟩

theorem contig_le {P : Nat} : ∀ {ps : List Bytes}, Contig P ps → ∀ pg ∈ ps, pg.length ≤ P
  | [], _, pg, h => by simp at h
  | x :: r, hc, pg, h => by
    rcases List.mem_cons.mp h with rfl | h
    · exact (contig_cons.mp hc).1
    · exact contig_le (contig_cons.mp hc).2.2 pg h

theorem flatten_le (P : Nat) : ∀ (ps : List Bytes), (∀ pg ∈ ps, pg.length ≤ P) → ps.flatten.length ≤ ps.length * P
  | [], _ => by simp
  | pg :: r, h => by
    have := flatten_le P r (fun x hx => h x (by simp [hx]))
    have := h pg (by simp)
    simp only [List.flatten_cons, List.length_append, List.length_cons, Nat.succ_mul]; omega

theorem contig_split (P : Nat) : ∀ (i : Nat) (ps : List Bytes), Contig P ps →
    Contig P (ps.take i) ∧ Contig P (ps.drop i) ∧
    (ps.take i).flatten = ps.flatten.take (i * P) ∧ (ps.drop i).flatten = ps.flatten.drop (i * P)
  | 0, ps, h => ⟨trivial, h, by simp, by simp⟩
  | i + 1, [], _ => ⟨trivial, trivial, by simp, by simp⟩
  | i + 1, pg :: rest, h => by
    obtain ⟨hpg, hfull, hr⟩ := contig_cons.mp h
    obtain ⟨c1, c2, f1, f2⟩ := contig_split P i rest hr
    have hle : pg.length ≤ i * P + P := Nat.le_trans hpg (Nat.le_add_left _ _)
    -- beyond this page offsets count `P` less: the page is full, or nothing follows it
    have hsh : i * P + P - pg.length = i * P ∨ rest.flatten = [] :=
      hfull.symm.imp (fun hP => by rw [hP, Nat.add_sub_cancel]) (fun h => by rw [h]; rfl)
    simp only [List.take_succ_cons, List.drop_succ_cons, List.flatten_cons, f1, f2, Nat.succ_mul, List.take_append,
      List.drop_append, List.take_of_length_le hle, List.drop_of_length_le hle, List.nil_append]
    exact ⟨contig_cons.mpr ⟨hpg, hfull.imp (fun h => by rw [h, List.take_nil]) id, c1⟩, c2,
      by rcases hsh with h | h <;> simp only [h, List.take_nil], by rcases hsh with h | h <;> simp only [h, List.drop_nil]⟩

theorem withOffs_map_snd (P : Nat) : ∀ (ps : List Bytes) (base : Nat), (withOffs P base ps).map (·.2) = ps
  | [], _ => rfl
  | pg :: r, base => by simp [withOffs, withOffs_map_snd P r]

theorem withOffs_drop (P : Nat) : ∀ (i : Nat) (ps : List Bytes) (base : Nat),
    (withOffs P base ps).drop i = withOffs P (base + i * P) (ps.drop i)
  | 0, ps, base => by simp
  | i + 1, [], base => by simp [withOffs]
  | i + 1, pg :: r, base => by
    simp only [withOffs, List.drop_succ_cons, withOffs_drop P i r, Nat.succ_mul]
    congr 1; omega

theorem withOffs_take (P : Nat) : ∀ (m : Nat) (ps : List Bytes) (base : Nat),
    (withOffs P base ps).take m = withOffs P base (ps.take m)
  | 0, ps, base => by simp [withOffs]
  | m + 1, [], base => by simp [withOffs]
  | m + 1, pg :: r, base => by simp only [withOffs, List.take_succ_cons, withOffs_take P m r]

theorem pageSlice_eq (P off : Nat) (pg : Bytes) (b e : Nat) (h : pg.length ≤ P) :
    pageSlice P off pg b e = seg pg (b - off) (e - off) := by
  unfold pageSlice seg
  have ht : pg.take (min (e - off) P) = pg.take (e - off) := by
    by_cases hx : e - off ≤ P
    · rw [Nat.min_eq_left hx]
    · rw [Nat.min_eq_right (by omega), List.take_of_length_le h, List.take_of_length_le (by omega)]
  have hd : (pg.take (e - off)).drop (min (b - off) P) = (pg.take (e - off)).drop (b - off) := by
    by_cases hx : b - off ≤ P
    · rw [Nat.min_eq_left hx]
    · have hl : (pg.take (e - off)).length ≤ P := by rw [List.length_take]; omega
      rw [Nat.min_eq_right (by omega), List.drop_of_length_le hl, List.drop_of_length_le (by omega)]
  simp only
  split
  · rw [ht, hd]
  · rename_i hij
    rw [← hd, ← ht]
    symm
    apply List.drop_of_length_le
    rw [List.length_take]; omega

theorem withOffs_slices (P : Nat) : ∀ (ps : List Bytes) (base b e : Nat), Contig P ps →
    ((withOffs P base ps).map fun (off, pg) => pageSlice P off pg b e).flatten = seg ps.flatten (b - base) (e - base)
  | [], _, _, _, _ => by simp [withOffs, seg]
  | pg :: rest, base, b, e, hc => by
    obtain ⟨hpg, hfull, hr⟩ := contig_cons.mp hc
    simp only [withOffs, List.map_cons, List.flatten_cons]
    rw [withOffs_slices P rest (base + P) b e hr, pageSlice_eq P base pg b e hpg, Nat.sub_add_eq, Nat.sub_add_eq]
    rcases hfull with rfl | hP
    · simp [seg]
    · exact seg_append pg _ P _ _ hP

/-- the pages `slice(b, e)` selects, as a buffer of its own (it is what `refTo` keeps) -/
def sub (P : Nat) (pb : PB) (b e : Nat) : PB :=
  ⟨pb.base + indexOf P pb b * P, (pb.pages.drop (indexOf P pb b)).take
    ((if indexOf P pb e < pb.pages.length then indexOf P pb e + 1 else indexOf P pb e) - indexOf P pb b)⟩

theorem slice_eq (P : Nat) (pb : PB) (b e : Nat) : slice P pb b e = withOffs P (sub P pb b e).base (sub P pb b e).pages := by
  simp only [slice, sub, withOffs_drop, withOffs_take]

theorem sub_seg (P : Nat) (hP : 0 < P) (pb : PB) (hc : Contig P pb.pages) (b e : Nat) (hbe : b ≤ e) :
    Contig P (sub P pb b e).pages ∧ (pb.base ≤ b → (sub P pb b e).base ≤ b) ∧
    ∀ x y, b ≤ x → x ≤ y → y ≤ e →
      seg (flat (sub P pb b e)) (x - (sub P pb b e).base) (y - (sub P pb b e).base) = seg (flat pb) (x - pb.base) (y - pb.base) := by
  unfold sub flat
  generalize hi : indexOf P pb b = i
  generalize hj : (if indexOf P pb e < pb.pages.length then indexOf P pb e + 1 else indexOf P pb e) = j'
  obtain ⟨_, hX, _, fX⟩ := contig_split P i pb.pages hc
  obtain ⟨hY, _, fY, _⟩ := contig_split P (j' - i) _ hX
  have hlo : i * P ≤ b - pb.base := by rw [← hi]; exact Nat.div_mul_le_self _ _
  -- the last page taken ends beyond `e`, or it is the last page there is
  have hhi : e - pb.base ≤ i * P + (j' - i) * P ∨ pb.pages.flatten.length ≤ i * P + (j' - i) * P := by
    have hij : i ≤ indexOf P pb e := by rw [← hi]; unfold indexOf; exact Nat.div_le_div_right (by omega)
    rw [← Nat.add_mul, ← hj]
    by_cases hjl : indexOf P pb e < pb.pages.length
    · rw [if_pos hjl, show i + (indexOf P pb e + 1 - i) = indexOf P pb e + 1 by omega, Nat.succ_mul]
      exact .inl (Nat.le_of_lt (Nat.lt_div_mul_add hP (a := e - pb.base)))
    · rw [if_neg hjl, show i + (indexOf P pb e - i) = indexOf P pb e by omega]
      exact .inr (Nat.le_trans (flatten_le P pb.pages (contig_le hc)) (Nat.mul_le_mul_right P (by omega)))
  refine ⟨hY, fun h => by show pb.base + i * P ≤ b; omega, fun x y hx hxy hy => ?_⟩
  show seg ((pb.pages.drop i).take (j' - i)).flatten (x - (pb.base + i * P)) (y - (pb.base + i * P)) = _
  rw [fY, fX, List.take_drop, Nat.sub_add_eq, Nat.sub_add_eq]
  exact seg_seg_cover _ _ _ _ _ (Nat.le_trans hlo (Nat.sub_le_sub_right hx _)) (Nat.sub_le_sub_right hxy _)
    (hhi.imp (Nat.le_trans (Nat.sub_le_sub_right hy _)) id)

theorem scan_eq (P : Nat) (hP : 0 < P) (pb : PB) (hc : Contig P pb.pages) (b e : Nat) (hbe : b ≤ e) :
    scan P pb b e = seg (flat pb) (b - pb.base) (e - pb.base) := by
  obtain ⟨hsc, _, hseg⟩ := sub_seg P hP pb hc b e hbe
  unfold scan
  rw [slice_eq, withOffs_slices P _ _ b e hsc]
  exact hseg b e (Nat.le_refl _) hbe (Nat.le_refl _)

theorem chunk_spec (P : Nat) (hP : 0 < P) : ∀ (fuel : Nat) (b : Bytes), b.length ≤ fuel →
    (chunk P fuel b).flatten = b ∧ Contig P (chunk P fuel b)
  | 0, b, h => by
    have : b = [] := List.eq_nil_of_length_eq_zero (by omega)
    subst this; simp [chunk, Contig]
  | fuel + 1, b, h => by
    simp only [chunk]
    by_cases hb : b.length ≤ P
    · simp [hb, Contig]
    · simp only [hb, if_false]
      have ih := chunk_spec P hP fuel (b.drop P) (by rw [List.length_drop]; omega)
      refine ⟨by simp [ih.1], contig_cons_full (by rw [List.length_take]; omega) ih.2⟩

theorem fill_spec (P : Nat) (hP : 0 < P) (tail b : Bytes) (ht : tail.length ≤ P) :
    (fill P tail b).flatten = tail ++ b ∧ Contig P (fill P tail b) := by
  unfold fill
  by_cases hb : b.length ≤ P - tail.length
  · simp only [hb, if_true]
    exact ⟨by simp, by simp only [Contig, List.length_append]; omega⟩
  · simp only [hb, if_false]
    have ih := chunk_spec P hP b.length (b.drop (P - tail.length)) (by rw [List.length_drop]; omega)
    refine ⟨by simp [ih.1], contig_cons_full (by rw [List.length_append, List.length_take]; omega) ih.2⟩

theorem writePages_spec (P : Nat) (hP : 0 < P) : ∀ (ps : List Bytes) (b : Bytes), Contig P ps →
    (writePages P ps b).flatten = ps.flatten ++ b ∧ Contig P (writePages P ps b)
  | [], b, _ => by simpa [writePages] using fill_spec P hP [] b (by simp)
  | [tail], b, hc => by simpa [writePages] using fill_spec P hP tail b hc
  | pg :: q :: r, b, hc => by
    have ih := writePages_spec P hP (q :: r) b hc.2
    simp only [writePages]
    exact ⟨by simp [ih.1], contig_cons_full hc.1 ih.2⟩

theorem write_spec (P : Nat) (hP : 0 < P) (pb : PB) (b : Bytes) (hc : Contig P pb.pages) :
    flat (write P pb b) = flat pb ++ b ∧ Contig P (write P pb b).pages ∧ (write P pb b).base = pb.base := by
  unfold write
  by_cases hb : b = []
  · subst hb; simp [flat, hc]
  · simp only [hb, if_false, flat]
    have := writePages_spec P hP pb.pages b hc
    exact ⟨this.1, this.2, trivial⟩

theorem truncPages_spec (P : Nat) : ∀ (ps : List Bytes) (n : Nat), Contig P ps →
    (truncPages ps n).flatten = ps.flatten.take n ∧ Contig P (truncPages ps n)
  | [], n, _ => by simp [truncPages, Contig]
  | pg :: rest, n, hc => by
    obtain ⟨hpg, hfull, hr⟩ := contig_cons.mp hc
    simp only [truncPages]
    by_cases h1 : pg.length ≤ n
    · simp only [h1, if_true]
      have ih := truncPages_spec P rest (n - pg.length) hr
      exact ⟨by simp [ih.1, List.take_append, List.take_of_length_le h1],
        contig_cons.mpr ⟨hpg, hfull.imp (fun h => by rw [h]; rfl) id, ih.2⟩⟩
    · simp only [h1, if_false]
      by_cases h0 : n > 0
      · simp only [h0, if_true]
        refine ⟨by simp [List.take_append_of_le_length (Nat.le_of_lt (Nat.lt_of_not_le h1))], ?_⟩
        simp only [Contig, List.length_take]
        omega
      · have : n = 0 := by omega
        subst this; simp [Contig]

theorem truncate_spec (P : Nat) (pb : PB) (n : Nat) (hc : Contig P pb.pages) :
    flat (truncate pb n) = (flat pb).take n ∧ Contig P (truncate pb n).pages := by
  unfold truncate
  by_cases h : n < (flat pb).length
  · rw [if_pos h]
    exact truncPages_spec P pb.pages n hc
  · rw [if_neg h]
    exact ⟨(List.take_of_length_le (by omega)).symm, hc⟩

theorem readPages_withOffs (P : Nat) : ∀ (ps : List Bytes) (po off n : Nat), Contig P ps →
    readPages P (withOffs P po ps) off n = (ps.flatten.drop (off - po)).take n
  | [], _, _, _, _ => by simp [withOffs, readPages]
  | pg :: rest, po, off, n, hc => by
    obtain ⟨hpg, hfull, hr⟩ := contig_cons.mp hc
    simp only [withOffs, readPages, List.flatten_cons]
    by_cases hk : off - po > pg.length
    · rw [if_pos hk, List.nil_append, List.length_nil, Nat.add_zero, Nat.sub_zero, readPages_withOffs P rest (po + P) off n hr,
        List.drop_append, List.drop_of_length_le (Nat.le_of_lt hk), List.nil_append]
      rcases hfull with rfl | hP
      · simp
      · rw [Nat.sub_add_eq, hP]
    · have hz : off + ((pg.drop (off - po)).take n).length - (po + P) = 0 :=
        Nat.sub_eq_zero_of_le (by rw [List.length_take, List.length_drop]; omega)
      rw [if_neg hk, readPages_withOffs P rest (po + P) _ _ hr, hz, List.drop_zero,
        List.drop_append_of_le_length (Nat.le_of_not_lt hk), List.take_append, List.length_take, ← Nat.sub_eq_sub_min]

theorem readAt_eq (P : Nat) (hP : 0 < P) (pb : PB) (hc : Contig P pb.pages) (off n : Nat) (hbase : pb.base ≤ off) :
    readAt P pb off n = ((flat pb).drop (off - pb.base)).take n := by
  obtain ⟨hsc, hsb, hseg⟩ := sub_seg P hP pb hc off (off + n) (Nat.le_add_right _ _)
  have := hseg off (off + n) (Nat.le_refl _) (Nat.le_add_right _ _) (Nat.le_refl _)
  rw [Nat.sub_add_comm (hsb hbase), Nat.sub_add_comm hbase, seg_take_drop, seg_take_drop] at this
  unfold readAt
  rw [slice_eq, readPages_withOffs P _ _ off n hsc]
  exact this

/-- `F` with the bytes at `[o, o+|b|)` replaced by `b` -/
def patch (F : Bytes) (o : Nat) (b : Bytes) : Bytes := F.take o ++ (b ++ F.drop (o + b.length))

theorem patch_length (F : Bytes) (o : Nat) (b : Bytes) (h : o + b.length ≤ F.length) : (patch F o b).length = F.length := by
  simp only [patch, List.length_append, List.length_take, List.length_drop]; omega

theorem patch_nil (F : Bytes) (o : Nat) : patch F o [] = F := by simp [patch]

theorem patch_append_right (A X : Bytes) (o : Nat) (b : Bytes) (h : A.length ≤ o) :
    patch (A ++ X) o b = A ++ patch X (o - A.length) b := by
  simp only [patch, List.take_append, List.drop_append, List.take_of_length_le h,
    List.drop_of_length_le (Nat.le_trans h (Nat.le_add_right o b.length)), List.nil_append, List.append_assoc]
  rw [show o + b.length - A.length = o - A.length + b.length by omega]

theorem patch_skip (A X : Bytes) (o : Nat) (b : Bytes) : patch (A ++ X) (A.length + o) b = A ++ patch X o b := by
  rw [patch_append_right _ _ _ _ (Nat.le_add_right _ _), Nat.add_sub_cancel_left]

theorem patch_head (old X new : Bytes) (h : old.length = new.length) : patch (old ++ X) 0 new = new ++ X := by
  simp only [patch, List.take_zero, List.nil_append, Nat.zero_add, ← h, List.drop_append, Nat.sub_self, List.drop_zero,
    List.drop_of_length_le (Nat.le_refl old.length)]

theorem patch_append_left (A X : Bytes) (o : Nat) (b : Bytes) (h : o + b.length ≤ A.length) :
    patch (A ++ X) o b = patch A o b ++ X := by
  simp only [patch, List.append_assoc]
  rw [List.take_append_of_le_length (by omega), List.drop_append_of_le_length h]

theorem patch_append_split (A X : Bytes) (o : Nat) (b : Bytes) (ho : o ≤ A.length) (hb : A.length ≤ o + b.length) :
    patch (A ++ X) o b = (A.take o ++ b.take (A.length - o)) ++ patch X 0 (b.drop (A.length - o)) := by
  simp only [patch, List.take_zero, List.nil_append, Nat.zero_add, List.append_assoc, List.length_drop]
  rw [List.take_append_of_le_length ho, List.drop_append, List.drop_of_length_le hb, List.nil_append,
    ← List.append_assoc (b.take _), List.take_append_drop]
  congr 3
  omega

theorem overwritePages_nil (P : Nat) : ∀ (ps : List Bytes) (po off : Nat), overwritePages P ps po off [] = ps
  | [], _, _ => rfl
  | pg :: rest, po, off => by simp [overwritePages, overwritePages_nil P rest]

theorem pageWriteAt_length (pg : Bytes) (rel : Nat) (b : Bytes) : (pageWriteAt pg rel b).1.length = pg.length := by
  have hn := Nat.min_le_right b.length (pg.length - rel)
  have hn' := Nat.min_le_left b.length (pg.length - rel)
  simp only [pageWriteAt, List.length_append, List.length_take, List.length_drop]
  generalize min b.length (pg.length - rel) = n at *
  omega

theorem overwritePages_contig (P : Nat) : ∀ (ps : List Bytes) (po off : Nat) (b : Bytes), Contig P ps →
    Contig P (overwritePages P ps po off b)
  | [], _, _, _, _ => trivial
  | pg :: rest, po, off, b, hc => by
    obtain ⟨hpg, hfull, hr⟩ := contig_cons.mp hc
    simp only [overwritePages]
    split
    · exact contig_cons.mpr ⟨hpg, hfull.imp (fun h => by rw [h]; rfl) id, overwritePages_contig P rest _ _ _ hr⟩
    · exact contig_cons.mpr ⟨by rw [pageWriteAt_length]; exact hpg,
        hfull.imp (fun h => by rw [h]; rfl) (fun h => by rw [pageWriteAt_length]; exact h), overwritePages_contig P rest _ _ _ hr⟩

/-- one page of an overwrite, on the flat side: what `copy` puts into the page, and the rest of `b` at the start of what follows -/
theorem patch_page (pg R : Bytes) (k : Nat) (b : Bytes) (hk : k ≤ pg.length) :
    patch (pg ++ R) k b = (pageWriteAt pg k b).1 ++ patch R 0 (b.drop (pageWriteAt pg k b).2) := by
  simp only [pageWriteAt]
  by_cases hfits : b.length ≤ pg.length - k
  · rw [Nat.min_eq_left hfits, List.take_of_length_le (Nat.le_refl _), List.drop_of_length_le (Nat.le_refl _), patch_nil,
      patch_append_left _ _ _ _ (by omega)]
    simp only [patch, List.append_assoc]
  · rw [Nat.min_eq_right (by omega), patch_append_split _ _ _ _ hk (by omega),
      List.drop_of_length_le (by omega : pg.length ≤ k + (pg.length - k)), List.append_nil]

theorem overwritePages_flatten (P : Nat) (hP : 0 < P) : ∀ (ps : List Bytes) (po off : Nat) (b : Bytes), Contig P ps →
    off - po + b.length ≤ ps.flatten.length → (overwritePages P ps po off b).flatten = patch ps.flatten (off - po) b
  | [], _, _, b, _, hfit => by
    have : b = [] := List.eq_nil_of_length_eq_zero (Nat.eq_zero_of_le_zero (Nat.le_trans (Nat.le_add_left _ _) hfit))
    subst this; exact (patch_nil _ _).symm
  | pg :: rest, po, off, b, hc, hfit => by
    by_cases hb : b = []
    · subst hb; simp [overwritePages_nil, patch_nil]
    have hbl : 0 < b.length := List.length_pos_iff.mpr hb
    obtain ⟨hpg, hfull, hr⟩ := contig_cons.mp hc
    have hP' : rest.flatten.length = 0 ∨ pg.length = P := hfull.imp (fun h => by rw [h]; rfl) id
    simp only [List.flatten_cons, List.length_append] at hfit
    simp only [overwritePages, hb, false_or, List.flatten_cons]
    by_cases hskip : off ≥ po + P
    · -- the range starts in a later page: there is one, so this page is full
      have hP'' : pg.length = P := by omega
      rw [if_pos hskip, List.flatten_cons, overwritePages_flatten P hP rest (po + P) off b hr (by omega),
        patch_append_right _ _ _ _ (by omega), hP'', Nat.sub_add_eq]
    · have hn : off + (pageWriteAt pg (off - po) b).2 ≤ po + P := by simp only [pageWriteAt]; omega
      rw [if_neg hskip, List.flatten_cons, patch_page pg _ _ b (by omega),
        overwritePages_flatten P hP rest (po + P) _ _ hr
          (by rw [Nat.sub_eq_zero_of_le hn]; simp only [pageWriteAt, List.length_drop]; omega), Nat.sub_eq_zero_of_le hn]

theorem writeAt_spec (P : Nat) (hP : 0 < P) (pb : PB) (b : Bytes) (off : Nat) (hc : Contig P pb.pages)
    (hbase : pb.base ≤ off) (hfit : off + b.length ≤ pb.base + (flat pb).length) :
    flat (writeAt P pb b off) = patch (flat pb) (off - pb.base) b ∧ Contig P (writeAt P pb b off).pages :=
  ⟨overwritePages_flatten P hP pb.pages pb.base off b hc (by unfold flat at hfit; omega),
    overwritePages_contig P pb.pages pb.base off b hc⟩

/-- a reference reads through the pages `slice` selected (with no page selected, both read nothing) -/
theorem readAt_refTo (P : Nat) (pb : PB) (b e o n : Nat) : readAt P (refTo P pb b e) o n = readAt P (sub P pb b e) o n := by
  unfold refTo
  rw [slice_eq]
  generalize sub P pb b e = s
  obtain ⟨sb, sp⟩ := s
  cases sp with
  | nil => simp [readAt, slice, withOffs, readPages]
  | cons pg r => simp only [withOffs, withOffs_map_snd]

theorem clip_eq (o n e : Nat) : (if o + n > e then e - o else n) = min n (e - o) := by split <;> omega

theorem refReadAt_eq (P : Nat) (hP : 0 < P) (pb : PB) (hc : Contig P pb.pages) (hb0 : pb.base = 0)
    (b e off n : Nat) (hbe : b ≤ e) (he : e ≤ (flat pb).length) :
    refReadAt P (refTo P pb b e) b (e - b) off n = (((flat pb).take e).drop (b + off)).take n := by
  unfold refReadAt
  simp only [show b + (e - b) = e by omega, Nat.add_comm b off]
  by_cases hoe : off + b ≥ e
  · rw [if_pos hoe, List.drop_of_length_le (by rw [List.length_take]; omega), List.take_nil]
  · obtain ⟨hsc, hsb, hseg⟩ := sub_seg P hP pb hc b e hbe
    have hso : (sub P pb b e).base ≤ off + b := Nat.le_trans (hsb (by omega)) (Nat.le_add_left _ _)
    -- up to `e` the reference holds what the buffer holds
    have hs := hseg (off + b) e (Nat.le_add_left _ _) (by omega) (Nat.le_refl _)
    rw [hb0, Nat.sub_zero, Nat.sub_zero] at hs
    rw [if_neg hoe, readAt_refTo, readAt_eq P hP _ hsc _ _ hso, clip_eq, ← List.take_take, List.take_drop,
      show off + b - (sub P pb b e).base + (e - (off + b)) = e - (sub P pb b e).base by omega]
    exact congrArg (List.take n) hs

/-- `pb` is based at 0, its pages are contiguous and hold the bytes `F` (a request buffer between two operations) -/
structure Holds (P : Nat) (pb : PB) (F : Bytes) : Prop where
  contig : Contig P pb.pages
  base : pb.base = 0
  flat : flat pb = F

namespace Holds
variable {P : Nat} {pb : PB} {F : Bytes}

theorem size (h : Holds P pb F) : pb.base + (PageBuffer.flat pb).length = F.length := by
  rw [h.base, h.flat, Nat.zero_add]

theorem write (hP : 0 < P) (h : Holds P pb F) (b : Bytes) : Holds P (write P pb b) (F ++ b) :=
  have w := write_spec P hP pb b h.contig
  ⟨w.2.1, w.2.2.trans h.base, h.flat ▸ w.1⟩

theorem writeAt (hP : 0 < P) (h : Holds P pb F) (b : Bytes) (off : Nat) (hfit : off + b.length ≤ F.length) :
    Holds P (writeAt P pb b off) (patch F off b) := by
  have w := writeAt_spec P hP pb b off h.contig (by rw [h.base]; omega) (by rw [h.size]; exact hfit)
  rw [h.base, Nat.sub_zero, h.flat] at w
  exact ⟨w.2, h.base, w.1⟩

theorem scan (hP : 0 < P) (h : Holds P pb F) (b e : Nat) (hbe : b ≤ e) : scan P pb b e = seg F b e := by
  rw [scan_eq P hP pb h.contig b e hbe, h.base, h.flat]; rfl

theorem truncate (h : Holds P pb F) (n : Nat) : Holds P (truncate pb n) (F.take n) :=
  have t := truncate_spec P pb n h.contig
  ⟨t.2, by unfold PageBuffer.truncate; split <;> exact h.base, h.flat ▸ t.1⟩

end Holds

/-- consecutive `WriteAt(b, off)` calls.  `writeToVersion2` (protocol/record_v2.go) back-patches in
two stretches: after the record loop lastOffsetDelta, firstTimestamp, maxTimestamp and numRecords (+23, +27, +35, +57), and, once the
checksum over `scan(offset+21, end)` is known, batchLength and crc (+8, +17); `writeToVersion1` patches size and crc of each message
(+8, +12).  Each stretch is one `writeAts`. -/
def writeAts (P : Nat) (pb : PB) : List (Bytes × Nat) → PB
  | [] => pb
  | (b, off) :: ps => writeAts P (writeAt P pb b off) ps

/-- what such a stretch does to the content: consecutive `patch`es, each on a placeholder of its own width, so that
`simp only [patches, patch_skip, patch_append_right, patch_head, …]` carries every one of them to its place -/
def patches (F : Bytes) : List (Bytes × Nat) → Bytes
  | [] => F
  | (b, off) :: ps => patches (patch F off b) ps

/-- every `WriteAt` lies inside the content, which keeps its length: all bounds are against the length before the first one -/
theorem Holds.writeAts {P : Nat} (hP : 0 < P) : ∀ (ps : List (Bytes × Nat)) {pb : PB} {F : Bytes}, Holds P pb F →
    (∀ p ∈ ps, p.2 + p.1.length ≤ F.length) → Holds P (writeAts P pb ps) (patches F ps)
  | [], _, _, h, _ => h
  | (b, off) :: ps, _, _, h, hfit =>
    have hb := hfit (b, off) List.mem_cons_self
    Holds.writeAts hP ps (h.writeAt hP b off hb) fun p hp => patch_length _ off b hb ▸ hfit p (List.mem_cons_of_mem _ hp)

end KV.Model.PageBuffer
