/-
Lemmas/WriterClose.lean — the Writer close protocol (Model/WriterClose.lean): a termination measure, and progress of a
waiting Close up to `WaitingBlocked`, which Lemmas/WriterTrack.lean excludes.
-/
import KafkaVerif.Lemmas.WriterCloseStep
import KafkaVerif.Lemmas.ListSums

namespace KV.WriterClose

/-- steps a call still has to take.  `entered` and `waiting` weigh the same: the step between them (`batchMessages`
accepting the call) does not occur once the repaired writer (`cfg.fixed`) is closed, which is where the measure is used. -/
def phaseW : Phase → Nat
  | .invoked => 3
  | .entered => 2
  | .waiting => 2
  | .left _ => 1
  | .returned _ => 0

/-- steps the sender goroutine has left with the batch it holds: the remaining attempts, the last answer, `complete` -/
def senderW (cfg : Cfg) : Sender → Nat
  | .idle => 0
  | .sending _ k => (cfg.maxAttempts - k) + 2
  | .completing _ _ => 1
  | .exited => 0

/-- 1 while the goroutine lives + the sender's steps + `maxAttempts + 3` per batch queued or open: more than the
`maxAttempts + 2` a sender weighs that has just taken it, so `get` lowers the weight, and queueing the open batch
(`timer`, `closeMark`) keeps it -/
def pwW (cfg : Cfg) (p : PW) : Nat :=
  (if p.sender = .exited then 0 else 1) + senderW cfg p.sender +
  (p.queue.length + (if p.curr.isSome then 1 else 0)) * (cfg.maxAttempts + 3)

def callW (c : Call) : Nat := phaseW c.phase

/-- work still to be done by the library's goroutines and by calls already inside the library -/
def mu (cfg : Cfg) (s : State) : Nat :=
  (s.calls.map callW).sum + s.awaiters.length + (s.writers.map (pwW cfg)).sum

theorem attemptNext_spec (cfg : Cfg) (b : Batch) (k : Nat) (o : Outcome) :
    attemptNext cfg b k o ≠ .exited ∧ (attemptNext cfg b k o).msgs = b.msgs ∧
    senderW cfg (attemptNext cfg b k o) < senderW cfg (.sending b k) := by
  cases o
  · exact ⟨nofun, rfl, by show 1 < cfg.maxAttempts - k + 2; omega⟩
  · simp only [attemptNext]
    split
    · exact ⟨nofun, rfl, by show cfg.maxAttempts - (k + 1) + 2 < cfg.maxAttempts - k + 2; omega⟩
    · exact ⟨nofun, rfl, by show 1 < cfg.maxAttempts - k + 2; omega⟩
  · exact ⟨nofun, rfl, by show 1 < cfg.maxAttempts - k + 2; omega⟩

theorem mu_updCalls_lt (cfg : Cfg) (s : State) (c : Nat) (p : Call → Bool) (f : Call → Call)
    (hlt : ∀ x, p x = true → callW (f x) < callW x) (h : ∃ x ∈ s.calls, x.id = c ∧ p x = true) :
    mu cfg (updCalls s c p f) < mu cfg s := by
  have : ((s.calls.map fun x => if (x.id = c && p x) = true then f x else x).map callW).sum
      < (s.calls.map callW).sum := by
    apply sum_map_lt
    · intro x _
      split
      · rename_i hq
        exact Nat.le_of_lt (hlt x (Bool.and_eq_true_iff.mp hq).2)
      · exact Nat.le_refl _
    · obtain ⟨x, hx, hc, hp⟩ := h
      exact ⟨x, hx, by rw [if_pos (by rw [hp, decide_eq_true hc]; rfl)]; exact hlt x hp⟩
  simp only [mu, updCalls]
  omega

theorem mu_updPWs_lt (cfg : Cfg) (s : State) (i : Nat) (p : PW → Bool) (f : PW → PW)
    (hle : ∀ x, p x = true → pwW cfg (f x) ≤ pwW cfg x)
    (h : ∃ x ∈ s.writers, x.pid = i ∧ p x = true ∧ pwW cfg (f x) < pwW cfg x) :
    mu cfg (updPWs s i p f) < mu cfg s := by
  have : ((s.writers.map fun x => if (x.pid = i && p x) = true then f x else x).map (pwW cfg)).sum
      < (s.writers.map (pwW cfg)).sum := by
    apply sum_map_lt
    · intro x _
      split
      · rename_i hq
        simp only [Bool.and_eq_true] at hq
        exact hle x hq.2
      · exact Nat.le_refl _
    · obtain ⟨x, hx, hi, hp, hl⟩ := h
      refine ⟨x, hx, ?_⟩
      simp [hi, hp, hl]
  simp only [mu, updPWs]
  omega

theorem pwW_takeBatch (cfg : Cfg) {p : PW} (h : (decide (p.sender = .idle) && !p.queue.isEmpty) = true) :
    pwW cfg (takeBatch p) < pwW cfg p := by
  simp only [Bool.and_eq_true, decide_eq_true_eq] at h
  cases hq : p.queue with
  | nil => simp [hq] at h
  | cons b rest => simp [takeBatch, pwW, senderW, h.1, hq, Nat.add_mul]; omega

theorem pwW_exitPW (cfg : Cfg) {p : PW} (h : (decide (p.sender = .idle) && p.queue.isEmpty && !p.opn) = true) :
    pwW cfg (exitPW p) < pwW cfg p := by
  simp only [Bool.and_eq_true, decide_eq_true_eq] at h
  show pwW cfg { p with sender := .exited } < pwW cfg p
  simp [pwW, senderW, h.1.1]

theorem pwW_answer (cfg : Cfg) (o : Outcome) (p : PW) :
    pwW cfg (answer cfg o p) ≤ pwW cfg p ∧ (p.sender.isSending = true → pwW cfg (answer cfg o p) < pwW cfg p) := by
  unfold answer
  cases hs : p.sender with
  | sending b k =>
    have := attemptNext_spec cfg b k o
    simp only [pwW, hs]
    simp [this.1]
    omega
  | _ => simp [Sender.isSending]

theorem pwW_finish (cfg : Cfg) {p : PW} {b : Batch} {why : Why} (h : decide (p.sender = .completing b why) = true) :
    pwW cfg (finish p) < pwW cfg p := by
  show pwW cfg { p with sender := .idle } < pwW cfg p
  simp [pwW, senderW, of_decide_eq_true h]

theorem pwW_timerPW (cfg : Cfg) (b : Nat) (p : PW) : pwW cfg (timerPW b p) ≤ pwW cfg p := by
  unfold timerPW
  split
  · rename_i cb hc
    split
    · unfold putBatch
      split <;> simp [pwW, hc, Nat.add_mul]
    · exact Nat.le_refl _
  · exact Nat.le_refl _

/-- Every internal event of a closed (repaired) Writer strictly decreases `mu`: a call moves to a lighter phase, an
awaitBatch goroutine ends, or a sender goroutine takes its next step. -/
theorem mu_decreases (cfg : Cfg) (s s' : State) (e : Event)
    (hfix : cfg.fixed = true) (hclosed : s.closed = true) (hint : e.internal = true)
    (hstep : step cfg s e = some s') : mu cfg s' < mu cfg s := by
  cases Step.of_step hstep with
  | callBegin | ctxCancel | closeBegin | metaReq | metaRel | closeMark | closeReturn => cases hint
  | enter c h =>
    exact mu_updCalls_lt _ _ _ _ _ (fun x hx => by simp [callW, phaseW, of_decide_eq_true hx, hclosed]) (hasCall_mem h)
  | early c r h =>
    obtain ⟨x, hx, hc, hp⟩ := hasCall_mem h
    exact mu_updCalls_lt _ _ _ _ _ (fun x hx => by simp [callW, phaseW, of_decide_eq_true hx])
      ⟨x, hx, hc, (Bool.and_eq_true_iff.mp hp).1⟩
  | batchRefused c x hx =>
    obtain ⟨hm, hc, hp⟩ := batch_call hx
    exact mu_updCalls_lt _ _ _ _ _ (fun x hx => by simp [callW, phaseW, of_decide_eq_true hx])
      ⟨x, hm, hc, decide_eq_true hp⟩
  | batchAccepted c x hx hn => exact absurd (by rw [hfix, hclosed]; rfl) hn
  | leave c r h =>
    obtain ⟨x, hx, hc, hp⟩ := hasCall_mem h
    exact mu_updCalls_lt _ _ _ _ _ (fun x hx => by simp [callW, phaseW, of_decide_eq_true hx])
      ⟨x, hx, hc, (Bool.and_eq_true_iff.mp hp).1⟩
  | ret c h =>
    refine mu_updCalls_lt _ _ _ _ _ (fun x hx => ?_) (hasCall_mem h)
    cases hp : x.phase <;> simp [hp, Phase.isLeft] at hx
    simp [callW, phaseW, hp, Call.doReturn]
  | timer b h =>
    have hmem : b ∈ s.awaiters := List.contains_iff_mem.mp h
    have h1 := List.length_erase_of_mem hmem
    have hpos : 0 < s.awaiters.length := List.length_pos_of_mem hmem
    have h2 := sum_map_le s.writers (timerPW b) (pwW cfg) fun p _ => pwW_timerPW cfg b p
    simp only [mu]
    omega
  | getBatch i h =>
    obtain ⟨x, hx, hi, hp⟩ := hasPW_mem h
    exact mu_updPWs_lt _ _ _ _ _ (fun y hy => Nat.le_of_lt (pwW_takeBatch cfg hy)) ⟨x, hx, hi, hp, pwW_takeBatch cfg hp⟩
  | getExit i _ h =>
    obtain ⟨x, hx, hi, hp⟩ := hasPW_mem h
    exact mu_updPWs_lt _ _ _ _ _ (fun y hy => Nat.le_of_lt (pwW_exitPW cfg hy)) ⟨x, hx, hi, hp, pwW_exitPW cfg hp⟩
  | attempt i o h =>
    obtain ⟨x, hx, hi, hp⟩ := hasPW_mem h
    exact mu_updPWs_lt _ _ _ _ _ (fun y _ => (pwW_answer cfg o y).1) ⟨x, hx, hi, rfl, (pwW_answer cfg o x).2 hp⟩
  | complete i p b why hp hs =>
    obtain ⟨hm, hi⟩ := complete_pw hp
    exact mu_updPWs_lt cfg s i _ _ (fun y hy => Nat.le_of_lt (pwW_finish cfg hy))
      ⟨p, hm, hi, decide_eq_true hs, pwW_finish cfg (decide_eq_true hs)⟩

theorem mem_candidates_call {s : State} {x : Call} (hx : x ∈ s.calls) {e : Event}
    (h : e ∈ [.enter x.id, .batch x.id, .ret x.id] ∨ (∃ r ∈ [Res.nil, .ctxErr, .other], e = .early x.id r) ∨
      ∃ r ∈ [Res.nil, .writeErrors, .ctxErr], e = .leave x.id r) : e ∈ candidates s := by
  refine List.mem_append_left _ (List.mem_append_left _ (List.mem_flatMap.mpr ⟨x, hx, ?_⟩))
  rcases h with h | ⟨r, hr, rfl⟩ | ⟨r, hr, rfl⟩
  · exact List.mem_append_left _ (List.mem_append_left _ h)
  · exact List.mem_append_left _ (List.mem_append_right _ (List.mem_map_of_mem hr))
  · exact List.mem_append_right _ (List.mem_map_of_mem hr)

theorem mem_candidates_pw {s : State} {x : PW} (hx : x ∈ s.writers) {e : Event}
    (h : e ∈ [.get x.pid, .complete x.pid] ∨ ∃ o ∈ [Outcome.ok, .temp, .perm], e = .attempt x.pid o) : e ∈ candidates s := by
  refine List.mem_append_right _ (List.mem_flatMap.mpr ⟨x, hx, ?_⟩)
  rcases h with h | ⟨o, ho, rfl⟩
  · exact List.mem_append_left _ h
  · exact List.mem_append_right _ (List.mem_map_of_mem ho)

theorem candidates_complete (cfg : Cfg) (s s' : State) (e : Event) (hint : e.internal = true)
    (hstep : step cfg s e = some s') : e ∈ candidates s := by
  cases Step.of_step hstep with
  | callBegin | ctxCancel | closeBegin | metaReq | metaRel | closeMark | closeReturn => cases hint
  | enter c h => obtain ⟨x, hx, rfl, _⟩ := hasCall_mem h; exact mem_candidates_call hx (.inl (.head _))
  | early c r h =>
    obtain ⟨x, hx, rfl, hp⟩ := hasCall_mem h
    refine mem_candidates_call hx (.inr (.inl ⟨r, ?_, rfl⟩))
    have hp := (Bool.and_eq_true_iff.mp hp).2
    cases r <;> first | cases hp | decide
  | batchRefused c x hx | batchAccepted c x hx =>
    obtain ⟨hm, rfl, _⟩ := batch_call hx; exact mem_candidates_call hm (.inl (.tail _ (.head _)))
  | leave c r h =>
    obtain ⟨x, hx, rfl, hp⟩ := hasCall_mem h
    refine mem_candidates_call hx (.inr (.inr ⟨r, ?_, rfl⟩))
    have hp := (Bool.and_eq_true_iff.mp hp).2
    cases r <;> first | cases hp | decide
  | ret c h => obtain ⟨x, hx, rfl, _⟩ := hasCall_mem h; exact mem_candidates_call hx (.inl (.tail _ (.tail _ (.head _))))
  | timer b h =>
    exact List.mem_append_left _ (List.mem_append_right _ (List.mem_map_of_mem (List.contains_iff_mem.mp h)))
  | getBatch i h | getExit i _ h => obtain ⟨x, hx, rfl, _⟩ := hasPW_mem h; exact mem_candidates_pw hx (.inl (.head _))
  | attempt i o h =>
    obtain ⟨x, hx, rfl, _⟩ := hasPW_mem h
    exact mem_candidates_pw hx (.inr ⟨o, by cases o <;> decide, rfl⟩)
  | complete i p b why hp => obtain ⟨hm, rfl⟩ := complete_pw hp; exact mem_candidates_pw hm (.inl (.tail _ (.head _)))

/-- once the writer is marked closed no partition writer is open (in `w.writers`) -/
def NoOpenWhenClosed (s : State) : Prop := s.closed = true → ∀ p ∈ s.writers, p.opn = false

theorem updPWs_opn (s : State) (i : Nat) (q : PW → Bool) (f : PW → PW) (hf : ∀ p, (f p).opn = p.opn)
    (h : ∀ p ∈ s.writers, p.opn = false) : ∀ p ∈ (updPWs s i q f).writers, p.opn = false := by
  intro p hp
  simp only [updPWs, List.mem_map] at hp
  obtain ⟨x, hx, rfl⟩ := hp
  split
  · rw [hf]; exact h x hx
  · exact h x hx

theorem noOpen_step (cfg : Cfg) (hfix : cfg.fixed = true) (s s' : State) (e : Event)
    (hinv : NoOpenWhenClosed s) (hstep : step cfg s e = some s') : NoOpenWhenClosed s' := by
  cases Step.of_step hstep with
  | callBegin | ctxCancel | closeBegin | enter | metaReq | metaRel | early | batchRefused | leave | ret
  | closeReturn => exact hinv
  | closeMark =>
    intro _ p hp
    obtain ⟨x, _, rfl⟩ := List.mem_map.mp hp
    exact closePW_opn x
  | batchAccepted c x hx h =>
    -- the repaired `batchMessages` runs only while the writer is open, and leaves the flag alone
    intro hcl
    have hcl : s.closed = true := (foldl_addOne_frame cfg x.msgs s).1 ▸ hcl
    exact absurd (by rw [hfix, hcl]; rfl) h
  | timer b =>
    intro hcl p hp
    obtain ⟨x, hx, rfl⟩ := List.mem_map.mp hp
    rw [timerPW_opn]; exact hinv hcl x hx
  | getBatch => exact fun hcl => updPWs_opn _ _ _ _ takeBatch_opn (hinv hcl)
  | getExit => exact fun hcl => updPWs_opn _ _ _ _ (fun _ => rfl) (hinv hcl)
  | attempt => exact fun hcl => updPWs_opn _ _ _ _ (answer_opn cfg _) (hinv hcl)
  | complete => exact fun hcl => updPWs_opn _ _ _ _ (fun _ => rfl) (hinv hcl)

theorem wg_eq_zero_iff (s : State) :
    s.wg = 0 ↔ (∀ c ∈ s.calls, c.holdsGroup = false) ∧ (∀ p ∈ s.writers, p.live = false) ∧ s.awaiters = [] := by
  have none_iff : ∀ {α : Type} (l : List α) (q : α → Bool), l.countP q = 0 ↔ ∀ x ∈ l, q x = false := fun l q => by
    rw [List.countP_eq_zero]
    exact forall₂_congr fun x _ => Bool.not_eq_true (q x) ▸ Iff.rfl
  rw [← none_iff, ← none_iff, ← List.length_eq_zero_iff]
  simp only [State.wg]
  omega

/-- a synchronous call waits for a message that nobody holds any more (excluded by the tracking invariant) -/
def WaitingBlocked (s : State) : Prop :=
  s.awaiters = [] ∧ (∀ p ∈ s.writers, p.live = false) ∧
  ∃ c ∈ s.calls, c.phase = .waiting ∧ ∃ mk ∈ c.msgs, s.isCompleted mk.1 = false

/-- events that make progress without any new request from the application: the library's internal events and
the transport's answer to a metadata lookup it already holds -/
def Event.progress (e : Event) : Bool := e.internal || (match e with | .metaRel _ => true | _ => false)

/-- While Close waits and no partition writer is open, `closeReturn` or a progress event is enabled — unless a waiting
call still misses a completion although no timer and no sender is alive to produce it (`WaitingBlocked`); that case needs
the tracking invariant and is excluded there (`not_waitingBlocked`). -/
theorem progress_core (cfg : Cfg) (s : State) (hclose : s.close = 2)
    (hno : ∀ p ∈ s.writers, p.opn = false) :
    (step cfg s .closeReturn).isSome ∨ (∃ e, e.progress = true ∧ (step cfg s e).isSome) ∨ WaitingBlocked s := by
  by_cases haw : s.awaiters = []
  case neg =>
    obtain ⟨b, rest, hl⟩ := List.exists_cons_of_ne_nil haw
    exact Or.inr (Or.inl ⟨.timer b, rfl, (Step.timer (cfg := cfg) b (by simp [hl])).enabled⟩)
  by_cases hlive : ∃ p ∈ s.writers, p.live = true
  · obtain ⟨p, hp, hl⟩ := hlive
    refine Or.inr (Or.inl ?_)
    cases hs : p.sender with
    | exited => simp [PW.live, hs] at hl
    | idle =>
      refine ⟨.get p.pid, rfl, ?_⟩
      by_cases hq : p.queue.isEmpty = true
      · -- an empty closed queue: the goroutine exits, unless another entry with this id has a batch to take
        by_cases hb : hasPW s p.pid (fun p => decide (p.sender = .idle) && !p.queue.isEmpty) = true
        · exact (Step.getBatch (cfg := cfg) p.pid hb).enabled
        · exact (Step.getExit (cfg := cfg) p.pid hb (hasPW_of_mem hp (by simp [hs, hq, hno p hp]))).enabled
      · exact (Step.getBatch (cfg := cfg) p.pid (hasPW_of_mem hp (by simp [hs, hq]))).enabled
    | sending b k =>
      exact ⟨.attempt p.pid .ok, rfl, (Step.attempt (cfg := cfg) p.pid .ok (hasPW_of_mem hp (by simp [hs, Sender.isSending]))).enabled⟩
    | completing b why =>
      refine ⟨.complete p.pid, rfl, ?_⟩
      cases hf : s.writers.find? (fun q => decide (q.pid = p.pid) && q.sender.isCompleting) with
      | none => exact absurd (by simp [hs, Sender.isCompleting]) (List.find?_eq_none.mp hf p hp)
      | some q =>
        have hq := List.find?_some hf
        simp only [Bool.and_eq_true] at hq
        cases hqs : q.sender with
        | completing b' why' => exact (Step.complete (cfg := cfg) p.pid q b' why' hf hqs).enabled
        | _ => simp [hqs, Sender.isCompleting] at hq
  · have hdead : ∀ p ∈ s.writers, p.live = false := fun p hp => by
      cases h : p.live with
      | false => rfl
      | true => exact absurd ⟨p, hp, h⟩ hlive
    by_cases hcall : ∃ c ∈ s.calls, c.holdsGroup = true
    · obtain ⟨c, hc, hg⟩ := hcall
      simp only [Call.holdsGroup, Bool.or_eq_true, decide_eq_true_eq] at hg
      rcases hg with hent | hwait
      · refine Or.inr (Or.inl ?_)
        by_cases hem : c.msgs.isEmpty = true
        · exact ⟨.early c.id .nil, rfl, (Step.early (cfg := cfg) c.id .nil (hasCall_of_mem hc (by simp [hent, hem, earlyOk]))).enabled⟩
        · by_cases hheld : c.held = true
          · exact ⟨.metaRel c.id, rfl, (Step.metaRel (cfg := cfg) c.id (hasCall_of_mem hc (by simp [hent, hheld]))).enabled⟩
          · refine ⟨.batch c.id, rfl, ?_⟩
            cases hf : s.calls.find? (fun x => decide (x.id = c.id) && decide (x.phase = .entered) && !x.msgs.isEmpty && !x.held) with
            | none => exact absurd (by simp [hent, hem, hheld]) (List.find?_eq_none.mp hf c hc)
            | some x =>
              by_cases hfx : (cfg.fixed && s.closed) = true
              · exact (Step.batchRefused c.id x hf hfx).enabled
              · exact (Step.batchAccepted c.id x hf hfx).enabled
      · by_cases hall : c.msgs.all (fun mk => s.isCompleted mk.1) = true
        · have hr : callResult s c = .nil ∨ callResult s c = .writeErrors := by
            simp only [callResult]; split <;> simp
          exact Or.inr (Or.inl ⟨.leave c.id (callResult s c), rfl,
            (Step.leave (cfg := cfg) c.id _ (hasCall_of_mem hc (by rcases hr with h | h <;> simp [h, hwait, hall, leaveOk]))).enabled⟩)
        · refine Or.inr (Or.inr ⟨haw, hdead, c, hc, hwait, ?_⟩)
          simp only [List.all_eq_true] at hall
          apply Classical.byContradiction
          intro hcon
          apply hall
          intro mk hmk
          cases h : s.isCompleted mk.1 with
          | true => rfl
          | false => exact absurd ⟨mk, hmk, h⟩ hcon
    · have h0 := (wg_eq_zero_iff s).mpr ⟨fun c hc => Bool.eq_false_iff.mpr fun hg => hcall ⟨c, hc, hg⟩, hdead, haw⟩
      exact Or.inl (Step.closeReturn (cfg := cfg) (by simp [hclose, h0])).enabled

/-- only the three Close events move the Close phase and the closed flag, and this is how -/
theorem step_close_flags (cfg : Cfg) (s s' : State) (e : Event) (hstep : step cfg s e = some s') :
    (s'.close = s.close ∧ s'.closed = s.closed) ∨ (s.close = 0 ∧ s' = { s with close := 1 }) ∨
    (s'.close = 2 ∧ s'.closed = true) ∨ (s.close = 2 ∧ s.wg = 0 ∧ s' = { s with close := 3 }) := by
  cases Step.of_step hstep with
  | closeBegin h => exact Or.inr (Or.inl ⟨h, rfl⟩)
  | closeMark => exact Or.inr (Or.inr (Or.inl ⟨rfl, rfl⟩))
  | closeReturn h =>
    simp only [Bool.and_eq_true, decide_eq_true_eq] at h
    exact Or.inr (Or.inr (Or.inr ⟨h.1, h.2, rfl⟩))
  | batchAccepted c x => exact Or.inl ⟨(foldl_addOne_frame cfg x.msgs s).2.1, (foldl_addOne_frame cfg x.msgs s).1⟩
  | _ => exact Or.inl ⟨rfl, rfl⟩

theorem reachable_induction (cfg : Cfg) (P : State → Prop) (h0 : P State.init)
    (hstep : ∀ s s' e, P s → step cfg s e = some s' → P s') : ∀ s, Reachable cfg s → P s :=
  fun _ ⟨es, hr⟩ => Run.invariant (fun s e s' => hstep s s' e) (run_eq cfg _ es ▸ hr) h0

theorem closed_iff_step (cfg : Cfg) (s s' : State) (e : Event) (ih : 2 ≤ s.close ↔ s.closed = true)
    (hs : step cfg s e = some s') : 2 ≤ s'.close ↔ s'.closed = true := by
  rcases step_close_flags cfg s s' e hs with ⟨h1, h2⟩ | ⟨h0, rfl⟩ | ⟨h1, h2⟩ | ⟨h0, _, rfl⟩
  · rw [h1, h2]; exact ih
  · exact ⟨fun (h : 2 ≤ 1) => by omega, fun h => by have := ih.mpr h; omega⟩
  · rw [h1, h2]; simp
  · exact ⟨fun _ => ih.mp (by omega), fun _ => (by omega : 2 ≤ 3)⟩

theorem reachable_closed_iff (cfg : Cfg) : ∀ s, Reachable cfg s → (2 ≤ s.close ↔ s.closed = true) :=
  reachable_induction cfg _ (by simp [State.init]) (closed_iff_step cfg)

theorem reachable_noOpen (cfg : Cfg) (hfix : cfg.fixed = true) : ∀ s, Reachable cfg s → NoOpenWhenClosed s :=
  reachable_induction cfg NoOpenWhenClosed (fun h => by simp [State.init] at h) (noOpen_step cfg hfix)

end KV.WriterClose
