/-
Lemmas/ReaderCloseSystem.lean — Reader.Close over its components (Model/ReaderCloseSystem.lean).
-/
import KafkaVerif.Model.ReaderCloseSystem
import KafkaVerif.Lemmas.FetcherLife
import KafkaVerif.Lemmas.GroupCloseProgress
import KafkaVerif.Lemmas.GroupRunMeasure
import KafkaVerif.Lemmas.ListSums
namespace KV.ReaderCloseSystem
open KV

/-- work left after the mark -/
def mu (c : Group.Cfg) (s : State) : Nat :=
  (s.fetchers.map FetcherLife.rank).sum + (match s.group with | some g => Group.runMu c g | none => 0) +
  (if s.msgsClosed then 0 else 1) + (3 - s.close)

/-- the steps Close waits for after the mark: its own last two, the control steps of the fetchers, the steps of the
group's `run` goroutine -/
def internal : Event → Bool
  | .closeMsgs | .closeReturn => true
  | .fetcher _ e => e.control
  | .group e => e.runLoop
  | _ => false

/-- not used below: the measure goes through `sum_set_lt` (Lemmas/ListSums.lean) -/
theorem sum_set_eq (l : List FetcherLife.State) (i : Nat) (f : FetcherLife.State) (hi : l[i]? = some f) :
    l.set i f = l := by
  induction l generalizing i with
  | nil => simp
  | cons x xs ih =>
    cases i with
    | zero => simp at hi; subst hi; simp
    | succ j => simp only [List.getElem?_cons_succ] at hi; simp [ih j hi]

/-- invariant: after the mark every fetcher's context is done, the group is closed, and the group component is a
reachable state of Model/GroupRun -/
structure Inv (c : Group.Cfg) (s : State) : Prop where
  canc : s.closed = true → ∀ f ∈ s.fetchers, f.cancelled = true
  grp : ∀ g, s.group = some g → Group.Reachable c g ∧ (s.closed = true → g.closedCG = true)
  mark : 2 ≤ s.close → s.closed = true
  le3 : s.close ≤ 3
  msgs : s.msgsClosed = true → 2 ≤ s.close

theorem step_fetcher {c : Group.Cfg} {s s' : State} {i : Nat} {e : FetcherLife.Event}
    (h : step c s (.fetcher i e) = some s') :
    ∃ f f', s.fetchers[i]? = some f ∧ FetcherLife.step f e = some f' ∧ s' = { s with fetchers := s.fetchers.set i f' } := by
  dsimp only [step] at h
  cases hf : s.fetchers[i]? with
  | none => simp [hf] at h
  | some f =>
    simp only [hf] at h
    split at h
    · cases h
    · obtain ⟨f', hs, rfl⟩ := Option.map_eq_some_iff.mp h
      exact ⟨f, f', rfl, hs, rfl⟩

theorem step_group {c : Group.Cfg} {s s' : State} {e : Group.Ev} (h : step c s (.group e) = some s') :
    ∃ g g', s.group = some g ∧ Group.step c g e = some g' ∧ s' = { s with group := some g' } := by
  dsimp only [step] at h
  cases hg : s.group with
  | none => simp [hg] at h
  | some g =>
    simp only [hg] at h
    split at h
    · cases h
    · obtain ⟨g', hs, rfl⟩ := Option.map_eq_some_iff.mp h
      exact ⟨g, g', rfl, hs, rfl⟩

theorem inv_init (c : Group.Cfg) (grp : Bool) : Inv c { group := if grp then some {} else none } := by
  refine ⟨by intro h; simp at h, ?_, by intro h; simp at h, by simp, by intro h; simp at h⟩
  intro g hg
  cases grp <;> simp at hg
  subst hg
  exact ⟨.init, by intro h; simp at h⟩

theorem inv_step (c : Group.Cfg) (s s' : State) (e : Event) (hi : Inv c s) (h : step c s e = some s') : Inv c s' := by
  obtain ⟨h1, h2, h3, h4, h5⟩ := hi
  cases e <;> dsimp only [step] at h
  case closeBegin =>
    simp only [Option.ite_none_right_eq_some, Option.some.injEq] at h
    obtain ⟨hc, rfl⟩ := h
    exact ⟨h1, h2, by simp, by simp, by intro hm; have := h5 hm; omega⟩
  case closeMark =>
    simp only [Option.ite_none_right_eq_some, Option.some.injEq] at h
    obtain ⟨hc, rfl⟩ := h
    refine ⟨?_, ?_, by simp, by simp, by simp⟩
    · intro _ f hf
      simp only [List.mem_map] at hf
      obtain ⟨f0, _, rfl⟩ := hf
      rfl
    · intro g hg
      simp only [Option.map_eq_some_iff] at hg
      obtain ⟨g0, hg0, rfl⟩ := hg
      exact ⟨.step .closeCall (h2 g0 hg0).1 (by simp [Group.step]), fun _ => rfl⟩
  case closeMsgs =>
    simp only [Option.ite_none_right_eq_some, Option.some.injEq, Bool.and_eq_true, decide_eq_true_eq] at h
    obtain ⟨hc, rfl⟩ := h
    exact ⟨h1, h2, h3, h4, fun _ => by simp; omega⟩
  case closeReturn =>
    simp only [Option.ite_none_right_eq_some, Option.some.injEq, Bool.and_eq_true, decide_eq_true_eq] at h
    obtain ⟨hc, rfl⟩ := h
    exact ⟨fun hcl => h1 hcl, h2, fun _ => h3 (by omega), by simp, fun _ => by simp⟩
  case fetcherStart =>
    simp only [Option.ite_none_right_eq_some, Option.some.injEq, Bool.not_eq_true'] at h
    obtain ⟨hc, rfl⟩ := h
    exact ⟨fun hcl => by simp [hc] at hcl, h2, h3, h4, h5⟩
  case fetcher i e =>
    obtain ⟨f, f', hf, hs, rfl⟩ := step_fetcher (c := c) h
    refine ⟨fun hcl x hx => ?_, h2, h3, h4, h5⟩
    rcases List.mem_or_eq_of_mem_set hx with hx | rfl
    · exact h1 hcl x hx
    · exact FetcherLife.keeps_cancelled f _ e (h1 hcl f (List.mem_of_getElem? hf)) hs
  case group e =>
    obtain ⟨g, g', hg, hs, rfl⟩ := step_group (c := c) h
    refine ⟨h1, fun g2 hg2 => ?_, h3, h4, h5⟩
    cases hg2
    have := h2 g hg
    exact ⟨.step e this.1 hs, fun hcl => Group.step_closedCG hs (this.2 hcl)⟩

theorem mu_decreases (c : Group.Cfg) (s s' : State) (e : Event) (hi : Inv c s) (hm : s.close = 2)
    (he : internal e = true) (h : step c s e = some s') : mu c s' < mu c s := by
  have hcl := hi.mark (by omega)
  cases e <;> simp only [internal] at he <;> try contradiction
  case closeMsgs =>
    simp only [step, Option.ite_none_right_eq_some, Option.some.injEq, Bool.and_eq_true, decide_eq_true_eq,
      Bool.not_eq_true'] at h
    obtain ⟨⟨_, hmc⟩, rfl⟩ := h
    simp [mu, hmc]
  case closeReturn =>
    simp only [step, Option.ite_none_right_eq_some, Option.some.injEq, Bool.and_eq_true, decide_eq_true_eq] at h
    obtain ⟨⟨hc2, _⟩, rfl⟩ := h
    simp only [mu, hc2]; omega
  case fetcher i fe =>
    obtain ⟨f, f', hf, hs, rfl⟩ := step_fetcher (c := c) h
    have hr := (FetcherLife.terminates_after_cancel f f' fe (hi.canc hcl f (List.mem_of_getElem? hf)) he hs).1
    have := sum_set_lt FetcherLife.rank s.fetchers i f f' hf hr
    simp only [mu]; omega
  case group ge =>
    obtain ⟨g, g', hg, hs, rfl⟩ := step_group (c := c) h
    have := Group.runMu_decreases c g g' ge he hs
    simp only [mu, hg]; omega

/-- `step` of Model/ReaderCloseSystem.lean with the components' transition functions as parameters (the fetcher and
group cases are the model's, with `fstep` / `gstep` in place of the components' steps): `step c` is
`sysStep FetcherLife.step (Group.step c) c` (`step_eq_sysStep`), and `GroupClose.stepSilentSys`, the system against peers
that have stopped answering, is `sysStep` of the components' `stepSilent…` (`stepSilentSys_eq_sysStep`,
Lemmas/ReaderCloseSilent.lean).  Progress is proved once, for `sysStep`. -/
def sysStep (fstep : FetcherLife.State → FetcherLife.Event → Option FetcherLife.State)
    (gstep : Group.St → Group.Ev → Option Group.St) (c : Group.Cfg) (s : State) : Event → Option State
  | .fetcher i e =>
    match s.fetchers[i]? with
    | none => none
    | some f =>
      if e = .ctxCancel then none
      else (fstep f e).map fun f' => { s with fetchers := s.fetchers.set i f' }
  | .group e =>
    match s.group with
    | none => none
    | some g =>
      if s.closed && (e == .nextCall || e == .closeCall) then none
      else (gstep g e).map fun g' => { s with group := some g' }
  | e => step c s e

theorem step_eq_sysStep (c : Group.Cfg) (s : State) (e : Event) :
    step c s e = sysStep FetcherLife.step (Group.step c) c s e := by
  cases e <;> rfl

theorem not_appCall_of_runLoop {e : Group.Ev} (he : e.runLoop = true) : (e == .nextCall || e == .closeCall) = false := by
  cases e <;> first | rfl | cases he

/-- While Close waits after the mark some component can move, whatever the components' transition functions are,
as long as a cancelled fetcher that has not returned has an enabled control step and the `run` goroutine of a closed
group that has not exited has an enabled step of its own or of a kind `Q` (not an application call): then an internal
step of the system (a fetcher's control step, a step of `run`, `closeMsgs`, `closeReturn`) or a group step of kind `Q` is
enabled. -/
theorem sysStep_progress (fstep : FetcherLife.State → FetcherLife.Event → Option FetcherLife.State)
    (gstep : Group.St → Group.Ev → Option Group.St) (c : Group.Cfg) (s : State) (hi : Inv c s) (hm : s.close = 2)
    (Q : Group.Ev → Prop) (hQ : ∀ e, Q e → (e == .nextCall || e == .closeCall) = false)
    (hf : ∀ f, f.cancelled = true → f.pc ≠ .exited → ∃ e, e.control = true ∧ (fstep f e).isSome = true)
    (hg : ∀ g, s.group = some g → g.pc ≠ .exited → ∃ e, (e.runLoop = true ∨ Q e) ∧ (gstep g e).isSome = true) :
    ∃ e, (internal e = true ∨ ∃ ge, e = .group ge ∧ Q ge) ∧ (sysStep fstep gstep c s e).isSome = true := by
  have hcl := hi.mark (by omega)
  by_cases hfx : fetchersExited s = true
  · by_cases hgx : groupExited s = true
    · by_cases hmc : s.msgsClosed = true
      · exact ⟨.closeReturn, Or.inl rfl, by simp [sysStep, step, hm, hmc]⟩
      · exact ⟨.closeMsgs, Or.inl rfl, by simp [sysStep, step, hm, hfx, hgx, hmc]⟩
    · -- the group's run goroutine has not exited
      cases hgs : s.group with
      | none => simp [groupExited, hgs] at hgx
      | some g =>
        have hpc : g.pc ≠ .exited := fun h => by simp [groupExited, hgs, h] at hgx
        obtain ⟨e, hq, hen⟩ := hg g hgs hpc
        have hne := hq.elim (fun h => not_appCall_of_runLoop h) (hQ e)
        refine ⟨.group e, hq.imp id fun h => ⟨e, rfl, h⟩, ?_⟩
        obtain ⟨g', hse⟩ := Option.isSome_iff_exists.mp hen
        simp [sysStep, hgs, hne, hse]
  · -- some fetcher has not returned
    have hex : ∃ f ∈ s.fetchers, f.pc ≠ .exited := by
      apply Classical.byContradiction
      intro hno
      apply hfx
      simp only [fetchersExited, List.all_eq_true, beq_iff_eq]
      intro x hx
      exact Classical.byContradiction fun hne => hno ⟨x, hx, hne⟩
    obtain ⟨f, hfm, hne⟩ := hex
    obtain ⟨i, hi', hget⟩ := List.getElem_of_mem hfm
    have hget? : s.fetchers[i]? = some f := by rw [List.getElem?_eq_getElem hi', hget]
    obtain ⟨e, hec, hen⟩ := hf f (hi.canc hcl f hfm) hne
    refine ⟨.fetcher i e, Or.inl hec, ?_⟩
    have hnc : e ≠ .ctxCancel := fun h => by rw [h] at hec; cases hec
    obtain ⟨f', hse⟩ := Option.isSome_iff_exists.mp hen
    simp [sysStep, hget?, hnc, hse]

/-- `hw` leaves out the states where `run` waits inside `gen.close()`: what moves there is an event of the generation,
which `system_progress_full` below admits (`genEv`), without `hw` -/
theorem system_progress (c : Group.Cfg) (s : State) (hi : Inv c s) (hm : s.close = 2)
    (hw : ∀ g, s.group = some g → ∀ ret r, g.pc ≠ .waiting ret r) :
    ∃ e, (internal e = true ∨ ∃ gi acc, e = .group (.gStart gi acc)) ∧ (step c s e).isSome := by
  obtain ⟨e, he, hen⟩ := sysStep_progress FetcherLife.step (Group.step c) c s hi hm
    (fun ge => ∃ gi acc, ge = .gStart gi acc) (fun _ ⟨_, _, h⟩ => h ▸ rfl)
    (fun f hc hx => FetcherLife.progress_after_cancel f hc hx)
    (fun g hgs hx => GroupClose.run_progress c g (hi.grp g hgs).1 ((hi.grp g hgs).2 (hi.mark (by omega))) hx (hw g hgs))
  exact ⟨e, he.imp_right fun ⟨_, h, gi, acc, h'⟩ => ⟨gi, acc, h' ▸ h⟩, step_eq_sysStep c s e ▸ hen⟩

end KV.ReaderCloseSystem

namespace KV.GroupClose
open KV.Group KV.ReaderCloseSystem

theorem system_progress_full (c : Cfg) (s : ReaderCloseSystem.State) (hi : ReaderCloseSystem.Inv c s) (hm : s.close = 2) :
    ∃ e, (ReaderCloseSystem.internal e = true ∨ (∃ gi acc, e = .group (.gStart gi acc)) ∨
          ∃ ge, e = .group ge ∧ genEv ge = true) ∧ (ReaderCloseSystem.step c s e).isSome = true := by
  obtain ⟨e, he, hen⟩ := sysStep_progress FetcherLife.step (Group.step c) c s hi hm
    (fun ge => (∃ gi acc, ge = .gStart gi acc) ∨ genEv ge = true)
    (fun _ h => h.elim (fun ⟨_, _, h⟩ => h ▸ rfl) fun h => genEvS_not_appCall (genEvS_of_genEv h))
    (fun f hc hx => FetcherLife.progress_after_cancel f hc hx)
    (fun g hgs hx => run_progress_full c g (hi.grp g hgs).1 ((hi.grp g hgs).2 (hi.mark (by omega))) hx)
  exact ⟨e, he.imp_right fun ⟨ge, h, hq⟩ => hq.imp (fun ⟨gi, acc, h'⟩ => ⟨gi, acc, h' ▸ h⟩) fun hq => ⟨ge, h, hq⟩,
    step_eq_sysStep c s e ▸ hen⟩

end KV.GroupClose
