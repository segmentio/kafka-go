/-
Lemmas/LockEval.lean — the checkers of Model/LockProg.lean and `groupsOk` of Model/Lockset.lean in forms that the kernel
evaluates faster, each with the theorem that it agrees with (for `groupsOk`: implies) the checker for all inputs.
Props/C10.lean evaluates these on the regenerated tables.

Two things make the difference.  A function defined by structural recursion is compiled to `brecOn`, which the kernel
unfolds at about three times the cost of the same function written with the recursor: hence the definitions by
`Trie.rec` and `Cmd.rec` below (`noncomputable`: they are for the kernel, the model keeps the runnable ones).  And a
check of the form `(list of c).all p` is cheaper when `p` is asked on the way, without the list and its `++`.
-/
import KafkaVerif.Model.LockProg
import KafkaVerif.Lemmas.Lockset

namespace KV.LockProg
open KV.Lockset

namespace Trie

/-- `Trie.get`, with `Nat.mod`, `Nat.div`, `Nat.beq` applied directly (no instance to unfold before the built-in
    arithmetic on literals applies) and a `Bool` test instead of a `Decidable` one.  The table checks are lookups for
    the most part. -/
noncomputable def getR {α : Type} : Trie α → Nat → Option α :=
  @Trie.rec α (fun _ => Nat → Option α) (fun _ => none) fun v _ _ gz go n =>
    Nat.casesOn n v fun k => cond (Nat.beq (Nat.mod k 2) 0) (gz (Nat.div k 2)) (go (Nat.div k 2))

theorem get_eq_getR : @Trie.get = @Trie.getR := by
  funext α t n
  induction t generalizing n with
  | nil => rfl
  | node v z o ihz iho =>
    cases n with
    | zero => rfl
    | succ k =>
      rw [Trie.get, if_neg (Nat.succ_ne_zero k), Nat.add_sub_cancel, ihz, iho]
      show _ = cond (Nat.beq (k % 2) 0) _ _
      cases h : Nat.beq (k % 2) 0
      · rw [if_neg (Nat.ne_of_beq_eq_false h)]; rfl
      · rw [if_pos (Nat.eq_of_beq_eq_true h)]; rfl

end Trie

/-! The arguments of `Cmd.rec` below are the cases `skip acq asm rel dfr acc call icall seq alt loop ret block jump spawn`. -/

/-- `(targets c).all p` -/
noncomputable def targetsAll (p : Nat → Bool) : Cmd → Bool :=
  @Cmd.rec (fun _ => Bool) true (fun _ => true) (fun _ => true) (fun _ => true) (fun _ => true) (fun _ => true)
    (fun f => p f) (fun f => p f) (fun _ _ ra rb => ra && rb) (fun _ _ ra rb => ra && rb) (fun _ ra => ra) true
    (fun _ ra => ra) (fun _ => true) (fun _ ra => ra)

theorem all_targets (p : Nat → Bool) (c : Cmd) : (targets c).all p = targetsAll p c := by
  induction c with
  | seq a b iha ihb | alt a b iha ihb => rw [targets, List.all_append, iha, ihb]; rfl
  | loop a ih | block a ih | spawn a ih => exact ih
  | call f | icall f => simp [targets, targetsAll]
  | _ => rfl

/-- `(relSet relOf c).all p` -/
noncomputable def relSetAll (relOf : Nat → List Mutex) (p : Mutex → Bool) : Cmd → Bool :=
  @Cmd.rec (fun _ => Bool) true (fun _ => true) (fun _ => true) (fun m => p m) (fun m => p m) (fun _ => true)
    (fun f => (relOf f).all p) (fun _ => true) (fun _ _ ra rb => ra && rb) (fun _ _ ra rb => ra && rb) (fun _ ra => ra) true
    (fun _ ra => ra) (fun _ => true) (fun _ _ => true)

theorem all_relSet (relOf : Nat → List Mutex) (p : Mutex → Bool) (c : Cmd) : (relSet relOf c).all p = relSetAll relOf p c := by
  induction c with
  | seq a b iha ihb | alt a b iha ihb => rw [relSet, List.all_append, iha, ihb]; rfl
  | loop a ih | block a ih => exact ih
  | rel m | dfr m => simp [relSet, relSetAll]
  | _ => rfl

/-- what the whole-program checks need of a `Res`: do all its call sites satisfy `pc`, all its rows `pr` -/
structure Chk where
  callsOk : Bool := true
  rowsOk : Bool := true
  out : Option LS := none
  exits : List (Option LS) := []

def chkOf (pc pr : Nat × LS → Bool) (r : Res) : Chk :=
  { callsOk := r.calls.all pc, rowsOk := r.rows.all pr, out := r.out, exits := r.exits }

namespace Chk
/-! the composite cases of `an`, on `Chk` -/
def seq (ra rb : LS → Chk) (L : LS) : Chk :=
  match (ra L).out with
  | none => ra L
  | some L₁ =>
    { callsOk := (ra L).callsOk && (rb L₁).callsOk, rowsOk := (ra L).rowsOk && (rb L₁).rowsOk, out := (rb L₁).out,
      exits := meetX (ra L).exits (rb L₁).exits }
def alt (ra rb : LS → Chk) (L : LS) : Chk :=
  { callsOk := (ra L).callsOk && (rb L).callsOk, rowsOk := (ra L).rowsOk && (rb L).rowsOk,
    out := meetO (ra L).out (rb L).out, exits := meetX (ra L).exits (rb L).exits }
/-- `invOfWith` reads only the `out` component of the body's result, so it is given a `Res` holding that alone -/
def loop (ra : LS → Chk) (L : LS) : Chk :=
  let inv := invOfWith (fun L => { out := (ra L).out }) L
  { callsOk := (ra inv).callsOk, rowsOk := (ra inv).rowsOk, out := some inv, exits := (ra inv).exits }
def block (ra : LS → Chk) (L : LS) : Chk :=
  { callsOk := (ra L).callsOk, rowsOk := (ra L).rowsOk, out := meetO (ra L).out (exitAt (ra L).exits 0),
    exits := (ra L).exits.drop 1 }
def spawn (ra : LS → Chk) (L : LS) : Chk := { callsOk := (ra []).callsOk, rowsOk := (ra []).rowsOk, out := some L }
end Chk

noncomputable def anChk (relOf : Nat → List Mutex) (pc pr : Nat × LS → Bool) : Cmd → LS → Chk :=
  @Cmd.rec (fun _ => LS → Chk)
    (fun L => { out := some L })
    (fun x L => { out := some (x :: L) })
    (fun x L => { out := some (x :: L) })
    (fun m L => { out := some (dropM m L) })
    (fun _ L => { out := some L })
    (fun k L => { rowsOk := pr (k, L), out := some L })
    (fun f L => { callsOk := pc (f, L), out := some (dropAll (relOf f) L) })
    (fun f L => { callsOk := pc (f, L), out := some L })
    (fun _ _ => Chk.seq) (fun _ _ => Chk.alt) (fun _ => Chk.loop)
    (fun _ => {})
    (fun _ => Chk.block)
    (fun n L => { exits := List.replicate n none ++ [some L] })
    (fun _ => Chk.spawn)

theorem anChk_eq (relOf : Nat → List Mutex) (pc pr : Nat × LS → Bool) (c : Cmd) (L : LS) :
    anChk relOf pc pr c L = chkOf pc pr (an relOf c L) := by
  induction c generalizing L with
  | seq a b iha ihb =>
    show Chk.seq (anChk relOf pc pr a) (anChk relOf pc pr b) L = _
    simp only [Chk.seq, an, iha]
    cases h : (an relOf a L).out with
    | none => simp [chkOf, h]
    | some L₁ => simp [chkOf, h, ihb, List.all_append]
  | alt a b iha ihb =>
    show Chk.alt (anChk relOf pc pr a) (anChk relOf pc pr b) L = _
    simp [Chk.alt, an, iha, ihb, chkOf, List.all_append]
  | loop a ih =>
    show Chk.loop (anChk relOf pc pr a) L = _
    simp only [Chk.loop, ih, an]
    rfl  -- `invOfWith` of the two bodies agree by unfolding: only `.out` is read
  | block a ih =>
    show Chk.block (anChk relOf pc pr a) L = _
    simp only [Chk.block, ih, an]; rfl
  | spawn a ih =>
    show Chk.spawn (anChk relOf pc pr a) L = _
    simp only [Chk.spawn, ih, an]; rfl
  | _ => simp [anChk, an, chkOf]

theorem checkAllB_eq_anChk (fs : List (Nat × Cmd)) (rel : Trie (List Mutex)) (entry t : Trie LS) :
    checkAllB fs rel entry t = fs.all fun p =>
      let r := anChk (getL rel) (fun c => subB (getLS entry c.1) c.2) (fun x => decide (t.get x.1 = some x.2)) p.2 (getLS entry p.1)
      r.callsOk && r.rowsOk := by
  unfold checkAllB
  simp only [anChk_eq, chkOf]

end KV.LockProg

namespace KV.Lockset

/-- `r` holds `m` as far as a conflict can ask: `r` is not published, or holds `m` exclusively, or shared and only reads -/
def holdsFor (m : Mutex) (r : Access) : Bool :=
  r.phase != .published || r.locks.any fun h => h.m == m && (h.mode == .excl || !r.write)

/-- A sufficient test in one pass: some lock of the first published write is held (`holdsFor`) at every row.  The
    first published write will do: a lock that passes the test is held at every published row, so at that write too;
    with no published write nothing conflicts. -/
def commonLockOk (rows : List Access) : Bool :=
  match rows.find? (fun r => r.write && r.phase == .published) with
  | none => true
  | some w => w.locks.any fun c => rows.all (holdsFor c.m)

theorem conflict_true {a b : Access} (h : conflict a b = true) :
    (a.write = true ∨ b.write = true) ∧ a.phase = .published ∧ b.phase = .published := by
  simp only [conflict, Bool.and_eq_true, Bool.or_eq_true, beq_iff_eq] at h
  obtain ⟨⟨⟨⟨_, hw⟩, _⟩, hpa⟩, hpb⟩ := h
  exact ⟨hw, hpa, hpb⟩

theorem raceFree_of_commonLockOk {rows : List Access} (h : commonLockOk rows = true) : raceFree rows = true := by
  refine List.all_eq_true.2 fun a ha => List.all_eq_true.2 fun b hb => ?_
  cases hc : conflict a b with
  | false => simp [pairOk, hc]
  | true =>
    obtain ⟨hw, hpa, hpb⟩ := conflict_true hc
    rw [pairOk, hc]
    unfold commonLockOk at h
    split at h
    · rename_i hnone
      have hno := List.find?_eq_none.1 hnone
      rcases hw with hw | hw
      · exact absurd (by simp [hw, hpa]) (hno a ha)
      · exact absurd (by simp [hw, hpb]) (hno b hb)
    · obtain ⟨c, _, hall⟩ := List.any_eq_true.1 h
      have key : ∀ r ∈ rows, r.phase = .published → ∃ x ∈ r.locks, x.m = c.m ∧ (x.mode = .excl ∨ r.write = false) := by
        intro r hr hp
        have := List.all_eq_true.1 hall r hr
        simpa [holdsFor, hp] using this
      obtain ⟨x, hx, hxm, hxe⟩ := key a ha hpa
      obtain ⟨y, hy, hym, hye⟩ := key b hb hpb
      refine sharesLock_iff.2 ⟨x, hx, y, hy, hxm.trans hym.symm, ?_⟩
      rcases hw with hw | hw
      · exact .inl (hxe.resolve_right (by simp [hw]))
      · exact .inr (hye.resolve_right (by simp [hw]))

/-- `groupsOk` with `raceFree` of a group decided by the one-pass test where that succeeds -/
def groupsOkFast (gs : List Group) : Bool :=
  gs.all (fun g => g.rows.all (fun a => a.field == g.field) && (commonLockOk g.rows || raceFree g.rows)) && keysInc gs

theorem groupsOk_of_fast {gs : List Group} (h : groupsOkFast gs = true) : groupsOk gs = true := by
  simp only [groupsOkFast, groupsOk, Bool.and_eq_true, List.all_eq_true, Bool.or_eq_true] at h ⊢
  refine ⟨fun g hg => ⟨(h.1 g hg).1, ?_⟩, h.2⟩
  exact (h.1 g hg).2.elim raceFree_of_commonLockOk id

end KV.Lockset
