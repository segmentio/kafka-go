/- Lemmas/Murmur2.lean — the Go index-loop murmur2 equals the block-recursive MurmurHash2. -/
import KafkaVerif.Model.Balancer
import KafkaVerif.Spec.Partitioners

namespace KV.Balancer
open KV

def toSpecConsts (c : MConsts) : Spec.MMConsts := { seed := c.seed, m := c.m, r := c.r }

theorem and_ff (b : UInt8) : (b.toUInt32 &&& (0xff : UInt32)) = b.toUInt32 := by
  apply UInt32.toNat_inj.mp
  simp only [UInt32.toNat_and, UInt8.toNat_toUInt32]
  have h : b.toNat < 256 := b.toNat_lt
  have : (0xff : UInt32).toNat = 2^8 - 1 := by decide
  rw [this, Nat.and_two_pow_sub_one_eq_mod]
  omega

theorem mixBlock_eq (c : MConsts) (h : UInt32) (b0 b1 b2 b3 : UInt8) :
    mixBlock c h b0 b1 b2 b3 = Spec.mmBlock (toSpecConsts c) h b0 b1 b2 b3 := by
  simp only [mixBlock, Spec.mmBlock, and_ff, toSpecConsts]

theorem drop_cons4 (data : Bytes) (k : Nat) (h : k + 4 ≤ data.length) :
    data.drop k = data.getD k 0 :: data.getD (k+1) 0 :: data.getD (k+2) 0 :: data.getD (k+3) 0 :: data.drop (k+4) := by
  have h0 : k < data.length := by omega
  have h1 : k+1 < data.length := by omega
  have h2 : k+2 < data.length := by omega
  have h3 : k+3 < data.length := by omega
  rw [List.drop_eq_getElem_cons h0, List.drop_eq_getElem_cons h1,
      List.drop_eq_getElem_cons h2, List.drop_eq_getElem_cons h3]
  simp [List.getD_eq_getElem?_getD, h0, h1, h2, h3]

/-- `n` rounds of the Go loop from block `i` are `n` blocks of `mmBody`; written on the rest, not as "accumulator = hash of the
prefix": hashing what is left after them from the loop's accumulator equals hashing `data.drop (4*i)` from `h` -/
theorem loop_eq (c : MConsts) (data : Bytes) : ∀ (n i : Nat) (h : UInt32), 4 * (i + n) ≤ data.length →
    Spec.mmBody (toSpecConsts c) (data.drop (4 * i)) h
      = Spec.mmBody (toSpecConsts c) (data.drop (4 * (i + n))) (goLoop c data h i n) := by
  intro n
  induction n with
  | zero => intro i h _; simp [goLoop]
  | succ n ih =>
    intro i h hl
    rw [drop_cons4 data (4*i) (by omega)]
    simp only [Spec.mmBody, goLoop]
    rw [← mixBlock_eq]
    have := ih (i+1) (mixBlock c h (data.getD (4 * i) 0) (data.getD (4 * i + 1) 0) (data.getD (4 * i + 2) 0) (data.getD (4 * i + 3) 0)) (by omega)
    have e1 : 4 * (i + 1) = 4 * i + 4 := by omega
    have e2 : i + 1 + n = i + (n + 1) := by omega
    rw [e1, e2] at this
    exact this

/-- the three tail `if`s are the last clauses of `mmBody`: `l` is what is left after the whole blocks -/
theorem tail_eq (c : MConsts) (data : Bytes) (h : UInt32) (base : Nat) (l : Bytes) (hd : data.drop base = l)
    (hl : l.length < 4) : Spec.mmBody (toSpecConsts c) l h = goTail c data h base l.length := by
  have g : ∀ j, data[base + j]?.getD 0 = l[j]?.getD 0 := fun j => by subst hd; simp
  have g0 := g 0
  rw [Nat.add_zero] at g0
  match l, hl with
  | [], _ => simp [Spec.mmBody, goTail]
  | [a], _ => simp [Spec.mmBody, goTail, g0, and_ff, toSpecConsts]
  | [a, b], _ => simp [Spec.mmBody, goTail, g0, g 1, and_ff, toSpecConsts]
  | [a, b, d], _ => simp [Spec.mmBody, goTail, g0, g 1, g 2, and_ff, toSpecConsts]
  | _ :: _ :: _ :: _ :: _, hl => simp at hl; omega

theorem murmur2Go_eq_with (c : MConsts) (data : Bytes) :
    murmur2Go c data = Spec.murmur2With (toSpecConsts c) data := by
  have hlen : (data.drop (4 * (data.length / 4))).length = data.length % 4 := by rw [List.length_drop]; omega
  have h1 := loop_eq c data (data.length / 4) 0 (c.seed ^^^ UInt32.ofNat data.length) (by omega)
  rw [Nat.mul_zero, List.drop_zero, Nat.zero_add] at h1
  unfold murmur2Go Spec.murmur2With
  simp only [finalMix]
  rw [← hlen, ← tail_eq c data _ _ _ rfl (by omega), ← h1]
  rfl

end KV.Balancer
