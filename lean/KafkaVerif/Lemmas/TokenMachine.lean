/-
Lemmas/TokenMachine.lean — the token machine of Model/MessageSetReader.lean (`Variant.fixed`) by itself.
-/
import KafkaVerif.Model.MessageSetReader

namespace KV.C02

/-! ### The token machine's `step` (`Variant.fixed`) as a table: `cut` ends the run in `finish`, the token the state is
waiting for is consumed (`St.eat`), any other token is a desynchronisation -/

theorem step_cut (v : Variant) (e : Bool) (o : Int) (s : St) :
    step v e o s .cut = .stop (finish v e s).1 (finish v e s).2 := by
  simp [step]

/-- the token a state is waiting for: a header between batches (a v2 header not inside readMessageV1's loop), else the
body token of the batch in progress -/
def St.expects (s : St) : Tok → Prop
  | .cut => False
  | .h2 .. => s.count = 0 ∧ s.inV1 = false
  | .h1 .. => s.count = 0
  | .r2 .. => s.magic = 2 ∧ s.count ≠ 0 ∧ s.codec = false
  | .z2 _ rs => s.magic = 2 ∧ s.count ≠ 0 ∧ s.codec = true ∧ s.count = s.hcount ∧ rs.length = s.count
  | .kv .. => s.magic ≤ 1 ∧ s.count ≠ 0 ∧ s.codec = false
  | .zv .. => s.magic ≤ 1 ∧ s.count ≠ 0 ∧ s.codec = true

/-- the state after a v2 batch header (the `batchEnd` clause is spelt as in `step`, with its `v = .fixed` conjunct
instantiated, so that `step_expected` holds by unfolding) -/
def stH2 (s : St) (b ld : Int) (c : Nat) (z : Bool) (pl : Nat) : St :=
  { s with started := true, count := c, magic := 2, first := b, lastD := ld, hcount := c, codec := z, lenRem := pl,
           batchEnd := if Variant.fixed = Variant.fixed ∧ c = 0 then b + ld + 1 else s.batchEnd, hr := s.hr - 1 }

def afterH1 (s : St) (m : Nat) (f : Int) (z : Bool) : St :=
  { s with started := true, count := 1, magic := m, first := f, codec := z, lenRem := 1 }

def St.eat (o : Int) (s : St) : Tok → St
  | .cut => s
  | .h2 b ld c z pl => stH2 s b ld c z pl
  | .h1 m f z => afterH1 s m f z
  | .r2 d t z => recordV2 .fixed o s d t z
  | .z2 _ rs => recordsV2 .fixed o s rs
  | .kv t _ => messageV1 .fixed o { s with count := 0 } s.first t
  | .zv _ inner => messagesV1 .fixed o (wrapperBase s.first inner) { s with count := 0, inV1 := true } inner

theorem step_expected {e : Bool} {o : Int} {s : St} {t : Tok} (h : s.expects t) : step .fixed e o s t = .cont (s.eat o t) := by
  cases t with
  | cut => exact absurd h id
  | h2 b ld c z pl => obtain ⟨h1, h2⟩ := h; simp [step, St.eat, stH2, h1, h2]
  | h1 m f z => simp [step, St.eat, afterH1, show s.count = 0 from h]
  | r2 d t z => obtain ⟨h1, h2, h3⟩ := h; simp [step, St.eat, h1, h2, h3]
  | z2 p rs => obtain ⟨h1, h2, h3, h4, h5⟩ := h; simp [step, St.eat, h1, h3, ← h4, h5, h2]
  | kv t z =>
    obtain ⟨h1, h2, h3⟩ := h
    have : s.magic = 0 ∨ s.magic = 1 := by omega
    rcases this with hm | hm <;> simp [step, St.eat, hm, h2, h3]
  | zv z inner =>
    obtain ⟨h1, h2, h3⟩ := h
    have : s.magic = 0 ∨ s.magic = 1 := by omega
    rcases this with hm | hm <;> simp [step, St.eat, hm, h2, h3]

theorem step_unexpected {e : Bool} {o : Int} {s : St} {t : Tok} (h : ¬ s.expects t) (hc : t ≠ .cut) :
    step .fixed e o s t = .stop s .desync := by
  cases t with
  | cut => exact absurd rfl hc
  | h2 b ld c z pl =>
    have : s.count > 0 ∨ s.inV1 = true := by
      by_cases h0 : s.count = 0
      · right; cases hi : s.inV1 with
        | true => rfl
        | false => exact absurd ⟨h0, hi⟩ h
      · left; omega
    simp [step, this]
  | h1 m f z => have : s.count > 0 := Nat.pos_of_ne_zero h; simp [step, this]
  | r2 d t z =>
    by_cases g : s.magic ≠ 2 ∨ s.count = 0 ∨ s.codec = true
    · simp [step, g]
    · simp only [not_or, Decidable.not_not, Bool.not_eq_true] at g
      exact absurd ⟨g.1, g.2.1, g.2.2⟩ h
  | z2 p rs =>
    by_cases g : s.magic ≠ 2 ∨ s.count = 0 ∨ (!s.codec) = true ∨ s.count ≠ s.hcount ∨ rs.length ≠ s.count
    · simp only [step, g, if_true]
    · simp only [not_or, Decidable.not_not, Bool.not_eq_eq_eq_not, Bool.not_true] at g
      exact absurd ⟨g.1, g.2.1, by simpa using g.2.2.1, g.2.2.2.1, g.2.2.2.2⟩ h
  | kv t z =>
    by_cases g : (s.magic ≠ 0 ∧ s.magic ≠ 1) ∨ s.count = 0 ∨ s.codec = true
    · simp only [step, g, if_true]
    · simp only [not_or, Bool.not_eq_true] at g
      exact absurd ⟨by omega, g.2.1, g.2.2⟩ h
  | zv z inner =>
    by_cases g : (s.magic ≠ 0 ∧ s.magic ≠ 1) ∨ s.count = 0 ∨ (!s.codec) = true
    · simp only [step, g, if_true]
    · simp only [not_or] at g
      exact absurd ⟨by omega, g.2.1, by simpa using g.2.2⟩ h

/-! ### `finish`, and what a record does to each field -/

/-- `finish .fixed` when the compaction jump cannot pass the batch end (`hJ`): the offset moves up to the
batch end, nothing is returned -/
theorem finish_fixed (e : Bool) (s : St)
    (hJ : s.started = true → s.lenRem = 0 → s.lastOff ≥ s.off → s.lastOff + 1 ≤ s.batchEnd) :
    (finish .fixed e s).1.out = s.out ∧
    (finish .fixed e s).1.off = (if s.started then max s.off s.batchEnd else s.off) ∧
    (finish .fixed e s).2 ≠ .desync := by
  cases hst : s.started with
  | false => simp [finish, hst]
  | true =>
    have hJ' := hJ hst
    cases e <;>
      simp only [finish, hst, Bool.not_true, Bool.false_eq_true, if_false, if_true, true_and, ne_eq, reduceCtorEq,
        not_false_eq_true, and_true]
    · split <;> omega
    · omega

theorem recordV2_fields (o : Int) (s : St) (d : Int) (t z : Nat) :
    let s' := recordV2 .fixed o s d t z
    let be := if s.count = 1 then s.first + s.lastD + 1 else s.batchEnd
    s'.started = s.started ∧ s'.count = s.count - 1 ∧ s'.magic = s.magic ∧ s'.first = s.first ∧ s'.lastD = s.lastD ∧
    s'.hcount = s.hcount ∧ s'.codec = s.codec ∧ s'.lenRem = s.lenRem - z ∧ s'.batchEnd = be ∧ s'.inV1 = false ∧
    s'.off = (if be > s.first + d + 1 then be else s.first + d + 1) ∧ s'.lastOff = s.first + s.lastD ∧
    s'.out = s.out ++ (if s.first + d < o then [] else [(s.first + d, t)]) := by
  simp only [recordV2, onRecord, true_and]
  split <;> simp

/-! ### `run` at the head and at the end of a stream -/

theorem run_cons_cont {e : Bool} {o : Int} {s s' : St} {t : Tok} {ts : List Tok} (h : step .fixed e o s t = .cont s') :
    run .fixed e o s (t :: ts) = run .fixed e o s' ts := by simp [run, h]

theorem run_cons_stop {e : Bool} {o : Int} {s s' : St} {t : Tok} {ts : List Tok} {r : Outcome}
    (h : step .fixed e o s t = .stop s' r) : run .fixed e o s (t :: ts) = (s', r) := by simp [run, h]

theorem run_unexpected {e : Bool} {o : Int} {s : St} {t : Tok} {ts : List Tok} (h : ¬ s.expects t) (hc : t ≠ .cut) :
    (run .fixed e o s (t :: ts)).2 = .desync :=
  congrArg Prod.snd (run_cons_stop (step_unexpected h hc))

theorem run_expects {e : Bool} {o : Int} {s : St} {t : Tok} {ts : List Tok} (hnd : (run .fixed e o s (t :: ts)).2 ≠ .desync)
    (hc : t ≠ .cut) : s.expects t :=
  Classical.byContradiction fun h => hnd (run_unexpected h hc)

/-- the stream is exhausted or cut: the pending read is short -/
def isEnd (ts : List Tok) : Prop := ts = [] ∨ ∃ r, ts = Tok.cut :: r

theorem run_end {e : Bool} {o : Int} {s : St} {ts : List Tok} (h : isEnd ts) : run .fixed e o s ts = finish .fixed e s := by
  rcases h with rfl | ⟨r, rfl⟩
  · rfl
  · simp only [run, step_cut]

/-! ### Once the first header is read it stays read -/

theorem recordsV2_started (o : Int) : ∀ (rs : List (Int × Nat × Nat)) (s : St), (recordsV2 .fixed o s rs).started = s.started := by
  intro rs
  induction rs with
  | nil => intro s; rfl
  | cons x rs ih =>
    intro s
    obtain ⟨d, t, z⟩ := x
    simp only [recordsV2]
    rw [ih]
    exact (recordV2_fields o s d t z).1

theorem messageV1_started (o : Int) (s : St) (x : Int) (t : Nat) : (messageV1 .fixed o s x t).started = s.started := by
  simp only [messageV1]
  split <;> rfl

theorem messagesV1_started (o base : Int) : ∀ (ms : List (Int × Nat)) (s : St), (messagesV1 .fixed o base s ms).started = s.started := by
  intro ms
  induction ms with
  | nil => intro s; rfl
  | cons x ms ih =>
    intro s
    obtain ⟨f, t⟩ := x
    simp only [messagesV1]
    rw [ih, messageV1_started]

theorem finish_started (e : Bool) (s : St) (h : s.started = true) : (finish .fixed e s).2 ≠ .unexpectedEOF := by
  cases e <;> simp [finish, h]

theorem eat_started (o : Int) (s : St) (t : Tok) (h : s.started = true) : (s.eat o t).started = true := by
  cases t with
  | cut => exact h
  | h2 b ld c z pl => rfl
  | h1 m f z => rfl
  | r2 d t z => exact (recordV2_fields o s d t z).1.trans h
  | z2 p rs => exact (recordsV2_started o rs s).trans h
  | kv t z => exact (messageV1_started o _ _ t).trans h
  | zv z inner => exact (messagesV1_started o _ inner _).trans h

theorem run_started (e : Bool) (o : Int) : ∀ (ts : List Tok) (s : St), s.started = true → (run .fixed e o s ts).2 ≠ .unexpectedEOF
  | [], s, h => finish_started e s h
  | t :: ts, s, h => by
    by_cases hc : t = .cut
    · rw [run_end (.inr ⟨ts, hc ▸ rfl⟩)]; exact finish_started e s h
    · by_cases hx : s.expects t
      · rw [run_cons_cont (step_expected hx)]; exact run_started e o ts _ (eat_started o s t h)
      · rw [run_unexpected hx hc]; exact fun h => nomatch h

/-! ### Token streams: `r2Toks`, `allWF` -/

/-- the tokens of the records of a plain v2 batch: the tail of `tokensOf` (Spec/Layout) after the header -/
def r2Toks (recs : List (Int × Nat × Nat)) : List Tok := recs.map fun (d, t, z) => Tok.r2 d t z

/-- a v0/v1 header token carries magic 0 or 1 (that is what makes it a v0/v1 header) -/
def Tok.wf : Tok → Bool
  | .h1 m _ _ => decide (m ≤ 1)
  | _ => true

/-- all the pull parser asks of a token stream (`pull_eq_run_all`) -/
def allWF (ts : List Tok) : Prop := ∀ t ∈ ts, t.wf = true

theorem allWF.tail {t : Tok} {ts : List Tok} (h : allWF (t :: ts)) : allWF ts :=
  fun x hx => h x (List.mem_cons_of_mem _ hx)

theorem allWF.h1 {mg : Nat} {f : Int} {z : Bool} {ts : List Tok} (h : allWF (Tok.h1 mg f z :: ts)) : mg ≤ 1 := by
  simpa [Tok.wf] using h (Tok.h1 mg f z) List.mem_cons_self

end KV.C02
