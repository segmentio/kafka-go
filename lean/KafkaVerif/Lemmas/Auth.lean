/-
Lemmas/Auth.lean — `Auth.react` read as a relation, and induction over answer scripts.

`react` has some twenty arms, but the proofs about it only ever ask which of two kinds an act is: a failure (`failWith`),
or one of the eight steps of a successful set-up.  `Reaction` lists those; everything else about `react` is read off it.
-/
import KafkaVerif.Model.Auth
import KafkaVerif.Base.Run

namespace KV.Auth

theorem authWire_isAuth (v av : Nat) (t : Bytes) : (authWire v av t).isAuth = true := by
  unfold authWire; split <;> rfl

/-- what `react` can answer: the dial fails (never from `ready`, never on the broker's final positive answer), or the
set-up moves one step forward.  `handshake` forgets which version `v` was negotiated (`negotiateConn` /
`selectTransport`): a fact that depends on it is read off `react` itself. -/
inductive Reaction (c : Cfg) : Phase → Env → Act → Prop
  | fail {ph e} (x : Err) : ph ≠ .ready → (∀ d, e ≠ .reply 0 d true) → Reaction c ph e (failWith x)
  | noSasl (hs au) : c.sasl = false → Reaction c .awaitVersions (.versions 0 hs au) { next := .ready }
  | handshake (hs au v) : c.sasl = true → Reaction c .awaitVersions (.versions 0 hs au)
      { next := .awaitHandshake v (authVersion c.path au), write := some (.saslHandshake v) }
  | mechanism (v av d) : Reaction c (.awaitHandshake v av) (.reply 0 d false) { next := .awaitStart v av }
  | token (v av tok) : Reaction c (.awaitStart v av) (.mechStart (some tok))
      { next := .awaitAuth v av, write := some (authWire v av tok) }
  | answer (v av d f) : Reaction c (.awaitAuth v av) (.reply 0 d f) { next := .awaitNext v av, verdict := f }
  | done (v av tok) : Reaction c (.awaitNext v av) (.mechNext (some (true, tok))) { next := .ready }
  | more (v av tok) : Reaction c (.awaitNext v av) (.mechNext (some (false, tok)))
      { next := .awaitAuth v av, write := some (authWire v av tok) }
  | use (k) : Reaction c .ready (.use k) { next := .ready, write := some (.other k) }

theorem Reaction.of_react {c : Cfg} {ph : Phase} {e : Env} {a : Act} (h : react c ph e = some a) :
    Reaction c ph e a := by
  -- one goal per arm of `react`; `constructor` tries `fail` first, then the step the arm takes
  revert h
  fun_cases react c ph e <;> intro h <;> cases h
  all_goals try simp only [ne_eq, Decidable.not_not, Bool.not_eq_true, Bool.not_eq_true'] at *
  all_goals subst_vars
  all_goals constructor <;> simp_all

theorem react_failed (c : Cfg) (e : Env) : react c .failed e = none := by
  cases e <;> rfl

theorem start_cases (c : Cfg) :
    (c.sasl = false ∧ start c = { phase := .ready, log := [], closed := false, result := none }) ∨
    start c = { phase := .awaitVersions, log := [.wrote .apiVersions], closed := false, result := none } ∨
    start c = { phase := .failed, log := [], closed := true, result := some .other } := by
  unfold start
  split <;> (try split) <;> simp_all

theorem step_eq_some {c : Cfg} {s s' : State} {e : Env} :
    step c s e = some s' ↔ ∃ a, react c s.phase e = some a ∧ s.apply a = s' := by
  simp only [step, Option.map_eq_some_iff]

theorem runFrom_eq (c : Cfg) (s : State) (es : List Env) : runFrom c s es = es.foldlM (step c) s :=
  Run.eq_foldlM (fun _ => rfl) (fun s e es => by rw [runFrom]; cases step c s e <;> rfl) es s

theorem run_induction {c : Cfg} {P : List Env → State → Prop} (h0 : P [] (start c))
    (hstep : ∀ hist s e s', P hist s → step c s e = some s' → P (hist ++ [e]) s')
    {es : List Env} {s : State} (h : run c es = some s) : P es s :=
  Run.rec_snoc h0 (fun hist t e t' _ => hstep hist t e t') (runFrom_eq c _ es ▸ h)

theorem runFrom_congr {c c' : Cfg} (h : ∀ s e, step c s e = step c' s e) (es : List Env) (s : State) :
    runFrom c s es = runFrom c' s es := by
  rw [runFrom_eq, runFrom_eq, show step c = step c' from funext fun s => funext (h s)]

end KV.Auth
