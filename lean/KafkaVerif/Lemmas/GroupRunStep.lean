/-
Lemmas/GroupRunStep.lean — what a successful step of the group-run LTS (Model/GroupRun.lean) does.  Per function of a
generation: exactly (`onCur_iff`, `g…_some`; `gWatchCall`, `gWatchParts`, `gWatchErr`, `gWatchExit` have no `_some`, their `_step`
unfolds the definition) and as a primitive step `GenStep`.  Per class of event: `Effect`; for the events of
`run` its arrows `Move`.  The invariants argue over these, not over `step`.  The one-step theorems of Props/C15.lean about a
heartbeat, watcher, `fnExit` event take `onCur_iff` to `step c s (.hbCall …) = some s'` and so rely on which `onCur … (g…)` the
event reduces to: a new event, a new guard of an old one or a renamed generation event has to be followed there too.
-/
import KafkaVerif.Model.GroupRun
import KafkaVerif.Base.Run

namespace KV.Group

theorem run_eq (c : Cfg) (s : St) (es : List Ev) : run c s es = es.foldlM (step c) s :=
  Run.eq_foldlM (fun _ => rfl) (fun s e es => by rw [run]; cases step c s e <;> rfl) es s

theorem reachable_of_run (c : Cfg) (s s' : St) (es : List Ev) (hs : Reachable c s) (h : run c s es = some s') :
    Reachable c s' :=
  Run.invariant (fun _ e _ hr hs => .step e hr hs) (run_eq c s es ▸ h) hs

/-- `run` is between two generations: not inside `nextGeneration` from the creation of a generation to the return of
its `close()` -/
def PC.quiet : PC → Bool
  | .starting _ | .handing | .running | .closing _ | .waiting _ _ => false
  | _ => true

/-- events of the `run` goroutine itself -/
def Ev.runLoop : Ev → Bool
  | .connectRes _ | .findRes _ | .joinOk .. | .joinErr .. | .partsRes _ | .syncRes .. | .fetchRes _ | .gNew ..
  | .sawClose .. | .handed _ | .sawGenDone _ | .gClose .. | .gClosed _ | .nextGenRet .. | .leave _ | .leaveRes ..
  | .errDeliver .. | .backoff _ | .runExit => true
  | _ => false

theorem onCur_iff {s s' : St} {g : Nat} {f : Gen → Option Gen} :
    onCur s g f = some s' ↔ isCur s g = true ∧ ∃ cg, f s.cur = some cg ∧ { s with cur := cg } = s' := by
  unfold onCur
  split <;> simp [*]

section
variable {g g' : Gen}

theorem gUserStart_some {acc : Bool} :
    gUserStart acc g = some g' ↔ acc = g.start.2 ∧
      (if g.start.2 then { g.start.1 with users := g.start.1.users + 1 }
       else { g.start.1 with late := g.start.1.late + 1 }) = g' := by
  simp only [gUserStart, Option.ite_none_right_eq_some, Option.some.injEq, beq_iff_eq, eq_comm (a := acc)]

theorem gHbStart_some {acc : Bool} :
    gHbStart acc g = some g' ↔ (acc = true ∧ g.closed = false) ∧
      { g with routines := g.routines + 1, accounted := g.accounted + 1, hb := some .idle } = g' := by
  rcases g with ⟨_, _, _ | _⟩ <;> cases acc <;> simp [gHbStart, Gen.start]

theorem gWatchStart_some {acc : Bool} :
    gWatchStart acc g = some g' ↔
      acc = g.start.2 ∧ { g.start.1 with watchers := g.start.1.watchers ++ [(.init, g.start.2)] } = g' := by
  simp only [gWatchStart, Option.ite_none_right_eq_some, Option.some.injEq, beq_iff_eq, eq_comm (a := acc)]

theorem gHbCall_some {gid : Int} {m : String} :
    gHbCall gid m g = some g' ↔
      (g.hb = some .idle ∧ gid = g.gid ∧ m = g.member) ∧ { g with hb := some .calling } = g' := by
  simp only [gHbCall, Option.ite_none_right_eq_some, Option.some.injEq, Bool.and_eq_true, beq_iff_eq, and_assoc]

theorem gHbRet_some {e : Option Err} :
    gHbRet e g = some g' ↔ g.hb = some .calling ∧ { g with hb := some (if e.isNone then .idle else .failed) } = g' := by
  simp only [gHbRet, Option.ite_none_right_eq_some, Option.some.injEq, beq_iff_eq]

theorem gHbExit_some :
    gHbExit g = some g' ↔
      (g.hb = some .failed ∨ g.hb = some .idle ∧ g.closed = true) ∧ { g.bodyReturned true with hb := some .done } = g' := by
  simp only [gHbExit, Option.ite_none_right_eq_some, Option.some.injEq, Bool.or_eq_true, Bool.and_eq_true, beq_iff_eq]

theorem gFnExit_some {cbm : Bool} {left : Nat} :
    gFnExit cbm left g = some g' ↔ (cbm = !g.closed ∧ left + 1 = g.routines) ∧ g.fnExit = some g' := by
  simp only [gFnExit, Option.ite_none_right_eq_some, Bool.and_eq_true, beq_iff_eq]

theorem gURet_some {acc : Bool} :
    gURet acc g = some g' ↔
      (acc = true ∧ 0 < g.users ∧ { g.bodyReturned true with users := g.users - 1 } = g') ∨
      (acc = false ∧ 0 < g.late ∧ { g with late := g.late - 1 } = g') := by
  cases acc <;> simp [gURet]

theorem gUCtx_some : gUCtx g = some g' ↔ g.closed = true ∧ g = g' := by
  simp only [gUCtx, Option.ite_none_right_eq_some, Option.some.injEq]

end

/-- the primitive steps of the functions started in a generation: every `g…` function of the model except the two
internal starts is one of them (`g…_step` below).  `p` is where `run` is: all of them can happen anywhere, except that a
`Start` while `run` starts the internal functions is one of those and not the application's -/
inductive GenStep (p : PC) (g : Gen) : Gen → Prop
  | startUser : (∀ k, p ≠ .starting k) → g.closed = false →
      GenStep p g { g with routines := g.routines + 1, accounted := g.accounted + 1, users := g.users + 1 }
  | startLate : (∀ k, p ≠ .starting k) → g.closed = true → GenStep p g { g with late := g.late + 1 }
  | hb {x} (y : Proc) : g.hb = some x → x ≠ .done → y ≠ .done → GenStep p g { g with hb := some y }
  | hbExit {x} : g.hb = some x → x ≠ .done → GenStep p g { g with returning := g.returning + 1, hb := some .done }
  | watch {t w0 a} (w : WProc) : g.watchers[t]? = some (w0, a) → w0 ≠ .done → w ≠ .done → GenStep p g (setW g t w)
  | watchExit {t w0 a} : g.watchers[t]? = some (w0, a) → w0 ≠ .done → GenStep p g (setW (g.bodyReturned a) t .done)
  | fnExit {g'} : g.fnExit = some g' → GenStep p g g'
  | userRet : 0 < g.users → GenStep p g { g with returning := g.returning + 1, users := g.users - 1 }
  | lateRet : 0 < g.late → GenStep p g { g with late := g.late - 1 }
  | ctx : g.closed = true → GenStep p g g

section
variable {p : PC} {g g' : Gen}

theorem gUserStart_step {acc : Bool} (hp : ∀ k, p ≠ .starting k) (h : gUserStart acc g = some g') : GenStep p g g' := by
  obtain ⟨-, rfl⟩ := gUserStart_some.mp h
  cases hc : g.closed
  · rw [Gen.start_open hc]; exact .startUser hp hc
  · rw [Gen.start_closed hc]; exact .startLate hp hc

theorem gHbCall_step {gid : Int} {m : String} (h : gHbCall gid m g = some g') : GenStep p g g' := by
  obtain ⟨⟨hi, -⟩, rfl⟩ := gHbCall_some.mp h
  exact .hb _ hi nofun nofun

theorem gHbRet_step {e : Option Err} (h : gHbRet e g = some g') : GenStep p g g' := by
  obtain ⟨hc, rfl⟩ := gHbRet_some.mp h
  exact .hb _ hc nofun (by split <;> exact nofun)

theorem gHbExit_step (h : gHbExit g = some g') : GenStep p g g' := by
  obtain ⟨hc | ⟨hc, -⟩, rfl⟩ := gHbExit_some.mp h <;> exact .hbExit hc nofun

theorem gWatchCall_step {t : Nat} (h : gWatchCall t g = some g') : GenStep p g g' := by
  unfold gWatchCall at h
  split at h <;> cases h <;> exact .watch _ ‹_› (by simp) (by simp)

theorem gWatchParts_step {t n : Nat} (h : gWatchParts t n g = some g') : GenStep p g g' := by
  unfold gWatchParts at h
  split at h <;> cases h
  · exact .watch _ ‹_› (by simp) (by simp)
  · exact .watch _ ‹_› (by simp) (by split <;> simp)

theorem gWatchErr_step {t : Nat} {e : Err} (h : gWatchErr t e g = some g') : GenStep p g g' := by
  unfold gWatchErr at h
  split at h
  · cases h; exact .watch _ ‹_› (by simp) (by simp)
  · split at h
    · cases h; exact .watch _ ‹_› (by simp) (by split <;> simp)
    · split at h <;> cases h <;> exact .watch _ ‹_› (by simp) (by simp)
  · cases h

theorem gWatchExit_step {t : Nat} (h : gWatchExit t g = some g') : GenStep p g g' := by
  unfold gWatchExit at h
  split at h
  · cases h; exact .watchExit ‹_› (by simp)
  · split at h <;> cases h
    exact .watchExit ‹_› (by simp)
  · cases h

theorem gFnExit_step {cbm : Bool} {left : Nat} (h : gFnExit cbm left g = some g') : GenStep p g g' :=
  .fnExit (gFnExit_some.mp h).2

theorem gURet_step {acc : Bool} (h : gURet acc g = some g') : GenStep p g g' := by
  obtain ⟨-, hu, rfl⟩ | ⟨-, hl, rfl⟩ := gURet_some.mp h
  · exact .userRet hu
  · exact .lateRet hl

theorem gUCtx_step (h : gUCtx g = some g') : GenStep p g g' := by
  obtain ⟨hc, rfl⟩ := gUCtx_some.mp h
  exact .ctx hc

end

theorem returnsNow_cases {s : St} {m : String} {e : Option Err} (h : returnsNow s m e = true) :
    s.pc = .retp m e ∨ ((s.pc = .assigning ∨ s.pc = .fetching) ∧ e = some .net) := by
  simp only [returnsNow, Bool.or_eq_true, Bool.and_eq_true, beq_iff_eq] at h
  rcases h with h | ⟨⟨h1, _⟩, h3⟩
  · exact Or.inl h
  · exact Or.inr ⟨h1, h3⟩

/-- the arrows of the control flow of `run`: one per branch of a run-loop event, with the pc it leaves, its guard as
far as an invariant needs it, and the state it leads to -/
inductive Move (c : Cfg) (s : St) : Ev → St → Prop
  | boot {lv} : s.pc = .coord 0 lv → Move c s (.connectRes none) { s with pc := .coord 1 lv }
  | found {lv} : s.pc = .coord 1 lv → Move c s (.findRes none) { s with pc := .coord 2 lv }
  | dialedJoin : s.pc = .coord 2 none → Move c s (.connectRes none) { s with pc := .joining }
  | dialedLeave {a} : s.pc = .coord 2 (some a) → Move c s (.connectRes none) { s with pc := .leaveCall a }
  | connectFail {k lv e} : s.pc = .coord k lv → k = 0 ∨ k = 2 → Move c s (.connectRes (some e)) (coordFail s lv e)
  | findFail {lv e} : s.pc = .coord 1 lv → Move c s (.findRes (some e)) (coordFail s lv e)
  | joinLeader {mi m gid} : s.pc = .joining →
      Move c s (.joinOk mi m gid true) { s with jm := m, jg := gid, pc := .assigning }
  | joinFollower {mi m gid} : s.pc = .joining →
      Move c s (.joinOk mi m gid false) { s with jm := m, jg := gid, pc := .syncing }
  | joinErr {mi e} : s.pc = .joining → Move c s (.joinErr mi e) { s with pc := .retp "" (some e) }
  | partsOk {e} : s.pc = .assigning → e = none ∨ e = some .unknownTopic → Move c s (.partsRes e) { s with pc := .syncing }
  | partsErr {e} : s.pc = .assigning → Move c s (.partsRes (some e)) { s with pc := .retp s.jm (some e) }
  | syncOk {mi gi} : s.pc = .syncing → Move c s (.syncRes mi gi none) { s with pc := .fetching }
  | syncErr {mi gi e} : s.pc = .syncing →
      Move c s (.syncRes mi gi (some e)) { s with pc := .retp s.jm (some e) }
  | fetchOk : s.pc = .fetching → Move c s (.fetchRes none) { s with pc := .created }
  | fetchErr {e} : s.pc = .fetching → Move c s (.fetchRes (some e)) { s with pc := .retp s.jm (some e) }
  | gNew {g gid m} : s.pc = .created →
      Move c s (.gNew g gid m) { s with pc := .starting 0, gens := s.gens + 1, oldLate := s.oldLate + s.cur.late,
                                        cur := { gid := gid, member := m } }
  | sawCloseHanding {g} : s.pc = .handing → s.closedCG = true →
      Move c s (.sawClose g false) { s with pc := .closing (some .closed) }
  | sawCloseRunning {g} : s.pc = .running → s.closedCG = true →
      Move c s (.sawClose g true) { s with pc := .closing (some .closed) }
  | handed {g} : s.pc = .handing → s.nextWaiting > 0 →
      Move c s (.handed g) { s with pc := .running, inbox := some (.gen g), nextWaiting := s.nextWaiting - 1 }
  | sawGenDone {g} : s.pc = .running → s.cur.closed = true → Move c s (.sawGenDone g) { s with pc := .closing none }
  | gClose {ret g} : s.pc = .closing ret →
      Move c s (.gClose g s.cur.closed s.cur.routines) { s with cur := s.cur.closeBegin.1, pc := .waiting ret s.cur.routines }
  | gClosed {ret r g} : s.pc = .waiting ret r → s.cur.closeCanReturn r = true →
      Move c s (.gClosed g) { s with pc := .retp s.jm ret }
  | retOk {m} : returnsNow s m none = true → Move c s (.nextGenRet m none) { s with member := m, pc := .coord 0 none }
  | retClosed {m} : returnsNow s m (some .closed) = true →
      Move c s (.nextGenRet m (some .closed)) { s with member := m, pc := .leaveP .exit }
  | retRebalance {m} : returnsNow s m (some .rebalance) = true →
      Move c s (.nextGenRet m (some .rebalance)) { s with member := m, pc := .delivering .rebalance false }
  | retErr {m e} : returnsNow s m (some e) = true →
      Move c s (.nextGenRet m (some e)) { s with member := m, pc := .leaveP (.deliver e), needBackoff := true }
  | leaveNone {a} : s.pc = .leaveP a → s.member = "" → Move c s (.leave s.member) (afterLeave { s with leaveFail := false } a)
  | leaveSome {a} : s.pc = .leaveP a → Move c s (.leave s.member) { s with pc := .coord 0 (some a), leaveFail := false }
  | leaveRes {a ok} : s.pc = .leaveCall a →
      Move c s (.leaveRes s.member ok) (afterLeave { s with left := s.member :: s.left } a)
  | deliveredBackoff {e} : s.pc = .delivering e true → s.nextWaiting > 0 →
      Move c s (.errDeliver e true) { s with inbox := some (.err e), nextWaiting := s.nextWaiting - 1, pc := .backoffP false }
  | deliveredRetry {e} : s.pc = .delivering e false → s.nextWaiting > 0 →
      Move c s (.errDeliver e true) { s with inbox := some (.err e), nextWaiting := s.nextWaiting - 1, pc := .coord 0 none }
  | undeliveredLeave {e bk} : s.pc = .delivering e bk → c.fixD9 = true →
      Move c s (.errDeliver e false) { s with pc := .leaveP .exit }
  | undeliveredExit {e bk} : s.pc = .delivering e bk → c.fixD9 = false →
      Move c s (.errDeliver e false) { s with pc := .exiting, exitWith := some (s.member, false) }
  | backoffBegin : s.pc = .backoffP false → Move c s (.backoff 0) { s with pc := .backoffP true }
  | backoffEnd : s.pc = .backoffP true → Move c s (.backoff 1) { s with pc := .coord 0 none, needBackoff := false }
  | backoffClosed : s.pc = .backoffP true →
      Move c s (.backoff 2) { s with pc := .exiting, exitWith := some (s.member, false) }
  | runExit : s.pc = .exiting → Move c s .runExit { s with pc := .exited }

/-- where `run` is after the `k`-th internal start of a generation's functions: the pc that the `gStart` branch of
`step` (Model/GroupRun.lean) writes inline -/
def afterStart (c : Cfg) (k : Nat) : PC := if k + 1 == 1 + c.nWatch then .handing else .starting (k + 1)

theorem afterStart_cases (c : Cfg) (k : Nat) :
    (k = c.nWatch ∧ afterStart c k = .handing) ∨ (k ≠ c.nWatch ∧ afterStart c k = .starting (k + 1)) := by
  unfold afterStart
  split
  · rename_i h; simp only [beq_iff_eq] at h; exact .inl ⟨by omega, rfl⟩
  · rename_i h; simp only [beq_iff_eq] at h; exact .inr ⟨by omega, rfl⟩

/-- what a successful step does, by class of event: a function of the current generation moves (`gen`), the
application or an earlier generation does something `run` does not notice (`env`: the four fields it sets are
arbitrary but for the two implications), `run` starts an internal function of the generation it created, or `run` takes
an arrow (`move`) -/
inductive Effect (c : Cfg) (s : St) : Ev → St → Prop
  | gen {e cg} : e.runLoop = false → GenStep s.pc s.cur cg → Effect c s e { s with cur := cg }
  | env {e} (late : Nat) (closed : Bool) (inbox : Option Msg) (nw : Nat) : e.runLoop = false →
      (s.closedCG = true → closed = true) → (e ≠ .nextCall → nw ≤ s.nextWaiting) →
      Effect c s e { s with oldLate := late, closedCG := closed, inbox := inbox, nextWaiting := nw }
  /-- the event, `gStart`, is the application's `Start` as well and therefore not a `runLoop` event, although here it
  moves the pc -/
  | startHb {g} : s.pc = .starting 0 → s.cur.closed = false →
      Effect c s (.gStart g true)
        { s with cur := { s.cur with routines := s.cur.routines + 1, accounted := s.cur.accounted + 1, hb := some .idle },
                 pc := afterStart c 0 }
  | startWatch {g k} : s.pc = .starting (k + 1) →
      Effect c s (.gStart g s.cur.start.2)
        { s with cur := { s.cur.start.1 with watchers := s.cur.start.1.watchers ++ [(.init, s.cur.start.2)] },
                 pc := afterStart c (k + 1) }
  | move {e s'} : Move c s e s' → Effect c s e s'

private theorem of_onCur {c : Cfg} {s s' : St} {e : Ev} {g : Nat} {f : Gen → Option Gen} (he : e.runLoop = false)
    (hf : ∀ cg, f s.cur = some cg → GenStep s.pc s.cur cg) (h : onCur s g f = some s') : Effect c s e s' := by
  obtain ⟨-, cg, hcg, rfl⟩ := onCur_iff.mp h
  exact .gen he (hf cg hcg)

theorem step_effect {c : Cfg} {s s' : St} {e : Ev} (h : step c s e = some s') : Effect c s e s' := by
  revert h
  fun_cases step c s e <;> intro h <;>
    first | (cases h; try simp only [Bool.and_eq_true, beq_iff_eq, decide_eq_true_eq] at *) | skip
  -- one case per branch of `step` in the order of its text, the tests on the way as hypotheses; `cases h` has closed the
  -- rejected ones (`none = some s'`).  The bullets are the accepted branches in that order, each naming the constructor
  -- of `Move` (or of `Effect`) it is: a new branch of `step` shows as a bullet that no longer fits
  · exact .move (.boot ‹_›)
  · exact .move (.connectFail ‹_› (.inl rfl))
  · rename_i lv _; cases lv
    · exact .move (.dialedJoin ‹_›)
    · exact .move (.dialedLeave ‹_›)
  · exact .move (.connectFail ‹_› (.inr rfl))
  · exact .move (.found ‹_›)
  · exact .move (.findFail ‹_›)
  -- joining … created
  · rename_i leader hg; cases leader
    · exact .move (.joinFollower hg.1)
    · exact .move (.joinLeader hg.1)
  · exact .move (.joinErr (And.left ‹_›))
  · exact .move (.partsOk ‹_› (.inl rfl))
  · exact .move (.partsOk ‹_› (.inr rfl))
  · exact .move (.partsErr ‹_›)
  · exact .move (.syncOk (And.left (And.left ‹_›)))
  · exact .move (.syncErr (And.left (And.left ‹_›)))
  · exact .move (.fetchOk ‹_›)
  · exact .move (.fetchErr ‹_›)
  · rename_i hg; exact .move (.gNew hg.1.1.1)
  -- gStart
  · rename_i k hpc
    obtain ⟨cg, hcg, rfl⟩ := Option.map_eq_some_iff.mp h
    cases k with
    | zero => obtain ⟨⟨rfl, hc⟩, rfl⟩ := gHbStart_some.mp hcg; exact .startHb hpc hc
    | succ k => obtain ⟨rfl, rfl⟩ := gWatchStart_some.mp hcg; exact .startWatch hpc
  · obtain ⟨cg, hcg, rfl⟩ := Option.map_eq_some_iff.mp h
    exact .gen rfl (gUserStart_step (fun k hk => ‹∀ k, s.pc = .starting k → False› k hk) hcg)
  · exact .env _ _ _ _ rfl id (fun _ => Nat.le_refl _)
  -- handing … waiting
  · rename_i running hg; cases running
    · exact .move (.sawCloseHanding hg.2 hg.1.2)
    · exact .move (.sawCloseRunning hg.2 hg.1.2)
  · rename_i hg; exact .move (.handed hg.1.1.2 hg.2)
  · rename_i hg; exact .move (.sawGenDone hg.1.2 hg.2)
  · rename_i hg; obtain ⟨⟨-, rfl⟩, rfl⟩ := hg; exact .move (.gClose ‹_›)
  · rename_i hg; exact .move (.gClosed ‹_› hg.2)
  -- retp
  · exact .move (.retOk ‹_›)
  · exact .move (.retClosed ‹_›)
  · exact .move (.retRebalance ‹_›)
  · exact .move (.retErr ‹_›)
  -- leaveP, leaveCall
  · rename_i hm h0; subst hm; exact .move (.leaveNone ‹_› h0)
  · rename_i hm _; subst hm; exact .move (.leaveSome ‹_›)
  · rename_i hm; subst hm; exact .move (.leaveRes ‹_›)
  -- delivering
  · rename_i bk _ he hg; subst he; cases bk
    · exact .move (.deliveredRetry ‹_› hg.2)
    · exact .move (.deliveredBackoff ‹_› hg.2)
  · rename_i hd _ hf hee; subst hee; obtain rfl := (Bool.not_eq_true _).mp hd; exact .move (.undeliveredLeave ‹_› hf)
  · rename_i hd _ hf hee; subst hee; obtain rfl := (Bool.not_eq_true _).mp hd
    exact .move (.undeliveredExit ‹_› ((Bool.not_eq_true _).mp hf))
  -- backoffP, exiting
  · rename_i hw; subst hw; exact .move (.backoffBegin ‹_›)
  · rename_i hw; subst hw; exact .move (.backoffEnd ‹_›)
  · rename_i _ hw; obtain ⟨rfl, -⟩ := hw; exact .move (.backoffClosed ‹_›)
  · exact .move (.runExit ‹_›)
  -- the functions of the current generation
  · exact of_onCur rfl (fun _ => gHbCall_step) h
  · exact of_onCur rfl (fun _ => gHbRet_step) h
  · exact of_onCur rfl (fun _ => gHbExit_step) h
  · exact of_onCur rfl (fun _ => gWatchCall_step) h
  · exact of_onCur rfl (fun _ => gWatchParts_step) h
  · exact of_onCur rfl (fun _ => gWatchErr_step) h
  · exact of_onCur rfl (fun _ => gWatchExit_step) h
  · exact of_onCur rfl (fun _ => gFnExit_step) h
  · exact of_onCur rfl (fun _ => gURet_step) h
  · exact .env _ _ _ _ rfl id (fun _ => Nat.le_refl _)
  · exact of_onCur rfl (fun _ => gUCtx_step) h
  · exact .env s.oldLate _ _ _ rfl id (fun _ => Nat.le_refl _)
  -- the application
  · exact .env s.oldLate _ _ _ rfl (fun _ => rfl) (fun _ => Nat.le_refl _)
  · exact .env s.oldLate _ _ _ rfl id (fun _ => Nat.le_refl _)
  · exact .env s.oldLate _ _ _ rfl id (fun hn => absurd rfl hn)
  · exact .env s.oldLate _ _ _ rfl id (fun _ => Nat.sub_le _ _)
  · rw [if_pos ‹_›] at h; cases h; exact .env s.oldLate _ _ _ rfl id (fun _ => Nat.le_refl _)
  · rw [if_neg ‹_›] at h; cases h

theorem step_move {c : Cfg} {s s' : St} {e : Ev} (he : e.runLoop = true) (h : step c s e = some s') : Move c s e s' := by
  cases step_effect h with
  | move hm => exact hm
  | gen he' _ | env _ _ _ _ he' _ _ => rw [he] at he'; cases he'
  | startHb _ _ | startWatch _ => cases he

theorem gNew_pc {c : Cfg} {s s' : St} {g : Nat} {gid : Int} {m : String} (h : step c s (.gNew g gid m) = some s') :
    s.pc = .created := by
  cases step_move rfl h; assumption

theorem step_closedCG {c : Cfg} {s s' : St} {e : Ev} (h : step c s e = some s') (hc : s.closedCG = true) :
    s'.closedCG = true := by
  cases step_effect h with
  | gen _ _ | startHb _ _ | startWatch _ => exact hc
  | env _ _ _ _ _ hcl _ => exact hcl hc
  | move hm =>
    cases hm with
    | @connectFail _ lv _ _ _ | @findFail lv _ _ =>
      cases lv with
      | none => exact hc
      | some a => cases a <;> exact hc
    | @leaveNone a _ _ | @leaveRes a _ _ => cases a <;> exact hc
    | _ => exact hc

end KV.Group
