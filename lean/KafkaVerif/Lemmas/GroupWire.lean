/-
Lemmas/GroupWire.lean — reading back what write.go wrote: `Reads m w a` says that the reader `m` of Base/Reader.lean,
started on the bytes `w`, returns `a` and consumes exactly `w`; it composes along `rbind`.  `groupAssignment.readFrom` has a
second model, in the reader monad of the regenerated codec, with a round trip of its own: Lemmas/GroupWireRd.lean.
-/
import KafkaVerif.Model.GroupWire

namespace KV.GroupWire
open KV KV.Reader KV.Legacy KV.Wire

/-- the frame counter is written as what `m` takes plus what is left (as in `readInt_app`), so that readers chain
without subtraction -/
def Reads {α : Type} (m : R α) (w : Bytes) (a : α) : Prop :=
  ∀ (r : Bytes) (k : Nat), m ⟨w ++ r, w.length + k⟩ = (.ok a, ⟨r, k⟩)

namespace Reads

theorem bind {α β : Type} {m : R α} {f : α → R β} {w w' : Bytes} {a : α} {b : β}
    (hm : Reads m w a) (hf : Reads (f a) w' b) : Reads (rbind m f) (w ++ w') b := by
  intro r k
  unfold rbind
  rw [List.append_assoc, List.length_append, Nat.add_assoc, hm]
  exact hf r k

theorem bind_pure {α β : Type} {m : R α} {w : Bytes} {a : α} (hm : Reads m w a) (f : α → β) :
    Reads (rbind m fun a => rpure (f a)) w (f a) := by
  intro r k
  unfold rbind
  rw [hm r k]
  rfl

theorem pure {α : Type} (a : α) : Reads (rpure a) [] a := fun r k => by rw [List.length_nil, Nat.zero_add]; rfl

theorem tight {α : Type} {m : R α} {w : Bytes} {a : α} (h : Reads m w a) (r : Bytes) :
    m ⟨w ++ r, w.length⟩ = (.ok a, ⟨r, 0⟩) :=
  h r 0

end Reads

theorem beInt_eq_toS (bs : Bytes) (hk : 0 < bs.length) : beInt bs = toS (8 * bs.length) (fromBE bs) := by
  unfold beInt toS
  have h1 : beNat bs = fromBE bs := rfl
  have hp2 : (2 : Nat) ^ (8 * bs.length) = 2 * 2 ^ (8 * bs.length - 1) := by
    rw [← Nat.pow_succ', Nat.succ_eq_add_one, Nat.sub_add_cancel (Nat.mul_pos (by decide) hk)]
  have hp : (256 : Nat) ^ bs.length = 2 * 2 ^ (8 * bs.length - 1) := by
    rw [show (256 : Nat) = 2 ^ 8 by rfl, ← Nat.pow_mul, hp2]
  simp only [h1, hp, hp2]
  generalize fromBE bs = u
  generalize (2 : Nat) ^ (8 * bs.length - 1) = h
  by_cases hu : u < h
  · rw [if_neg (by omega), if_pos hu]
  · rw [if_pos (by omega), if_neg hu]

/-- `i` is in the range of a signed `k`-byte field (`Legacy.inRng (8 * k)`) -/
def Fits (k : Nat) (i : Int) : Prop := -(2 ^ (8 * k - 1) : Nat) ≤ i ∧ i < (2 ^ (8 * k - 1) : Nat)

theorem beInt_encInt (k : Nat) (i : Int) (hk : 0 < k) (h : Fits k i) : beInt (encInt k i) = i := by
  rw [beInt_eq_toS _ (by rw [encInt_length]; exact hk), encInt_length]
  exact decInt_encInt k i hk h.1 h.2

theorem reads_int {k : Nat} {i : Int} (hk : 0 < k) (h : Fits k i) : Reads (readInt k) (encInt k i) i := by
  intro r m
  rw [encInt_length, readInt_app _ r k m (encInt_length k i), beInt_encInt k i hk h]

theorem reads_lenWith {k : Nat} {b : Bytes} (hk : 0 < k) (h : Fits k b.length) :
    Reads (readLenWith k readNewBytes) (encInt k b.length ++ b) b := by
  intro r m
  have hle : ¬ ((b.length : Int) > ((b.length + m : Nat) : Int)) := by omega
  unfold readLenWith
  rw [List.append_assoc, List.length_append, Nat.add_assoc, reads_int hk h]
  simp only [hle, ↓reduceIte]
  exact readNewBytes_app b r m

theorem reads_string {s : Bytes} (hl : s.length < 32768) : Reads readString (writeString s) s :=
  reads_lenWith (by decide) (natCast_inRng 2 _ hl)

theorem reads_bytes {b : Bytes} (hl : b.length < 2147483648) : Reads readBytes (writeBytes b) b :=
  reads_lenWith (by decide) (natCast_inRng 4 _ hl)

theorem reads_nilBytes : Reads readBytes (encInt 4 (-1)) [] := by
  intro r m
  have : ¬ ((-1 : Int) > ((m : Nat) : Int)) := by omega
  unfold readBytes readLenWith
  rw [reads_int (by decide) (by unfold Fits; constructor <;> simp) r m]
  simp only [this, ↓reduceIte]
  simp [readNewBytes]

def optLen : Option Bytes → Nat
  | none => 0
  | some b => b.length

theorem reads_optBytes {u : Option Bytes} (hl : optLen u < 2147483648) :
    Reads readBytes (writeOptBytes u) (u.getD []) := by
  cases u with
  | none => exact reads_nilBytes
  | some b => exact reads_bytes hl

theorem reads_times {α : Type} {cb : R α} {w : α → Bytes} :
    ∀ {l : List α}, (∀ a ∈ l, Reads cb (w a) a) → Reads (readTimes cb l.length) (writeEach l w) l
  | [], _ => Reads.pure []
  | a :: _, h =>
    (h a List.mem_cons_self).bind
      ((reads_times fun x hx => h x (List.mem_cons_of_mem _ hx)).bind_pure (a :: ·))

theorem reads_array {α : Type} {cb : R α} {w : α → Bytes} {l : List α} (hn : l.length < 2147483648)
    (h : ∀ a ∈ l, Reads cb (w a) a) : Reads (readArrayWith cb) (writeArray l w) l :=
  (reads_int (by decide) (natCast_inRng 4 _ hn)).bind (reads_times h)

/-- partition ids are int32 on the wire -/
def FitsAll (l : List Int) : Prop := ∀ v ∈ l, Fits 4 v

/-- the bounds are the ranges of the length fields: int16 for a string, int32 for an array count and for bytes -/
def WFEntry (e : Bytes × List Int) : Prop := e.1.length < 32768 ∧ e.2.length < 2147483648 ∧ FitsAll e.2

theorem reads_entry {e : Bytes × List Int} (h : WFEntry e) : Reads readEntry (writeEntry e) e :=
  (reads_string h.1).bind
    ((reads_array (w := writeInt32) h.2.1 fun v hv => reads_int (by decide) (h.2.2 v hv)).bind_pure (e.1, ·))

theorem reads_entries {l : List (Bytes × List Int)} (hn : l.length < 2147483648) (h : ∀ e ∈ l, WFEntry e) :
    Reads readEntries (writeInt32 l.length ++ writeEach l writeEntry) l :=
  reads_array hn fun e he => reads_entry (h e he)

structure WFAssignment (a : Assignment) : Prop where
  version : Fits 2 a.version
  count : a.entries.length < 2147483648
  entries : ∀ e ∈ a.entries, WFEntry e
  userData : optLen a.userData < 2147483648

theorem readAssignment_write (a : Assignment) (h : WFAssignment a) (r : Bytes) :
    readAssignment ⟨writeAssignment a ++ r, (writeAssignment a).length⟩ =
      (.ok (a.version, a.entries, a.userData.getD []), ⟨r, 0⟩) := by
  have hnz : ¬ (writeAssignment a).length = 0 := by
    have := encInt_length 2 a.version
    simp only [writeAssignment, writeInt16, List.length_append]; omega
  have key : Reads (rbind (readInt 2) fun v => rbind readEntries fun es => rbind readBytes fun u => rpure (v, es, u))
      (writeAssignment a) (a.version, a.entries, a.userData.getD []) := by
    -- group the bytes as the readers below compose; `exact` against another grouping compares the two concatenations
    -- by evaluating `encInt`
    rw [writeAssignment, List.append_assoc (writeInt16 _), List.append_assoc (writeInt16 _)]
    exact (reads_int (by decide) h.version).bind
      ((reads_entries h.count h.entries).bind ((reads_optBytes h.userData).bind_pure _))
  unfold readAssignment
  rw [if_neg hnz]
  exact key.tight r

structure WFMetadata (m : Metadata) : Prop where
  version : Fits 2 m.version
  count : m.topics.length < 2147483648
  topics : ∀ t ∈ m.topics, t.length < 32768
  userData : optLen m.userData < 2147483648

theorem readMetadata_write (m : Metadata) (h : WFMetadata m) (r : Bytes) :
    readMetadata ⟨writeMetadata m ++ r, (writeMetadata m).length⟩ =
      (.ok (m.version, m.topics, m.userData.getD []), ⟨r, 0⟩) := by
  have key : Reads readMetadata (writeMetadata m) (m.version, m.topics, m.userData.getD []) := by
    rw [writeMetadata, List.append_assoc]
    exact (reads_int (by decide) h.version).bind
      ((reads_array (w := writeString) h.count fun t ht => reads_string (h.topics t ht)).bind
        ((reads_optBytes h.userData).bind_pure _))
  exact key.tight r

end KV.GroupWire
