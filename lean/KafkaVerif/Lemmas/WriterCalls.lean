/-
Lemmas/WriterCalls.lean — stamps versus call boundaries (for C07 `successive_calls_ordered`).

Ghost data: `Call.beginSeq` / `Call.endSeq` = the value of the global submission counter when the call began /
returned.  Every message of a call is stamped inside that window, so if one call returned before another began
(which is what "successive calls of one goroutine" means) all its stamps are smaller.
-/
import KafkaVerif.Lemmas.WriterOrder

namespace KV.Writer

structure InvCallSeq (s : State) : Prop where
  beginLe : ∀ c C, s.calls c = some C → C.beginSeq ≤ s.seq
  endLe : ∀ c C e, s.calls c = some C → C.endSeq = some e → e ≤ s.seq ∧ C.phase = .returned
  msgIn : ∀ b B, s.batches b = some B → ∀ m ∈ B.msgs, ∃ C, s.calls m.msg.1 = some C ∧ C.beginSeq ≤ m.seq ∧
    (∀ e, C.endSeq = some e → m.seq < e)

theorem invCallSeq_init : InvCallSeq State.init := by
  constructor <;> (intros; contradiction)

/-- what a step does to the window of a call record: it is kept (and a returned call stays returned), or the call
returns in this step and the window closes at the current counter -/
def WindowStep (s : State) (C C' : Call) : Prop :=
  C'.beginSeq = C.beginSeq ∧
    ((C'.endSeq = C.endSeq ∧ (C.phase = .returned → C'.phase = .returned)) ∨ (C'.endSeq = some s.seq ∧ C'.phase = .returned))

theorem WindowStep.refl (s : State) (C : Call) : WindowStep s C C := ⟨rfl, Or.inl ⟨rfl, id⟩⟩

/-- what a step does to the messages of a batch: each was there before, or is stamped in this step for a call whose window
is open -/
def StampStep (s s' : State) (B B' : Batch) : Prop :=
  ∀ m ∈ B'.msgs, m ∈ B.msgs ∨
    (m.seq = s.seq ∧ ∃ C', s'.calls m.msg.1 = some C' ∧ C'.beginSeq ≤ s.seq ∧ C'.endSeq = none)

theorem StampStep.refl (s s' : State) (B : Batch) : StampStep s s' B B := fun _ h => .inl h

theorem StampStep.of_msgs {s s' : State} {B B' : Batch} (h : B'.msgs = B.msgs) : StampStep s s' B B' :=
  fun _ hm => .inl (h ▸ hm)

/-- a window that closes in this step is above all stamps given so far (`InvOrd.counterB`) -/
theorem InvCallSeq.of_frame {s s' : State} (hO : InvOrd s) (h : InvCallSeq s) (hseq : s.seq ≤ s'.seq)
    (hcalls : MapRel (fun C' => C'.beginSeq = s.seq ∧ C'.endSeq = none) (WindowStep s) s.calls s'.calls)
    (hbat : MapRel (fun B' => B'.msgs = []) (StampStep s s') s.batches s'.batches) : InvCallSeq s' := by
  constructor
  · intro c C' hC'
    rcases hcalls.back c C' hC' with ⟨-, e1, -⟩ | ⟨C, hC, e1, -⟩
    · rw [e1]; exact hseq
    · rw [e1]; exact Nat.le_trans (h.beginLe c C hC) hseq
  · intro c C' e hC' he
    rcases hcalls.back c C' hC' with ⟨-, -, e2⟩ | ⟨C, hC, -, ⟨e2, hph⟩ | ⟨e2, hph⟩⟩
    · rw [e2] at he; cases he
    · obtain ⟨h1, h2⟩ := h.endLe c C e hC (e2 ▸ he)
      exact ⟨Nat.le_trans h1 hseq, hph h2⟩
    · cases e2.symm.trans he; exact ⟨hseq, hph⟩
  · intro b B' hB' m hm
    rcases hbat.back b B' hB' with ⟨-, e⟩ | ⟨B, hB, hst⟩
    · rw [e] at hm; cases hm
    rcases hst m hm with hmB | ⟨e, C', hC', h1, h2⟩
    · obtain ⟨C, hC, h1, h2⟩ := h.msgIn b B hB m hmB
      obtain ⟨C', hC', e1, ⟨e2, -⟩ | ⟨e2, -⟩⟩ := hcalls.fwd _ C hC
      · exact ⟨C', hC', e1 ▸ h1, fun e he => h2 e (e2 ▸ he)⟩
      · exact ⟨C', hC', e1 ▸ h1, fun e he => by cases e2.symm.trans he; exact hO.counterB b B hB m hmB⟩
    · exact ⟨C', hC', e ▸ h1, fun e he => by rw [h2] at he; cases he⟩

theorem invCallSeq_step {cfg : Cfg} {s s' : State} {e : Event} (hO : InvOrd s) (hI : InvCallSeq s) (h : Step cfg s e s') :
    InvCallSeq s' := by
  -- the record of one call changes by `WindowStep`, nothing is stamped
  have call : ∀ {c : Nat} {C C' : Call} {s'' : State}, s.calls c = some C →
      s''.calls = upd s.calls c (some C') → s''.batches = s.batches → s''.seq = s.seq → WindowStep s C C' → InvCallSeq s'' :=
    fun hC ec eb es hw => hI.of_frame hO (Nat.le_of_eq es.symm) (ec ▸ .upd (WindowStep.refl s) hC hw)
      (eb ▸ .refl (StampStep.refl _ _))
  induction h with
  | rejectToolarge hC hg | rejectTopic hC hg | rejectMetadata hC hg | ret hC hg =>
    exact call hC rfl rfl rfl ⟨rfl, Or.inr ⟨rfl, rfl⟩⟩
  | rejectClosed hC hg => exact call hC rfl rfl rfl ⟨rfl, Or.inl ⟨rfl, fun h => by rw [hg.phase] at h; cases h⟩⟩
  | assign hC hg =>
    exact call hC rfl rfl rfl ⟨rfl, Or.inl ⟨rfl, fun h => by rcases hg.phase with h' | h' <;> rw [h'] at h <;> cases h⟩⟩
  | batch hC hg => exact call hC rfl rfl rfl ⟨rfl, Or.inl ⟨rfl, fun h => by rw [hg.phase] at h; cases h⟩⟩
  | batched hC hg => exact call hC rfl rfl rfl ⟨rfl, Or.inl ⟨rfl, fun h => by rw [hg.phase] at h; cases h⟩⟩
  | begin_ hg =>
    exact hI.of_frame hO (Nat.le_refl _) (.new (WindowStep.refl s) (Option.isNone_iff_eq_none.mp hg.free) ⟨rfl, rfl⟩)
      (.refl (StampStep.refl _ _))
  | @add pw b c i size P B C hP hB hC hg =>
    -- the call is inside batchMessages: its window is open
    have hend : C.endSeq = none := by
      cases he : C.endSeq with
      | none => rfl
      | some e => have := (hI.endLe c C e hC he).2; rw [hg.phase] at this; cases this
    refine hI.of_frame hO (Nat.le_succ _) (.upd (WindowStep.refl s) hC ⟨rfl, Or.inl ⟨rfl, id⟩⟩)
      (.upd (StampStep.refl _ _) hB fun m hm => ?_)
    rcases List.mem_append.mp hm with hm | hm
    · exact .inl hm
    · cases List.mem_singleton.mp hm
      exact .inr ⟨rfl, _, upd_same .., hI.beginLe c C hC, hend⟩
  | newBatch hP hg =>
    exact hI.of_frame hO (Nat.le_refl _) (.refl (WindowStep.refl s))
      (.new (StampStep.refl _ _) (Option.isNone_iff_eq_none.mp hg.free) rfl)
  | detach hP hB hg | timerFire hP hB hg | completion hP hB hg | complete hP hB hg | produce hP hsend hB hg =>
    exact hI.of_frame hO (Nat.le_refl _) (.refl (WindowStep.refl s)) (.upd (StampStep.refl _ _) hB (.of_msgs rfl))
  | _ => exact hI.of_frame hO (Nat.le_refl _) (.refl (WindowStep.refl s)) (.refl (StampStep.refl _ _))

theorem invCallSeq (cfg : Cfg) : ∀ s, Reachable cfg s → InvCallSeq s :=
  Reachable.step_induction invCallSeq_init (fun s _ _ hr hI h => invCallSeq_step (invOrd cfg s hr) hI h)

end KV.Writer
