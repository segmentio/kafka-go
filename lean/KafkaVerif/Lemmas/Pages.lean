/-
Lemmas/Pages.lean — part D of C05 (restated in Props/C05.lean): the page pool protocol of protocol/buffer.go is safe.
The invariant: a page is in the pool only if its count is 0; every count is held by a live holder.
-/
import KafkaVerif.Model.Pages
import KafkaVerif.Base.Run

namespace KV.Model.Pages

theorem inv_init : Inv init := ⟨fun _ => rfl, fun _ h => by simp [init] at h, by simp [init], fun p h => by simp [init] at h⟩

theorem Inv.held_not_pooled {s : PState} (hi : Inv s) {p : Nat} (hp : p ∈ s.held) : p ∉ s.pool := fun hm => by
  have h0 := hi.poolFree p hm
  rw [hi.counts p] at h0
  exact (List.count_eq_zero.mp h0) hp

/-- Every event keeps the four clauses.  The one interplay: a pooled page has count 0, so the page an event takes a count
on, or releases, is never in the pool while it is held (`Inv.held_not_pooled`). -/
theorem inv_step (s s' : PState) (e : PEvent) (hi : Inv s) (h : step s e = some s') : Inv s' := by
  have ⟨hc, hp, hn, hb⟩ := hi
  cases e with
  | allocPage =>
    simp only [step, Option.some.injEq] at h; subst h
    have hfresh : s.fresh ∉ s.held := fun hm => Nat.lt_irrefl _ (hb _ (Or.inr hm))
    have hfreshp : s.fresh ∉ s.pool := fun hm => Nat.lt_irrefl _ (hb _ (Or.inl hm))
    refine ⟨?_, ?_, hn, ?_⟩
    · intro p
      by_cases hpq : p = s.fresh
      · subst hpq; simp [bump, List.count_eq_zero_of_not_mem hfresh]
      · simp [bump, hpq, hc p, Ne.symm hpq]
    · intro p hm
      have : p ≠ s.fresh := fun e => hfreshp (e ▸ hm)
      simp [bump, this, hp p hm]
    · intro p hm
      simp only [List.mem_cons] at hm
      show p < s.fresh + 1
      rcases hm with hm | hm | hm
      · have := hb p (Or.inl hm); omega
      · omega
      · have := hb p (Or.inr hm); omega
  | reusePage i =>
    simp only [step] at h
    cases hg : s.pool[i]? with
    | none => simp [hg] at h
    | some q =>
      simp only [hg, Option.some.injEq] at h; subst h
      have hq := List.mem_of_getElem? hg
      refine ⟨?_, ?_, hn.erase q, ?_⟩
      · intro p
        by_cases hpq : p = q
        · subst hpq; simp [bump, hc p]
        · simp [bump, hpq, hc p, Ne.symm hpq]
      · intro p hm
        have hmem : p ∈ s.pool := List.mem_of_mem_erase hm
        have : p ≠ q := fun e => by subst e; exact (List.Nodup.not_mem_erase hn) hm
        simp [bump, this, hp p hmem]
      · intro p hm
        simp only [List.mem_cons] at hm
        rcases hm with hm | hm | hm
        · exact hb p (Or.inl (List.mem_of_mem_erase hm))
        · subst hm; exact hb _ (Or.inl hq)
        · exact hb p (Or.inr hm)
  | ref q =>
    simp only [step] at h
    split at h
    · rename_i hq
      simp only [Option.some.injEq] at h; subst h
      refine ⟨?_, ?_, hn, ?_⟩
      · intro p
        by_cases hpq : p = q
        · subst hpq; simp [bump, hc p]
        · simp [bump, hpq, hc p, Ne.symm hpq]
      · intro p hm
        have : p ≠ q := fun e => hi.held_not_pooled hq (e ▸ hm)
        simp [bump, this, hp p hm]
      · intro p hm
        simp only [List.mem_cons] at hm
        rcases hm with hm | hm | hm
        · exact hb p (Or.inl hm)
        · subst hm; exact hb _ (Or.inr hq)
        · exact hb p (Or.inr hm)
    · simp at h
  | unref q =>
    simp only [step] at h
    split at h
    · rename_i hq
      simp only [Option.some.injEq] at h; subst h
      have hqpool : q ∉ s.pool := hi.held_not_pooled hq
      have hcq : s.refc q = s.held.count q := hc q
      refine ⟨?_, ?_, ?_, ?_⟩
      · intro p
        by_cases hpq : p = q
        · subst hpq; simp [bump, hcq, List.count_erase_self]
        · simp [bump, hpq, hc p, List.count_erase_of_ne hpq]
      · intro p hm
        by_cases hpq : p = q
        · subst hpq
          simp only [bump, if_true]
          split at hm
          · assumption
          · exact absurd hm hqpool
        · have hm' : p ∈ s.pool := by
            split at hm
            · simp only [List.mem_cons] at hm; rcases hm with hm | hm
              · exact absurd hm hpq
              · exact hm
            · exact hm
          simp [bump, hpq, hp p hm']
      · show (if s.refc q - 1 = 0 then q :: s.pool else s.pool).Nodup
        split
        · exact List.nodup_cons.mpr ⟨hqpool, hn⟩
        · exact hn
      · intro p hm
        rcases hm with hm | hm
        · have : p ∈ q :: s.pool := by
            split at hm
            · exact hm
            · exact List.mem_cons_of_mem _ hm
          simp only [List.mem_cons] at this
          rcases this with e | hm'
          · subst e; exact hb _ (Or.inr hq)
          · exact hb p (Or.inl hm')
        · exact hb p (Or.inr (List.mem_of_mem_erase hm))
    · simp at h
  | poolDrop i =>
    simp only [step] at h
    cases hg : s.pool[i]? with
    | none => simp [hg] at h
    | some q =>
      simp only [hg, Option.some.injEq] at h; subst h
      exact ⟨hc, fun p hm => hp p (List.mem_of_mem_erase hm), hn.erase q,
        fun p hm => hb p (hm.elim (fun h => Or.inl (List.mem_of_mem_erase h)) Or.inr)⟩

theorem run_eq (es : List PEvent) (s : PState) : run s es = es.foldlM step s :=
  Run.eq_foldlM (fun _ => rfl) (fun s e es => by rw [run]; cases step s e <;> rfl) es s

theorem inv_run (es : List PEvent) (s0 s : PState) (h0 : Inv s0) (hr : run s0 es = some s) : Inv s :=
  Run.invariant (fun s e s' hi => inv_step s s' e hi) (run_eq es s0 ▸ hr) h0

theorem pages_inv (es : List PEvent) (s : PState) (h : run init es = some s) : Inv s :=
  inv_run es init s inv_init h

theorem ver_step (s s' : PState) (e : PEvent) (p : Nat) (hp : p ∉ s.pool) (h : step s e = some s') : s'.ver p = s.ver p := by
  cases e with
  | allocPage => simp only [step, Option.some.injEq] at h; subst h; rfl
  | reusePage i =>
    simp only [step] at h
    cases hg : s.pool[i]? with
    | none => simp [hg] at h
    | some q =>
      simp only [hg, Option.some.injEq] at h; subst h
      have : p ≠ q := fun e => hp (e ▸ List.mem_of_getElem? hg)
      simp [bump, this]
  | ref q => simp only [step] at h; split at h <;> simp at h; subst h; rfl
  | unref q => simp only [step] at h; split at h <;> simp at h; subst h; rfl
  | poolDrop i =>
    simp only [step] at h
    cases hg : s.pool[i]? with
    | none => simp [hg] at h
    | some q => simp only [hg, Option.some.injEq] at h; subst h; rfl

theorem pages_safe_run (es : List PEvent) (s : PState) (hi : Inv s) (p : Nat) (hp : p ∈ s.held) :
    ∀ s', run s es = some s' → (∀ k, k ≤ es.length → ∀ sk, run s (es.take k) = some sk → p ∈ sk.held) →
      s'.ver p = s.ver p := by
  induction es generalizing s with
  | nil => intro s' hr _; simp [run] at hr; subst hr; rfl
  | cons e es ih =>
    intro s' hr hk
    simp only [run] at hr
    cases hs : step s e with
    | none => simp [hs] at hr
    | some s1 =>
      simp only [hs] at hr
      have h1 := ver_step s s1 e p (hi.held_not_pooled hp) hs
      have hp1 : p ∈ s1.held := hk 1 (by simp) s1 (by simp [run, hs])
      have := ih s1 (inv_step s s1 e hi hs) hp1 s' hr (fun k hkl sk hrun =>
        hk (k + 1) (by simp; omega) sk (by simp [run, hs, hrun]))
      omega

/-- over any run from the initial state and then any further operations during which a live holder keeps a
count on `p` (`p` stays in `held`), the page is never handed out again: its version is unchanged, whatever else is decoded
in between.  (What this means for the bytes is `heap_stable_run` / `C05.held_bytes_intact`, in the model with contents.) -/
theorem pages_safe (pre es : List PEvent) (s : PState) (h : run init pre = some s) (p : Nat) (hp : p ∈ s.held) :
    ∀ s', run s es = some s' → (∀ k, k ≤ es.length → ∀ sk, run s (es.take k) = some sk → p ∈ sk.held) →
      s'.ver p = s.ver p :=
  pages_safe_run es s (pages_inv pre s h) p hp

/-- non-vacuity: a page is allocated, referenced by a key, the buffer releases it, another decode reuses
pool pages — the run is accepted and the key's page is still held -/
example : ∃ s, run init [.allocPage, .ref 0, .unref 0, .allocPage, .unref 1, .reusePage 0] = some s ∧ 0 ∈ s.held ∧ s.ver 0 = 0 := by
  refine ⟨_, rfl, ?_, ?_⟩ <;> decide

end KV.Model.Pages
