/-
Lemmas/WriterMsgs.lean — messages versus batches (C01 "every accepted message exactly once", C07 "within one call"): `InvMsgs`.
-/
import KafkaVerif.Lemmas.WriterOrder
import KafkaVerif.Lemmas.WriterPlace

namespace KV.Writer

/-- `prefixPlaced` is the guard of `add` (`(List.range i).all …`: every earlier index of the call that goes to the same
topic-partition is placed) kept as an invariant; it is what makes `callOrder` provable -/
structure InvMsgs (s : State) : Prop where
  nodup : ∀ b B, s.batches b = some B → (B.msgs.map (·.msg)).Nodup
  prefixPlaced : ∀ c C, s.calls c = some C → ∀ j bj, C.place j = some bj → ∀ i, i < j → ∀ tp : TP,
    C.assign[i]? = some tp → C.assign[j]? = some tp → (C.place i).isSome = true
  callOrder : ∀ b B b' B', s.batches b = some B → s.batches b' = some B' → B.tp = B'.tp →
    ∀ m ∈ B.msgs, ∀ m' ∈ B'.msgs, m.msg.1 = m'.msg.1 → m.msg.2 < m'.msg.2 → m.seq < m'.seq

theorem invMsgs_init : InvMsgs State.init := by
  constructor <;> (intros; contradiction)

def CallKeeps (C C' : Call) : Prop := C'.place = C.place ∧ (C'.assign = C.assign ∨ ∃ x, C'.assign = C.assign ++ [x])

theorem CallKeeps.refl (C : Call) : CallKeeps C C := ⟨rfl, .inl rfl⟩

theorem InvMsgs.of_frame {s s' : State} (hP : InvPlace s) (h : InvMsgs s)
    (hcalls : MapRel (fun C' => ∀ i, C'.place i = none) CallKeeps s.calls s'.calls)
    (hbat : MapRel (fun B' => B'.msgs = []) PlaceBat s.batches s'.batches) :
    InvMsgs s' := by
  constructor
  · intro b B' hB'
    rcases hbat.back b B' hB' with ⟨-, e⟩ | ⟨B, hB, e, -⟩
    · rw [e]; exact List.nodup_nil
    · rw [e]; exact h.nodup b B hB
  · intro c C' hC' j bj hp i hij tp hai haj
    rcases hcalls.back c C' hC' with ⟨-, hn⟩ | ⟨C, hC, epl, hasg⟩
    · rw [hn j] at hp; cases hp
    · rw [epl] at hp ⊢
      obtain ⟨B, -, -, hja⟩ := hP.placed c C hC j bj hp
      have hjl := (List.getElem?_eq_some_iff.mp hja).1
      rcases hasg with e | ⟨x, e⟩
      · rw [e] at hai haj; exact h.prefixPlaced c C hC j bj hp i hij tp hai haj
      · rw [e, List.getElem?_append_left (Nat.lt_trans hij hjl)] at hai
        rw [e, List.getElem?_append_left hjl] at haj
        exact h.prefixPlaced c C hC j bj hp i hij tp hai haj
  · intro b B1' b' B2' h1 h2 htp m hm m' hm' hc hlt
    rcases hbat.back b B1' h1 with ⟨-, e⟩ | ⟨B1, hB1, e1, t1⟩
    · rw [e] at hm; cases hm
    rcases hbat.back b' B2' h2 with ⟨-, e⟩ | ⟨B2, hB2, e2, t2⟩
    · rw [e] at hm'; cases hm'
    exact h.callOrder b B1 b' B2 hB1 hB2 (by rw [← t1, ← t2]; exact htp) m (e1 ▸ hm) m' (e2 ▸ hm') hc hlt

/-- the new stamp is the counter, above every stamp given so far (`InvOrd.counterB`); a later index of the same call and
partition cannot be in a batch already (`prefixPlaced`) -/
theorem invMsgs_add {s s' : State} (hO : InvOrd s) (hP : InvPlace s) (h : InvMsgs s) {b c i size : Nat} {P : PW} {B : Batch} {C : Call}
    (hB : s.batches b = some B) (hC : s.calls c = some C)
    (hBtp : B.tp = P.tp) (hassign : C.assign[i]? = some P.tp) (hplace : C.place i = none)
    (hguard : (List.range i).all (fun j => C.assign[j]? != some P.tp || (C.place j).isSome) = true)
    (ebat : s'.batches = upd s.batches b (some (B.push { msg := (c, i), size := size, seq := s.seq })))
    (ecalls : s'.calls = upd s.calls c (some { C with place := upd C.place i (some b) })) : InvMsgs s' := by
  have hlookb : s'.batches b = some (B.push { msg := (c, i), size := size, seq := s.seq }) := by rw [ebat]; exact upd_same ..
  have hlook : ∀ y, y ≠ b → s'.batches y = s.batches y := fun y hy => by rw [ebat]; exact upd_other _ _ _ _ hy
  have hmem : ∀ y Y', s'.batches y = some Y' → ∀ m ∈ Y'.msgs,
      (∃ Y, s.batches y = some Y ∧ Y'.tp = Y.tp ∧ m ∈ Y.msgs) ∨
        (y = b ∧ Y'.tp = B.tp ∧ m = { msg := (c, i), size := size, seq := s.seq }) := by
    intro y Y' hy m hm
    by_cases hyb : y = b
    · subst hyb; rw [hlookb] at hy; cases hy
      simp only [Batch.push] at hm
      rcases List.mem_append.mp hm with hm | hm
      · exact Or.inl ⟨B, hB, rfl, hm⟩
      · exact Or.inr ⟨rfl, rfl, List.mem_singleton.mp hm⟩
    · rw [hlook y hyb] at hy; exact Or.inl ⟨Y', hy, rfl, hm⟩
  constructor
  · intro y Y' hy
    by_cases hyb : y = b
    · subst hyb; rw [hlookb] at hy; cases hy
      simp only [Batch.push, List.map_append, List.map_cons, List.map_nil]
      refine List.nodup_append.mpr ⟨h.nodup y B hB, by simp, ?_⟩
      intro a ha a' ha'
      simp at ha'; subst ha'
      obtain ⟨m, hm, rfl⟩ := List.mem_map.mp ha
      exact hP.unplaced_index hC hplace hB hm
    · rw [hlook y hyb] at hy; exact h.nodup y Y' hy
  · intro x X' hx j bj hp k hkj tp hak haj
    rw [ecalls] at hx
    rcases upd_some_elim hx with ⟨rfl, rfl⟩ | ⟨-, hx⟩
    · -- the call that adds: place' = upd place i (some b)
      have hpl : ∀ z, z ≠ i → upd C.place i (some b) z = C.place z := fun z hz => upd_other _ _ _ _ hz
      by_cases hki : k = i
      · subst hki; show (upd C.place k (some b) k).isSome = true; rw [upd_same]; rfl
      · show (upd C.place i (some b) k).isSome = true
        rw [hpl k hki]
        by_cases hji : j = i
        · subst hji
          rw [List.all_eq_true] at hguard
          have := hguard k (List.mem_range.mpr hkj)
          have htp : tp = P.tp := by
            have : C.assign[j]? = some tp := haj
            rw [hassign] at this; cases this; rfl
          rw [hak, htp] at this
          simpa using this
        · have hp' : C.place j = some bj := by
            have : upd C.place i (some b) j = some bj := hp
            rw [hpl j hji] at this; exact this
          exact h.prefixPlaced x C hC j bj hp' k hkj tp hak haj
    · exact h.prefixPlaced x X' hx j bj hp k hkj tp hak haj
  · intro y1 Y1' y2 Y2' h1 h2 htp m hm m' hm' hc hlt
    rcases hmem y1 Y1' h1 m hm with ⟨Y1, hY1, t1, hm1⟩ | ⟨rfl, t1, rfl⟩
    · rcases hmem y2 Y2' h2 m' hm' with ⟨Y2, hY2, t2, hm2⟩ | ⟨rfl, t2, rfl⟩
      · exact h.callOrder y1 Y1 y2 Y2 hY1 hY2 (by rw [← t1, ← t2]; exact htp) m hm1 m' hm2 hc hlt
      · exact hO.counterB y1 Y1 hY1 m hm1
    · rcases hmem y2 Y2' h2 m' hm' with ⟨Y2, hY2, t2, hm2⟩ | ⟨-, -, rfl⟩
      · -- a later index of the same call and topic-partition is already in a batch while index i is not: impossible
        exfalso
        obtain ⟨X, hX, ha, hp⟩ := hP.batchTP y2 Y2 hY2 m' hm2
        simp only at hc
        rw [← hc, hC] at hX; cases hX
        have hsame : Y2.tp = P.tp := by rw [← t2, ← htp, t1, hBtp]
        have := h.prefixPlaced c C hC m'.msg.2 y2 hp i hlt P.tp hassign (hsame ▸ ha)
        rw [hplace] at this; cases this
      · simp at hlt

theorem invMsgs_step {cfg : Cfg} {s s' : State} {e : Event} (hO : InvOrd s) (hP : InvPlace s) (hI : InvMsgs s)
    (h : Step cfg s e s') : InvMsgs s' := by
  induction h with
  | add hPq hB hC hg =>
    exact invMsgs_add hO hP hI hB hC hg.sameTp hg.assign hg.place hg.before rfl rfl
  | begin_ hg =>
    exact hI.of_frame hP (.new CallKeeps.refl (Option.isNone_iff_eq_none.mp hg.free) fun _ => rfl) (.refl PlaceBat.refl)
  | assign hC hg => exact hI.of_frame hP (.upd CallKeeps.refl hC ⟨rfl, Or.inr ⟨_, rfl⟩⟩) (.refl PlaceBat.refl)
  | rejectToolarge hC hg | rejectTopic hC hg | rejectMetadata hC hg | rejectClosed hC hg | batch hC hg | batched hC hg
  | ret hC hg => exact hI.of_frame hP (.upd CallKeeps.refl hC ⟨rfl, Or.inl rfl⟩) (.refl PlaceBat.refl)
  | newBatch hPq hg =>
    exact hI.of_frame hP (.refl CallKeeps.refl) (.new PlaceBat.refl (Option.isNone_iff_eq_none.mp hg.free) rfl)
  | detach hPq hB hg | timerFire hPq hB hg | completion hPq hB hg | complete hPq hB hg | produce hPq hsend hB hg =>
    exact hI.of_frame hP (.refl CallKeeps.refl) (.upd PlaceBat.refl hB ⟨rfl, rfl⟩)
  | _ => exact hI.of_frame hP (.refl CallKeeps.refl) (.refl PlaceBat.refl)

theorem invMsgs (cfg : Cfg) : ∀ s, Reachable cfg s → InvMsgs s :=
  Reachable.step_induction invMsgs_init
    (fun s _ _ hr hI h => invMsgs_step (invOrd cfg s hr) (invPlace cfg s hr) hI h)

end KV.Writer
