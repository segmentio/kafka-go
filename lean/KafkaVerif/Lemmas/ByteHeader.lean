/-
Lemmas/ByteHeader.lean — `readHeaderB` (message_reader.go readHeader, byte level) on the header bytes of the reference
encoders: with the whole header inside `remain` it yields the fields the tokenizer's `readH2` / `readH1` yield and
consumes exactly the header; cut anywhere → errShortRead.
-/
import KafkaVerif.Model.ByteHeader
import KafkaVerif.Lemmas.ByteReader

namespace KV.C02.BR
open KV KV.RW KV.Spec.RB KV.C02

/-- the checksum field: four bytes whose value nobody looks at -/
theorem aos_readCrc (c : Nat) : AllOrShort readInt32 (u32 c) (toS M32 (deN (u32 c))) :=
  aos_readInt 4 M32 (u32 c) (u32_length c)

theorem readHeaderB_v2 (c : Nat) (f : FrameV2) (h : f.WF) :
    AllOrShort readHeaderB (encH2 c f) (.v2 (h2Of f)) := by
  have hlen := frameLen_inRange f h
  obtain ⟨h1, h2, h3, h4, h5, h6, h7, h8, h9, h10, _⟩ := h
  -- the Go code computes the payload length as `(length - 49).toNat`: put the value into that form
  rw [h2Of, ← frameSize_sub f]
  exact aos_bind (aos_readInt64 _ h1) <| aos_bind (aos_readInt32 _ hlen) <| aos_bind (aos_readInt32 _ h2) <|
    aos_bind (aos_readInt8 2 (by decide)) <| aos_bind (aos_readCrc c) <| aos_bind (aos_readInt16 _ h3) <|
    aos_bind (aos_readInt32 _ h4) <| aos_bind (aos_readInt64 _ h5) <| aos_bind (aos_readInt64 _ h6) <|
    aos_bind (aos_readInt64 _ h7) <| aos_bind (aos_readInt16 _ h8) <| aos_bind (aos_readInt32 _ h9) <|
    aos_map (aos_readInt32 _ h10) _

theorem readHeaderB_v1 (c : Nat) (m : Msg) (h : m.WF) :
    AllOrShort readHeaderB (encH1 c m) (.v1 (h1Of m) m.ts) := by
  have hlen := msgLen_inRange m h
  have hsz := msgSize_sub m
  obtain ⟨h1, hm, ha, ht, hz, _⟩ := h
  rcases hm with h0 | h0
  · rw [h0, if_pos rfl] at hsz
    rw [h1Of, ← hsz, h0, hz h0, encH1, if_pos h0, h0]
    exact aos_bind (aos_readInt64 _ h1) <| aos_bind (aos_readInt32 _ hlen) <| aos_bind (aos_readCrc c) <|
      aos_bind (aos_readInt8 0 (by decide)) <| aos_bind (aos_readInt8 _ ha) (aos_pure _)
  · rw [h0, if_neg (by decide)] at hsz
    rw [h1Of, ← hsz, h0, encH1, if_neg (by omega), h0]
    exact aos_bind (aos_readInt64 _ h1) <| aos_bind (aos_readInt32 _ hlen) <| aos_bind (aos_readCrc c) <|
      aos_bind (aos_readInt8 1 (by decide)) <| aos_bind (aos_readInt8 _ ha) <| aos_map (aos_readInt64 _ ht) _

end KV.C02.BR
