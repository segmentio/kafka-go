/-
Lemmas/PoolDiscover.lean — the invariant of the pool's metadata refresh (Model/PoolDiscover.lean) with a promise per
refresh: whatever sits in a promise channel, and whatever a refresh applied, is the outcome of its own request.
-/
import KafkaVerif.Model.PoolDiscover
import KafkaVerif.Base.Run

namespace KV.PoolDiscover

/-- every promise channel holds, if anything, the outcome of the request it was created for, and so does what the
refreshes applied.  With a promise per refresh (`fresh = true`) channel `c` is the promise of request `c`
(`chanOf true k = k`), hence `r.req = c`. -/
structure PInv (s : State) : Prop where
  chan : ∀ c r, s.chan c = some r → r.req = c
  applied : ∀ k r, (k, r) ∈ s.applied → r.req = k

theorem pinv_init : PInv init := ⟨nofun, nofun⟩

theorem pinv_step {s s' : State} {e : Event} (hi : PInv s)
    (h : step true s e = some s') : PInv s' := by
  obtain ⟨hc, ha⟩ := hi
  have snoc : ∀ {k : Nat} {r : Res}, r.req = k → ∀ k' r', (k', r') ∈ s.applied ++ [(k, r)] → r'.req = k' := by
    intro k r hr k' r' hm
    rcases List.mem_append.mp hm with hm | hm
    · exact ha k' r' hm
    · cases List.mem_singleton.mp hm; exact hr
  cases e <;> dsimp only [step] at h
  case start => split at h <;> cases h; exact ⟨hc, ha⟩
  case complete j ok =>
    split at h <;> cases h
    refine ⟨fun c r hr => ?_, ha⟩
    simp only [chanOf, ↓reduceIte] at hr
    split at hr
    · next hcj => cases hr; cases ok <;> exact hcj.symm
    · exact hc c r hr
  case take =>
    split at h
    · next k hk =>
      split at h <;> cases h
      next r hr =>
      refine ⟨fun c r' hr' => ?_, snoc (hc _ r hr)⟩
      simp only at hr'
      split at hr'
      · cases hr'
      · exact hc c r' hr'
    · cases h
  case timeout =>
    split at h <;> cases h
    exact ⟨hc, snoc rfl⟩

theorem runFrom_eq (fresh : Bool) (s : State) (es : List Event) :
    runFrom fresh s es = es.foldlM (step fresh) s :=
  Run.eq_foldlM (fun _ => rfl)
    (fun s e es => by rw [runFrom]; cases step fresh s e <;> rfl) es s

theorem pinv_run {es : List Event} {s : State} (h : run true es = some s) : PInv s :=
  Run.invariant (fun _ _ _ hi hs => pinv_step hi hs) ((runFrom_eq true init es).symm.trans h) pinv_init

end KV.PoolDiscover
