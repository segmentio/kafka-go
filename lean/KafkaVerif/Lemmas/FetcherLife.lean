/-
Lemmas/FetcherLife.lean — a partition fetcher (Model/FetcherLife.lean): termination after cancellation, and that it owns a
connection only inside its read loop.
-/
import KafkaVerif.Model.FetcherLife
import KafkaVerif.Base.Run

namespace KV.FetcherLife

/-- `rank` numbers the control states so that, with the context done, every edge of the control graph goes down: a sleep
that has sampled the context only leads to `exited`. -/
theorem terminates_after_cancel (s s' : State) (e : Event) (hc : s.cancelled = true)
    (he : e.control = true) (h : step s e = some s') :
    rank s' < rank s ∧ s'.cancelled = true := by
  obtain ⟨pc, co, ca, sa⟩ := s
  simp only at hc; subst hc
  cases e <;> first | cases he | skip
  -- every remaining event is guarded: take the guard `hg` and the new state
  all_goals
    dsimp only [step] at h
    split at h <;> cases h
    rename_i hg
  case top a =>
    rcases hg with ⟨h1, h2⟩ | ⟨h1, h2⟩
    · subst h1 h2; simp [rank]
    · have : decide (0 < a) = true := by simp [h2]
      rcases h1 with h1 | h1 | h1 <;> (subst h1; simp [rank, this])
  case cancel => rcases hg with h1 | h1 <;> (subst h1; cases sa <;> simp [rank])
  case init ok =>
    obtain ⟨h1, h2⟩ := hg
    subst h1 h2
    cases ok <;> simp [rank]
  case iter => rcases hg with h1 | h1 <;> (subst h1; simp [rank])
  case read c =>
    obtain ⟨h1, h2⟩ := hg
    subst h1 h2
    cases c <;> simp [rank]
  case offsets ok =>
    subst hg
    cases ok <;> simp [rank]

/-- the enabled step is `cancel` only when the pending `sleep` really sees the context done; inside a network operation it
is that operation's (failed) return (every network call returns) -/
theorem progress_after_cancel_sampled (s : State) (hc : s.cancelled = true) (hx : s.pc ≠ .exited) :
    ∃ e, e.control = true ∧ (step s e).isSome = true ∧ (e = .cancel → s.sampled = true) := by
  obtain ⟨pc, co, ca, sa⟩ := s
  simp only at hc hx; subst hc
  cases pc
  case exited => exact absurd rfl hx
  case idle0 => exact ⟨.top 0, rfl, by simp [step], nofun⟩
  case top =>
    cases sa
    · exact ⟨.init false, rfl, by simp [step], nofun⟩
    · exact ⟨.cancel, rfl, by simp [step], fun _ => rfl⟩
  case retry => exact ⟨.top 1, rfl, by simp [step], nofun⟩
  case broke => exact ⟨.top 1, rfl, by simp [step], nofun⟩
  case inLoop => exact ⟨.iter, rfl, by simp [step], nofun⟩
  case iterating =>
    cases sa
    · exact ⟨.read .closeBreak, rfl, by simp [step], nofun⟩
    · exact ⟨.cancel, rfl, by simp [step], fun _ => rfl⟩
  case oor => exact ⟨.offsets false, rfl, by simp [step], nofun⟩
  case afterOffsets => exact ⟨.iter, rfl, by simp [step], nofun⟩

theorem progress_after_cancel (s : State) (hc : s.cancelled = true) (hx : s.pc ≠ .exited) :
    ∃ e, e.control = true ∧ (step s e).isSome :=
  let ⟨e, h1, h2, _⟩ := progress_after_cancel_sampled s hc hx
  ⟨e, h1, h2⟩

theorem keeps_cancelled (s s' : State) (e : Event) (hc : s.cancelled = true)
    (h : step s e = some s') : s'.cancelled = true := by
  by_cases he : e.control = true
  · exact (terminates_after_cancel s s' e hc he h).2
  · cases e <;> first | exact absurd rfl he | skip
    case ctxCancel => cases h; rfl
    all_goals
      dsimp only [step] at h
      split at h <;> cases h
      exact hc

theorem run_eq (s : State) (es : List Event) : run s es = es.foldlM step s :=
  Run.eq_foldlM (fun _ => rfl) (fun s e es => by rw [run]; cases step s e <;> rfl) es s

theorem conn_step (s s' : State) (e : Event)
    (hi : s.connOpen = true → s.pc = .inLoop ∨ s.pc = .iterating ∨ s.pc = .oor ∨ s.pc = .afterOffsets)
    (h : step s e = some s') :
    s'.connOpen = true → s'.pc = .inLoop ∨ s'.pc = .iterating ∨ s'.pc = .oor ∨ s'.pc = .afterOffsets := by
  cases e <;> dsimp only [step] at h
  case ctxCancel => cases h; exact hi
  -- the connection is as before
  case sendErr | msg => split at h <;> cases h; exact hi
  -- leaving the read loop closes it; entering it opens it
  case top | cancel => split at h <;> cases h; exact nofun
  case iter => split at h <;> cases h; exact fun _ => .inr (.inl rfl)
  case init ok =>
    split at h <;> cases h
    rename_i hg
    cases ok
    · intro hco
      have := hi hco
      rw [hg.1] at this
      exact this.elim nofun fun h => h.elim nofun fun h => h.elim nofun nofun
    · exact fun _ => .inl rfl
  case read c =>
    split at h <;> cases h
    cases c
    · exact fun _ => .inl rfl
    · exact nofun
    · exact nofun
    · exact fun _ => .inr (.inr (.inl rfl))
    · exact nofun
  case offsets ok =>
    split at h <;> cases h
    cases ok
    · exact nofun
    · exact fun _ => .inr (.inr (.inr rfl))

theorem conn_owned (s : State) (hr : Reachable s) :
    s.connOpen = true → s.pc = .inLoop ∨ s.pc = .iterating ∨ s.pc = .oor ∨ s.pc = .afterOffsets := by
  obtain ⟨es, hrun⟩ := hr
  exact Run.invariant (fun s e s' => conn_step s s' e) (run_eq _ es ▸ hrun)
    (fun h : ({} : State).connOpen = true => nomatch h)

end KV.FetcherLife
