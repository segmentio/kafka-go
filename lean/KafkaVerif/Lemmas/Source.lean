/- Lemmas/Source.lean — what `readFull` and `readToEOF` return is a function of the source's data alone (`readFull_spec`,
`readToEOF_spec`): the script — how the source cuts its answers, `(0, nil)`, data with EOF — does not show. -/
import KafkaVerif.Model.Source

namespace KV.Model.Source
open KV

namespace Src

/-- All a caller can rely on: one `Read` with room for `want ≥ 1` bytes hands out a prefix of the data of at most `want`
bytes; EOF comes at the earliest together with the last byte; a call without EOF uses up fuel. -/
theorem read_spec (s : Src) (want : Nat) (hw : 0 < want) :
    ∃ k e sc', k ≤ want ∧ s.read want = (s.data.take k, e, ⟨s.data.drop k, sc'⟩) ∧ (e = true → s.data.length ≤ k) ∧
      (e = false → fuelFor ⟨s.data.drop k, sc'⟩ < fuelFor s) := by
  obtain ⟨data, script⟩ := s
  unfold Src.read
  by_cases hd : data = []
  · subst hd
    exact ⟨0, true, script, Nat.zero_le _, by simp, fun _ => Nat.le_refl _, nofun⟩
  · have hdl : 0 < data.length := List.length_pos_iff.mpr hd
    cases script with
    | nil =>
      refine ⟨want, false, [], Nat.le_refl _, by simp [hd], nofun, fun _ => ?_⟩
      simp only [fuelFor, List.length_drop]; omega
    | cons a rest =>
      refine ⟨min a.n want, a.eof && decide (data.length ≤ min a.n want), rest, Nat.min_le_right _ _, by simp only [hd, if_false],
        fun h => ?_, fun _ => ?_⟩
      · simpa using (Bool.and_eq_true_iff.mp h).2
      · simp only [fuelFor, List.length_drop, List.length_cons]; omega

end Src

/-- `take m` and `drop m` of a list, split at an earlier point `k` (the shape `readFull`'s accumulator produces) -/
theorem take_split {α : Type} (l : List α) {k m : Nat} (h : k ≤ m) :
    l.take m = l.take k ++ (l.drop k).take (m - (l.take k).length) := by
  have hk : (l.take k).length ≤ m := Nat.le_trans (List.length_take_le k l) h
  conv => lhs; rw [← List.take_append_drop k l, List.take_append, List.take_of_length_le hk]

theorem drop_split {α : Type} (l : List α) {k m : Nat} (h : k ≤ m) : l.drop m = (l.drop k).drop (m - (l.take k).length) := by
  have hk : (l.take k).length ≤ m := Nat.le_trans (List.length_take_le k l) h
  conv => lhs; rw [← List.take_append_drop k l, List.drop_append, List.drop_of_length_le hk, List.nil_append]

theorem fullStatus_append (want : Nat) (acc b d : Bytes) : fullStatus want (acc ++ b) d = fullStatus want acc (b ++ d) := by
  simp only [fullStatus, List.length_append, Nat.add_assoc]

theorem fullStatus_cases (want : Nat) (d : Bytes) :
    (want ≤ d.length ∧ fullStatus want [] d = .ok) ∨ (d = [] ∧ 0 < want ∧ fullStatus want [] d = .eof) ∨
      (d ≠ [] ∧ d.length < want ∧ fullStatus want [] d = .unexpected) := by
  unfold fullStatus
  rw [List.length_nil, Nat.zero_add]
  by_cases h : want ≤ d.length
  · exact .inl ⟨h, if_pos h⟩
  · rw [if_neg h]
    by_cases h0 : 0 < d.length
    · exact .inr (.inr ⟨List.length_pos_iff.mp h0, Nat.lt_of_not_le h, if_pos h0⟩)
    · have hd : d = [] := List.eq_nil_of_length_eq_zero (Nat.eq_zero_of_not_pos h0)
      subst hd
      exact .inr (.inl ⟨rfl, Nat.lt_of_not_le h, rfl⟩)

theorem readFull_spec (fuel : Nat) (s : Src) (want : Nat) (acc : Bytes) (hf : fuelFor s ≤ fuel) :
    ∃ sc', readFull fuel s want acc =
      (acc ++ s.data.take (want - acc.length), fullStatus want acc (s.data.take (want - acc.length)),
        ⟨s.data.drop (want - acc.length), sc'⟩) := by
  induction fuel generalizing s acc with
  | zero => simp [fuelFor] at hf
  | succ fuel ih =>
    unfold readFull
    by_cases hw : want ≤ acc.length
    · exact ⟨s.script, by simp [hw, Nat.sub_eq_zero_of_le hw, fullStatus]⟩
    · obtain ⟨k, e, sc', hk, hr, he, hlt⟩ := s.read_spec (want - acc.length) (Nat.sub_pos_of_lt (Nat.lt_of_not_le hw))
      rw [if_neg hw, hr]
      cases e with
      | true =>
        -- the source is exhausted: the status is decided by what has arrived
        have hall := he rfl
        have hall' := Nat.le_trans hall hk
        rw [List.take_of_length_le hall, List.take_of_length_le hall', List.drop_of_length_le hall,
          List.drop_of_length_le hall']
        refine ⟨sc', ?_⟩
        simp only [if_true, fullStatus, List.length_append]
        by_cases h1 : want ≤ acc.length + s.data.length
        · rw [if_pos h1, if_pos h1]
        · rw [if_neg h1, if_neg h1]
          by_cases h2 : 0 < acc.length + s.data.length
          · rw [if_pos h2, if_pos h2]
          · rw [if_neg h2, if_neg h2]
      | false =>
        obtain ⟨sc'', hih⟩ := ih ⟨s.data.drop k, sc'⟩ (acc ++ s.data.take k)
          (Nat.le_of_lt_succ (Nat.lt_of_lt_of_le (hlt rfl) hf))
        refine ⟨sc'', ?_⟩
        simp only [Bool.false_eq_true, if_false, hih, List.length_append, Nat.sub_add_eq, fullStatus_append,
          List.append_assoc, ← take_split s.data hk, ← drop_split s.data hk]

theorem readFull_nil (s : Src) (want : Nat) :
    ∃ sc', readFull (fuelFor s) s want [] =
      (s.data.take want, fullStatus want [] (s.data.take want), ⟨s.data.drop want, sc'⟩) :=
  readFull_spec (fuelFor s) s want [] (Nat.le_refl _)

theorem readToEOF_spec (fuel : Nat) (s : Src) (cap : Nat) (input : Bytes) (hf : fuelFor s ≤ fuel)
    (hc : 0 < cap) (hi : input.length ≤ cap) :
    (readToEOF fuel s cap input).1 = (if input ++ s.data = [] then none else some (input ++ s.data)) ∧
    (readToEOF fuel s cap input).2.data = [] := by
  induction fuel generalizing s cap input with
  | zero => simp [fuelFor] at hf
  | succ fuel ih =>
    simp only [readToEOF]
    generalize hcap : (if input.length = cap then 2 * cap else cap) = cap'
    have hi' : input.length < cap' := by
      rw [← hcap]
      by_cases h : input.length = cap
      · rw [if_pos h, h, Nat.two_mul]; exact Nat.lt_add_of_pos_left hc
      · rw [if_neg h]; exact Nat.lt_of_le_of_ne hi h
    obtain ⟨k, e, sc', hk, hr, he, hlt⟩ := s.read_spec (cap' - input.length) (Nat.sub_pos_of_lt hi')
    rw [hr]
    cases e with
    | true =>
      have hall := he rfl
      rw [if_pos rfl, List.take_of_length_le hall, List.drop_of_length_le hall]
      by_cases hin : input ++ s.data = []
      · rw [if_pos hin, if_neg (by rw [hin]; exact Nat.lt_irrefl 0)]; exact ⟨rfl, rfl⟩
      · rw [if_neg hin, if_pos (List.length_pos_iff.mpr hin)]; exact ⟨rfl, rfl⟩
    | false =>
      have := ih ⟨s.data.drop k, sc'⟩ cap' (input ++ s.data.take k)
        (Nat.le_of_lt_succ (Nat.lt_of_lt_of_le (hlt rfl) hf)) (Nat.zero_lt_of_lt hi')
        (by rw [List.length_append, Nat.add_comm]
            exact Nat.add_le_of_le_sub (Nat.le_of_lt hi') (Nat.le_trans (List.length_take_le k _) hk))
      rw [List.append_assoc, List.take_append_drop] at this
      exact this

end KV.Model.Source
