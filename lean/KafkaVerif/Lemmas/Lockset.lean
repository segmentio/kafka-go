/-
Lemmas/Lockset.lean — lemmas about Model/Lockset.lean: what a step does to a hold, the release/acquire pair between two
holders of a mutex and the happens-before path it gives (`hb_of_holds`, `hb_of_common_lock`).  Then the Boolean side:
`respectsB_sound`; executions without synchronisation (`Quiet`, `hb_same_tid_of_quiet`); what `raceFree` gives for two rows
(`common_hold`) and that the grouped check implies it (`groupsOk_raceFree`).
-/
import KafkaVerif.Model.Lockset
import KafkaVerif.Base.Run

namespace KV.Lockset

def Inv (s : LState) : Prop := ∀ m, (s m).writer ≠ none → (s m).readers = []

theorem inv_init : Inv LState.init := by
  intro m h; simp [LState.init] at h

theorem set_same (s : LState) (m : Mutex) (v : MState) : (s.set m v) m = v := by simp [LState.set]

theorem set_other (s : LState) {m x : Mutex} (v : MState) (h : x ≠ m) : (s.set m v) x = s x := by
  simp [LState.set, h]

theorem inv_set {s : LState} (hi : Inv s) (m : Mutex) (v : MState) (hv : v.writer ≠ none → v.readers = []) :
    Inv (s.set m v) := by
  intro x hx
  by_cases hxm : x = m
  · subst hxm; rw [set_same] at hx ⊢; exact hv hx
  · rw [set_other _ _ hxm] at hx ⊢; exact hi x hx

theorem stepL_cases {s s' : LState} {e : Ev} (h : stepL s e = some s') :
    (s' = s ∧ (∀ t m md, e ≠ .acq t m md) ∧ ∀ t m md, e ≠ .rel t m md) ∨ ∃ t m v, s' = s.set m v ∧
      ((e = .acq t m .excl ∧ ((s m).writer = none ∧ (s m).readers = []) ∧ v = ⟨some t, []⟩) ∨
       (e = .acq t m .shared ∧ (s m).writer = none ∧ v = ⟨(s m).writer, t :: (s m).readers⟩) ∨
       (e = .rel t m .excl ∧ (s m).writer = some t ∧ v = ⟨none, (s m).readers⟩) ∨
       (e = .rel t m .shared ∧ t ∈ (s m).readers ∧ v = ⟨(s m).writer, (s m).readers.erase t⟩)) := by
  cases e with
  | acq t m mode =>
    cases mode <;> simp only [stepL] at h <;> split at h <;> cases h
    · exact .inr ⟨t, m, _, rfl, .inl ⟨rfl, ‹_›, rfl⟩⟩
    · exact .inr ⟨t, m, _, rfl, .inr (.inl ⟨rfl, ‹_›, rfl⟩)⟩
  | rel t m mode =>
    cases mode <;> simp only [stepL] at h <;> split at h <;> cases h
    · exact .inr ⟨t, m, _, rfl, .inr (.inr (.inl ⟨rfl, ‹_›, rfl⟩))⟩
    · exact .inr ⟨t, m, _, rfl, .inr (.inr (.inr ⟨rfl, ‹_›, rfl⟩))⟩
  | _ => cases h; exact .inl ⟨rfl, nofun, nofun⟩

theorem stepL_eq_self {s s' : LState} {e : Ev} (h : stepL s e = some s') (ha : ∀ t m md, e ≠ .acq t m md)
    (hr : ∀ t m md, e ≠ .rel t m md) : s' = s := by
  rcases stepL_cases h with ⟨rfl, _⟩ | ⟨t, m, _, _, ⟨he, _⟩ | ⟨he, _⟩ | ⟨he, _⟩ | ⟨he, _⟩⟩
  · rfl
  · exact absurd he (ha t m _)
  · exact absurd he (ha t m _)
  · exact absurd he (hr t m _)
  · exact absurd he (hr t m _)

theorem inv_step {s s' : LState} {e : Ev} (hi : Inv s) (h : stepL s e = some s') : Inv s' := by
  rcases stepL_cases h with ⟨rfl, _⟩ | ⟨t, m, v, rfl, hc⟩
  · exact hi
  refine inv_set hi m v fun hx => ?_
  rcases hc with ⟨_, _, rfl⟩ | ⟨_, hw, rfl⟩ | ⟨_, _, rfl⟩ | ⟨_, hm, rfl⟩
  · rfl
  · exact absurd hw hx
  · exact absurd rfl hx
  · rw [hi m hx] at hm; cases hm

theorem runL_eq (s : LState) (es : List Ev) : runL s es = es.foldlM stepL s :=
  Run.eq_foldlM (fun _ => rfl) (fun _ _ _ => rfl) es s

theorem runL_cons {s s' : LState} {e : Ev} {es : List Ev} :
    runL s (e :: es) = some s' ↔ ∃ s₁, stepL s e = some s₁ ∧ runL s₁ es = some s' := by
  simp only [runL_eq]; exact Run.cons_eq_some

theorem inv_run {es : List Ev} {s s' : LState} (hi : Inv s) (h : runL s es = some s') : Inv s' :=
  Run.invariant (fun _ _ _ hp hs => inv_step hp hs) (runL_eq s es ▸ h) hi

theorem runL_append (s : LState) (xs ys : List Ev) :
    runL s (xs ++ ys) = (runL s xs).bind fun s' => runL s' ys := by
  simp only [runL_eq, List.foldlM_append]; rfl

theorem holdsIn_excl (s : LState) (t : Tid) (m : Mutex) : holdsIn s t ⟨m, .excl⟩ ↔ (s m).writer = some t := Iff.rfl
theorem holdsIn_shared (s : LState) (t : Tid) (m : Mutex) : holdsIn s t ⟨m, .shared⟩ ↔ t ∈ (s m).readers := Iff.rfl

theorem holdsIn_congr {s s' : LState} {m : Mutex} (h : s' m = s m) (t : Tid) (mode : Mode) :
    holdsIn s' t ⟨m, mode⟩ ↔ holdsIn s t ⟨m, mode⟩ := by
  cases mode
  · rw [holdsIn_excl, holdsIn_excl, h]
  · rw [holdsIn_shared, holdsIn_shared, h]

theorem acq_holds {s s' : LState} {t : Tid} {m : Mutex} {mode : Mode} (h : stepL s (.acq t m mode) = some s') :
    holdsIn s' t ⟨m, mode⟩ := by
  rcases stepL_cases h with ⟨_, hn, _⟩ | ⟨t', m', v, rfl, hc⟩
  · exact absurd rfl (hn t m mode)
  rcases hc with ⟨he, _, rfl⟩ | ⟨he, _, rfl⟩ | ⟨he, _⟩ | ⟨he, _⟩ <;> cases he
  · rw [holdsIn_excl, set_same]
  · rw [holdsIn_shared, set_same]; exact List.mem_cons_self

theorem rel_held {s s' : LState} {t : Tid} {m : Mutex} {mode : Mode} (h : stepL s (.rel t m mode) = some s') :
    holdsIn s t ⟨m, mode⟩ := by
  rcases stepL_cases h with ⟨_, _, hn⟩ | ⟨t', m', v, rfl, hc⟩
  · exact absurd rfl (hn t m mode)
  rcases hc with ⟨he, _⟩ | ⟨he, _⟩ | ⟨he, hw, _⟩ | ⟨he, hm, _⟩ <;> cases he
  · exact hw
  · exact hm

theorem hold_frame {s s' : LState} {e : Ev} {t : Tid} {m : Mutex} {mode : Mode} (h : stepL s e = some s')
    (ha : e ≠ .acq t m mode) (hr : e ≠ .rel t m mode) : holdsIn s' t ⟨m, mode⟩ ↔ holdsIn s t ⟨m, mode⟩ := by
  rcases stepL_cases h with ⟨rfl, _⟩ | ⟨t', m', v, rfl, hc⟩
  · exact Iff.rfl
  by_cases hm : m = m'
  case neg => exact holdsIn_congr (set_other _ _ hm) t mode
  subst hm
  -- the event is on `m`: by `ha`, `hr` it is another goroutine's, or in the other mode
  have htt : ∀ md, (e = .acq t' m md ∨ e = .rel t' m md) → md = mode → t ≠ t' := by
    rintro md (rfl | rfl) rfl rfl
    · exact ha rfl
    · exact hr rfl
  -- an event in one mode leaves the hold in the other mode alone (except `Lock`, which finds no readers): those
  -- cases close by unfolding; in the same mode the event is another goroutine's (`htt`)
  rcases hc with ⟨he, ⟨hw, hrs⟩, rfl⟩ | ⟨he, hw, rfl⟩ | ⟨he, hw, rfl⟩ | ⟨he, hmem, rfl⟩
  · cases mode <;> simp only [holdsIn_excl, holdsIn_shared, set_same]
    · simp [hw, Ne.symm (htt _ (.inl he) rfl)]
    · simp [hrs]
  · cases mode <;> simp only [holdsIn_excl, holdsIn_shared, set_same]
    simp [List.mem_cons, htt _ (.inl he) rfl]
  · cases mode <;> simp only [holdsIn_excl, holdsIn_shared, set_same]
    simp [hw, Ne.symm (htt _ (.inr he) rfl)]
  · cases mode <;> simp only [holdsIn_excl, holdsIn_shared, set_same]
    exact List.mem_erase_of_ne (htt _ (.inr he) rfl)

theorem hold_kept {s s' : LState} {e : Ev} {t : Tid} {m : Mutex} {mode : Mode}
    (h : stepL s e = some s') (hh : holdsIn s t ⟨m, mode⟩) (hne : e ≠ .rel t m mode) :
    holdsIn s' t ⟨m, mode⟩ := by
  by_cases ha : e = .acq t m mode
  · subst ha; exact acq_holds h
  · exact (hold_frame h ha hne).2 hh

theorem hold_gained {s s' : LState} {e : Ev} {u : Tid} {m : Mutex} {mode : Mode}
    (h : stepL s e = some s') (hn : ¬ holdsIn s u ⟨m, mode⟩) (hh : holdsIn s' u ⟨m, mode⟩) :
    e = .acq u m mode := by
  apply Decidable.byContradiction
  intro ha
  have hr : e ≠ .rel u m mode := by rintro rfl; exact hn (rel_held h)
  exact hn ((hold_frame h ha hr).1 hh)

theorem exclusive {s : LState} (hi : Inv s) {t u : Tid} {m : Mutex} {m₁ m₂ : Mode}
    (h₁ : holdsIn s t ⟨m, m₁⟩) (h₂ : holdsIn s u ⟨m, m₂⟩) (hx : m₁ = .excl ∨ m₂ = .excl) : t = u := by
  cases m₁ <;> cases m₂
  · rw [holdsIn_excl] at h₁ h₂; rw [h₁] at h₂; cases h₂; rfl
  · rw [holdsIn_excl] at h₁; rw [holdsIn_shared] at h₂
    have := hi m (by rw [h₁]; exact fun h => nomatch h)
    rw [this] at h₂; cases h₂
  · rw [holdsIn_shared] at h₁; rw [holdsIn_excl] at h₂
    have := hi m (by rw [h₂]; exact fun h => nomatch h)
    rw [this] at h₁; cases h₁
  · rcases hx with h | h <;> cases h

theorem acquire_in_run {es : List Ev} {s s' : LState} {u : Tid} {m : Mutex} {mode : Mode}
    (h : runL s es = some s') (hn : ¬ holdsIn s u ⟨m, mode⟩) (hh : holdsIn s' u ⟨m, mode⟩) :
    ∃ l : Nat, es[l]? = some (Ev.acq u m mode) := by
  induction es generalizing s with
  | nil => cases h; exact absurd hh hn
  | cons e es ih =>
    obtain ⟨s₁, hs, h⟩ := runL_cons.1 h
    by_cases hg : holdsIn s₁ u ⟨m, mode⟩
    · exact ⟨0, by rw [hold_gained hs hn hg]; rfl⟩
    · obtain ⟨l, hl⟩ := ih h hg
      exact ⟨l + 1, hl⟩

/-- The core of the lockset argument; the pair found is a synchronisation edge (`HB.sync`). -/
theorem release_then_acquire {es : List Ev} {s s' : LState} {t u : Tid} {m : Mutex} {m₁ m₂ : Mode}
    (hi : Inv s) (h : runL s es = some s') (h₁ : holdsIn s t ⟨m, m₁⟩) (h₂ : holdsIn s' u ⟨m, m₂⟩)
    (hne : t ≠ u) (hx : m₁ = .excl ∨ m₂ = .excl) :
    ∃ k l : Nat, k < l ∧ es[k]? = some (Ev.rel t m m₁) ∧ es[l]? = some (Ev.acq u m m₂) := by
  induction es generalizing s with
  | nil => cases h; exact absurd (exclusive hi h₁ h₂ hx) hne
  | cons e es ih =>
    obtain ⟨s₁, hs, h⟩ := runL_cons.1 h
    by_cases he : e = .rel t m m₁
    · -- the release is here; `u` does not hold `m` now, so its acquire is later
      have hnu : ¬ holdsIn s u ⟨m, m₂⟩ := fun hu => hne (exclusive hi h₁ hu hx)
      have hnu₁ : ¬ holdsIn s₁ u ⟨m, m₂⟩ := by
        intro hu
        have := hold_gained hs hnu hu
        rw [he] at this; cases this
      obtain ⟨l, hl⟩ := acquire_in_run h hnu₁ h₂
      exact ⟨0, l + 1, Nat.succ_pos _, by rw [he]; rfl, hl⟩
    · obtain ⟨k, l, hkl, hk, hl⟩ := ih (inv_step hi hs) h (hold_kept hs h₁ he)
      exact ⟨k + 1, l + 1, Nat.succ_lt_succ hkl, hk, hl⟩

theorem wf_take {tr : List Ev} (hwf : WF tr) (n : Nat) : ∃ s, runL LState.init (tr.take n) = some s := by
  obtain ⟨sf, hsf⟩ := hwf
  rw [← List.take_append_drop n tr, runL_append] at hsf
  obtain ⟨s, hs, _⟩ := Option.bind_eq_some_iff.1 hsf
  exact ⟨s, hs⟩

theorem runL_take_succ {s s' : LState} {tr : List Ev} {c : Nat} {e : Ev} (hc : tr[c]? = some e)
    (h : runL s (tr.take (c + 1)) = some s') : ∃ s₀, runL s (tr.take c) = some s₀ ∧ stepL s₀ e = some s' := by
  rw [List.take_add_one, hc, runL_append] at h
  obtain ⟨s₀, h₀, h⟩ := Option.bind_eq_some_iff.1 h
  obtain ⟨s₁, hs, h⟩ := runL_cons.1 h
  cases h
  exact ⟨s₀, h₀, hs⟩

/-- Program order from `i` to `t`'s release, the release synchronises with `u`'s acquire before `k`, program order from
    there to `j`. -/
theorem hb_of_holds {tr : List Ev} {i k j : Nat} {t u : Tid} {a : Access} {e : Ev} {m : Mutex} {m₁ m₂ : Mode}
    (hik : i < k) (hkj : k ≤ j) (hi : tr[i]? = some (.acc t a)) (hj : tr[j]? = some e) (he : e.tid = u) (htu : t ≠ u)
    (h₁ : HoldsAt tr i t ⟨m, m₁⟩) (h₂ : HoldsAt tr k u ⟨m, m₂⟩) (hx : m₁ = .excl ∨ m₂ = .excl) : HB tr i j := by
  obtain ⟨si, hsi, hhi⟩ := h₁
  obtain ⟨sk, hsk, hhk⟩ := h₂
  obtain ⟨d, rfl⟩ : ∃ d, k = i + d := ⟨k - i, by omega⟩
  rw [List.take_add, runL_append, hsi] at hsk
  obtain ⟨p, q, hpq, hp, hq⟩ := release_then_acquire (inv_run inv_init hsi) hsk hhi hhk htu hx
  have seg : ∀ (n : Nat) (e : Ev), (List.take d (List.drop i tr))[n]? = some e → tr[i + n]? = some e ∧ n < d := by
    intro n e hn
    rw [List.getElem?_take] at hn
    split at hn
    · rw [List.getElem?_drop] at hn; exact ⟨hn, ‹_›⟩
    · cases hn
  obtain ⟨hP, _⟩ := seg p _ hp
  obtain ⟨hQ, hqd⟩ := seg q _ hq
  have hp0 : p ≠ 0 := by
    rintro rfl
    rw [Nat.add_zero, hi] at hP; cases hP
  exact .trans (.po (by omega) hi hP rfl) (.trans (.sync (by omega) hP hQ hx) (.po (by omega) hQ hj he.symm))

theorem HoldsAtLeast.actual {tr : List Ev} {i : Nat} {t : Tid} {h : Hold} (hal : HoldsAtLeast tr i t h) :
    ∃ md : Mode, (h.mode = .excl → md = .excl) ∧ HoldsAt tr i t ⟨h.m, md⟩ := by
  rcases hal with hA | ⟨_, hA⟩
  · exact ⟨h.mode, fun e => e, hA⟩
  · exact ⟨.excl, fun _ => rfl, hA⟩

theorem hb_of_common_lock {tr : List Ev} {i j : Nat} {t u : Tid} {a b : Access} {h k : Hold} (hij : i < j)
    (hi : tr[i]? = some (.acc t a)) (hj : tr[j]? = some (.acc u b)) (htu : t ≠ u)
    (hal : HoldsAtLeast tr i t h) (hbl : HoldsAtLeast tr j u k)
    (hm : h.m = k.m) (hx : h.mode = .excl ∨ k.mode = .excl) : HB tr i j := by
  obtain ⟨mh, hmh, hhi⟩ := hal.actual
  obtain ⟨mk, hmk, hhj⟩ := hbl.actual
  rw [← hm] at hhj
  exact hb_of_holds hij (Nat.le_refl j) hi hj rfl htu hhi hhj (hx.imp hmh hmk)

theorem holdsAt_after_acq {tr : List Ev} (hwf : WF tr) {c : Nat} {u : Tid} {m : Mutex}
    (hc : tr[c]? = some (.acq u m .excl)) : HoldsAt tr (c + 1) u ⟨m, .excl⟩ := by
  obtain ⟨s₁, h₁⟩ := wf_take hwf (c + 1)
  obtain ⟨s₀, _, hs⟩ := runL_take_succ hc h₁
  exact ⟨s₁, h₁, acq_holds hs⟩

theorem holdsB_sound {s : LState} {t : Tid} {h : Hold} (hb : holdsB s t h = true) : holdsIn s t h := by
  unfold holdsB at hb
  unfold holdsIn
  cases hm : h.mode <;> rw [hm] at hb <;> simp only at hb ⊢
  · exact eq_of_beq hb
  · exact List.contains_iff_mem.1 hb

theorem respectsB_sound {tbl : List Access} {tr : List Ev} (h : respectsB tbl tr = true) : Respects tbl tr := by
  intro i t a hi
  have hlt : i < tr.length := (List.getElem?_eq_some_iff.1 hi).1
  unfold respectsB at h
  rw [List.all_eq_true] at h
  have := h i (List.mem_range.2 hlt)
  rw [hi] at this
  simp only [Bool.and_eq_true, List.all_eq_true] at this
  refine ⟨List.contains_iff_mem.1 this.1, fun hh hmem => ?_⟩
  have h2 := this.2 hh hmem
  cases hr : runL LState.init (tr.take i) with
  | none => rw [hr] at h2; cases h2
  | some s => rw [hr] at h2; exact Or.inl ⟨s, hr, holdsB_sound h2⟩

def Quiet (tr : List Ev) : Prop :=
  ∀ (i : Nat) e, tr[i]? = some e → (∀ t m md, e ≠ .rel t m md) ∧ (∀ t c, e ≠ .spawn t c) ∧ (∀ t c, e ≠ .signal t c)

theorem hb_same_tid_of_quiet {tr : List Ev} (hq : Quiet tr) {i j : Nat} (h : HB tr i j) :
    ∃ a b, tr[i]? = some a ∧ tr[j]? = some b ∧ a.tid = b.tid := by
  induction h with
  | po _ hi hj ht => exact ⟨_, _, hi, hj, ht⟩
  | sync _ hi _ _ => exact absurd rfl ((hq _ _ hi).1 _ _ _)
  | go _ hi _ _ => exact absurd rfl ((hq _ _ hi).2.1 _ _)
  | chan _ hi _ => exact absurd rfl ((hq _ _ hi).2.2 _ _)
  | trans _ _ ih₁ ih₂ =>
    obtain ⟨a, b, ha, hb, hab⟩ := ih₁
    obtain ⟨b', c, hb', hc, hbc⟩ := ih₂
    rw [hb] at hb'; cases hb'
    exact ⟨a, c, ha, hc, hab.trans hbc⟩

theorem keysInc_head_lt {g : Group} {gs : List Group} (h : keysInc (g :: gs) = true) :
    ∀ g' ∈ gs, g.field < g'.field := by
  induction gs generalizing g with
  | nil => intro g' hg'; cases hg'
  | cons g₂ rest ih =>
    simp only [keysInc, Bool.and_eq_true, decide_eq_true_eq] at h
    intro g' hg'
    rcases List.mem_cons.1 hg' with rfl | hr
    · exact h.1
    · exact Nat.lt_trans h.1 (ih h.2 g' hr)

theorem keysInc_tail {g : Group} {gs : List Group} (h : keysInc (g :: gs) = true) : keysInc gs = true := by
  cases gs with
  | nil => rfl
  | cons g₂ rest =>
    simp only [keysInc, Bool.and_eq_true] at h
    exact h.2

theorem pairOk_of_field_ne {a b : Access} (h : a.field ≠ b.field) : pairOk a b = true := by
  have : (a.field == b.field) = false := by simpa using h
  simp [pairOk, conflict, this]

theorem raceFree_mem {tbl : List Access} (h : raceFree tbl = true) {a b : Access} (ha : a ∈ tbl) (hb : b ∈ tbl) :
    pairOk a b = true :=
  List.all_eq_true.1 (List.all_eq_true.1 h a ha) b hb

theorem sharesLock_iff {a b : Access} : sharesLock a b = true ↔
    ∃ h, h ∈ a.locks ∧ ∃ k, k ∈ b.locks ∧ h.m = k.m ∧ (h.mode = .excl ∨ k.mode = .excl) := by
  simp only [sharesLock, List.any_eq_true, Bool.and_eq_true, Bool.or_eq_true, beq_iff_eq]

theorem common_hold {tbl : List Access} (hrf : raceFree tbl = true) {a b : Access} (ha : a ∈ tbl) (hb : b ∈ tbl)
    (hc : conflict a b = true) :
    ∃ h, h ∈ a.locks ∧ ∃ k, k ∈ b.locks ∧ h.m = k.m ∧ (h.mode = .excl ∨ k.mode = .excl) := by
  have hp := raceFree_mem hrf ha hb
  rw [pairOk, hc] at hp
  exact sharesLock_iff.1 hp

theorem groupsOk_pair {gs : List Group} (h : groupsOk gs = true) :
    ∀ a ∈ flatten gs, ∀ b ∈ flatten gs, pairOk a b = true := by
  induction gs with
  | nil => intro a ha; cases ha
  | cons g rest ih =>
    simp only [groupsOk, List.all_cons, Bool.and_eq_true, List.all_eq_true, beq_iff_eq] at h ih
    obtain ⟨⟨⟨hf, hr⟩, hrest⟩, hk⟩ := h
    have cross : ∀ a ∈ g.rows, ∀ b ∈ flatten rest, a.field ≠ b.field := by
      intro a ha b hb
      obtain ⟨g', hg', hbg'⟩ := List.mem_flatMap.1 hb
      rw [hf a ha, (hrest g' hg').1 b hbg']
      exact Nat.ne_of_lt (keysInc_head_lt hk g' hg')
    have mem : ∀ a, a ∈ flatten (g :: rest) → a ∈ g.rows ∨ a ∈ flatten rest := fun a ha => List.mem_append.1 ha
    intro a ha b hb
    rcases mem a ha with ha | ha <;> rcases mem b hb with hb | hb
    · exact raceFree_mem hr ha hb
    · exact pairOk_of_field_ne (cross a ha b hb)
    · exact pairOk_of_field_ne (fun h => cross b hb a ha h.symm)
    · exact ih ⟨hrest, keysInc_tail hk⟩ a ha b hb

theorem groupsOk_raceFree {gs : List Group} (h : groupsOk gs = true) : raceFree (flatten gs) = true :=
  List.all_eq_true.2 fun a ha => List.all_eq_true.2 fun b hb => groupsOk_pair h a ha b hb

end KV.Lockset
