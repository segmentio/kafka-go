/-
Lemmas/BufVarInt.lean — read.go's readVarInt loop over a refilled bufio.Reader (Model/BufVarInt.lean) computes what
`BR.readVarInt` computes on the concatenated stream, whatever the cut into buffered bytes and reads.
-/
import KafkaVerif.Model.BufVarInt

namespace KV.C02.BV
open KV KV.RW KV.Spec.RB KV.C02.BR

/-- `readUvarint` with the loop's accumulators -/
def uvAcc (x s : Nat) : Bytes → Option (Nat × Bytes)
  | [] => none
  | b :: r => if b.toNat < 128 then some (x + b.toNat * 2 ^ s, r) else uvAcc (x + (b.toNat - 128) * 2 ^ s) (s + 7) r

theorem uvAcc_nil (x s : Nat) : uvAcc x s [] = none := rfl

theorem uvAcc_eq (bs : Bytes) : ∀ x s, uvAcc x s bs = (readUvarint bs).map fun p => (x + p.1 * 2 ^ s, p.2) := by
  induction bs with
  | nil => intro x s; simp [uvAcc, readUvarint]
  | cons b r ih =>
    intro x s
    by_cases hb : b.toNat < 128
    · simp [uvAcc, readUvarint, hb]
    · simp only [uvAcc, readUvarint, hb, if_false]
      rw [ih]
      cases readUvarint r with
      | none => simp
      | some p =>
        simp only [Option.map_some, Option.some.injEq, Prod.mk.injEq, and_true]
        have h7 : 2 ^ (s + 7) = 128 * 2 ^ s := by rw [Nat.pow_add]; omega
        rw [h7, Nat.add_mul, Nat.mul_assoc, ← Nat.mul_assoc p.1 128, Nat.mul_comm p.1 128, Nat.mul_assoc]
        omega

theorem uvAcc_zero (bs : Bytes) : uvAcc 0 0 bs = readUvarint bs := by
  rw [uvAcc_eq]
  cases readUvarint bs with
  | none => rfl
  | some p => simp

theorem uvAcc_length (bs : Bytes) (x s : Nat) {v : Nat} {r : Bytes} (h : uvAcc x s bs = some (v, r)) : r.length < bs.length := by
  rw [uvAcc_eq] at h
  obtain ⟨⟨n, r'⟩, hp, hv⟩ := Option.map_eq_some_iff.mp h
  obtain ⟨_, rfl⟩ := Prod.mk.inj hv
  exact readUvarint_length hp

/-- `k` is the loop's index counter; `k < j` is there for the induction (it lets `j - k` be split off one byte at a time) -/
theorem scan_done : ∀ (a : Bytes) (x s k v j : Nat) (t : Bytes), scan x s k a = .done v j →
    uvAcc x s (a ++ t) = some (v, a.drop (j - k) ++ t) ∧ k < j ∧ j - k ≤ a.length := by
  intro a
  induction a with
  | nil => intro x s k v j t h; simp [scan] at h
  | cons b r ih =>
    intro x s k v j t h
    by_cases hb : b.toNat < 128
    · simp only [scan, hb, if_true, Scan.done.injEq] at h
      obtain ⟨rfl, rfl⟩ := h
      simp only [List.cons_append, uvAcc, hb, if_true, Nat.add_sub_cancel_left, List.drop_succ_cons, List.drop_zero,
        List.length_cons]
      exact ⟨trivial, Nat.lt_succ_self k, Nat.le_add_left 1 _⟩
    · simp only [scan, hb, if_false] at h
      obtain ⟨h1, h2, h3⟩ := ih _ _ _ _ _ t h
      have hj : j - k = (j - (k + 1)) + 1 := by omega
      refine ⟨?_, by omega, by rw [List.length_cons]; omega⟩
      simp only [List.cons_append, uvAcc, hb, if_false, h1, hj, List.drop_succ_cons]

theorem scan_more : ∀ (a : Bytes) (x s k x' s' : Nat) (t : Bytes), scan x s k a = .more x' s' →
    uvAcc x s (a ++ t) = uvAcc x' s' t := by
  intro a
  induction a with
  | nil => intro x s k x' s' t h; simp only [scan, Scan.more.injEq] at h; simp [h.1, h.2]
  | cons b r ih =>
    intro x s k x' s' t h
    by_cases hb : b.toNat < 128
    · simp [scan, hb] at h
    · simp only [scan, hb, if_false] at h
      simp only [List.cons_append, uvAcc, hb, if_false]
      exact ih _ _ _ _ _ t h

/-- what `BR.readVarInt` computes, started with the loop's accumulators -/
def readVarIntAcc (x s sz : Nat) (bs : Bytes) : Except (RErr × Rd) (Int × Rd) :=
  match uvAcc x s (bs.take sz) with
  | some (n, rest) =>
    let used := (bs.take sz).length - rest.length
    .ok (unzigzag n, ⟨bs.drop used, sz - used⟩)
  | none => .error (.short, ⟨bs.drop sz, sz - (bs.take sz).length⟩)

theorem readVarIntAcc_zero (sz : Nat) (bs : Bytes) : readVarIntAcc 0 0 sz bs = BR.readVarInt ⟨bs, sz⟩ := by
  simp only [readVarIntAcc, uvAcc_zero, BR.readVarInt]
  rfl

theorem readVarIntAcc_done {x s sz v k : Nat} {buf : Bytes} (F : Bytes) (h : scan x s 0 (buf.take sz) = .done v k) :
    readVarIntAcc x s sz (buf ++ F) = .ok (unzigzag v, ⟨buf.drop k ++ F, sz - k⟩) := by
  obtain ⟨h1, _, h3⟩ := scan_done _ _ _ _ _ _ (F.take (sz - buf.length)) h
  rw [Nat.sub_zero] at h1 h3
  have hk : k ≤ buf.length := by rw [List.length_take] at h3; omega
  have hu : (buf.take sz ++ F.take (sz - buf.length)).length - ((buf.take sz).drop k ++ F.take (sz - buf.length)).length = k := by
    simp only [List.length_append, List.length_drop]; omega
  simp only [readVarIntAcc, List.take_append, h1, hu, List.drop_append_of_le_length hk]

theorem readVarIntAcc_short {x s sz x' s' : Nat} {buf : Bytes} (F : Bytes) (h : scan x s 0 (buf.take sz) = .more x' s') (hle : sz ≤ buf.length) :
    readVarIntAcc x s sz (buf ++ F) = .error (.short, ⟨buf.drop sz ++ F, 0⟩) := by
  have h1 := scan_more _ _ _ _ _ _ [] h
  have hl : (buf.take sz).length = sz := by rw [List.length_take]; omega
  simp only [readVarIntAcc, List.take_append_of_le_length hle, List.append_nil, uvAcc_nil] at h1 ⊢
  simp only [h1, hl, Nat.sub_self, List.drop_append_of_le_length hle]

theorem readVarIntAcc_more {x s sz x' s' : Nat} {buf : Bytes} (F : Bytes) (h : scan x s 0 buf = .more x' s') (hlt : buf.length < sz) :
    readVarIntAcc x s sz (buf ++ F) = readVarIntAcc x' s' (sz - buf.length) F := by
  have htk : (buf ++ F).take sz = buf ++ F.take (sz - buf.length) := by
    rw [List.take_append, List.take_of_length_le (Nat.le_of_lt hlt)]
  simp only [readVarIntAcc, htk, scan_more _ _ _ _ _ _ _ h, List.length_append]
  cases hu : uvAcc x' s' (F.take (sz - buf.length)) with
  | none =>
    simp only [List.drop_append, List.drop_eq_nil_of_le (Nat.le_of_lt hlt), List.nil_append, Nat.sub_add_eq]
  | some p =>
    have hlen := uvAcc_length _ _ _ hu
    have hused : buf.length + (F.take (sz - buf.length)).length - p.2.length
        = buf.length + ((F.take (sz - buf.length)).length - p.2.length) := by omega
    simp only [hused, List.drop_append, List.drop_eq_nil_of_le (Nat.le_add_right _ _), List.nil_append,
      Nat.add_sub_cancel_left, Nat.sub_add_eq]

/-- `varLoop` with `round` unfolded; both branches of `round` scan the part of the buffer that is inside `sz` -/
theorem varLoop_unfold (x s sz : Nat) (buf : Bytes) (chunks : List Bytes) :
    varLoop x s sz buf chunks =
      match scan x s 0 (buf.take sz) with
      | .done v k => .ok (unzigzag v, ⟨buf.drop k, chunks⟩, sz - k)
      | .more x' s' =>
        if sz ≤ buf.length then .error (.short, ⟨buf.drop sz, chunks⟩, 0)
        else match chunks with
          | [] => .error (.short, ⟨[], []⟩, sz - buf.length)
          | c :: cs => varLoop x' s' (sz - buf.length) c cs := by
  by_cases hle : sz ≤ buf.length
  · cases hsc : scan x s 0 (buf.take sz) <;> cases chunks <;> simp [varLoop, round, hle, hsc]
  · rw [List.take_of_length_le (by omega)]
    cases hsc : scan x s 0 buf <;> cases chunks <;> simp [varLoop, round, hle, hsc]

theorem varLoop_eq : ∀ (chunks : List Bytes) (x s sz : Nat) (buf : Bytes),
    (varLoop x s sz buf chunks).abs = readVarIntAcc x s sz (buf ++ chunks.flatten)
  | chunks, x, s, sz, buf => by
    rw [varLoop_unfold]
    cases hsc : scan x s 0 (buf.take sz) with
    | done v k => rw [readVarIntAcc_done _ hsc]; rfl
    | more x' s' =>
      by_cases hle : sz ≤ buf.length
      · simp only [hle, if_true, readVarIntAcc_short _ hsc hle]; rfl
      · rw [List.take_of_length_le (by omega)] at hsc
        rw [readVarIntAcc_more _ hsc (by omega)]
        simp only [hle, if_false]
        cases chunks with
        | nil => simp [readVarIntAcc, Res.abs, BufRd.stream, uvAcc_nil]
        | cons c cs => exact varLoop_eq cs x' s' _ c

theorem readVarIntBuf_eq (sz : Nat) (b : BufRd) : (readVarIntBuf sz b).abs = BR.readVarInt ⟨b.stream, sz⟩ := by
  rw [readVarIntBuf, varLoop_eq, readVarIntAcc_zero]; rfl

end KV.C02.BV
