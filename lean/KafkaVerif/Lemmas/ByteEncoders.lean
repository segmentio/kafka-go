/-
Lemmas/ByteEncoders.lean — the bytes of the reference encoders as the byte-level readers meet them: a v2 frame is its 61
header bytes `encH2` followed by the payload, a v0/v1 message its 18 / 26 header bytes `encH1` followed by key + value
`encB1`; what the size fields say, where the magic byte is, and that a strict prefix of a varint or of a record cannot be
read.
-/
import KafkaVerif.Spec.ByteLayout
import KafkaVerif.Lemmas.RecordBatchSpec

namespace KV.C02
open KV KV.RW KV.Spec.RB

theorem take_append_ge {α : Type} (a b : List α) (n : Nat) (h : a.length ≤ n) :
    (a ++ b).take n = a ++ b.take (n - a.length) := by
  rw [List.take_append, List.take_of_length_le h]

/-- a strict prefix of a LEB128 number is not a number (every byte but the last has the continuation bit) -/
theorem readUvarint_prefix (n : Nat) : ∀ k, k < (uvarint n).length → readUvarint ((uvarint n).take k) = none := by
  induction n using uvarint.induct with
  | case1 n h =>
    intro k hk
    rw [uvarint, if_pos h] at hk ⊢
    obtain rfl : k = 0 := by simpa using hk
    rfl
  | case2 n h ih =>
    intro k hk
    rw [uvarint, if_neg h] at hk ⊢
    cases k with
    | zero => rfl
    | succ k =>
      have : ¬ (n % 128 + 128) % 256 < 128 := by omega
      simp only [List.take_succ_cons, readUvarint, byte_toNat, this, if_false, ih k (by simpa using hk)]

theorem isEmpty_append_false {a b : Bytes} (ha : 0 < a.length) : (a ++ b).isEmpty = false := by
  cases a with
  | nil => simp at ha
  | cons x xs => simp

theorem isEmpty_take_append {e : Bytes} {k : Nat} (X : Bytes) (hk : 0 < k) (he : 0 < e.length) :
    ((e ++ X).take k).isEmpty = false := by
  cases e with
  | nil => simp at he
  | cons x xs =>
    cases k with
    | zero => omega
    | succ k => simp

theorem length_take_append {e : Bytes} {k : Nat} (X : Bytes) (hk : k < e.length) : ((e ++ X).take k).length = k := by
  rw [List.length_take, List.length_append]; omega

theorem readRec_prefix (r : RecV2) (x : Bytes) (n : Nat) (h : n < (encRec r).length) :
    readRec ((encRec r ++ x).take n) = none := by
  rw [encRec, List.length_append] at h
  rw [encRec, List.append_assoc]
  by_cases hv : n < (varint ((recBody r).length : Int)).length
  · rw [List.take_append_of_le_length (Nat.le_of_lt hv), readRec, readVarint, varint,
      readUvarint_prefix _ _ hv]
  · have hlt : n - (varint ((recBody r).length : Int)).length < (recBody r).length := by omega
    rw [take_append_ge _ _ _ (by omega), readRec, readVarint_varint]
    simp only [show ¬ ((recBody r).length : Int) < 0 by omega, if_false, Int.toNat_natCast, takeN, length_take_append x hlt,
      Nat.not_le.mpr hlt]

theorem readRec_take (r : RecV2) (x : Bytes) (n : Nat) (h : (encRec r).length ≤ n) :
    readRec ((encRec r ++ x).take n) = some (r, x.take (n - (encRec r).length)) := by
  rw [take_append_ge _ _ _ h, readRec_encRec]

/-- what `readH2` / readHeader take from the 61 header bytes of the frame `f` -/
def h2Of (f : FrameV2) : H2 := ⟨f.baseOffset, f.lastOffsetDelta, f.firstTs, f.count, f.attributes, f.payload.length⟩

/-- what `readH1` / readHeader take from the 18 / 26 header bytes of the message `m` -/
def h1Of (m : Msg) : H1 := ⟨m.offset, m.magic, m.attributes, (encB1 m).length⟩

theorem encFrame_split (crc : Bytes → Nat) (f : FrameV2) :
    encFrame crc f = encH2 (crc (frameBody f)) f ++ f.payload := by
  simp [encFrame, encH2, frameBody, List.append_assoc]

theorem encH2_length (c : Nat) (f : FrameV2) : (encH2 c f).length = 61 := by
  simp [encH2, u32]

theorem encH2_pos (c : Nat) (f : FrameV2) : 0 < (encH2 c f).length := by
  rw [encH2_length]; omega

/-- 49 of the bytes the size field counts belong to the header, the rest is the payload:
`r.lengthRemain = int(r.header.length) - 49` -/
theorem frameSize_sub (f : FrameV2) : (((9 + (frameBody f).length : Nat) : Int) - 49).toNat = f.payload.length := by
  rw [frameBody_length]; omega

theorem readH2_encH2 (c : Nat) (hc : c < M32) (f : FrameV2) (h : f.WF) (x : Bytes) :
    readH2 (encH2 c f ++ x) = some (h2Of f, x) := by
  have hlen := frameLen_inRange f h
  obtain ⟨h1, h2, h3, h4, h5, h6, h7, h8, h9, h10, _⟩ := h
  simp only [encH2, readH2, List.append_assoc, readI64_i64 _ _ h1, readI32_i32 _ _ hlen, readI32_i32 _ _ h2,
    readI8_i8 2 _ (by decide), readU32_u32 _ _ hc, readI16_i16 _ _ h3, readI32_i32 _ _ h4, readI64_i64 _ _ h5, readI64_i64 _ _ h6,
    readI64_i64 _ _ h7, readI16_i16 _ _ h8, readI32_i32 _ _ h9, readI32_i32 _ _ h10, frameSize_sub, ne_eq, not_true_eq_false,
    if_false, h2Of]

/-- the magic byte is byte 16 of an entry: after offset (8), size (4) and the crc / leader epoch (4) -/
theorem magicOf_take (l : Bytes) (n : Nat) : magicOf (l.take n) = if 16 < n then magicOf l else none := by
  simp only [magicOf, List.getElem?_take]

theorem magicOf_encH2 (c : Nat) (f : FrameV2) (x : Bytes) : magicOf (encH2 c f ++ x) = some 2 := by
  simp only [encH2, List.append_assoc]
  exact magicOf_frame ..

theorem encMsg_split (crc : Bytes → Nat) (m : Msg) : encMsg crc m = encH1 (crc (msgBody m)) m ++ encB1 m := by
  simp [encMsg, encH1, encB1, msgBody, List.append_assoc]

theorem encH1_length (c : Nat) (m : Msg) : (encH1 c m).length = if m.magic = 0 then 18 else 26 := by
  by_cases h : m.magic = 0 <;> simp [encH1, u32, h]

theorem encH1_pos (c : Nat) (m : Msg) : 0 < (encH1 c m).length := by
  rw [encH1_length]; split <;> omega

theorem hdr1Size_eq (cv : Nat) (m : Msg) (h : m.magic = 0 ∨ m.magic = 1) : hdr1Size m.magic.toNat = (encH1 cv m).length := by
  rw [encH1_length]
  rcases h with h | h <;> simp [hdr1Size, h]

theorem encMsg_length_sub (crc : Bytes → Nat) (m : Msg) (h : m.magic = 0 ∨ m.magic = 1) :
    (encMsg crc m).length - hdr1Size m.magic.toNat = (encB1 m).length := by
  rw [encMsg_split, List.length_append, hdr1Size_eq _ m h, Nat.add_sub_cancel_left]

theorem magicOf_encH1 (c : Nat) (m : Msg) (x : Bytes) (h : m.magic = 0 ∨ m.magic = 1) :
    magicOf (encH1 c m ++ x) = some (if m.magic = 1 then 1 else 0) := by
  simp only [magicOf, encH1, List.append_assoc]
  simp only [List.getElem?_append_right, i64_length, i32_length, u32_length, Nat.reduceLeDiff, Nat.reduceSub]
  rcases h with h | h <;> simp [i8_eq, h] <;> decide

theorem msgBody_length_encB1 (m : Msg) : (msgBody m).length = (if m.magic = 0 then 2 else 10) + (encB1 m).length := by
  by_cases h0 : m.magic = 0 <;> simp [msgBody, encB1, h0] <;> omega

theorem encB1_pos (m : Msg) : 0 < (encB1 m).length := by
  cases hk : m.key <;> simp [encB1, nbytes, hk] <;> omega

theorem msgSize_sub (m : Msg) :
    (((4 + (msgBody m).length : Nat) : Int) - (if m.magic = 0 then 6 else 14)).toNat = (encB1 m).length := by
  rw [msgBody_length_encB1]; split <;> omega

theorem readH1_encH1 (c : Nat) (hc : c < M32) (m : Msg) (h : m.WF) (x : Bytes) :
    readH1 (encH1 c m ++ x) = some (h1Of m, x) := by
  have hlen := msgLen_inRange m h
  have hsz := msgSize_sub m
  obtain ⟨h1, hm, ha, ht, _, _⟩ := h
  rcases hm with h0 | h0
  · rw [h0, if_pos rfl] at hsz
    simp only [encH1, readH1, h0, if_true, List.append_assoc, readI64_i64 _ _ h1, readI32_i32 _ _ hlen, readU32_u32 _ _ hc,
      readI8_i8 0 _ (by decide), readI8_i8 _ _ ha, List.append_nil, hsz, h1Of]
  · have h10 : ¬ (1 : Int) = 0 := by decide
    rw [h0, if_neg h10] at hsz
    simp only [encH1, readH1, h0, h10, if_false, if_true, List.append_assoc, readI64_i64 _ _ h1, readI32_i32 _ _ hlen,
      readU32_u32 _ _ hc, readI8_i8 1 _ (by decide), readI8_i8 _ _ ha, readI64_i64 _ _ ht, hsz, h1Of]

end KV.C02
