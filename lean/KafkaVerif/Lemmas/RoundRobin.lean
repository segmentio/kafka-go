/- Lemmas/RoundRobin.lean — RoundRobin call sequences (64-bit call counter). -/
import KafkaVerif.Model.Balancer

namespace KV.Balancer
open KV

theorem rr_single (rr : RoundRobin) (parts : List Int) (h1 : 1 ≤ rr.chunkSize) (hp : parts ≠ []) :
    rr.balance parts = ({ rr with counter := (rr.counter + 1) % two64 },
      parts[(rr.counter / rr.chunkSize.toNat) % parts.length]?) := by
  unfold RoundRobin.balance
  rw [if_neg (Int.not_lt.mpr h1)]
  exact if_neg (mt List.length_eq_zero_iff.mp hp)

/-- The counter equals the call number `k` only while calls are left (hence the conditional hypothesis): after the last of
exactly 2⁶⁴ calls it has wrapped to 0. -/
theorem rr_runVar (ch : Int) (h1 : 1 ≤ ch) :
    ∀ (lists : List (List Int)) (k : Nat) (rr : RoundRobin), rr.chunkSize = ch → (lists ≠ [] → rr.counter = k) →
      (∀ l ∈ lists, l ≠ []) → k + lists.length ≤ two64 →
      ∀ (j : Nat) (hj : j < lists.length),
        (rr.runVar lists)[j]? = some (lists[j][((k + j) / ch.toNat) % lists[j].length]?) := by
  intro lists
  induction lists with
  | nil => intro k rr _ _ _ _ j hj; cases hj
  | cons l rest ih =>
    intro k rr hc hk0 hne hle j hj
    have hk := hk0 (List.cons_ne_nil _ _)
    simp only [RoundRobin.runVar]
    rw [rr_single rr l (hc ▸ h1) (hne l List.mem_cons_self)]
    rw [List.length_cons] at hle hj
    cases j with
    | zero => simp only [List.getElem?_cons_zero, List.getElem_cons_zero, hc, hk, Nat.add_zero]
    | succ i =>
      have hk' : rest ≠ [] → (rr.counter + 1) % two64 = k + 1 := fun hr => by
        have := List.length_pos_iff.mpr hr
        rw [hk]; exact Nat.mod_eq_of_lt (by omega)
      simp only [List.getElem?_cons_succ, List.getElem_cons_succ]
      rw [ih (k + 1) { rr with counter := (rr.counter + 1) % two64 } hc hk' (fun l' h => hne l' (List.mem_cons_of_mem _ h)) (by omega) i (Nat.lt_of_succ_lt_succ hj),
        Nat.add_right_comm k 1 i]
      rfl

theorem run_eq_runVar (parts : List Int) : ∀ (n : Nat) (rr : RoundRobin),
    (RoundRobin.run rr parts n).2 = rr.runVar (List.replicate n parts)
  | 0, _ => rfl
  | n + 1, rr => by
    simp only [RoundRobin.run, List.replicate_succ, RoundRobin.runVar, run_eq_runVar parts n]

theorem runVar_length : ∀ (lists : List (List Int)) (rr : RoundRobin), (rr.runVar lists).length = lists.length
  | [], _ => rfl
  | l :: rest, rr => by simp only [RoundRobin.runVar, List.length_cons, runVar_length rest]

theorem rr_run (parts : List Int) (hp : parts ≠ []) (ch : Int) (h1 : 1 ≤ ch) (n k : Nat) (rr : RoundRobin)
    (hc : rr.chunkSize = ch) (hk : 0 < n → rr.counter = k) (hle : k + n ≤ two64) :
    (RoundRobin.run rr parts n).2 = (List.range n).map (fun j => parts[((k + j) / ch.toNat) % parts.length]?) := by
  rw [run_eq_runVar]
  apply List.ext_getElem?
  intro j
  by_cases hj : j < n
  · have hj' : j < (List.replicate n parts).length := by rwa [List.length_replicate]
    rw [rr_runVar ch h1 _ k rr hc (fun h => hk (Nat.pos_of_ne_zero fun h0 => h (by rw [h0]; rfl)))
      (fun l hl => (List.eq_of_mem_replicate hl) ▸ hp) (by rwa [List.length_replicate]) j hj']
    simp [hj]
  · rw [List.getElem?_eq_none (by rw [runVar_length, List.length_replicate]; omega),
      List.getElem?_eq_none (by rw [List.length_map, List.length_range]; omega)]

end KV.Balancer
