/-
Lemmas/WriterCloseProgress.lean — C09 over the detailed Writer LTS (Model/Writer.lean): `Close` cannot get stuck.

`close_progress'`: in every reachable state with `closed = true` in which `closeReturn` is not enabled, an event is
enabled that is both *driven* — a step of Close, of a partition writer's goroutine, of a call already inside
WriteMessages, or an answer of the broker; never a new caller (`enter`) or the end of a caller's context (`ret _ ctx`) —
and *closing*, which also excludes batch timers (Close detaches the open batches itself).  `close_progress` and
`close_progress_closing` are its two halves.
-/
import KafkaVerif.Lemmas.WriterCloseDetail
import KafkaVerif.Lemmas.WriterProgress
namespace KV.WriterCloseDetail
open KV.Writer

theorem step_pws_shape (cfg : Cfg) (s s' : State) (e : Event) (hs : Step cfg s e s') :
    (s'.pws = s.pws ∧ s'.pwIds = s.pwIds) ∨
    (∃ pw P P', s.pws pw = some P ∧ s'.pws = upd s.pws pw (some P') ∧ s'.pwIds = s.pwIds ∧
      (P.qclosed = true → P'.qclosed = true)) ∨
    (∃ pw q tp, s.closed = false ∧ s'.closed = false ∧ s.pws pw = none ∧ s'.pws = upd s.pws pw (some (PW.new tp q)) ∧
      s'.pwIds = s.pwIds ++ [pw]) := by
  induction hs with
  | @newPW pw q tp hg =>
    exact Or.inr (Or.inr ⟨pw, q, tp, hg.notClosed, hg.notClosed, by simpa using hg.pwFree, rfl, rfl⟩)
  | newBatch hP | detach hP | qput _ hP | qgetSome _ hP | qgetNone _ hP | attempt hP | produce hP | attemptDone hP
  | completion hP | complete hP => exact Or.inr (Or.inl ⟨_, _, _, hP, rfl, rfl, id⟩)
  | qclose _ hP => exact Or.inr (Or.inl ⟨_, _, _, hP, rfl, rfl, fun _ => rfl⟩)
  | _ => exact Or.inl ⟨rfl, rfl⟩

/-- how one step changes the writer mutex and the closed flag: not at all; or the writer is open before and after
(`batch`); or a call held the mutex (`batched`); or Close takes it (the event is `closeBegin`); or Close releases it,
having checked that every listed queue is closed (`closeMarked`) -/
theorem step_lock_shape (cfg : Cfg) (s s' : State) (e : Event) (hs : Step cfg s e s') :
    (s'.wlock = s.wlock ∧ s'.closed = s.closed) ∨
    (s.closed = false ∧ s'.closed = false) ∨
    (s.wlock.isCall = true ∧ s'.closed = s.closed) ∨
    (e = .closeBegin ∧ s'.wlock = .closer) ∨
    (s.wlock = .closer ∧ s'.wlock = .free ∧ s'.closed = s.closed ∧ s'.pws = s.pws ∧
      s.pwIds.all (fun pw => match s.pws pw with | some P => P.qclosed | none => false) = true) := by
  induction hs with
  | batch hC hg => exact Or.inr (Or.inl ⟨hg.notClosed, hg.notClosed⟩)
  | batched hC hg => exact Or.inr (Or.inr (Or.inl ⟨by rw [hg.lock]; rfl, rfl⟩))
  | closeBegin => exact Or.inr (Or.inr (Or.inr (Or.inl ⟨rfl, rfl⟩)))
  | closeMarked hg => exact Or.inr (Or.inr (Or.inr (Or.inr ⟨hg.lock, rfl, rfl, rfl, hg.marked⟩)))
  | _ => exact Or.inl ⟨rfl, rfl⟩

/-- every entry of `pwIds`, the list the guards of `closeMarked` and `closeReturn` range over, is a partition writer -/
def PI (s : State) : Prop := ∀ pw ∈ s.pwIds, (s.pws pw).isSome = true

theorem pi_init : PI State.init := by intro pw h; simp [State.init] at h

theorem listed_step (cfg : Cfg) (s s' : State) (e : Event) (h : PI s ∧ s.pwIds.Nodup) (hs : Step cfg s e s') :
    PI s' ∧ s'.pwIds.Nodup := by
  obtain ⟨hp, hn⟩ := h
  rcases step_pws_shape cfg s s' e hs with ⟨e1, e2⟩ | ⟨pw0, P, P', hP, e1, e2, -⟩ | ⟨pw0, q, tp, -, -, hnone, e1, e2⟩
  · exact ⟨fun pw hpw => by rw [e1]; exact hp pw (e2 ▸ hpw), e2 ▸ hn⟩
  · exact ⟨fun pw hpw => by rw [e1, upd_isSome_iff]; exact Or.inr (hp pw (e2 ▸ hpw)), e2 ▸ hn⟩
  · -- a new partition writer: its id was not in use, so not listed
    have hnin : pw0 ∉ s.pwIds := fun hin => by have := hp pw0 hin; rw [hnone] at this; cases this
    refine ⟨fun pw hpw => ?_, ?_⟩
    · rw [e1, upd_isSome_iff]
      exact (List.mem_append.mp (e2 ▸ hpw)).elim (fun h1 => Or.inr (hp pw h1)) fun h1 => Or.inl (List.mem_singleton.mp h1)
    · rw [e2]
      exact List.nodup_append.mpr ⟨hn, by simp, fun a ha b hb => by
        rw [List.mem_singleton.mp hb]; exact fun he => hnin (he ▸ ha)⟩

theorem listed_reachable (cfg : Cfg) : ∀ s, Reachable cfg s → PI s ∧ s.pwIds.Nodup :=
  Reachable.step_induction ⟨pi_init, List.nodup_nil⟩ (fun s e s' _ h hs => listed_step cfg s s' e h hs)

theorem pi_reachable (cfg : Cfg) (s : State) (hr : Reachable cfg s) : PI s := (listed_reachable cfg s hr).1

theorem pwIds_nodup (cfg : Cfg) (s : State) (hr : Reachable cfg s) : s.pwIds.Nodup := (listed_reachable cfg s hr).2

/-- once Close has released the writer mutex every batch queue is closed -/
def QI (s : State) : Prop :=
  s.closed = true → s.wlock ≠ .closer → ∀ pw P, s.pws pw = some P → P.qclosed = true

theorem qi_init : QI State.init := by intro h; simp [State.init] at h

theorem qi_step (cfg : Cfg) (s s' : State) (e : Event) (hd : DI s) (h : QI s) (hs : Step cfg s e s') : QI s' := by
  intro hc hl pw P' hP'
  rcases step_lock_shape cfg s s' e hs with ⟨l1, l2⟩ | ⟨-, l2⟩ | ⟨l1, l2⟩ | ⟨-, l1⟩ | ⟨l1, -, l2, l3, l4⟩
  · -- lock and flag unchanged
    rw [l2] at hc; rw [l1] at hl
    rcases step_pws_shape cfg s s' e hs with ⟨e1, -⟩ | ⟨pw0, P, P1, hP, e1, -, hq⟩ | ⟨pw0, q, tp, hcl, -, -, -, -⟩
    · rw [e1] at hP'; exact h hc hl pw P' hP'
    · rcases upd_some_elim (e1 ▸ hP') with ⟨rfl, rfl⟩ | ⟨-, hP'⟩
      · exact hq (h hc hl pw P hP)
      · exact h hc hl pw P' hP'
    · rw [hcl] at hc; cases hc
  · -- the writer is still open
    rw [l2] at hc; cases hc
  · -- a call held the mutex: not under a closed writer
    rw [l2] at hc
    have := hd.lockClosed hc
    rw [l1] at this; cases this
  · -- Close holds the mutex
    exact absurd l1 hl
  · -- Close releases the mutex: it has checked that every queue is closed
    rw [l3] at hP'
    have hid := hd.ids pw P' hP'
    have := List.all_eq_true.mp l4 pw hid
    rw [hP'] at this; exact this

theorem qi_reachable (cfg : Cfg) : ∀ s, Reachable cfg s → QI s :=
  Reachable.step_induction qi_init (fun s e s' hr h hs => qi_step cfg s s' e (di_reachable cfg s hr) h hs)

structure CallShape (cfg : Cfg) (s : State) (c : Nat) (C : Call) : Prop where
  msgsNe : C.msgs ≠ []
  begun : C.phase = .begun → C.assign = []
  assigning : C.phase = .assigning → allFit cfg C.msgs = true ∧ C.assign.length ≤ C.msgs.length
  batching : C.phase = .batching → s.wlock = .call c

def CS (cfg : Cfg) (s : State) : Prop := ∀ c C, s.calls c = some C → CallShape cfg s c C

theorem cs_init (cfg : Cfg) : CS cfg State.init := by
  intro c C hC; simp [State.init] at hC

theorem cs_upd (cfg : Cfg) (s s' : State) (h : CS cfg s) (c : Nat) (C' : Call)
    (e1 : s'.calls = upd s.calls c (some C')) (hnew : CallShape cfg s' c C')
    (hother : ∀ x X, x ≠ c → s.calls x = some X → X.phase = .batching → s'.wlock = .call x) : CS cfg s' := by
  intro x X hX
  rcases upd_some_elim (e1 ▸ hX) with ⟨rfl, rfl⟩ | ⟨hx, hX⟩
  · exact hnew
  · have := h x X hX
    exact ⟨this.msgsNe, this.begun, this.assigning, fun hp => hother x X hx hX hp⟩

theorem cs_lock (cfg : Cfg) (s s' : State) (h : CS cfg s) (e1 : s'.calls = s.calls)
    (hno : ∀ x X, s.calls x = some X → X.phase = .batching → s'.wlock = .call x) : CS cfg s' := by
  intro x X hX; rw [e1] at hX
  have := h x X hX
  exact ⟨this.msgsNe, this.begun, this.assigning, fun hp => hno x X hX hp⟩

theorem msgAt_lt {msgs : List MsgSpec} {i : Nat} {p : MsgSpec → Bool} (h : msgAt msgs i p = true) : i < msgs.length := by
  obtain ⟨m, hm, -⟩ := msgAt_elim h
  rcases Nat.lt_or_ge i msgs.length with h1 | h1
  · exact h1
  · rw [List.getElem?_eq_none h1] at hm; cases hm

theorem cs_frame (cfg : Cfg) (s s' : State) (h : CS cfg s) (e1 : s'.calls = s.calls) (e2 : s'.wlock = s.wlock) : CS cfg s' :=
  cs_lock cfg s s' h e1 fun x X hX hp => e2 ▸ (h x X hX).batching hp

theorem cs_step (cfg : Cfg) (s s' : State) (e : Event) (h : CS cfg s) (hs : Step cfg s e s') : CS cfg s' := by
  -- the lock stays where it is: the other calls keep their shape
  have others : ∀ x X, s.calls x = some X → X.phase = .batching → s.wlock = .call x := fun x X hX => (h x X hX).batching
  -- a call that ends up in a phase without obligations
  have plain : ∀ {c : Nat} {C C' : Call} {s' : State}, s.calls c = some C → s'.calls = upd s.calls c (some C') →
      s'.wlock = s.wlock → C'.msgs = C.msgs → C'.phase ≠ .begun → C'.phase ≠ .assigning → C'.phase ≠ .batching →
      CS cfg s' :=
    fun hC e1 e2 hm h1 h2 h3 => cs_upd cfg s _ h _ _ e1
      ⟨hm ▸ (h _ _ hC).msgsNe, fun hp => absurd hp h1, fun hp => absurd hp h2, fun hp => absurd hp h3⟩
      (fun x X _ hX hp => e2 ▸ others x X hX hp)
  induction hs with
  | @begin_ c msgs hg =>
    exact cs_upd cfg s _ h c _ rfl ⟨hg.nonempty, fun _ => rfl, nofun, nofun⟩ (fun x X _ hX hp => others x X hX hp)
  | rejectToolarge hC | rejectTopic hC | rejectMetadata hC | rejectClosed hC | ret hC =>
    exact plain hC rfl rfl rfl nofun nofun nofun
  | @assign c i tp C hC hg =>
    have hlen := hg.len
    refine cs_upd cfg s _ h c _ rfl ⟨(h c C hC).msgsNe, nofun, fun _ => ⟨hg.fit, ?_⟩, nofun⟩
      (fun x X _ hX hp => others x X hX hp)
    have := msgAt_lt hg.msg
    simp only [List.length_append, List.length_singleton]; omega
  | @batch c C hC hg =>
    refine cs_upd cfg s _ h c _ rfl ⟨(h c C hC).msgsNe, nofun, nofun, fun _ => rfl⟩ (fun x X _ hX hp => ?_)
    have := others x X hX hp
    rw [hg.lock] at this; cases this
  | @batched c C hC hg =>
    refine cs_upd cfg s _ h c _ rfl ⟨(h c C hC).msgsNe, nofun, nofun, nofun⟩ (fun x X hx hX hp => ?_)
    have := others x X hX hp
    rw [hg.lock] at this; cases this; exact absurd rfl hx
  | @add pw b c i size P B C hP hB hC hg =>
    have hc := h c C hC
    exact cs_upd cfg s _ h c _ rfl ⟨hc.msgsNe, hc.begun, hc.assigning, hc.batching⟩ (fun x X _ hX hp => others x X hX hp)
  | closeBegin hg =>
    refine cs_lock cfg s _ h rfl (fun x X hX hp => ?_)
    have := others x X hX hp
    rw [hg] at this; cases this
  | closeMarked hg =>
    refine cs_lock cfg s _ h rfl (fun x X hX hp => ?_)
    have := others x X hX hp
    rw [hg.lock] at this; cases this
  | _ => exact cs_frame cfg s _ h rfl rfl

theorem cs_reachable (cfg : Cfg) : ∀ s, Reachable cfg s → CS cfg s :=
  Reachable.step_induction (cs_init cfg) (fun s e s' _ h hs => cs_step cfg s s' e h hs)

/-- events that need neither a new caller nor the end of a caller's context: steps of calls already inside
WriteMessages, of Close, of the partition writers' goroutines, timers, and the broker's answers -/
def driven : Event → Bool
  | .enter _ => false
  | .ret _ .ctx => false
  | _ => true

theorem internalFor_driven (s : State) (pw : Nat) (e : Event) (h : internalFor s pw e = true) : driven e = true := by
  cases e
  case enter => cases h
  case ret c r => cases r <;> first | rfl | cases h
  all_goals rfl

/-- the events Close waits for: steps of Close after its begin, of the partition writers' goroutines, of the broker, and
of calls already inside WriteMessages (including a call that passed `enter()` and now identifies itself: `begin_` /
`empty`).  What is not in the set, and why, is listed at the head of Lemmas/WriterCloseMeasure.lean. -/
def closing (s : State) : Event → Bool
  | .closeMarked _ => true
  | .detach _ _ _ _ => true
  | .qput _ _ _ => true
  | .qget _ _ => true
  | .qclose q =>
    match s.qOf q with
    | some pw => (match s.pws pw with | some P => !P.qclosed | none => false)
    | none => false
  | .attempt _ _ _ => true
  | .produce _ _ _ _ => true
  | .attemptDone _ _ _ _ => true
  | .completion _ _ _ => true
  | .complete _ _ _ => true
  | .assign _ _ _ => true
  | .reject _ _ _ => true
  | .ret _ _ => true
  | .empty => true
  | .begin_ _ _ => true
  | _ => false

theorem internalFor_closing (cfg : Cfg) (s : State) (pw : Nat) (P : PW) (hP : s.pws pw = some P) (hcurr : P.curr = none)
    (e : Event) (hint : internalFor s pw e = true) (hen : (step cfg s e).isSome = true) : closing s e = true := by
  cases e
  case timerFire pw' b att =>
    -- the timer of an attached batch only: there is none
    obtain ⟨s', hs⟩ := Option.isSome_iff_exists.mp hen
    cases Step.of_step hs with
    | timerFire hP' hB hg =>
      obtain ⟨rfl, rfl, -⟩ := internalFor_elim hint
      cases hP.symm.trans hP'
      have := hg.attached
      simp [hcurr] at this
  all_goals first | rfl | (simp [internalFor] at hint)

theorem closer_progress (cfg : Cfg) (hmax : 1 ≤ cfg.maxAttempts) (s : State) (hr : Reachable cfg s) (hc : s.closed = true) (hw : s.wlock = .closer) :
    ∃ e, driven e = true ∧ closing s e = true ∧ (step cfg s e).isSome = true := by
  have hS := invSched cfg s hr
  have hP := pi_reachable cfg s hr
  -- no call holds the mutex, so no batch is waiting for its first message
  have hfr : s.fresh = none := (invFresh cfg s hr).fresh_none (by rw [hw]; rfl)
  by_cases hall : s.pwIds.all (fun pw => match s.pws pw with | some P => P.qclosed | none => false) = true
  · exact ⟨.closeMarked 0, rfl, rfl, (Step.closeMarked ⟨hw, hall⟩).enabled⟩
  · have : ∃ pw ∈ s.pwIds, (match s.pws pw with | some P => P.qclosed | none => false) = false := by
      simpa [List.all_eq_true] using hall
    obtain ⟨pw, hmem, hnot⟩ := this
    have hsome := hP pw hmem
    cases hPw : s.pws pw with
    | none => rw [hPw] at hsome; cases hsome
    | some P =>
      rw [hPw] at hnot
      have hq : P.qclosed = false := hnot
      have hqof := hS.qOfInv pw P hPw
      cases hcurr : P.curr with
      | some b =>
        obtain ⟨B, hB, -, hdet⟩ := hS.currOpen pw P hPw b hcurr
        have hpend : P.pending = none := by
          cases hp : P.pending with
          | none => rfl
          | some x =>
            have := (invProg cfg hmax s hr).pw pw P hPw
            exact absurd (this.pendingCurr (by simp [hp])) (by simp [hcurr])
        exact ⟨.detach pw b .close 0, rfl, rfl,
          (Step.detach hPw hB ⟨hcurr, hpend, hdet, by simp [whyOk, hc, hw], by simp [hfr]⟩).enabled⟩
      | none =>
        cases hpend : P.pending with
        | some b => exact ⟨.qput P.q b true, rfl, rfl, (Step.qput hqof hPw ⟨hpend, hcurr, by simp [hq]⟩).enabled⟩
        | none =>
          exact ⟨.qclose P.q, rfl, by simp [closing, hqof, hPw, hq], (Step.qclose hqof hPw ⟨hc, hw, hcurr, hpend⟩).enabled⟩

theorem sender_progress (cfg : Cfg) (hmax : 1 ≤ cfg.maxAttempts) (s : State) (hr : Reachable cfg s) (hc : s.closed = true)
    (hw : s.wlock = .free) (pw : Nat) (P : PW) (hPw : s.pws pw = some P) (hne : P.sender ≠ .exited) :
    ∃ e, driven e = true ∧ closing s e = true ∧ (step cfg s e).isSome = true := by
  have hq := qi_reachable cfg s hr hc (by rw [hw]; exact fun h => nomatch h) pw P hPw
  have hcurr : P.curr = none := ((di_reachable cfg s hr).qcl pw P hPw hq).2.1
  by_cases hpipe : P.pipe = []
  · have hqof := (invSched cfg s hr).qOfInv pw P hPw
    have hqu : P.queue = [] := by
      cases hl : P.queue with
      | nil => rfl
      | cons a t =>
        have : a ∈ P.pipe := by rw [mem_pipe]; exact Or.inr (Or.inl (by simp [hl]))
        rw [hpipe] at this; cases this
    have hidle : P.sender = .idle := by
      cases hs : P.sender with
      | idle => rfl
      | exited => exact absurd hs hne
      | ready b k => have : b ∈ P.pipe := sender_mem_pipe (by simp [hs, Sender.batch?]); rw [hpipe] at this; cases this
      | attempting b k br => have : b ∈ P.pipe := sender_mem_pipe (by simp [hs, Sender.batch?]); rw [hpipe] at this; cases this
      | finishing b c cb => have : b ∈ P.pipe := sender_mem_pipe (by simp [hs, Sender.batch?]); rw [hpipe] at this; cases this
    exact ⟨.qget P.q none, rfl, rfl, (Step.qgetNone hqof hPw ⟨hidle, hqu, hq⟩).enabled⟩
  · have hfr : s.fresh = none := (invFresh cfg s hr).fresh_none (by rw [hw]; rfl)
    obtain ⟨e, hint, hen⟩ := internal_enabled cfg hmax s hr hfr pw P hPw hpipe
    exact ⟨e, internalFor_driven s pw e hint, internalFor_closing cfg s pw P hPw hcurr e hint hen, hen⟩

theorem first_fail {α : Type} (p : α → Bool) : ∀ (l : List α), l.all p = false →
    ∃ i m, (l.take i).all p = true ∧ l[i]? = some m ∧ p m = false := by
  intro l
  induction l with
  | nil => intro h; simp at h
  | cons a t ih =>
    intro h
    cases hpa : p a
    · exact ⟨0, a, by simp, by simp, hpa⟩
    · have ht : t.all p = false := by
        cases hta : t.all p
        · rfl
        · simp only [List.all_cons, hpa, hta] at h; cases h
      obtain ⟨i, m, h1, h2, h3⟩ := ih ht
      exact ⟨i + 1, m, by simp [hpa, h1], by simpa using h2, h3⟩

theorem call_progress (cfg : Cfg) (s : State) (hr : Reachable cfg s) (hc : s.closed = true) (hw : s.wlock = .free)
    (hall : ∀ pw P, s.pws pw = some P → P.sender = .exited) (c : Nat) (C : Call) (hC : s.calls c = some C)
    (hph : C.phase ≠ .returned) : ∃ e, driven e = true ∧ closing s e = true ∧ (step cfg s e).isSome = true := by
  have hS := cs_reachable cfg s hr c C hC
  -- the next index to balance, when the messages all fit
  have next : allFit cfg C.msgs = true → (C.phase = .begun ∨ C.phase = .assigning) → C.assign.length < C.msgs.length →
      ∃ e, driven e = true ∧ closing s e = true ∧ (step cfg s e).isSome = true := by
    intro hfit hp hlt
    obtain ⟨m, hm⟩ : ∃ m, C.msgs[C.assign.length]? = some m := ⟨C.msgs[C.assign.length], by simp [hlt]⟩
    cases hct : chooseTopic cfg m with
    | some t =>
      exact ⟨.assign c C.assign.length (t, 0), rfl, rfl,
        (Step.assign hC ⟨hp, rfl, hfit, by simp [msgAt, hm, hct]⟩).enabled⟩
    | none =>
      exact ⟨.reject c .topic C.assign.length, rfl, rfl,
        (Step.rejectTopic hC ⟨hp, rfl, hfit, by simp [msgAt, hm, hct]⟩).enabled⟩
  cases hp : C.phase with
  | returned => exact absurd hp hph
  | rejectedClosed => exact ⟨.ret c .closed, rfl, rfl, (Step.ret hC (r := .closed) hp).enabled⟩
  | batching =>
    have := hS.batching hp
    rw [hw] at this; cases this
  | begun =>
    have ha := hS.begun hp
    have hlen : C.assign.length < C.msgs.length := by
      rw [ha]; cases hm : C.msgs with
      | nil => exact absurd hm hS.msgsNe
      | cons a t => simp
    cases hfit : allFit cfg C.msgs with
    | true => exact next hfit (Or.inl hp) hlen
    | false =>
      obtain ⟨i, m, h1, h2, h3⟩ := first_fail _ C.msgs hfit
      exact ⟨.reject c .toolarge i, rfl, rfl,
        (Step.rejectToolarge hC ⟨hp, h1, by simp [msgAt, h2]; simpa using h3⟩).enabled⟩
  | assigning =>
    obtain ⟨hfit, hle⟩ := hS.assigning hp
    rcases Nat.lt_or_ge C.assign.length C.msgs.length with hlt | hge
    · exact next hfit (Or.inr hp) hlt
    · exact ⟨.reject c .closed 0, rfl, rfl, (Step.rejectClosed hC ⟨hw, hc, hp, by omega⟩).enabled⟩
  | batched =>
    cases hasync : cfg.async with
    | true => exact ⟨.ret c .async, rfl, rfl, (Step.ret hC (r := .async) ⟨hasync, hp⟩).enabled⟩
    | false =>
      -- every sender goroutine is gone, so every batch holding a message of the call is done
      have hpl := ai_reachable cfg s hr c C hC (by simp [accepted, hp])
      have hdone := all_done_of_exited s (di_reachable cfg s hr) hall
      obtain ⟨r, hen, hres⟩ := ret_enabled_of_done (cfg := cfg) hC hp hasync fun i hi => by
        obtain ⟨b, hb⟩ := placedAll_elim hpl i hi
        obtain ⟨B, hB, -, -⟩ := (invPlace cfg s hr).placed c C hC i b hb
        obtain ⟨code, hcode⟩ := hdone b B hB
        exact ⟨code, by simp [hb, batchDone, hB, hcode]⟩
      refine ⟨.ret c r, ?_, rfl, hen⟩
      rcases hres with rfl | ⟨codes, rfl, -⟩ <;> rfl

theorem close_progress' (cfg : Cfg) (hmax : 1 ≤ cfg.maxAttempts) (s : State) (hr : Reachable cfg s)
    (hc : s.closed = true) (hn : step cfg s .closeReturn = none) :
    ∃ e, driven e = true ∧ closing s e = true ∧ (step cfg s e).isSome = true := by
  have hD := di_reachable cfg s hr
  cases hw : s.wlock with
  | call c0 =>
    have := hD.lockClosed hc
    rw [hw] at this; cases this
  | closer =>
    exact closer_progress cfg hmax s hr hc hw
  | free =>
    by_cases hent : 0 < s.entered
    · exact ⟨.empty, rfl, rfl, (Step.empty hent).enabled⟩
    · have hent0 : s.entered = 0 := by omega
      by_cases hex : s.pwIds.all (fun pw => match s.pws pw with | some P => P.sender == .exited | none => false) = true
      · -- every goroutine is gone: an open call remains
        have hall := all_exited_of_listed s hD hex
        have hinf : s.inflight ≠ 0 := fun h0 => by
          rw [(Step.closeReturn ⟨hc, h0, hent0, hex⟩).to_step] at hn; cases hn
        have hC := ci_reachable cfg s hr
        have hopen : nOpen s ≠ 0 := by have := hC.cnt; omega
        unfold nOpen at hopen
        have : ∃ c ∈ s.callIds, openCall s c = true := by
          by_cases h : ∃ c ∈ s.callIds, openCall s c = true
          · exact h
          · exfalso; apply hopen; rw [List.countP_eq_zero]
            intro c hcin hco; exact h ⟨c, hcin, hco⟩
        obtain ⟨c, -, hoc⟩ := this
        cases hCc : s.calls c with
        | none => simp [openCall, hCc] at hoc
        | some C =>
          have hph : C.phase ≠ .returned := by simpa [openCall, hCc] using hoc
          exact call_progress cfg s hr hc hw hall c C hCc hph
      · have : ∃ pw ∈ s.pwIds, (match s.pws pw with | some P => P.sender == .exited | none => false) = false := by
          simpa [List.all_eq_true] using hex
        obtain ⟨pw, hmem, hnot⟩ := this
        have hsome := pi_reachable cfg s hr pw hmem
        cases hPw : s.pws pw with
        | none => rw [hPw] at hsome; cases hsome
        | some P =>
          rw [hPw] at hnot
          have hne : P.sender ≠ .exited := by
            intro h; simp [h] at hnot
          exact sender_progress cfg hmax s hr hc hw pw P hPw hne

theorem close_progress (cfg : Cfg) (hmax : 1 ≤ cfg.maxAttempts) (s : State) (hr : Reachable cfg s)
    (hc : s.closed = true) (hn : step cfg s .closeReturn = none) :
    ∃ e, driven e = true ∧ (step cfg s e).isSome = true := by
  obtain ⟨e, h1, -, h3⟩ := close_progress' cfg hmax s hr hc hn
  exact ⟨e, h1, h3⟩

theorem close_progress_closing (cfg : Cfg) (hmax : 1 ≤ cfg.maxAttempts) (s : State) (hr : Reachable cfg s)
    (hc : s.closed = true) (hn : step cfg s .closeReturn = none) :
    ∃ e, closing s e = true ∧ (step cfg s e).isSome = true := by
  obtain ⟨e, -, h2, h3⟩ := close_progress' cfg hmax s hr hc hn
  exact ⟨e, h2, h3⟩

end KV.WriterCloseDetail
