/-
Lemmas/Xerial.lean — invariants of the xerial writer model: content conservation, block bounds,
output = Spec framing of the flushed blocks.
-/
import KafkaVerif.Model.Xerial

namespace KV.Model.Xerial
open KV KV.RW KV.Spec.Xerial

/-- every byte written so far: the flushed blocks, then what is still buffered -/
def content (w : Writer) : Bytes := w.blocks.flatten ++ w.input

/-- what the underlying writer has received for a list of flushed blocks -/
def render (c : Codec) (framed : Bool) (blocks : List Bytes) : Bytes :=
  if blocks = [] then []
  else if framed then frame (blocks.map c.enc)
  else (blocks.map c.enc).flatten

theorem frameBlocks_append (l : List Bytes) (x : Bytes) :
    frameBlocks (l ++ [x]) = frameBlocks l ++ (beN 4 x.length ++ x) := by
  induction l with
  | nil => simp [frameBlocks]
  | cons a l ih => simp [frameBlocks, ih]

theorem header_ne_nil : header ≠ [] := by decide

theorem render_snoc (c : Codec) (framed : Bool) (blocks : List Bytes) (x : Bytes) :
    render c framed (blocks ++ [x]) =
      render c framed blocks ++ ((if framed ∧ render c framed blocks = [] then header else []) ++
        ((if framed then beN 4 (c.enc x).length else []) ++ c.enc x)) := by
  cases framed with
  | false =>
    by_cases hb : blocks = []
    · subst hb; simp [render]
    · simp [render, hb]
  | true =>
    by_cases hb : blocks = []
    · subst hb; simp [render, frame, frameBlocks]
    · have : frame (List.map c.enc blocks) ≠ [] := by
        simp [frame, header_ne_nil]
      simp [render, hb, frame, frameBlocks_append, header_ne_nil]

structure WInv (c : Codec) (w : Writer) : Prop where
  out_eq : w.out = render c w.framed w.blocks
  nonempty : ∀ b ∈ w.blocks, b ≠ []
  bounded : w.framed = true → ∀ b ∈ w.blocks, b.length ≤ blockCap
  single : w.framed = false → w.blocks.length ≤ 1 ∧ (w.blocks ≠ [] → w.input = [])

namespace WInv

theorem out_framed {c : Codec} {w : Writer} (h : WInv c w) (hf : w.framed = true) (hb : w.blocks ≠ []) :
    w.out = frame (w.blocks.map c.enc) := by
  rw [h.out_eq, hf, render, if_neg hb, if_pos rfl]

end WInv

theorem winv_new (c : Codec) (framed : Bool) : WInv c (newWriter framed) :=
  ⟨by simp [newWriter, render], by simp [newWriter], by simp [newWriter], by simp [newWriter]⟩

theorem flush_content (c : Codec) (w : Writer) : content (flush c w) = content w := by
  unfold flush content
  split
  · rfl
  · simp

theorem flush_inv (c : Codec) (w : Writer) (h : WInv c w) (hlen : w.framed = true → w.input.length ≤ blockCap)
    (hun : w.framed = false → w.blocks = []) : WInv c (flush c w) := by
  unfold flush
  split
  · exact h
  · rename_i hne
    refine ⟨?_, ?_, ?_, ?_⟩
    · simp only [render_snoc, ← h.out_eq]
    · intro b hb
      simp only [List.mem_append, List.mem_singleton] at hb
      rcases hb with hb | hb
      · exact h.nonempty b hb
      · subst hb; exact hne
    · intro hf b hb
      simp only [List.mem_append, List.mem_singleton] at hb
      rcases hb with hb | hb
      · exact h.bounded hf b hb
      · subst hb; exact hlen hf
    · intro hf
      simp [hun hf]

theorem flush_input (c : Codec) (w : Writer) : (flush c w).input = [] := by
  unfold flush
  split
  · assumption
  · rfl

theorem flush_framed (c : Codec) (w : Writer) : (flush c w).framed = w.framed := by
  unfold flush; split <;> rfl

theorem flush_blocks_unframed (c : Codec) (w : Writer) (h : w.blocks = []) : (flush c w).blocks.length ≤ 1 := by
  unfold flush; split <;> simp [h]

theorem writeAll_unframed (c : Codec) (chunks : List Bytes) (w : Writer) (hf : w.framed = false) :
    writeAll c w chunks = { w with input := w.input ++ chunks.flatten } := by
  induction chunks generalizing w with
  | nil => simp [writeAll]
  | cons b bs ih =>
    have hw : write c w b = { w with input := w.input ++ b } := by
      unfold write
      cases hb : b with
      | nil => simp [writeLoop]
      | cons x xs => simp [writeLoop, hf]
    simp only [writeAll]
    rw [hw, ih _ (by simpa using hf)]
    simp

/-- the state of a framed writer between two iterations of its `Write` loop (`writeLoop`) or its `ReadFrom` loop
(`readFromLoop`, Model/XerialIO): `fullEnough` is false, i.e. at least `slack` bytes of the 32 KiB buffer are free -/
structure Ready (c : Codec) (w : Writer) : Prop where
  inv : WInv c w
  framed : w.framed = true
  room : w.input.length + slack ≤ blockCap

theorem ready_new (c : Codec) : Ready c (newWriter true) := ⟨winv_new c true, rfl, by decide⟩

namespace Ready

/-- one iteration of either loop: `b` (what fits) is appended to the buffer, which is flushed when `fullEnough` -/
theorem absorb {c : Codec} {w : Writer} (h : Ready c w) (b : Bytes) (hb : b.length ≤ blockCap - w.input.length) :
    let w1 : Writer := { w with input := w.input ++ b }
    let w2 := if blockCap - w1.input.length < slack then flush c w1 else w1
    Ready c w2 ∧ content w2 = content w ++ b := by
  intro w1 w2
  have hroom := h.room
  have hlen : w1.input.length ≤ blockCap := by simp only [w1, List.length_append]; omega
  have hw1 : WInv c w1 := ⟨h.inv.out_eq, h.inv.nonempty, h.inv.bounded, fun hf => by cases h.framed.symm.trans hf⟩
  have hc1 : content w1 = content w ++ b := (List.append_assoc ..).symm
  by_cases hfl : blockCap - w1.input.length < slack
  · simp only [w2, if_pos hfl]
    exact ⟨⟨flush_inv c w1 hw1 (fun _ => hlen) (fun hf => by cases h.framed.symm.trans hf),
      (flush_framed c w1).trans h.framed, by rw [flush_input]; decide⟩, (flush_content c w1).trans hc1⟩
  · simp only [w2, if_neg hfl]
    exact ⟨⟨hw1, h.framed, by omega⟩, hc1⟩

end Ready

theorem writeLoop_framed (c : Codec) (fuel : Nat) (w : Writer) (b : Bytes) (h : Ready c w) (hfuel : b.length ≤ fuel) :
    Ready c (writeLoop c fuel w b) ∧ content (writeLoop c fuel w b) = content w ++ b := by
  induction fuel generalizing w b with
  | zero =>
    have : b = [] := List.eq_nil_of_length_eq_zero (by omega)
    subst this
    exact ⟨h, (List.append_nil _).symm⟩
  | succ fuel ih =>
    unfold writeLoop
    by_cases hb : b = []
    · subst hb; exact ⟨h, (List.append_nil _).symm⟩
    · have hbl : 0 < b.length := List.length_pos_iff.mpr hb
      have hroom := h.room
      have hsl : slack = 1024 := rfl  -- `omega` needs `0 < slack` to see that a byte is consumed
      rw [if_neg hb, if_pos h.framed]
      generalize hn : min (blockCap - w.input.length) b.length = n
      obtain ⟨h1, hc1⟩ := h.absorb (b.take n) (Nat.le_trans (List.length_take_le n b) (hn ▸ Nat.min_le_left _ _))
      obtain ⟨h2, hc2⟩ := ih _ (b.drop n) h1 (by rw [List.length_drop]; omega)
      exact ⟨h2, by rw [hc2, hc1, List.append_assoc, List.take_append_drop]⟩

namespace Ready

theorem write {c : Codec} {w : Writer} (h : Ready c w) (b : Bytes) :
    Ready c (write c w b) ∧ content (write c w b) = content w ++ b :=
  writeLoop_framed c b.length w b h (Nat.le_refl _)

theorem writeAll {c : Codec} {w : Writer} (h : Ready c w) (chunks : List Bytes) :
    Ready c (writeAll c w chunks) ∧ content (writeAll c w chunks) = content w ++ chunks.flatten := by
  induction chunks generalizing w with
  | nil => exact ⟨h, (List.append_nil _).symm⟩
  | cons b bs ih =>
    obtain ⟨h1, hc1⟩ := h.write b
    obtain ⟨h2, hc2⟩ := ih h1
    exact ⟨h2, by rw [Xerial.writeAll, hc2, hc1, List.flatten_cons, List.append_assoc]⟩

theorem close {c : Codec} {w : Writer} (h : Ready c w) :
    WInv c (close c w) ∧ (close c w).framed = true ∧ (close c w).blocks.flatten = content w := by
  have hroom := h.room
  refine ⟨flush_inv c w h.inv (fun _ => by omega) (fun hf => by cases h.framed.symm.trans hf),
    (flush_framed c w).trans h.framed, ?_⟩
  have := flush_content c w
  rwa [content, flush_input, List.append_nil] at this

end Ready

end KV.Model.Xerial
