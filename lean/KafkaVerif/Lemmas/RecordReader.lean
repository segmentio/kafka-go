/-
Lemmas/RecordReader.lean — on every valid (Spec-encoded) record set the model of kafka-go's Client-path decoder
returns what the reference decoder returns; a batch with a wrong checksum ends decoding without surfacing it.
The model reads the fixed-width header fields with the Spec's `readFrameBody` / `readMsgBody` (their order and widths are tied to the Go
reads by `C05.gen_field_order`); what is proved here is about the rest: records, varbytes, headers, wrappers, offsets, the loop.
-/
import KafkaVerif.Model.RecordReader
import KafkaVerif.Lemmas.RecordBatchSpec

namespace KV.Model.RecordReader
open KV KV.RW KV.Spec.RB

/-- the masks in the Go sources are the Spec's (fails to check when a mask in protocol/record.go changes) -/
@[simp] theorem libCodecOf_eq (a : Int) : libCodecOf a = codecOf a := by
  simp only [libCodecOf, codecOf, Gen.RecordConsts.compressionMask]; rfl
@[simp] theorem libIsControl_eq (a : Int) : libIsControl a = isControl a := by
  simp only [libIsControl, isControl, Gen.RecordConsts.controlConst]; rfl
/-- the masks the Client-path decoders test are the timestamp-type bit of the Spec (breaks when the test disappears) -/
@[simp] theorem libLogAppendV2_eq (a : Int) : libLogAppendV2 a = logAppend a := by
  simp [libLogAppendV2, maskTest, Gen.RecordConsts.stampMasksV2, logAppend]
@[simp] theorem libLogAppendV1_eq (a : Int) : libLogAppendV1 a = logAppend a := by
  simp [libLogAppendV1, maskTest, Gen.RecordConsts.stampMasksV1, logAppend]

theorem map_stamp_recOfV2c (f : FrameV2) (xs : List RecV2) :
    (xs.map (recOfV2c f)).map (stamp (logAppend f.attributes) f.maxTs) = xs.map (recOfV2 f) := by
  simp [List.map_map, recOfV2, Function.comp_def]

theorem libVarBytes_varbytes (b : Option Bytes) (r : Bytes) : libVarBytes (varbytes b ++ r) = some (b, r) := by
  cases b <;> simp [varbytes, libVarBytes, readVarint_varint, Int.not_ofNat_neg, takeN_append]

theorem libHeader_encHdr (h : Hdr) (r : Bytes) : libHeader (encHdr h ++ r) = some (h, r) := by
  simp [encHdr, libHeader, readVarint_varint, Int.not_ofNat_neg, takeN_append, libVarBytes_varbytes]

theorem libHeaders_encHdrs (hs : List Hdr) (r : Bytes) : libHeaders hs.length (encHdrs hs ++ r) = some (hs, r) := by
  induction hs with
  | nil => simp [libHeaders, encHdrs]
  | cons h hs ih => simp [libHeaders, encHdrs, List.append_assoc, libHeader_encHdr, ih]

theorem libRecord_encRec (base first : Int) (x : RecV2) (r : Bytes) :
    libRecord base first (encRec x ++ r) = some (⟨base + x.offDelta, first + x.tsDelta, x.key, x.value, x.headers⟩, r) := by
  simp only [encRec, recBody, libRecord, List.append_assoc, List.cons_append, readVarint_varint, libVarBytes_varbytes]
  cases hh : x.headers with
  | nil => simp [encHdrs]
  | cons h hs =>
    have hpos : ((h :: hs).length : Int) > 0 := by simp only [List.length_cons]; omega
    have := libHeaders_encHdrs (h :: hs) r
    simp only [hpos, if_true]
    simp only [List.length_cons] at this
    simp [this]

theorem libRecords_encRecs (f : FrameV2) (xs : List RecV2) :
    libRecords f.baseOffset f.firstTs xs.length (encRecs xs) = xs.map (recOfV2c f) := by
  induction xs with
  | nil => simp [libRecords]
  | cons x xs ih =>
    simp only [List.length_cons, libRecords, encRecs, libRecord_encRec, List.map_cons, ih]
    simp [recOfV2c]

/-- a batch as a broker stores it: well-formed header, the payload (after decompression) is the encoding of `xs` -/
structure GoodBatch (dec : Int → Bytes → Option Bytes) (f : FrameV2) (xs : List RecV2) : Prop where
  wf : f.WF
  payload : (if codecOf f.attributes = 0 then some f.payload else dec (codecOf f.attributes) f.payload) = some (encRecs xs)
  count : f.count = (xs.length : Int)

theorem libReadV2_encFrame_crc (crc crc' : Bytes → Nat) (dec : Int → Bytes → Option Bytes) (f : FrameV2) (xs : List RecV2)
    (h : GoodBatch dec f xs) (hc : crc' (frameBody f) < M32) (r : Bytes) :
    libReadV2 crc dec (encFrame crc' f ++ r) =
      if crc (frameBody f) = crc' (frameBody f) then .ok (isControl f.attributes) (xs.map (recOfV2 f)) r else .err := by
  have hw := h.wf
  have hm : InRange M8 2 := by decide
  have hnot : ¬ (((9 + (frameBody f).length : Nat) : Int) >
      ((i32 f.leaderEpoch ++ (i8 2 ++ (u32 (crc' (frameBody f)) ++ (frameBody f ++ r)))).length : Int)) := by
    simp; omega
  simp only [encFrame, libReadV2, List.append_assoc, readI64_i64 _ _ hw.baseOffset, readI32_i32 _ _ (frameLen_inRange f hw), hnot, if_false,
    takeN_frameBlock, readI32_i32 _ _ hw.leaderEpoch, readI8_i8 _ _ hm, readU32_u32 _ _ hc, readFrameBody_frameBody f hw,
    libCodecOf_eq, libIsControl_eq, h.payload]
  by_cases hcrc : crc (frameBody f) = crc' (frameBody f)
  · have hx : ¬ ((xs.length : Int) < 0 ∨ (xs.length : Int) > ((encRecs xs).length : Int)) := by
      have := encRecs_length_ge xs; omega
    simp only [hcrc, ne_eq, not_true_eq_false, if_false, h.count, hx, Int.toNat_natCast, libRecords_encRecs,
      libLogAppendV2_eq, map_stamp_recOfV2c, if_true]
  · simp [hcrc]

theorem libReadV2_encFrame (crc : Bytes → Nat) (hcrc : ∀ b, crc b < M32) (dec : Int → Bytes → Option Bytes)
    (f : FrameV2) (xs : List RecV2) (h : GoodBatch dec f xs) (r : Bytes) :
    libReadV2 crc dec (encFrame crc f ++ r) = .ok (isControl f.attributes) (xs.map (recOfV2 f)) r :=
  (libReadV2_encFrame_crc crc crc dec f xs h (hcrc _) r).trans (if_pos rfl)

theorem libReadMsg_encMsg (crc : Bytes → Nat) (hcrc : ∀ b, crc b < M32) (m : Msg) (h : m.WF) (r : Bytes) :
    libReadMsg crc (encMsg crc m ++ r) = some (m.attributes, m, r) := by
  simp only [encMsg, libReadMsg, List.append_assoc, readI64_i64 _ _ h.offset, readI32_i32 _ _ (msgLen_inRange m h),
    Int.not_ofNat_neg, if_false,
    takeN_msgBlock, readU32_u32 _ _ (hcrc _), readMsgBody_msgBody m h]
  simp

/-- the model's own copy of the Spec's `lastOffset` (as `ConnReader.lastOffsetOf` is one on `Rec`) -/
theorem lastOff_eq (ms : List Msg) : lastOff ms = lastOffset ms := by
  induction ms with
  | nil => rfl
  | cons m ms ih =>
    cases ms with
    | nil => rfl
    | cons m' ms' => simp only [lastOff, lastOffset] at ih ⊢; exact ih

theorem encSet_msgs_cons (c : Crcs) (m : Msg) (ms : List Msg) :
    encSet c ((m :: ms).map Entry.msg) = encMsg c.ieee m ++ encSet c (ms.map Entry.msg) := rfl

theorem libInner_encSet (c : Crcs) (h1 : ∀ b, c.ieee b < M32) (inner : List Msg) (hwf : ∀ x ∈ inner, x.WF)
    (fuel : Nat) (hf : inner.length ≤ fuel) : libInner c.ieee fuel (encSet c (inner.map Entry.msg)) = some inner := by
  induction inner generalizing fuel with
  | nil => cases fuel <;> simp [libInner, encSet]
  | cons m ms ih =>
    cases fuel with
    | zero => simp at hf
    | succ fuel =>
      have hrest := ih (fun x hx => hwf x (by simp [hx])) fuel (by simp only [List.length_cons] at hf; omega)
      -- `eq_3` (of `libInner` here, of `libReadSet` below): the loop's equation for `fuel + 1` on an input that is not `[]`
      rw [encSet_msgs_cons, libInner.eq_3 _ _ _ (show encMsg c.ieee m ++ _ ≠ [] from encEntry_append_ne_nil c (.msg m) _),
        libReadMsg_encMsg c.ieee h1 m (hwf m (by simp))]
      simp only [hrest]

/-- a v1 wrapper as a broker stores it: the (decompressed) value is the message set of the inner messages, which
carry relative offsets; the wrapper carries the absolute offset of the last one.  `base`: readFromVersion1 makes the inner
offsets absolute only `if baseOffset != 0`; a wrapper at offset 0 agrees with the reference decoder (which always
rebases) exactly when its last inner offset is 0 too -/
structure GoodWrapper (c : Crcs) (dec : Int → Bytes → Option Bytes) (m : Msg) (inner : List Msg) : Prop where
  wf : m.WF
  magic : m.magic = 1
  codec : codecOf m.attributes ≠ 0
  value : ∃ v, m.value = some v ∧ dec (codecOf m.attributes) v = some (encSet c (inner.map Entry.msg))
  innerWF : ∀ x ∈ inner, x.WF ∧ codecOf x.attributes = 0
  nonempty : inner ≠ []
  base : m.offset = 0 → lastOffset inner = 0

/-- the records of a wrapper: inner relative offsets made absolute -/
def wrapperRecs (m : Msg) (inner : List Msg) : List Rec :=
  inner.map fun x => stamp (logAppend m.attributes) m.ts { recOfMsg x with offset := (m.offset - lastOffset inner) + x.offset }

theorem filterMap_msgs (f : Entry → Option Msg) (hf : ∀ x, f (.msg x) = some x) (ms : List Msg) :
    (ms.map Entry.msg).filterMap f = ms := by
  induction ms with
  | nil => rfl
  | cons m ms ih => simp [hf, ih]

theorem flattenEntry_wrapper (c : Crcs) (h1 : ∀ b, c.ieee b < M32) (h2 : ∀ b, c.castagnoli b < M32)
    (dec : Int → Bytes → Option Bytes) (m : Msg) (inner : List Msg) (h : GoodWrapper c dec m inner) :
    flattenEntry c dec (.msg m) = some (false, wrapperRecs m inner) := by
  obtain ⟨v, hv, hd⟩ := h.value
  have hrs : readSet c (encSet c (inner.map Entry.msg)).length (encSet c (inner.map Entry.msg)) = some (inner.map Entry.msg) :=
    decodeSet_encSet_msgs c h1 h2 inner fun x hx => (h.innerWF x hx).1
  have hany : (inner.any fun x => decide (codecOf x.attributes ≠ 0)) = false := by
    rw [List.any_eq_false]
    intro x hx
    simp [(h.innerWF x hx).2]
  have hm0 : ¬ m.magic = 0 := by rw [h.magic]; decide
  simp only [flattenEntry, h.codec, if_false, hv, hd, hrs]
  rw [filterMap_msgs _ (fun x => rfl) inner]
  simp only [List.length_map, ne_eq, not_true_eq_false, if_false, hm0, wrapperRecs]
  have hany' : (inner.any fun x => decide ¬codecOf x.attributes = 0) = false := by simpa using hany
  simp only [hany', Bool.false_eq_true, if_false]

theorem libReadV1_wrapper (c : Crcs) (h1 : ∀ b, c.ieee b < M32) (dec : Int → Bytes → Option Bytes) (m : Msg)
    (inner : List Msg) (h : GoodWrapper c dec m inner) (r : Bytes) :
    libReadV1 c.ieee dec (encMsg c.ieee m ++ r) = .ok false (wrapperRecs m inner) r := by
  obtain ⟨v, hv, hd⟩ := h.value
  have hin := libInner_encSet c h1 inner (fun x hx => (h.innerWF x hx).1) (encSet c (inner.map Entry.msg)).length
    (by have := encSet_length_ge c (inner.map Entry.msg); simpa using this)
  simp only [libReadV1, libReadMsg_encMsg c.ieee h1 m h.wf r, libCodecOf_eq, h.codec, if_false, hv, hd, hin]
  have hon : (decide (m.magic = 1) && logAppend m.attributes) = logAppend m.attributes := by simp [h.magic]
  simp only [libLogAppendV1_eq, hon]
  by_cases h0 : m.offset = 0
  · have hl := h.base h0
    simp only [h0, ne_eq, not_true_eq_false, false_and, if_false, wrapperRecs, hl]
    congr 1
    apply List.map_congr_left
    intro x _
    simp [recOfMsg]
  · simp only [ne_eq, h0, not_false_eq_true, h.nonempty, and_self, if_true, wrapperRecs, lastOff_eq]
    congr 1
    apply List.map_congr_left
    intro x _
    congr 1
    simp only [recOfMsg, Rec.mk.injEq, and_true]
    omega

/-- entries of a valid response and the logical records they stand for -/
inductive GoodEntry (c : Crcs) (dec : Int → Bytes → Option Bytes) : Entry → Bool × List Rec → Prop where
  | batch (f : FrameV2) (xs : List RecV2) : GoodBatch dec f xs →
      GoodEntry c dec (.batch f) (isControl f.attributes, xs.map (recOfV2 f))
  | msg (m : Msg) : m.WF → codecOf m.attributes = 0 → GoodEntry c dec (.msg m) (false, [recOfMsg m])
  | wrapper (m : Msg) (inner : List Msg) : GoodWrapper c dec m inner →
      GoodEntry c dec (.msg m) (false, wrapperRecs m inner)

/-- a valid response: entries paired with the logical records they stand for -/
inductive AllGood (c : Crcs) (dec : Int → Bytes → Option Bytes) : List Entry → List (Bool × List Rec) → Prop where
  | nil : AllGood c dec [] []
  | cons {e : Entry} {g : Bool × List Rec} {es : List Entry} {gs : List (Bool × List Rec)} :
      GoodEntry c dec e g → AllGood c dec es gs → AllGood c dec (e :: es) (g :: gs)

theorem GoodEntry.wf {c : Crcs} {dec : Int → Bytes → Option Bytes} {e : Entry} {g : Bool × List Rec} (h : GoodEntry c dec e g) :
    match e with | .msg m => m.WF | .batch f => f.WF := by
  cases h with
  | batch f xs hb => exact hb.wf
  | msg m hw _ => exact hw
  | wrapper m inner hw => exact hw.wf

theorem flattenEntry_good (c : Crcs) (h1 : ∀ b, c.ieee b < M32) (h2 : ∀ b, c.castagnoli b < M32)
    (dec : Int → Bytes → Option Bytes) (e : Entry) (g : Bool × List Rec)
    (h : GoodEntry c dec e g) : flattenEntry c dec e = some g := by
  cases h with
  | batch f xs hb => exact flattenEntry_batch c dec f xs hb.payload hb.count
  | msg m hw hc => simp [flattenEntry, hc]
  | wrapper m inner hw => exact flattenEntry_wrapper c h1 h2 dec m inner hw

theorem libReadSet_bad_crc (c : Crcs) (dec : Int → Bytes → Option Bytes) (f : FrameV2) (xs : List RecV2)
    (hf : GoodBatch dec f xs) (crc' : Bytes → Nat) (hc : crc' (frameBody f) < M32)
    (hne : crc' (frameBody f) ≠ c.castagnoli (frameBody f)) (tail : Bytes) :
    ∀ fuel, libReadSet c dec fuel (encFrame crc' f ++ tail) = []
  | 0 => by cases hx : encFrame crc' f ++ tail <;> rfl
  | k + 1 => by
    have h17 : 17 ≤ (encFrame crc' f).length := encEntry_length_ge17 ⟨c.ieee, crc'⟩ (.batch f)
    rw [libReadSet.eq_3 c dec (encFrame crc' f ++ tail) k (encEntry_append_ne_nil ⟨c.ieee, crc'⟩ (.batch f) tail),
      if_neg (by rw [List.length_append]; omega)]
    simp only [show (encFrame crc' f ++ tail)[16]? = some 2 from magicOf_encFrame crc' f tail, if_true,
      libReadV2_encFrame_crc c.castagnoli crc' dec f xs hf hc tail, if_neg hne.symm]

theorem libReadSet_encEntry (c : Crcs) (h1 : ∀ b, c.ieee b < M32) (h2 : ∀ b, c.castagnoli b < M32)
    (dec : Int → Bytes → Option Bytes) (e : Entry) (g : Bool × List Rec) (hg : GoodEntry c dec e g) (rest : Bytes)
    (fuel : Nat) :
    libReadSet c dec (fuel + 1) (encEntry c e ++ rest) = g :: libReadSet c dec fuel rest := by
  rw [libReadSet.eq_3 _ _ _ _ (encEntry_append_ne_nil c e rest),
    if_neg (by have := encEntry_length_ge17 c e; rw [List.length_append]; omega)]
  cases hg with
  | batch f xs hb =>
    have hm := magicOf_encFrame c.castagnoli f rest
    simp only [magicOf] at hm
    simp only [encEntry, hm, if_true, libReadV2_encFrame c.castagnoli h2 dec f xs hb rest]
  | msg m hw hc =>
    obtain ⟨b, hb, hb01, hne⟩ := magicOf_encMsg c.ieee m rest hw.magic
    simp only [magicOf] at hb
    simp only [encEntry, hb, hne, if_false, hb01, if_true, libReadV1, libReadMsg_encMsg c.ieee h1 m hw rest, libCodecOf_eq, hc]
  | wrapper m inner hw =>
    obtain ⟨b, hb, hb01, hne⟩ := magicOf_encMsg c.ieee m rest hw.wf.magic
    simp only [magicOf] at hb
    simp only [encEntry, hb, hne, if_false, hb01, if_true, libReadV1_wrapper c h1 dec m inner hw rest]

theorem libReadSet_encSet (c : Crcs) (h1 : ∀ b, c.ieee b < M32) (h2 : ∀ b, c.castagnoli b < M32)
    (dec : Int → Bytes → Option Bytes) (es : List Entry) (gs : List (Bool × List Rec))
    (h : AllGood c dec es gs) (tail : Bytes) (fuel : Nat) (hf : es.length ≤ fuel) :
    libReadSet c dec fuel (encSet c es ++ tail) = gs ++ libReadSet c dec (fuel - es.length) tail := by
  induction h generalizing fuel with
  | nil => simp [encSet]
  | cons hg _ ih =>
    cases fuel with
    | zero => simp at hf
    | succ fuel =>
      simp only [encSet, List.append_assoc]
      rw [libReadSet_encEntry c h1 h2 dec _ _ hg]
      rw [ih fuel (by simp only [List.length_cons] at hf; omega)]
      simp

theorem surfaced_of_no_control (gs : List (Bool × List Rec)) (h : ∀ g ∈ gs, g.1 = false) :
    surfaced gs = gs.flatMap (·.2) := by
  simp only [surfaced]
  congr 1
  exact List.filter_eq_self.mpr fun g hg => by simp [h g hg]

theorem flattenAll_good (c : Crcs) (h1 : ∀ b, c.ieee b < M32) (h2 : ∀ b, c.castagnoli b < M32)
    (dec : Int → Bytes → Option Bytes) (es : List Entry) (gs : List (Bool × List Rec))
    (h : AllGood c dec es gs) : flattenAll c dec es = some gs := by
  induction h with
  | nil => rfl
  | cons hg _ ih => simp [flattenAll, flattenEntry_good c h1 h2 dec _ _ hg, ih]

end KV.Model.RecordReader
