/-
Lemmas/Discover.lean — the refresh loop LTS (Model/Discover.lean), for the recovery theorems of Props/C12.
-/
import KafkaVerif.Model.Discover
import KafkaVerif.Base.Run

namespace KV.Lemmas.Discover
open KV.Routing KV.Discover
open KV.Gen.Routing (ExitGuard)

/-- the pool after an event: only the outcome of a refresh attempt touches it, and only through `update` -/
def poolAfter (p : PoolState) : DEvent → PoolState
  | .answer m => update p (some m) false
  | .connFail | .reqError | .timeout => update p none true
  | .tick | .close => p

/-- whether the goroutine is still in the loop after an event (`was`: before it): only the guards of the loop's
`return` statements decide, an answer never ends it -/
def aliveAfter (guards : List ExitGuard) (was : Bool) : DEvent → Bool
  | .close => !(guards.contains .poolDone || guards.contains .errIsPoolCtx || guards.contains .errIsOtherCtx ||
      guards.contains .other)
  | .tick | .connFail => !exitsOnWake guards
  | .answer _ => was
  | .reqError => !exitsOnError guards false false
  | .timeout => !exitsOnError guards false true

theorem step_effect {guards : List ExitGuard} {s s' : DState} {e : DEvent} (h : step guards s e = some s') :
    s'.pool = poolAfter s.pool e ∧ s'.alive = aliveAfter guards s.alive e := by
  cases e <;> simp only [step] at h <;> split at h <;> cases h <;> exact ⟨rfl, rfl⟩

theorem run_eq (guards : List ExitGuard) (s : DState) (es : List DEvent) :
    run guards s es = es.foldlM (step guards) s :=
  Run.eq_foldlM (fun _ => rfl) (fun _ _ _ => rfl) es s

theorem run_tick_answer {guards : List ExitGuard} (hg : exitsOnWake guards = false) (s : DState) (m : MResponse)
    (ha : s.alive = true) (hc : s.closed = false) (hp : s.phase = .waiting) :
    run guards s [.tick, .answer m] =
      some { s with phase := .waiting, alive := true, pool := update s.pool (some m) false } := by
  simp [run, step, ha, hc, hp, hg]

end KV.Lemmas.Discover
