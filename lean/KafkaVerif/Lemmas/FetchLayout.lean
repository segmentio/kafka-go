/-
Lemmas/FetchLayout.lean — well-formed layouts (`LWF`: a chain of well-formed items `IWF`; `Safe`) and the algebra of Spec/Layout on
them: token streams and their sizes, `truncate`, `contained`, what the broker serves (`dropBefore`).  The decoder machine does not
occur here; Lemmas/FetchDecoder.lean runs it on these layouts.
-/
import KafkaVerif.Spec.Layout

namespace KV.C02

def sumSizes : List (Int × Nat × Nat) → Nat
  | [] => 0
  | (_, _, z) :: rs => z + sumSizes rs

def absRecs (base : Int) (recs : List (Int × Nat × Nat)) : List Rec := recs.map fun (d, t, _) => (base + d, t)

def absInner (base : Int) (inner : List (Int × Nat)) : List Rec := inner.map fun (f, t) => (f + base, t)

theorem records_w (magic : Nat) (woff : Int) (size : Nat) (inner : List (Int × Nat)) :
    (Item.w magic woff size inner).records = absInner (wrapperBase woff inner) inner := rfl

theorem records_b2 (base last : Int) (codec : Bool) (plen : Nat) (recs : List (Int × Nat × Nat)) :
    (Item.b2 base last codec plen recs).records = absRecs base recs := rfl

/-- retained records of a batch [base,last]: offsets strictly increasing from `lo`, inside the batch, sizes positive -/
def RecsWF (base last : Int) : Int → List (Int × Nat × Nat) → Prop
  | _, [] => True
  | lo, (d, _, z) :: rs => lo ≤ base + d ∧ base + d ≤ last ∧ 1 ≤ z ∧ RecsWF base last (base + d + 1) rs

/-- inner messages of a wrapper: absolute offsets (field + base) strictly increasing from `lo`, at most `hi` -/
def InnerWF (base hi : Int) : Int → List (Int × Nat) → Prop
  | _, [] => True
  | lo, (f, _) :: ms => lo ≤ f + base ∧ f + base ≤ hi ∧ InnerWF base hi (f + base + 1) ms

/-- a layout: item ranges disjoint and increasing from `nb`.  v2 batch: a plain batch's payload is its records, an
empty batch is a bare header, a compressed payload is not empty.  v0/v1: magic 0 or 1, a message or wrapper is at least as
long as its header, a wrapper is not empty and carries the absolute offset of its last inner message. -/
def LWF : Int → List Item → Prop
  | _, [] => True
  | nb, .b2 base last codec plen recs :: rest =>
    nb ≤ base ∧ base ≤ last ∧ RecsWF base last base recs ∧ (codec = false → plen = sumSizes recs) ∧
    (codec = true → recs ≠ [] ∧ 1 ≤ plen) ∧ LWF (last + 1) rest
  | nb, .m magic off _ size :: rest =>
    (magic = 0 ∨ magic = 1) ∧ nb ≤ off ∧ hdr1Size magic ≤ size ∧ LWF (off + 1) rest
  | nb, .w magic woff size inner :: rest =>
    (magic = 0 ∨ magic = 1) ∧ inner ≠ [] ∧ InnerWF (wrapperBase woff inner) woff nb inner ∧ hdr1Size magic ≤ size ∧
    LWF (woff + 1) rest

/-- what `LWF` asks of one item that may begin at `nb` -/
def IWF (nb : Int) : Item → Prop
  | .b2 base last codec plen recs =>
    nb ≤ base ∧ base ≤ last ∧ RecsWF base last base recs ∧ (codec = false → plen = sumSizes recs) ∧
    (codec = true → recs ≠ [] ∧ 1 ≤ plen)
  | .m magic off _ size => (magic = 0 ∨ magic = 1) ∧ nb ≤ off ∧ hdr1Size magic ≤ size
  | .w magic woff size inner =>
    (magic = 0 ∨ magic = 1) ∧ inner ≠ [] ∧ InnerWF (wrapperBase woff inner) woff nb inner ∧ hdr1Size magic ≤ size

theorem lwf_cons {nb : Int} {it : Item} {rest : List Item} : LWF nb (it :: rest) ↔ IWF nb it ∧ LWF (it.last + 1) rest := by
  cases it <;> simp only [LWF, IWF, Item.last, and_assoc]

theorem recsWF_lb {base last : Int} : ∀ {recs : List (Int × Nat × Nat)} {lo : Int}, RecsWF base last lo recs →
    ∀ r ∈ absRecs base recs, lo ≤ r.1 ∧ r.1 ≤ last := by
  intro recs
  induction recs with
  | nil => intro lo _ r hr; simp [absRecs] at hr
  | cons x rs ih =>
    intro lo h r hr
    obtain ⟨d, t, z⟩ := x
    simp only [RecsWF] at h
    rcases List.mem_cons.mp hr with rfl | hr
    · show lo ≤ base + d ∧ base + d ≤ last; omega
    · have := ih h.2.2.2 r hr
      omega

theorem innerWF_lb {base hi : Int} : ∀ {inner : List (Int × Nat)} {lo : Int}, InnerWF base hi lo inner →
    ∀ r ∈ absInner base inner, lo ≤ r.1 ∧ r.1 ≤ hi := by
  intro inner
  induction inner with
  | nil => intro lo _ r hr; simp [absInner] at hr
  | cons x ms ih =>
    intro lo h r hr
    obtain ⟨f, t⟩ := x
    simp only [InnerWF] at h
    rcases List.mem_cons.mp hr with rfl | hr
    · show lo ≤ f + base ∧ f + base ≤ hi; omega
    · have := ih h.2.2 r hr
      omega

theorem IWF.bounds {nb : Int} {it : Item} (h : IWF nb it) : (∀ r ∈ it.records, nb ≤ r.1 ∧ r.1 ≤ it.last) ∧ nb ≤ it.last := by
  cases it with
  | b2 base last codec plen recs =>
    refine ⟨fun r hr => ?_, Int.le_trans h.1 h.2.1⟩
    have := recsWF_lb h.2.2.1 r hr
    exact ⟨Int.le_trans h.1 this.1, this.2⟩
  | m magic off tag size =>
    refine ⟨fun r hr => ?_, h.2.1⟩
    rw [List.mem_singleton.mp hr]
    exact ⟨h.2.1, Int.le_refl _⟩
  | w magic woff size inner =>
    have hb : ∀ r ∈ absInner (wrapperBase woff inner) inner, nb ≤ r.1 ∧ r.1 ≤ woff := innerWF_lb h.2.2.1
    refine ⟨hb, ?_⟩
    cases inner with
    | nil => exact absurd rfl h.2.1
    | cons x ms =>
      have := hb (x.1 + wrapperBase woff (x :: ms), x.2) List.mem_cons_self
      exact Int.le_trans this.1 this.2

theorem IWF.mono {nb nb' : Int} {it : Item} (hle : nb' ≤ nb) (h : IWF nb it) : IWF nb' it := by
  cases it with
  | b2 base last codec plen recs => exact ⟨Int.le_trans hle h.1, h.2⟩
  | m magic off tag size => exact ⟨h.1, Int.le_trans hle h.2.1, h.2.2⟩
  | w magic woff size inner =>
    refine ⟨h.1, h.2.1, ?_, h.2.2.2⟩
    cases inner with
    | nil => trivial
    | cons x ms => exact ⟨Int.le_trans hle h.2.2.1.1, h.2.2.1.2⟩

theorem lwf_mono : ∀ {items : List Item} {nb nb' : Int}, nb' ≤ nb → LWF nb items → LWF nb' items
  | [], _, _, _, _ => trivial
  | _ :: _, _, _, hle, h => lwf_cons.mpr ⟨(lwf_cons.mp h).1.mono hle, (lwf_cons.mp h).2⟩

theorem lwf_take : ∀ (m : Nat) {items : List Item} {nb : Int}, LWF nb items → LWF nb (items.take m)
  | 0, _, _, _ => trivial
  | _ + 1, [], _, _ => trivial
  | m + 1, _ :: _, _, h => lwf_cons.mpr ⟨(lwf_cons.mp h).1, lwf_take m (lwf_cons.mp h).2⟩

theorem lwf_mem : ∀ {items : List Item} {nb : Int} {it : Item}, LWF nb items → it ∈ items → IWF nb it
  | x :: rest, nb, it, h, hit => by
    obtain ⟨hx, hrest⟩ := lwf_cons.mp h
    rcases List.mem_cons.mp hit with rfl | hit
    · exact hx
    · exact (lwf_mem hrest hit).mono (by have := hx.bounds.2; omega)

theorem lasts_ge {items : List Item} {nb : Int} (h : LWF nb items) : ∀ it ∈ items, nb ≤ it.last :=
  fun _ hit => (lwf_mem h hit).bounds.2

theorem allRecords_cons (it : Item) (rest : List Item) : allRecords (it :: rest) = it.records ++ allRecords rest :=
  List.flatMap_cons

theorem lwf_lb {items : List Item} {nb : Int} (h : LWF nb items) : ∀ r ∈ allRecords items, nb ≤ r.1 := by
  intro r hr
  obtain ⟨it, hit, hr⟩ := List.mem_flatMap.mp hr
  exact ((lwf_mem h hit).bounds.1 r hr).1

def isB2 : Item → Bool
  | .b2 .. => true
  | _ => false

def headB2 : List Item → Bool
  | it :: _ => isB2 it
  | [] => false

/-- the decoder can only be asked to leave a v0/v1 item for a v2 batch after it has *returned* a message of that
item (readMessageV1's loop cannot read a v2 header): the last message of a v0/v1 item that is followed by a v2
batch is at or above the start offset.  Holds for every response that obeys the fetch contract (`safe_of_contract`),
for pure v2 and for pure v0/v1 layouts whatever the offset. -/
def Safe (o : Int) : List Item → Prop
  | [] => True
  | it :: rest => (headB2 rest = true → isB2 it = true ∨ o ≤ it.last) ∧ Safe o rest

theorem safe_of_lasts {o : Int} : ∀ {items : List Item}, (∀ it ∈ items, o ≤ it.last) → Safe o items := by
  intro items
  induction items with
  | nil => intro _; trivial
  | cons x rest ih =>
    intro h
    exact ⟨fun _ => Or.inr (h x List.mem_cons_self), ih (fun it hit => h it (List.mem_cons_of_mem _ hit))⟩

theorem safe_of_contract {o nb : Int} {it : Item} {rest : List Item} (h : LWF nb (it :: rest)) (ho : o ≤ it.last) :
    Safe o (it :: rest) := by
  apply safe_of_lasts
  intro x hx
  simp only [List.mem_cons] at hx
  rcases hx with rfl | hx
  · exact ho
  · have := lasts_ge (lwf_cons.mp h).2 x hx; omega

theorem safe_of_v2 {o : Int} : ∀ {items : List Item}, (∀ it ∈ items, isB2 it = true) → Safe o items := by
  intro items
  induction items with
  | nil => intro _; trivial
  | cons x rest ih => intro h; exact ⟨fun _ => Or.inl (h x List.mem_cons_self), ih (fun it hit => h it (List.mem_cons_of_mem _ hit))⟩

theorem safe_of_v1 {o : Int} : ∀ {items : List Item}, (∀ it ∈ items, isB2 it = false) → Safe o items := by
  intro items
  induction items with
  | nil => intro _; trivial
  | cons x rest ih =>
    intro h
    refine ⟨fun hv => ?_, ih (fun it hit => h it (List.mem_cons_of_mem _ hit))⟩
    cases rest with
    | nil => simp [headB2] at hv
    | cons y ys => have := h y (by simp); simp [headB2, this] at hv

/-! ### Token streams: sizes and `truncate` -/

theorem allTokens_cons (it : Item) (rest : List Item) : allTokens (it :: rest) = tokensOf it ++ allTokens rest :=
  List.flatMap_cons

theorem allTokens_append (a b : List Item) : allTokens (a ++ b) = allTokens a ++ allTokens b := by
  simp [allTokens]

def totalSize : List Tok → Nat
  | [] => 0
  | t :: ts => t.size + totalSize ts

theorem totalSize_append (a b : List Tok) : totalSize (a ++ b) = totalSize a + totalSize b := by
  induction a with
  | nil => simp [totalSize]
  | cons t ts ih => simp only [List.cons_append, totalSize, ih]; omega

theorem totalSize_r2 : ∀ (recs : List (Int × Nat × Nat)), totalSize (recs.map fun (d, t, z) => Tok.r2 d t z) = sumSizes recs := by
  intro recs
  induction recs with
  | nil => rfl
  | cons x rs ih => obtain ⟨d, t, z⟩ := x; simp only [List.map_cons, totalSize, Tok.size, sumSizes, ih]

theorem tokensOf_size {nb : Int} {it : Item} (h : IWF nb it) : totalSize (tokensOf it) = it.size := by
  cases it with
  | b2 base last codec plen recs =>
    cases codec with
    | true => simp [tokensOf, totalSize, Tok.size, Item.size]
    | false => simp only [tokensOf, Bool.false_eq_true, if_false, totalSize, Tok.size, Item.size, totalSize_r2, h.2.2.2.1 rfl]
  | m magic off tag size =>
    have := h.2.2
    show hdr1Size magic + (size - hdr1Size magic + 0) = size
    omega
  | w magic woff size inner =>
    have := h.2.2.2
    show hdr1Size magic + (size - hdr1Size magic + 0) = size
    omega

theorem allTokens_head_pos : ∀ (items : List Item) (t : Tok) (ts : List Tok), allTokens items = t :: ts → 0 < t.size := by
  intro items t ts h
  cases items with
  | nil => simp [allTokens] at h
  | cons it rest =>
    simp only [allTokens, List.flatMap_cons] at h
    cases it with
    | b2 base last codec plen recs =>
      cases codec <;> simp only [tokensOf, Bool.false_eq_true, if_false, if_true, List.cons_append, List.cons.injEq] at h <;>
        (rw [← h.1]; simp [Tok.size])
    | m magic off tag size =>
      simp only [tokensOf, List.cons_append, List.cons.injEq] at h
      rw [← h.1]; simp only [Tok.size]; split <;> omega
    | w magic woff size inner =>
      simp only [tokensOf, List.cons_append, List.cons.injEq] at h
      rw [← h.1]; simp only [Tok.size]; split <;> omega

theorem truncate_full : ∀ (ts : List Tok) (n : Nat), totalSize ts ≤ n → truncate ts n = ts := by
  intro ts
  induction ts with
  | nil => intro n _; rfl
  | cons t ts ih =>
    intro n h
    simp only [totalSize] at h
    have : t.size ≤ n := by omega
    simp only [truncate, this, if_true]
    rw [ih (n - t.size) (by omega)]

theorem truncate_append_le : ∀ (x y : List Tok) (n : Nat), n ≤ totalSize x → (∀ t ts, y = t :: ts → 0 < t.size) →
    truncate (x ++ y) n = truncate x n := by
  intro x
  induction x with
  | nil =>
    intro y n h hy
    simp only [totalSize] at h
    have hn : n = 0 := by omega
    subst hn
    cases y with
    | nil => rfl
    | cons t ts =>
      have := hy t ts rfl
      have ht : ¬ t.size ≤ 0 := by omega
      simp [truncate, ht]
  | cons t x ih =>
    intro y n h hy
    simp only [totalSize] at h
    by_cases ht : t.size ≤ n
    · simp only [List.cons_append, truncate, ht, if_true]
      rw [ih y (n - t.size) (by omega) hy]
    · simp only [List.cons_append, truncate, ht, if_false]

theorem contained_cons_fit {it : Item} {rest : List Item} {n : Nat} (h : it.size ≤ n) :
    contained (it :: rest) n = it.records ++ contained rest (n - it.size) := by
  simp only [contained, h, if_true]

theorem contained_cons_cut {it : Item} {rest : List Item} {n : Nat} (h : ¬ it.size ≤ n) :
    contained (it :: rest) n = contained [it] n := by
  simp only [contained, h, if_false]

def itemsSize : List Item → Nat
  | [] => 0
  | it :: rest => it.size + itemsSize rest

theorem contained_all : ∀ (items : List Item) (n : Nat), itemsSize items ≤ n → contained items n = allRecords items := by
  intro items
  induction items with
  | nil => intro n _; simp [contained, allRecords]
  | cons it rest ih =>
    intro n h
    simp only [itemsSize] at h
    have h1 : it.size ≤ n := by omega
    simp only [contained, h1, if_true, allRecords, List.flatMap_cons]
    rw [ih (n - it.size) (by omega)]
    rfl

theorem fitRecs_subset (base : Int) : ∀ (recs : List (Int × Nat × Nat)) (n : Nat), ∀ r ∈ fitRecs base recs n, r ∈ absRecs base recs := by
  intro recs
  induction recs with
  | nil => intro n r hr; simp [fitRecs] at hr
  | cons x rs ih =>
    intro n r hr
    obtain ⟨d, t, z⟩ := x
    simp only [fitRecs] at hr
    split at hr
    · rcases List.mem_cons.mp hr with rfl | hr
      · exact List.mem_cons_self
      · exact List.mem_cons_of_mem _ (ih _ r hr)
    · cases hr

theorem contained_subset : ∀ (items : List Item) (n : Nat), ∀ r ∈ contained items n, r ∈ allRecords items := by
  intro items
  induction items with
  | nil => intro n r hr; simp [contained] at hr
  | cons it rest ih =>
    intro n r hr
    simp only [allRecords, List.flatMap_cons, List.mem_append]
    simp only [contained] at hr
    split at hr
    · simp only [List.mem_append] at hr
      rcases hr with hr | hr
      · exact Or.inl hr
      · exact Or.inr (ih _ r hr)
    · left
      cases it with
      | b2 base last codec plen recs =>
        cases codec with
        | false =>
          simp only at hr
          split at hr
          · exact fitRecs_subset base recs _ r hr
          · simp at hr
        | true => simp at hr
      | m _ _ _ _ => simp at hr
      | w _ _ _ _ => simp at hr

/-! ### What the broker serves: `dropBefore`, `serveBudget` -/

theorem dropBefore_spec (q : Int) : ∀ {items : List Item} {nb : Int}, LWF nb items →
    LWF nb (dropBefore q items) ∧
    (∀ r ∈ allRecords items, r.1 < q ∨ r ∈ allRecords (dropBefore q items)) ∧
    (∀ r ∈ allRecords (dropBefore q items), r ∈ allRecords items) ∧
    (∀ it rest, dropBefore q items = it :: rest → q ≤ it.last) := by
  intro items
  induction items with
  | nil => intro nb h; exact ⟨h, fun r hr => Or.inr hr, fun r hr => hr, fun it rest heq => by cases heq⟩
  | cons x rest ih =>
    intro nb h
    obtain ⟨hxw, h3⟩ := lwf_cons.mp h
    obtain ⟨h1, h2⟩ := hxw.bounds
    by_cases hx : x.last < q
    · obtain ⟨i1, i2, i3, i4⟩ := ih h3
      simp only [dropBefore, hx, if_true]
      refine ⟨lwf_mono (by omega) i1, ?_, ?_, i4⟩
      · intro r hr
        simp only [allRecords, List.flatMap_cons, List.mem_append] at hr
        rcases hr with hr | hr
        · left; have := (h1 r hr).2; omega
        · exact i2 r hr
      · intro r hr
        simp only [allRecords, List.flatMap_cons, List.mem_append]
        exact Or.inr (i3 r hr)
    · simp only [dropBefore, hx, if_false]
      refine ⟨h, fun r hr => Or.inr hr, fun r hr => hr, ?_⟩
      intro it rest' heq
      simp only [List.cons.injEq] at heq
      rw [← heq.1]; omega

theorem dropBefore_eq (q : Int) (items : List Item) : dropBefore q items = items.dropWhile (fun it => it.last < q) := by
  induction items with
  | nil => rfl
  | cons it rest ih => simp only [dropBefore, List.dropWhile_cons, decide_eq_true_eq, ih]

theorem dropBefore_append (q : Int) (a b : List Item) :
    dropBefore q (a ++ b) = if dropBefore q a = [] then dropBefore q b else dropBefore q a ++ b := by
  simp only [dropBefore_eq, List.dropWhile_append, List.isEmpty_iff]

theorem dropBefore_length_le (q : Int) (items : List Item) : (dropBefore q items).length ≤ items.length :=
  dropBefore_eq q items ▸ (List.dropWhile_sublist _).length_le

theorem dropBefore_trans (q q' : Int) (h : q ≤ q') : ∀ (items : List Item), dropBefore q' (dropBefore q items) = dropBefore q' items := by
  intro items
  induction items with
  | nil => rfl
  | cons it rest ih =>
    by_cases h1 : it.last < q
    · have h2 : it.last < q' := by omega
      simp only [dropBefore, h1, h2, if_true, ih]
    · simp only [dropBefore, h1, if_false]

theorem dropBefore_nil_all {items : List Item} {nb : Int} (hwf : LWF nb items) (q : Int) (h : dropBefore q items = []) :
    ∀ r ∈ allRecords items, r.1 < q := by
  intro r hr
  rcases (dropBefore_spec q hwf).2.1 r hr with h1 | h1
  · exact h1
  · rw [h] at h1; simp [allRecords] at h1

theorem dropBefore_mem (q : Int) (items : List Item) (it : Item) (h : it ∈ dropBefore q items) : it ∈ items :=
  (List.dropWhile_sublist _).subset (dropBefore_eq q items ▸ h)

theorem serveBudget_first {items : List Item} {it : Item} {rest : List Item} (h : items = it :: rest) (b : Nat) :
    it.size ≤ serveBudget items b := by
  subst h; simp only [serveBudget]; omega

end KV.C02
