/-
Lemmas/GroupDeadlines.lean — `stepSilentG` (Model/GroupDeadlines.lean), the group against a coordinator that has stopped
answering: a sub-relation of `step` that with a deadline on every request loses only the answers, without deadlines every
return of a request — and then `run` is blocked wherever it waits for an answer.
-/
import KafkaVerif.Model.GroupDeadlines
import KafkaVerif.Lemmas.GroupRunStep
namespace KV.Group

/-- the program points at which `run` waits for the answer of FindCoordinator, JoinGroup, SyncGroup or LeaveGroup: the
model has no local way out of them -/
def PC.awaits : PC → Bool
  | .coord 1 _ | .joining | .syncing | .leaveCall _ => true
  | _ => false

theorem Move.awaits {c : Cfg} {s s' : St} {e : Ev} (hm : Move c s e s') (hp : s.pc.awaits = true) :
    e.coordAnswer.isSome = true := by
  cases hm with
  | retOk hr | retClosed hr | retRebalance hr | retErr hr =>
    rcases returnsNow_cases hr with h | ⟨h | h, _⟩ <;> rw [h] at hp <;> cases hp
  | connectFail h hk => rw [h] at hp; rcases hk with rfl | rfl <;> cases hp
  | _ => first | rfl | (rw [‹s.pc = _›] at hp; cases hp)

end KV.Group

namespace KV.GroupClose
open KV.Group

theorem stepSilentG_sub (f : Bool) (c : Cfg) (s s' : St) (e : Ev) (h : stepSilentG f c s e = some s') : step c s e = some s' := by
  unfold stepSilentG at h
  split at h
  · cases h
  · split at h
    · exact h
    · cases h
  · exact h

theorem stepSilentG_eq {c : Cfg} {s : St} {e : Ev} (h : e.coordAnswer ≠ some true) : stepSilentG true c s e = step c s e := by
  unfold stepSilentG
  cases ha : e.coordAnswer with
  | none => rfl
  | some b => cases b <;> first | rfl | exact absurd ha h

theorem stepSilentG_isSome {f : Bool} {c : Cfg} {s : St} {e : Ev} (h : (stepSilentG f c s e).isSome = true) :
    (step c s e).isSome = true := by
  cases hs : stepSilentG f c s e with
  | none => rw [hs] at h; cases h
  | some s' => rw [stepSilentG_sub f c s s' e hs]; rfl

theorem silent_false_answer (c : Cfg) (s : St) (e : Ev) (h : e.coordAnswer.isSome = true) : stepSilentG false c s e = none := by
  unfold stepSilentG
  cases ha : e.coordAnswer with
  | none => rw [ha] at h; cases h
  | some b => cases b <;> rfl

/-- a coordinator request without a deadline blocks `run` for ever where it waits for the answer (`PC.awaits`):
`cg.done` is not observed by a blocked socket read, and `ConsumerGroup.Close` waits in `cg.wg.Wait()`. -/
theorem run_blocked_without_deadline (c : Cfg) (s : St) (hp : s.pc.awaits = true) (e : Ev) (he : e.runLoop = true) :
    stepSilentG false c s e = none := by
  cases hs : stepSilentG false c s e with
  | none => rfl
  | some s' =>
    rw [silent_false_answer c s e ((step_move he (stepSilentG_sub false c s s' e hs)).awaits hp)] at hs
    cases hs

end KV.GroupClose
