/-
Lemmas/CodecAccount.lean — what the frame decoder of Model/Codec.lean can end in on ARBITRARY input, for every schema.
It returns, and then the stream position and `decoder.remain` have moved together (`DAdv`); or it fails with an error; it panics or
allocates out of proportion only if a guard is off (`Post`).  One walk over the decoder (`walk_all`, `readResponse_walk`) carries both
halves.  `Walk acct guards f` is used at four instances: `True` / `False` (accounting, given a record-set reader that accounts),
`False` / `Guarded cfg` (safety, Props/C20), `rc.accountAfterDiscard` / `Guards rc` (the record-set reader itself, Props/C20
`recsHandler_walk`) and `rc.accountAfterDiscard` / `Guarded cfg ∧ Guards rc` (the decoder with that reader plugged in, Props/C20
`withRecords_walk`: both halves at once).  Every `*_walk` lemma takes the advance made so far (`acct → DAdv d0 d`) and returns it
extended, so chains of `bind` need no transitivity steps.  Lemmas/CodecAcct.lean has the accounting half with the consumed bytes as
an explicit prefix (C17).
-/
import KafkaVerif.Lemmas.CodecPrim

namespace KV.Codec
open KV KV.Wire

/-- `d'` is `d` after `n` bytes left the stream and were charged to the frame -/
def DAdv (d d' : Dec) : Prop := ∃ n : Nat, n ≤ d.inp.length ∧ d'.inp = d.inp.drop n ∧ d'.remain + n = d.remain

theorem DAdv.refl (d : Dec) : DAdv d d := ⟨0, by omega, by simp, by omega⟩

theorem DAdv.trans {a b c : Dec} (h1 : DAdv a b) (h2 : DAdv b c) : DAdv a c := by
  obtain ⟨n1, l1, i1, r1⟩ := h1
  obtain ⟨n2, l2, i2, r2⟩ := h2
  refine ⟨n1 + n2, ?_, ?_, by omega⟩
  · rw [i1, List.length_drop] at l2; omega
  · rw [i2, i1, List.drop_drop]

/-- the frame that began at `D` = ⟨rest of the stream, announced size⟩ was all there and exactly its bytes are gone -/
def Drained (D d' : Dec) : Prop := D.remain ≤ D.inp.length ∧ d' = ⟨D.inp.drop D.remain, 0⟩

/-- the bytes that left `stream` are the 4-byte size prefix and exactly the `size` bytes it announces -/
def OneFrame (stream : Bytes) (d' : Dec) : Prop :=
  ∃ size : Nat, 4 + size ≤ stream.length ∧ toS 32 (fromBE (stream.take 4)) = size ∧ d'.inp = stream.drop (4 + size) ∧ d'.remain = 0

/-- `f` keeps stream and frame together -/
def Acc {α : Type} (f : Dec → Res α) : Prop := ∀ d a d', f d = .ok a d' → DAdv d d'

def DA (cfg : Cfg) (t : Ty) : Prop := Acc (decode cfg t)

/-- the record-set reader plugged into the decoder (if any) keeps stream and frame together -/
def RecsAcc (cfg : Cfg) : Prop := ∀ h, cfg.recs = some h → Acc h

/-- the outcome of a run: a result satisfying `Q`, or an error; it crashes only if the guards are off -/
def Post {α : Type} (guards : Prop) (Q : α → Dec → Prop) : Res α → Prop
  | .ok a d => Q a d
  | .error => True
  | .panic => ¬ guards
  | .balloon => ¬ guards

section
variable {α β : Type} {guards : Prop} {Q : α → Dec → Prop}

theorem Post.bind {Q' : β → Dec → Prop} {r : Res α} {f : α → Dec → Res β}
    (hr : Post guards Q r) (hf : ∀ a d, Q a d → Post guards Q' (f a d)) : Post guards Q' (r.bind f) := by
  cases r with
  | ok a d => exact hf a d hr
  | error => trivial
  | panic => exact hr
  | balloon => exact hr

theorem Post.mono {Q' : α → Dec → Prop} {r : Res α} (hr : Post guards Q r) (h : ∀ a d, Q a d → Q' a d) :
    Post guards Q' r := by
  cases r with
  | ok a d => exact h a d hr
  | error => trivial
  | panic => exact hr
  | balloon => exact hr

theorem Post.weaken {guards' : Prop} {r : Res α} (hg : guards' → guards) (hr : Post guards Q r) : Post guards' Q r := by
  cases r with
  | ok a d => exact hr
  | error => trivial
  | panic => exact fun g => hr (hg g)
  | balloon => exact fun g => hr (hg g)

theorem Post.ok {r : Res α} {a : α} {d : Dec} (hr : Post guards Q r) (h : r = .ok a d) : Q a d := by
  subst h; exact hr

theorem Post.ite {p : Prop} [Decidable p] {x y : Res α} (hx : Post guards Q x) (hy : Post guards Q y) :
    Post guards Q (if p then x else y) := by
  split <;> assumption

theorem Post.byCases {p : Prop} [Decidable p] {x y : Res α} (hx : p → Post guards Q x) (hy : ¬ p → Post guards Q y) :
    Post guards Q (if p then x else y) := by
  split
  · exact hx ‹_›
  · exact hy ‹_›

theorem Post.guard {b : Bool} (hb : guards → b = true) {x : Res α} (hx : ¬ guards → Post guards Q x) :
    Post guards Q (if b = true then .error else x) := by
  split
  · trivial
  · rename_i h; exact hx fun g => h (hb g)

end

/-- `f`, started anywhere, returns with stream and frame still together (as far as `acct` is granted: the plugged-in record-set
reader is only assumed to account when `acct`), or fails; it crashes only if the guards are off -/
abbrev Walk {α : Type} (acct guards : Prop) (f : Dec → Res α) : Prop :=
  ∀ {d0 d : Dec}, (acct → DAdv d0 d) → Post guards (fun _ d' => acct → DAdv d0 d') (f d)

theorem Walk.acc {α : Type} {guards : Prop} {f : Dec → Res α} (h : Walk True guards f) : Acc f :=
  fun d _ _ e => (h fun _ => DAdv.refl d).ok e trivial

theorem Walk.of_acc {α : Type} {acct : Prop} {f : Dec → Res α} (h : acct → Acc f) : Walk acct False f := by
  intro d0 d h0
  cases e : f d with
  | ok a d' => exact fun ha => (h0 ha).trans (h ha d a d' e)
  | error => trivial
  | panic => exact id
  | balloon => exact id

theorem readUvarintAux_suffix : ∀ (fuel : Nat) (bs : Bytes) (v : Nat) (rest : Bytes),
    readUvarintAux fuel bs = some (v, rest) → ∃ j, j ≤ fuel ∧ j ≤ bs.length ∧ rest = bs.drop j
  | 0, _, _, _, h => by simp [readUvarintAux] at h
  | _ + 1, [], _, _, h => by simp [readUvarintAux] at h
  | fuel + 1, b :: bs, v, rest, h => by
    simp only [readUvarintAux] at h
    split at h
    · simp only [Option.some.injEq, Prod.mk.injEq] at h
      exact ⟨1, by omega, by simp, by rw [← h.2]; rfl⟩
    · split at h
      · rename_i v' r' heq
        simp only [Option.some.injEq, Prod.mk.injEq] at h
        obtain ⟨j, hj, hl, hr⟩ := readUvarintAux_suffix fuel bs v' r' heq
        exact ⟨j + 1, by omega, by simp; omega, by rw [← h.2, hr]; rfl⟩
      · simp at h

theorem readInt_exact {guards : Prop} (k : Nat) (d : Dec) :
    Post guards (fun i d' => k ≤ d.remain ∧ k ≤ d.inp.length ∧ i = toS (8 * k) (fromBE (d.inp.take k)) ∧
      d' = ⟨d.inp.drop k, d.remain - k⟩) (readInt k d) := by
  unfold readInt readN
  split
  · rename_i hk
    exact ⟨hk.1, hk.2, rfl, rfl⟩
  · trivial

theorem readLen_exact (cfg : Cfg) {guards : Prop} (hg : guards → cfg.bounded = true ∧ cfg.growing = true) (n : Int) (d : Dec) :
    Post guards (fun bs d' => 0 ≤ n ∧ n.toNat ≤ d.remain ∧ n.toNat ≤ d.inp.length ∧ bs = d.inp.take n.toNat ∧
      d' = ⟨d.inp.drop n.toNat, d.remain - n.toNat⟩) (readLen cfg n d) := by
  unfold readLen
  refine Post.byCases (fun _ => Post.guard (fun g => (hg g).1) id) fun h0 =>
    Post.byCases (fun _ => Post.guard (fun g => (hg g).1) id) fun hr =>
    Post.byCases (fun hb g => ?_) fun _ => Post.byCases (fun hl => ⟨by omega, by omega, hl, rfl, rfl⟩) fun _ => trivial
  simp only [(hg g).2, Bool.not_true, Bool.false_and, Bool.false_eq_true] at hb

theorem allocElems_exact (cfg : Cfg) {guards : Prop} (hg : guards → cfg.bounded = true ∧ cfg.growing = true) (n : Int)
    (d : Dec) :
    Post guards (fun k d' => k ≤ d.remain ∧ d' = d) (allocElems cfg n d) := by
  unfold allocElems
  refine Post.byCases (fun _ => Post.guard (fun g => (hg g).1) id) fun h0 =>
    Post.byCases (fun _ => Post.guard (fun g => (hg g).1) id) fun hr =>
    Post.byCases (fun hb g => ?_) fun _ => ⟨by omega, rfl⟩
  simp only [(hg g).2, Bool.not_true, Bool.false_and, Bool.false_eq_true] at hb

section
variable {acct guards : Prop} {d0 d : Dec} (h : acct → DAdv d0 d)
include h

theorem DAdv.step {d' : Dec} (x : DAdv d d') : acct → DAdv d0 d' := fun ha => (h ha).trans x

theorem readN_walk (k : Nat) : Post guards (fun _ d' => acct → DAdv d0 d') (readN k d) := by
  unfold readN
  exact Post.byCases (fun hk => DAdv.step h ⟨k, hk.2, rfl, by simp only []; omega⟩) fun _ => trivial

theorem readInt_walk (k : Nat) : Post guards (fun _ d' => acct → DAdv d0 d') (readInt k d) :=
  (readN_walk h k).bind fun _ _ a => a

theorem readUvarint_walk : Post guards (fun _ d' => acct → DAdv d0 d') (readUvarint d) := by
  unfold readUvarint
  generalize heq : readUvarintAux (min 11 d.remain) d.inp = o
  obtain _ | ⟨v, rest⟩ := o
  · trivial
  · obtain ⟨j, hj, hl, hr⟩ := readUvarintAux_suffix _ _ _ _ heq
    refine DAdv.step h ⟨j, hl, hr, ?_⟩
    simp only [hr, List.length_drop]
    omega

/-- `discardAll` takes what is left of the frame: together with the bytes accounted for since `d0`, all of `d0.remain` -/
theorem discardAll_walk :
    Post guards (fun _ d' => acct → Drained d0 d') (discardAll d) := by
  unfold discardAll
  refine Post.byCases (fun hle ha => ?_) fun _ => trivial
  obtain ⟨n, hn, hi, hrem⟩ := h ha
  rw [hi, List.length_drop] at hle
  refine ⟨by omega, ?_⟩
  rw [hi, List.drop_drop]
  congr 2
  omega

end

section
variable (cfg : Cfg) {acct guards : Prop}

theorem tagCount_walk {d0 d : Dec} (h : acct → DAdv d0 d) (u : Nat) :
    Post guards (fun _ d' => acct → DAdv d0 d') (tagCount cfg u d) := by
  unfold tagCount
  exact Post.ite (Post.ite trivial h) (Post.ite trivial h)

theorem decodeElems_walk {f : Dec → Res Val} (z : Val) (hf : Walk acct guards f) :
    ∀ n : Nat, Walk acct guards (decodeElems f z n)
  | 0, _, _, h => h
  | n + 1, _, _, h => by
    unfold decodeElems
    exact Post.ite h ((hf h).bind fun _ _ h => (decodeElems_walk z hf n h).bind fun _ _ h => h)

theorem decodeFields_walk : ∀ (fs : List Ty), (∀ t ∈ fs, Walk acct guards (decode cfg t)) → Walk acct guards (decodeFields cfg fs)
  | [], _, _, _, h => h
  | t :: ts, ht, _, _, h => by
    unfold decodeFields
    exact (ht t (List.mem_cons_self ..) h).bind fun _ _ h =>
      (decodeFields_walk ts (fun t' h' => ht t' (List.mem_cons_of_mem _ h')) h).bind fun _ _ h => h

theorem tagLookup_walk : ∀ (ids : List Int) (ts : List Ty), (∀ t ∈ ts, Walk acct guards (decode cfg t)) →
    ∀ (k : Nat) (id : Int) (idx : Nat) (dec : Dec → Res Val), tagLookup cfg ids ts k id = some (idx, dec) → Walk acct guards dec
  | [], _, _, _, _, _, _, h => by simp [tagLookup] at h
  | _ :: _, [], _, _, _, _, _, h => by simp [tagLookup] at h
  | i :: is, t :: ts, hts, k, id, idx, dec, h => by
    unfold tagLookup at h
    split at h
    · rename_i r heq
      cases h
      exact tagLookup_walk is ts (fun t' ht' => hts t' (List.mem_cons_of_mem _ ht')) (k + 1) id idx dec heq
    · split at h
      · cases h
        exact hts t (List.mem_cons_self ..)
      · cases h

theorem decLen_walk (compact : Bool) (k : Nat) (nul : Val) {body : Int → Dec → Res Val}
    (hbody : ∀ n, Walk acct guards (body n)) : Walk acct guards (decLen cfg compact k nul body) :=
  fun h => Post.ite ((readUvarint_walk h).bind fun _ _ h => Post.ite h (hbody _ h))
    ((readInt_walk h k).bind fun _ _ h => Post.ite h (hbody _ h))

theorem bool_walk : Walk acct guards (decode cfg .bool) :=
  fun h => by simp only [decode]; exact (readN_walk h 1).bind fun _ _ h => h

theorem int_walk {t : Ty} {k : Nat} (i : IntTy t k) : Walk acct guards (decode cfg t) :=
  fun h => by rw [i.decode]; exact (readInt_walk h k).bind fun _ _ h => h

theorem float64_walk : Walk acct guards (decode cfg .float64) :=
  fun h => by simp only [decode]; exact (readN_walk h 8).bind fun _ _ h => h

variable (hg : guards → cfg.bounded = true ∧ cfg.growing = true)
include hg

section
variable {d0 d : Dec} (h : acct → DAdv d0 d)
include h

theorem readLen_walk (n : Int) : Post guards (fun _ d' => acct → DAdv d0 d') (readLen cfg n d) :=
  (readLen_exact cfg hg n d).mono fun _ _ ⟨_, hr, hl, _, e⟩ => e ▸ DAdv.step h ⟨n.toNat, hl, rfl, by simp only []; omega⟩

theorem allocElems_walk (n : Int) : Post guards (fun _ d' => acct → DAdv d0 d') (allocElems cfg n d) :=
  (allocElems_exact cfg hg n d).mono fun _ _ ⟨_, e⟩ => e ▸ h

end

theorem taggedLoop_walk {lookup : Int → Option (Nat × (Dec → Res Val))}
    (hl : ∀ id idx dec, lookup id = some (idx, dec) → Walk acct guards dec) :
    ∀ (n : Nat) (slots : List Val), Walk acct guards (taggedLoop cfg lookup n slots)
  | 0, _, _, _, h => h
  | n + 1, slots, _, _, h => by
    unfold taggedLoop
    refine (readUvarint_walk h).bind fun tagID _ h => (readUvarint_walk h).bind fun size _ h => ?_
    split
    · rename_i idx dec heq
      exact (hl _ idx dec heq h).bind fun _ _ h => taggedLoop_walk hl n _ h
    · exact (readLen_walk cfg hg h _).bind fun _ _ h => taggedLoop_walk hl n _ h

theorem bytes_walk (mk : Bytes → Val) (n : Int) : Walk acct guards fun d => (readLen cfg n d).bind fun bs d => .ok (mk bs) d :=
  fun h => (readLen_walk cfg hg h n).bind fun _ _ h => h

theorem elems_walk {t : Ty} (ht : Walk acct guards (decode cfg t)) (m : Int) :
    Walk acct guards fun d => (allocElems cfg m d).bind fun k d =>
      (decodeElems (decode cfg t) (zero t) k d).bind fun vs d => .ok (Val.arr (some vs)) d :=
  fun h => (allocElems_walk cfg hg h m).bind fun k _ h => (decodeElems_walk (zero t) ht k h).bind fun _ _ h => h

theorem array_walk (c n : Bool) {t : Ty} (ht : Walk acct guards (decode cfg t)) : Walk acct guards (decode cfg (.array c n t)) := by
  rw [decode_array]
  exact decLen_walk cfg c 4 _ (elems_walk cfg hg ht)

theorem struct_walk (flex : Bool) {fs : List Ty} (ids : List Int) {ts : List Ty}
    (hfs : ∀ t ∈ fs, Walk acct guards (decode cfg t)) (hts : ∀ t ∈ ts, Walk acct guards (decode cfg t)) :
    Walk acct guards (decode cfg (.struct flex fs ids ts)) := by
  intro d0 d h
  simp only [decode]
  exact (decodeFields_walk cfg fs hfs h).bind fun vs _ h =>
    Post.ite ((readUvarint_walk h).bind fun n _ h => (tagCount_walk cfg h n).bind fun k _ h =>
      (taggedLoop_walk cfg hg (tagLookup_walk cfg ids ts hts 0) k _ h).bind fun _ _ h => h) h

theorem unit_walk (flex : Bool) : Walk acct guards (decode cfg (.unit flex)) := by
  intro d0 d h
  simp only [decode]
  exact Post.ite ((readUvarint_walk h).bind fun n _ h => (tagCount_walk cfg h n).bind fun k _ h =>
    (taggedLoop_walk cfg hg (lookup := fun _ => none) (fun _ _ _ e => nomatch e) k _ h).bind fun _ _ h => h) h

theorem records_walk (hr : ∀ f, cfg.recs = some f → Walk acct guards f) : Walk acct guards (decode cfg .records) := by
  intro d0 d h
  simp only [decode]
  split
  · rename_i f heq
    exact hr f heq h
  · exact (readInt_walk h 4).bind fun _ _ h => Post.ite h (bytes_walk cfg hg _ _ h)

theorem walk_all (hr : ∀ f, cfg.recs = some f → Walk acct guards f) : ∀ t, Walk acct guards (decode cfg t) :=
  Ty.ind (bool := bool_walk cfg) (int := int_walk cfg) (float64 := float64_walk cfg)
    (string := fun c n => decode_string cfg c n ▸ decLen_walk cfg c 2 _ (bytes_walk cfg hg .str))
    (bytes := fun c n => decode_bytes cfg c n ▸ decLen_walk cfg c 4 _ (bytes_walk cfg hg fun bs => .bytes (some bs)))
    (array := fun c n _ => array_walk cfg hg c n) (struct := fun flex _ ids _ => struct_walk cfg hg flex ids)
    (unit := unit_walk cfg hg) (records := records_walk cfg hg hr)

theorem skipHeaderTags_walk : ∀ n : Nat, Walk acct guards (skipHeaderTags cfg n)
  | 0, _, _, h => h
  | n + 1, _, _, h => by
    unfold skipHeaderTags
    exact (readUvarint_walk h).bind fun _ _ h => (readUvarint_walk h).bind fun _ _ h =>
      (readLen_walk cfg hg h _).bind fun _ _ h => skipHeaderTags_walk n h

/-- the header tag buffer of ReadResponse / ReadRequest -/
theorem headerTags_walk (flex : Bool) :
    Walk acct guards fun d =>
      if flex then (readUvarint d).bind fun n d => (tagCount cfg n d).bind fun k d => skipHeaderTags cfg k d else .ok () d :=
  fun h => Post.ite ((readUvarint_walk h).bind fun n _ h => (tagCount_walk cfg h n).bind fun k _ h =>
    skipHeaderTags_walk cfg hg k h) h

/-- what `ReadResponse` does after the size prefix, from the state `D` = ⟨rest of the stream, announced size⟩ -/
theorem frameTail_walk (hr : ∀ f, cfg.recs = some f → Walk acct guards f) (flex : Bool) (t : Ty) (D : Dec) :
    Post guards (fun _ d' => acct → Drained D d')
      ((readInt 4 D).bind fun corr d =>
        (if flex then (readUvarint d).bind fun n d => (tagCount cfg n d).bind fun k d => skipHeaderTags cfg k d
          else .ok () d).bind fun _ d =>
        (decode cfg t d).bind fun v d => (discardAll d).bind fun _ d => .ok (corr, v) d) :=
  (readInt_walk (d0 := D) (fun _ => DAdv.refl _) 4).bind fun _ _ h => (headerTags_walk cfg hg flex h).bind fun _ _ h =>
    (walk_all cfg hg hr t h).bind fun _ _ h => (discardAll_walk h).bind fun _ _ h => h

theorem readResponse_walk (hr : ∀ f, cfg.recs = some f → Walk acct guards f) (flex : Bool) (t : Ty) (stream : Bytes) :
    Post guards (fun _ d' => acct → OneFrame stream d') (readResponse cfg flex t stream) := by
  unfold readResponse
  refine (readInt_exact 4 _).bind fun size d ⟨_, hk, hs, hd⟩ => ?_
  subst hs hd
  refine Post.byCases (fun _ => Post.guard (fun g => (hg g).1) id) fun hneg =>
    (frameTail_walk cfg hg hr flex t ⟨stream.drop 4, _⟩).mono fun _ _ h ha => ?_
  obtain ⟨hle, rfl⟩ := h ha
  replace hle : (toS (8 * 4) (fromBE (stream.take 4))).toNat ≤ stream.length - 4 := by simpa only [List.length_drop] using hle
  replace hk : 4 ≤ stream.length := hk
  exact ⟨(toS (8 * 4) (fromBE (stream.take 4))).toNat, by omega, (Int.toNat_of_nonneg (Int.not_lt.1 hneg)).symm,
    List.drop_drop .., rfl⟩

end

theorem tagBuffer_adv (cfg : Cfg) (lookup : Int → Option (Nat × (Dec → Res Val)))
    (hl : ∀ id idx dec, lookup id = some (idx, dec) → Acc dec) (slots : List Val) (d d' : Dec) (out : List Val)
    (h : ((readUvarint d).bind fun n d => (tagCount cfg n d).bind fun k d => taggedLoop cfg lookup k slots d) = .ok out d') :
    DAdv d d' :=
  ((readUvarint_walk (guards := False) fun _ : True => DAdv.refl d).bind fun n _ h => (tagCount_walk cfg h n).bind fun k _ h =>
    taggedLoop_walk cfg False.elim (fun id idx dec e => Walk.of_acc fun _ => hl id idx dec e) k slots h).ok h trivial

theorem RecsAcc.walk {cfg : Cfg} (hr : RecsAcc cfg) : ∀ f, cfg.recs = some f → Walk True False f :=
  fun f e => Walk.of_acc fun _ => hr f e

theorem da_all (cfg : Cfg) (hr : RecsAcc cfg) (t : Ty) : DA cfg t :=
  Walk.acc (walk_all cfg (guards := False) False.elim hr.walk t)

theorem da_list (cfg : Cfg) (hr : RecsAcc cfg) (ts : List Ty) : ∀ t ∈ ts, DA cfg t :=
  fun t _ => da_all cfg hr t

end KV.Codec
