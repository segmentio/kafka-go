/-
Lemmas/GroupReq.lean — the group requests the legacy Conn writes (C04 regenerates their `writeTo` into Gen/Legacy.lean)
are the Kafka layouts of Spec/GroupWire.lean `Req.*`: field order BY NAME, not only by type.  The primitives of write.go
and of the layouts are the same functions (`writeString = Req.wstr`, `writeArray = arr`, … hold by unfolding), so a layout
is read off the writer once the tuples the layout takes are mapped into the array elements (`arr_map`).
-/
import KafkaVerif.Spec.GroupWire
import KafkaVerif.Gen.Legacy
namespace KV.GroupReq
open KV KV.Legacy KV.Gen.Legacy KV.Spec.GroupWire

theorem arr_map {α β : Type} (l : List α) (g : α → β) (f : β → Bytes) : arr (l.map g) f = arr l (fun x => f (g x)) := by
  simp only [arr, List.length_map, List.map_map, Function.comp_def]

theorem leave_layout (t : leaveGroupRequestV0) : leaveGroupRequestV0.writeTo t = Req.leaveGroup t.GroupID t.MemberID := rfl

theorem heartbeat_layout (t : heartbeatRequestV0) :
    heartbeatRequestV0.writeTo t = Req.heartbeat t.GroupID t.GenerationID t.MemberID := rfl

theorem findCoordinator_layout (t : findCoordinatorRequestV0) :
    findCoordinatorRequestV0.writeTo t = Req.findCoordinator t.CoordinatorKey := rfl

theorem join_layout (t : joinGroupRequest) :
    joinGroupRequest.writeTo t = Req.joinGroup t.GroupID t.SessionTimeout t.RebalanceTimeout t.MemberID t.ProtocolType
      (t.GroupProtocols.map fun p => (p.ProtocolName, p.ProtocolMetadata)) := by
  rw [Req.joinGroup, arr_map]; rfl

theorem sync_layout (t : syncGroupRequestV0) :
    syncGroupRequestV0.writeTo t = Req.syncGroup t.GroupID t.GenerationID t.MemberID
      (t.GroupAssignments.map fun a => (a.MemberID, a.MemberAssignments)) := by
  rw [Req.syncGroup, arr_map]; rfl

theorem offsetCommit_layout (t : offsetCommitRequestV2) :
    offsetCommitRequestV2.writeTo t = Req.offsetCommit t.GroupID t.GenerationID t.MemberID t.RetentionTime
      (t.Topics.map fun x => (x.Topic, x.Partitions.map fun p => (p.Partition, p.Offset, p.Metadata))) := by
  simp only [Req.offsetCommit, arr_map]; rfl

theorem offsetFetch_layout (t : offsetFetchRequestV1) :
    offsetFetchRequestV1.writeTo t = Req.offsetFetch t.GroupID (t.Topics.map fun x => (x.Topic, x.Partitions)) := by
  rw [Req.offsetFetch, arr_map]; rfl

end KV.GroupReq
