/- Lemmas/BalancerRange.lean — the index arithmetic of the balancers: the index each computes is below `len(partitions)`,
so the answer is an offered partition; 32-bit / int32 conversions; the list `loadCachedPartitions` returns. -/
import KafkaVerif.Model.Balancer
import KafkaVerif.Spec.Partitioners

namespace KV.Balancer
open KV

theorem u32_mod_toNat (x : UInt32) (n : Nat) (h : n < 4294967296) :
    (x % UInt32.ofNat n).toNat = x.toNat % n := by
  rw [UInt32.toNat_mod, UInt32.toNat_ofNat_of_lt' h]

theorem ofNat_ne_zero (n : Nat) (h0 : 0 < n) (h : n < 4294967296) : UInt32.ofNat n ≠ 0 := by
  intro e
  have := congrArg UInt32.toNat e
  rw [UInt32.toNat_ofNat_of_lt' h] at this
  simp at this; omega

theorem getElem?_mem_of_lt (parts : List Int) (i : Nat) (h : i < parts.length) :
    ∃ p, parts[i]? = some p ∧ p ∈ parts :=
  ⟨parts[i], by simp [h], List.getElem_mem h⟩

theorem mod_offered (parts : List Int) (i : Nat) (h0 : parts ≠ []) :
    ∃ p, parts[i % parts.length]? = some p ∧ p ∈ parts :=
  getElem?_mem_of_lt parts _ (Nat.mod_lt _ (List.length_pos_iff.mpr h0))

/-- the keyed branch of `crc32Balance` / `murmur2Balance`: `partitions[hash % uint32(len(partitions))]` -/
theorem u32_index_offered (x : UInt32) (parts : List Int) (h0 : parts ≠ []) (h : parts.length < 4294967296) :
    ∃ p, (if UInt32.ofNat parts.length = 0 then none else parts[(x % UInt32.ofNat parts.length).toNat]?) = some p ∧
      p ∈ parts := by
  have hpos : 0 < parts.length := List.length_pos_iff.mpr h0
  rw [if_neg (ofNat_ne_zero _ hpos h)]
  exact getElem?_mem_of_lt parts _ (by rw [u32_mod_toNat _ _ h]; exact Nat.mod_lt _ hpos)

/-- the same branch on the list `[0, …, n-1]` a Writer offers: the partition `hash % n` -/
theorem u32_index_range (x : UInt32) (n : Nat) (h0 : 0 < n) (h : n < 4294967296) :
    (if UInt32.ofNat ((List.range n).map Int.ofNat).length = 0 then none
      else ((List.range n).map Int.ofNat)[(x % UInt32.ofNat ((List.range n).map Int.ofNat).length).toNat]?) =
      some (Int.ofNat (x.toNat % n)) := by
  rw [List.length_map, List.length_range, if_neg (ofNat_ne_zero n h0 h), u32_mod_toNat _ n h, List.getElem?_map,
    List.getElem?_range (Nat.mod_lt _ h0)]
  rfl

theorem mask31_toNat (x : UInt32) : (x &&& (0x7fffffff : UInt32)).toNat = x.toNat % 2147483648 := by
  rw [UInt32.toNat_and]
  have : (0x7fffffff : UInt32).toNat = 2^31 - 1 := by decide
  rw [this, Nat.and_two_pow_sub_one_eq_mod]

theorem lenInt32_small (n : Nat) (h : n < 2147483648) : lenInt32 n = (n : Int) := by
  unfold lenInt32
  have : n % 4294967296 = n := Nat.mod_eq_of_lt (by omega)
  simp [this, h]

theorem toInt32_eq_spec (x : UInt32) : toInt32 x = Spec.asInt32 x.toNat := by
  unfold toInt32 Spec.asInt32 Spec.two31 Spec.two32
  split <;> simp

/-- `|a tmod n| < n` and `≥ 0` — the arithmetic of `Hash.Balance` -/
theorem abs_tmod_range (a : Int) (n : Int) (hn : 0 < n) :
    let p := a.tmod n
    0 ≤ (if p < 0 then -p else p) ∧ (if p < 0 then -p else p) < n := by
  intro p
  have h1 : p < n := Int.tmod_lt_of_pos a hn
  have h2 : -n < p := by
    have := Int.lt_tmod_of_pos a hn
    simpa using this
  split <;> omega

theorem loadCached_eq (cache : Option Nat) (n : Nat) :
    ∃ c, n ≤ c ∧ loadCachedPartitions cache n = (some c, ((List.range c).map Int.ofNat).take n) := by
  have hbig : n ≤ (n / 128 + 1) * 128 := by omega
  unfold loadCachedPartitions
  cases cache with
  | none => exact ⟨_, hbig, rfl⟩
  | some c =>
    simp only
    split
    · exact ⟨c, by assumption, rfl⟩
    · exact ⟨_, hbig, rfl⟩

end KV.Balancer
