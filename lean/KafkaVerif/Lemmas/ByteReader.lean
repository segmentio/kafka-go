/-
Lemmas/ByteReader.lean — the byte-level reads of the legacy decoder (Model/ByteReader.lean) against the record format
(Spec/RecordBatch.lean): on the encoding of a value followed by anything, with at least as many bytes of the message
set left as the encoding is long, a read returns the value and consumes exactly the encoding; with fewer it fails with
errShortRead (`AllOrShort`).
-/
import KafkaVerif.Model.ByteReader
import KafkaVerif.Lemmas.ByteEncoders

namespace KV.C02.BR
open KV KV.RW KV.Spec.RB

def AllOrShort {α : Type} (p : M α) (e : Bytes) (v : α) : Prop :=
  ∀ (rest : Bytes) (remain : Nat),
    (e.length ≤ remain → p ⟨e ++ rest, remain⟩ = .ok (v, ⟨rest, remain - e.length⟩)) ∧
    (remain < e.length → ∃ r', p ⟨e ++ rest, remain⟩ = .error (.short, r'))

theorem aos_pure {α : Type} (v : α) : AllOrShort (M.pure v) [] v := by
  intro rest remain
  exact ⟨fun _ => by simp [M.pure], fun h => by simp at h⟩

theorem aos_bind {α β : Type} {p : M α} {q : α → M β} {e1 e2 : Bytes} {v1 : α} {v2 : β}
    (h1 : AllOrShort p e1 v1) (h2 : AllOrShort (q v1) e2 v2) : AllOrShort (M.bind p q) (e1 ++ e2) v2 := by
  intro rest remain
  obtain ⟨a1, a2⟩ := h1 (e2 ++ rest) remain
  constructor
  · intro hle
    simp only [List.length_append] at hle
    have := a1 (by omega)
    obtain ⟨b1, _⟩ := h2 rest (remain - e1.length)
    simp only [M.bind, List.append_assoc, this, b1 (by omega), List.length_append, Nat.sub_sub]
  · intro hlt
    simp only [List.length_append] at hlt
    by_cases hc : remain < e1.length
    · obtain ⟨r', hr'⟩ := a2 hc
      exact ⟨r', by simp only [M.bind, List.append_assoc, hr']⟩
    · have := a1 (by omega)
      obtain ⟨_, b2⟩ := h2 rest (remain - e1.length)
      obtain ⟨r', hr'⟩ := b2 (by omega)
      exact ⟨r', by simp only [M.bind, List.append_assoc, this, hr']⟩

theorem aos_bind_nil {α β : Type} {p : M α} {q : α → M β} {e : Bytes} {v1 : α} {v2 : β}
    (h1 : AllOrShort p e v1) (h2 : AllOrShort (q v1) [] v2) : AllOrShort (M.bind p q) e v2 :=
  List.append_nil e ▸ aos_bind h1 h2

theorem aos_map {α β : Type} {p : M α} {e : Bytes} {v : α} (h : AllOrShort p e v) (f : α → β) :
    AllOrShort (M.bind p fun a => M.pure (f a)) e (f v) :=
  aos_bind_nil h (aos_pure _)

theorem aos_readVarInt (x : Int) : AllOrShort readVarInt (varint x) x := by
  intro rest remain
  constructor
  · intro hle
    have hr : readUvarint (varint x ++ rest.take (remain - (varint x).length)) = some (zigzag x, _) :=
      readUvarint_uvarint _ _
    simp only [readVarInt, take_append_ge _ _ _ hle, hr, unzigzag_zigzag, List.length_append, Nat.add_sub_cancel,
      List.drop_left']
  · intro hlt
    have : readUvarint ((varint x).take remain) = none := readUvarint_prefix (zigzag x) remain hlt
    simp only [readVarInt, List.take_append_of_le_length (Nat.le_of_lt hlt), this]
    exact ⟨_, rfl⟩

theorem aos_readInt_of {k m : Nat} {e : Bytes} {x : Int} (hl : e.length = k)
    (hr : ∀ rest, readI k m (e ++ rest) = some (x, rest)) : AllOrShort (readInt k m) e x := by
  intro rest remain
  rw [hl]
  exact ⟨fun hle => by simp only [readInt, Nat.not_lt.mpr hle, if_false, hr],
    fun hlt => ⟨_, by simp only [readInt]; rw [if_pos hlt]⟩⟩

/-- any `k` bytes, whatever they encode: the attributes byte of a record, a checksum -/
theorem aos_readInt (k m : Nat) (e : Bytes) (he : e.length = k) : AllOrShort (readInt k m) e (toS m (deN e)) :=
  aos_readInt_of he fun rest => by simp [readI, readN, he.symm]

theorem aos_readInt8 (x : Int) (h : InRange M8 x) : AllOrShort readInt8 (i8 x) x :=
  aos_readInt_of (i8_length x) fun rest => readI8_i8 x rest h

theorem aos_readInt16 (x : Int) (h : InRange M16 x) : AllOrShort readInt16 (i16 x) x :=
  aos_readInt_of (i16_length x) fun rest => readI16_i16 x rest h

theorem aos_readInt32 (x : Int) (h : InRange M32 x) : AllOrShort readInt32 (i32 x) x :=
  aos_readInt_of (i32_length x) fun rest => readI32_i32 x rest h

theorem aos_readInt64 (x : Int) (h : InRange M64 x) : AllOrShort readInt64 (i64 x) x :=
  aos_readInt_of (i64_length x) fun rest => readI64_i64 x rest h

theorem aos_readNewBytes (b : Bytes) : AllOrShort (readNewBytes (b.length : Int)) b b := by
  intro rest remain
  by_cases h0 : b = []
  · subst h0; simp [readNewBytes]
  have hpos : ¬ ((b.length : Int) ≤ 0) := by
    have : 0 < b.length := List.length_pos_iff.mpr h0
    omega
  simp only [readNewBytes, hpos, if_false, Int.toNat_natCast]
  constructor
  · intro hle
    rw [if_neg (by omega), if_neg (by simp)]
    simp only [List.take_left', List.drop_left']
  · intro hlt
    rw [if_pos hlt, if_pos (by simp; omega)]
    exact ⟨_, rfl⟩

theorem aos_readNewBytes_neg (n : Int) (hn : n ≤ 0) : AllOrShort (readNewBytes n) [] [] := by
  intro rest remain
  exact ⟨fun _ => by simp [readNewBytes, hn], fun h => by simp at h⟩

theorem aos_readMessageBytes_some (b : Bytes) : AllOrShort (readMessageBytes (b.length : Int)) b (some b) := by
  have := aos_map (aos_readNewBytes b) fun x => if (b.length : Int) < 0 then none else some x
  rwa [if_neg (by omega)] at this

theorem aos_readMessageBytes_none (n : Int) (hn : n < 0) : AllOrShort (readMessageBytes n) [] none := by
  have := aos_map (aos_readNewBytes_neg n (by omega)) fun x => if n < 0 then none else some x
  rwa [if_pos hn] at this

theorem aos_runFunc : ∀ ob : Option Bytes, AllOrShort runFunc (varbytes ob) ob
  | none => aos_bind_nil (aos_readVarInt (-1)) (aos_readMessageBytes_none (-1) (by omega))
  | some b => aos_bind (aos_readVarInt (b.length : Int)) (aos_readMessageBytes_some b)

theorem aos_readMessageHeader (h : Hdr) : AllOrShort readMessageHeader (encHdr h) (h.key, h.value) := by
  obtain ⟨key, value⟩ := h
  refine aos_bind (aos_readVarInt _) <| aos_bind (aos_readNewBytes key) ?_
  cases value with
  | none => exact aos_bind_nil (aos_readVarInt (-1)) <| aos_map (aos_readMessageBytes_none (-1) (by omega)) _
  | some b => exact aos_bind (aos_readVarInt _) <| aos_map (aos_readMessageBytes_some b) _

theorem aos_readMessageHeaders : ∀ (hs : List Hdr),
    AllOrShort (readMessageHeaders hs.length) (encHdrs hs) (hs.map fun h => (h.key, h.value))
  | [] => aos_pure _
  | h :: hs => aos_bind (aos_readMessageHeader h) <| aos_map (aos_readMessageHeaders hs) _

/-- what the Go code takes from a record of the format -/
def viewOf (rec : RecV2) : RecView :=
  { offDelta := rec.offDelta, tsDelta := rec.tsDelta, key := rec.key, value := rec.value,
    headers := rec.headers.map fun h => (h.key, h.value), consumed := ((encRec rec).length : Int) }

/-- `if headerCount > 0 { … readMessageHeader … }` of readMessageV2 -/
theorem aos_headersBranch (hs : List Hdr) :
    AllOrShort (if ((hs.length : Int)) > 0 then readMessageHeaders ((hs.length : Int)).toNat else M.pure [])
      (encHdrs hs) (hs.map fun h => (h.key, h.value)) := by
  cases hs with
  | nil => exact aos_pure _
  | cons h t =>
    rw [if_pos (by simp only [List.length_cons]; omega), Int.toNat_natCast]
    exact aos_readMessageHeaders (h :: t)

theorem aos_recTail (rec : RecV2) (len lol : Int) :
    AllOrShort (recTail len lol) (recBody rec) { viewOf rec with consumed := len + lol } :=
  aos_bind (e1 := [rec.attrs]) (aos_readInt 1 M8 [rec.attrs] rfl) <| aos_bind (aos_readVarInt rec.tsDelta) <|
    aos_bind (aos_readVarInt rec.offDelta) <| aos_bind (aos_runFunc rec.key) <| aos_bind (aos_runFunc rec.value) <|
    aos_bind (aos_readVarInt rec.headers.length) <| aos_map (aos_headersBranch rec.headers) _

theorem readRecordV2_spec (rec : RecV2) : AllOrShort readRecordV2 (encRec rec) (viewOf rec) := by
  intro rest remain
  obtain ⟨hv1, hv2⟩ := aos_readVarInt ((recBody rec).length : Int) (recBody rec ++ rest) remain
  rw [encRec, List.append_assoc, List.length_append]
  by_cases hc : (varint ((recBody rec).length : Int)).length ≤ remain
  · -- the length prefix is there: `lengthOfLength` is its size, and `recTail` reads the body
    have hlol : (remain : Int) - ((remain - (varint ((recBody rec).length : Int)).length : Nat) : Int)
        = ((varint ((recBody rec).length : Int)).length : Int) := by omega
    obtain ⟨t1, t2⟩ := aos_recTail rec ((recBody rec).length : Int) ((varint ((recBody rec).length : Int)).length : Int) rest
      (remain - (varint ((recBody rec).length : Int)).length)
    simp only [readRecordV2, hv1 hc, hlol]
    refine ⟨fun hle => ?_, fun hlt => t2 (by omega)⟩
    rw [t1 (by omega), Nat.sub_sub]
    simp only [viewOf, encRec, List.length_append, Int.natCast_add, Int.add_comm]
  · exact ⟨fun hle => by omega, fun _ => let ⟨r', hr'⟩ := hv2 (by omega); ⟨r', by simp only [readRecordV2, hr']⟩⟩

theorem aos_guard {α : Type} {q : M α} {e : Bytes} {v : α} (n : Int) (hq : AllOrShort q e v) (hn : n ≤ e.length) :
    AllOrShort (fun r => if n > (r.remain : Int) then .error (.short, r) else q r) e v := by
  intro rest remain
  by_cases h : n > (remain : Int)
  · exact ⟨fun hle => by omega, fun _ => ⟨_, if_pos h⟩⟩
  · obtain ⟨q1, q2⟩ := hq rest remain
    exact ⟨fun hle => (if_neg h).trans (q1 hle), fun hlt => let ⟨r', hr'⟩ := q2 hlt; ⟨r', (if_neg h).trans hr'⟩⟩

theorem aos_readBytes32 : ∀ ob : Option Bytes, InRange M32 (optLen ob : Int) → AllOrShort readBytes32 (nbytes ob) ob
  | none, _ => aos_bind_nil (aos_readInt32 (-1) (by decide)) <|
      aos_guard (-1) (aos_readMessageBytes_none (-1) (by omega)) (by simp)
  | some b, h => aos_bind (aos_readInt32 (b.length : Int) h) <| aos_guard _ (aos_readMessageBytes_some b) (Int.le_refl _)

theorem aos_discardN (b : Bytes) : AllOrShort (discardN b.length) b () := by
  intro rest remain
  constructor
  · intro hle
    have h2 : b.length ≤ (b ++ rest).length := by simp
    simp only [discardN, hle, if_true, h2, List.drop_left']
  · intro hlt
    have h1 : ¬ b.length ≤ remain := by omega
    have h2 : remain ≤ (b ++ rest).length := by simp; omega
    exact ⟨⟨List.drop remain (b ++ rest), 0⟩, by simp only [discardN, h1, if_false, h2, if_true]⟩

theorem aos_discardBytes32 : ∀ ob : Option Bytes, InRange M32 (optLen ob : Int) → AllOrShort discardBytes32 (nbytes ob) ()
  | none, _ => aos_bind_nil (aos_readInt32 (-1) (by decide)) <| aos_guard (-1) (aos_pure ()) (by simp)
  | some b, h => aos_bind (aos_readInt32 (b.length : Int) h) <| aos_guard _
      (by simp only [show ¬ (b.length : Int) < 0 by omega, if_false, Int.toNat_natCast]; exact aos_discardN b) (Int.le_refl _)

theorem readBodyV1_spec (m : Msg) (hk : InRange M32 (optLen m.key : Int)) (hv : InRange M32 (optLen m.value : Int)) :
    AllOrShort readBodyV1 (encB1 m) (m.key, m.value) :=
  aos_bind (aos_readBytes32 m.key hk) <| aos_map (aos_readBytes32 m.value hv) _

theorem skipBodyV1_spec (m : Msg) (hk : InRange M32 (optLen m.key : Int)) (hv : InRange M32 (optLen m.value : Int)) :
    AllOrShort skipBodyV1 (encB1 m) () :=
  aos_bind (aos_discardBytes32 m.key hk) (aos_discardBytes32 m.value hv)

theorem readWrapV1_spec (m : Msg) (hk : InRange M32 (optLen m.key : Int)) (hv : InRange M32 (optLen m.value : Int)) :
    AllOrShort readWrapV1 (encB1 m) m.value :=
  aos_bind (aos_discardBytes32 m.key hk) (aos_readBytes32 m.value hv)

end KV.C02.BR
