/-
Lemmas/ReaderClose.lean — the successful steps of Model/ReaderClose.lean as a relation (`Step`), and its inductive
invariant.
-/
import KafkaVerif.Model.ReaderClose
import KafkaVerif.Base.Run
namespace KV.ReaderClose

/-! The guards with four and more clauses, by name (the others stand in `Step` as they are). -/

/-- `(*Reader).Close` after `r.join.Wait()` (every fetcher returned) and `<-r.done` (the group loop returned): `close(r.msgs)`,
once -/
structure Guard.CloseMsgs (s : State) : Prop where
  marked : s.close = 2
  fetchers : s.fetchers = 0
  loop : s.loop = 0
  msgsOpen : s.msgsClosed = false

/-- `(*Reader).Close` returns: `r.msgs` is closed and the connections of the fetchers and of the group loop are closed -/
structure Guard.CloseReturn (s : State) : Prop where
  marked : s.close = 2
  msgsClosed : s.msgsClosed = true
  conns : s.conns = 0
  lconns : s.lconns = 0

/-- a JoinGroup request of `(*ConsumerGroup).joinGroup`: sent by the running loop, outside a generation, over a
coordinator connection, with no member id or the one held -/
structure Guard.Join (s : State) (m : Option Nat) : Prop where
  loop : s.loop = 1
  noGen : s.gen = false
  conn : 0 < s.lconns
  member : m = none ∨ m = s.member

/-- `(*ConsumerGroup).leaveGroup(memberID)`: sent by the running loop, outside a generation, for the member id held,
over a coordinator connection -/
structure Guard.Leave (s : State) (m : Nat) : Prop where
  loop : s.loop = 1
  noGen : s.gen = false
  member : s.member = some m
  conn : 0 < s.lconns

/-- return from `(*ConsumerGroup).run`: the group is closed, no generation is running, `leaveGroup` was called for the
member id held (or the coordinator could not be looked up) and every coordinator connection it opened is closed -/
structure Guard.LoopExit (s : State) : Prop where
  loop : s.loop = 1
  closed : s.closed = true
  noGen : s.gen = false
  left : s.member = none ∨ s.leaveFail = true
  lconns : s.lconns = 0

inductive Step (s : State) : Event → State → Prop
  | callBegin (c : Nat) (k : Kind) (h : s.calls.any (·.id = c) = false) :
    Step s (.callBegin c k) { s with calls := s.calls ++ [⟨c, k, false, s.closed⟩] }
  | ctxCancel (c : Nat) (h : ∃ x, x ∈ s.calls ∧ x.id = c) :
    Step s (.ctxCancel c) { s with calls := s.calls.map fun x => if x.id = c then { x with cancelled := true } else x }
  | callRet (c : Nat) (r : Res) (h : ∃ x ∈ s.calls, x.id = c ∧ retOk s x r = true) :
    Step s (.callRet c r) { s with calls := s.calls.filter (·.id ≠ c) }
  | closeBegin (h : s.close = 0) : Step s .closeBegin { s with close := 1 }
  | closeMark (h : s.close = 1) : Step s .closeMark { s with close := 2, closed := true }
  | closeMsgs (h : Guard.CloseMsgs s) :
    Step s .closeMsgs { s with msgsClosed := true }
  | closeReturn (h : Guard.CloseReturn s) :
    Step s .closeReturn { s with close := 3 }
  | fetcherStart (h : s.closed = false ∧ (s.group = false ∨ s.gen = true)) :
    Step s .fetcherStart { s with fetchers := s.fetchers + 1 }
  | fetcherExit (h : 0 < s.fetchers) : Step s .fetcherExit { s with fetchers := s.fetchers - 1 }
  | dial (h : 0 < s.fetchers) : Step s .dial { s with conns := s.conns + 1 }
  | connClose (h : 0 < s.conns) : Step s .connClose { s with conns := s.conns - 1 }
  | coordClose (h : 0 < s.lconns) : Step s .coordClose { s with lconns := s.lconns - 1 }
  | fetchReq (h : 0 < s.fetchers ∧ 0 < s.conns) : Step s .fetchReq s
  | coordOpen (h : s.loop = 1) : Step s .coordOpen { s with lconns := s.lconns + 1 }
  | join (m : Option Nat) (h : Guard.Join s m) : Step s (.join m) s
  | joinOk (m : Nat) (h : s.loop = 1 ∧ s.gen = false) : Step s (.joinOk m) { s with member := some m, leaveFail := false }
  | joinErr (h : s.loop = 1 ∧ s.gen = false) : Step s .joinErr { s with member := none }
  | coordErr (h : s.loop = 1) : Step s .coordErr s
  | lookupFail (h : s.loop = 1) : Step s .lookupFail { s with leaveFail := true }
  | sync (h : s.loop = 1 ∧ s.member.isSome = true ∧ s.gen = false) : Step s .sync s
  | offsetFetch (h : s.loop = 1 ∧ s.member.isSome = true ∧ s.gen = false) : Step s .offsetFetch s
  | genStart (h : s.loop = 1 ∧ s.member.isSome = true ∧ s.gen = false) : Step s .genStart { s with gen := true }
  | heartbeat (m : Nat) (h : s.gen = true ∧ s.member = some m) : Step s (.heartbeat m) s
  | commit (h : s.gen = true) : Step s .commit s
  | genEnd (h : s.gen = true) : Step s .genEnd { s with gen := false }
  | leave (m : Nat) (h : Guard.Leave s m) :
    Step s (.leave m) { s with member := none }
  | loopExit (h : Guard.LoopExit s) :
    Step s .loopExit { s with loop := 0 }

theorem Step.of_step {s s' : State} {e : Event} (h : step s e = some s') : Step s e s' := by
  cases e
  all_goals
    dsimp only [step] at h
    -- the guards as propositions
    simp only [Option.ite_none_right_eq_some, Option.some.injEq, Bool.and_eq_true, Bool.or_eq_true, decide_eq_true_eq,
      Bool.not_eq_true', List.any_eq_true] at h
    obtain ⟨hg, rfl⟩ := h
    try simp only [and_assoc] at hg  -- conjunctions to the right
  case closeMsgs => exact .closeMsgs ⟨hg.1, hg.2.1, hg.2.2.1, hg.2.2.2⟩
  case closeReturn => exact .closeReturn ⟨hg.1, hg.2.1, hg.2.2.1, hg.2.2.2⟩
  case join m => exact .join m ⟨hg.1, hg.2.1, hg.2.2.1, hg.2.2.2⟩
  case leave m => exact .leave m ⟨hg.1, hg.2.1, hg.2.2.1, hg.2.2.2⟩
  case loopExit => exact .loopExit ⟨hg.1, hg.2.1, hg.2.2.1, hg.2.2.2.1, hg.2.2.2.2⟩
  all_goals
    constructor
    exact hg

theorem Step.to_step {s s' : State} {e : Event} (h : Step s e s') : step s e = some s' := by
  cases h with
  | callBegin c k h => simp [step, h]
  | ctxCancel c h => obtain ⟨x, hx, hc⟩ := h; simp only [step]; rw [if_pos (List.any_eq_true.mpr ⟨x, hx, by simpa using hc⟩)]
  | callRet c r h =>
    obtain ⟨x, hx, hc, hr⟩ := h
    simp only [step]; rw [if_pos (List.any_eq_true.mpr ⟨x, hx, by simp [hc, hr]⟩)]
  | closeMsgs h => simp [step, h.marked, h.fetchers, h.loop, h.msgsOpen]
  | closeReturn h => simp [step, h.marked, h.msgsClosed, h.conns, h.lconns]
  | join m h => have := h.member; simp [step, h.loop, h.noGen, h.conn, this]
  | leave m h => simp [step, h.loop, h.noGen, h.member, h.conn]
  | loopExit h => have := h.left; simp [step, h.loop, h.closed, h.noGen, h.lconns, this]
  | _ => simp_all [step]

theorem Step.enabled {s s' : State} {e : Event} (h : Step s e s') : (step s e).isSome = true := by rw [h.to_step]; rfl

/-- `done`, `loop0` give `resources_released` and `left_group_on_close` (Props/C09.lean), `marked` the progress and
`born_after_close` theorems; `msgs` is what makes `done` inductive; `plain`, `cl`, `lp` are bounds (`lp` bounds the loop
counter in `reader_close_progress_partial`) -/
structure Inv (s : State) : Prop where
  done : s.close = 3 → s.fetchers = 0 ∧ s.loop = 0 ∧ s.conns = 0 ∧ s.msgsClosed = true
  loop0 : s.loop = 0 → (s.member = none ∨ s.leaveFail = true) ∧ s.gen = false ∧ s.lconns = 0
  marked : 2 ≤ s.close → s.closed = true
  msgs : s.msgsClosed = true → s.fetchers = 0 ∧ s.loop = 0 ∧ s.closed = true
  plain : s.group = false → s.loop = 0
  cl : s.close ≤ 3
  lp : s.loop ≤ 1

theorem inv_init (g : Bool) : Inv (State.init g) := by
  constructor <;> simp [State.init]
  split <;> omega

/-- Per event: the conjuncts whose fields the event writes are re-proved, the others are handed on.  (The new state is
a structure literal, so a hypothesis about one of its fields is annotated with the reduced form `omega` needs.) -/
theorem inv_step (s s' : State) (e : Event) (hi : Inv s) (hs : step s e = some s') : Inv s' := by
  obtain ⟨h1, h2, h3, h4, h5, h6, h7⟩ := hi
  cases Step.of_step hs with
  -- only `calls` changes, or nothing
  | callBegin | ctxCancel | callRet | fetchReq | join | coordErr | sync | offsetFetch | heartbeat | commit =>
    exact ⟨h1, h2, h3, h4, h5, h6, h7⟩
  -- Close itself: `close` goes 0 → 1 → 2 → 3
  | closeBegin =>
    exact ⟨fun (h : 1 = 3) => by omega, h2, fun (h : 2 ≤ 1) => by omega, h4, h5, (by omega : 1 ≤ 3), h7⟩
  | closeMark =>
    exact ⟨fun (h : 2 = 3) => by omega, h2, fun _ => rfl, fun h => ⟨(h4 h).1, (h4 h).2.1, rfl⟩, h5, (by omega : 2 ≤ 3), h7⟩
  | closeMsgs hg =>
    have hc2 := hg.marked
    exact ⟨fun h => absurd (h1 h).2.2.2 (by simp [hg.msgsOpen]), h2, h3, fun _ => ⟨hg.fetchers, hg.loop, h3 (by omega)⟩, h5, h6, h7⟩
  | closeReturn hg =>
    have hm := h4 hg.msgsClosed
    exact ⟨fun _ => ⟨hm.1, hm.2.1, hg.conns, hg.msgsClosed⟩, h2, fun _ => hm.2.2, h4, h5, (by omega : 3 ≤ 3), h7⟩
  -- fetchers and their connections; `msgsClosed` (hence `close = 3`) excludes a live fetcher
  | fetcherStart hg =>
    have hm : s.msgsClosed = true → False := fun h => by simp [(h4 h).2.2] at hg
    exact ⟨fun h => (hm (h1 h).2.2.2).elim, h2, h3, fun h => (hm h).elim, h5, h6, h7⟩
  | fetcherExit =>
    exact ⟨fun h => ⟨by simp only [(h1 h).1], (h1 h).2⟩, h2, h3, fun h => ⟨by simp only [(h4 h).1], (h4 h).2⟩, h5, h6, h7⟩
  | dial => exact ⟨fun h => absurd (h1 h).1 (by omega), h2, h3, h4, h5, h6, h7⟩
  | connClose =>
    exact ⟨fun h => ⟨(h1 h).1, (h1 h).2.1, by simp only [(h1 h).2.2.1], (h1 h).2.2.2⟩, h2, h3, h4, h5, h6, h7⟩
  -- the group loop: these events need `loop = 1`, so the premise of `loop0` stays false
  | coordOpen | joinOk | joinErr | lookupFail | genStart =>
    exact ⟨h1, fun (h : s.loop = 0) => by omega, h3, h4, h5, h6, h7⟩
  | leave m hg => exact ⟨h1, fun (h : s.loop = 0) => by have := hg.loop; omega, h3, h4, h5, h6, h7⟩
  | coordClose => exact ⟨h1, fun h => ⟨(h2 h).1, (h2 h).2.1, by simp only [(h2 h).2.2]⟩, h3, h4, h5, h6, h7⟩
  | genEnd hg => exact ⟨h1, fun h => absurd (h2 h).2.1 (by simp [hg]), h3, h4, h5, h6, h7⟩
  | loopExit hg =>
    have hl1 := hg.loop
    have hn : s.msgsClosed = true → False := fun h => by have := (h4 h).2.1; omega
    exact ⟨fun h => (hn (h1 h).2.2.2).elim, fun _ => ⟨hg.left, hg.noGen, hg.lconns⟩, h3, fun h => (hn h).elim,
      fun _ => rfl, h6, (by omega : 0 ≤ 1)⟩

theorem run_eq (s : State) (es : List Event) : run s es = es.foldlM step s :=
  Run.eq_foldlM (fun _ => rfl) (fun s e es => by rw [run]; cases step s e <;> rfl) es s

theorem reachable_inv (g : Bool) (s : State) (h : Reachable g s) : Inv s := by
  obtain ⟨es, hr⟩ := h
  exact Run.invariant (fun s e s' => inv_step s s' e) (run_eq _ es ▸ hr) (inv_init g)

end KV.ReaderClose
