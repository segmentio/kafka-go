/-
Lemmas/ReaderLoopLTS.lean — invariant of the reader loop LTS (Model/ReaderLoopLTS.lean): what has been pushed into r.msgs is
exactly the log between the resolved start offset and `offset`, strictly increasing, whatever faults occur.
-/
import KafkaVerif.Model.ReaderLoopLTS

namespace KV.C02

/-- what a complete fetch round at conn offset `q` guarantees (`pull_round`, last clause) -/
structure GoodData (log : List Rec) (q : Int) (d : List Rec) (off' : Int) : Prop where
  sorted : d.Pairwise (fun a b => a.1 < b.1)
  inlog : ∀ r ∈ d, r ∈ log ∧ q ≤ r.1 ∧ r.1 < off'
  nogap : ∀ r ∈ log, q ≤ r.1 → r.1 < off' → r ∈ d
  mono : q ≤ off'

theorem GoodData.nil (log : List Rec) (q : Int) : GoodData log q [] q :=
  ⟨List.Pairwise.nil, nofun, fun r _ h1 h2 => by omega, Int.le_refl q⟩

theorem GoodData.append {log d d' : List Rec} {q q' q'' : Int} (h : GoodData log q d q') (h' : GoodData log q' d' q'') :
    GoodData log q (d ++ d') q'' := by
  have := h.mono; have := h'.mono
  refine ⟨List.pairwise_append.mpr ⟨h.sorted, h'.sorted, fun a ha c hc => ?_⟩, fun r hr => ?_, fun r hr h1 h2 => ?_, by omega⟩
  · have := (h.inlog a ha).2.2; have := (h'.inlog c hc).2.1; omega
  · rcases List.mem_append.mp hr with hr | hr
    · have := h.inlog r hr; exact ⟨this.1, this.2.1, by omega⟩
    · have := h'.inlog r hr; exact ⟨this.1, by omega, this.2.2⟩
  · by_cases hlt : r.1 < q'
    · exact List.mem_append_left _ (h.nogap r hr h1 hlt)
    · exact List.mem_append_right _ (h'.nogap r hr (by omega) h2)

/-- what a fetch round whose connection dies guarantees (`pull_round`, first clause): an initial segment of the log from `q` -/
structure GoodCut (log : List Rec) (q : Int) (d : List Rec) : Prop where
  sorted : d.Pairwise (fun a b => a.1 < b.1)
  inlog : ∀ r ∈ d, r ∈ log ∧ q ≤ r.1
  closed : ∀ r ∈ log, ∀ x ∈ d, q ≤ r.1 → r.1 ≤ x.1 → r ∈ d

/-- assumptions on the environment's answers: fetch rounds are as `pull_round` proves them for the decoder on what a broker under
the fetch contract serves (`world_good`), and the first offset a broker reports is not above a record that still exists -/
def Good (log : List Rec) (s : RR) : REv → Prop
  | .data d off' oc => GoodData log s.connOff d off' ∧ oc ≠ .desync
  | .cutAfter d => GoodCut log s.connOff d
  | .ctxCanceled d => GoodCut log s.connOff d
  | .initOk first last => 0 ≤ first ∧ first ≤ last ∧ ∀ r ∈ log, first ≤ r.1
  | .kerr 1 (some (first, _)) => ∀ r ∈ log, first ≤ r.1
  | _ => True

def GoodRun (cfg : RCfg) (log : List Rec) : RR → List REv → Prop
  | _, [] => True
  | s, e :: es => Good log s e ∧ GoodRun cfg log (rstep cfg s e) es

/-- the invariant of the loop: what has been pushed is sorted and is exactly the log between `start` and `offset`
(`bounds`); before the first successful `initialize` nothing has been pushed (`nostart`); while a connection is open it is
positioned at or after `offset` and **no stored record lies between `offset` and `connOff`** (`conn`): the next fetch can
neither repeat nor skip a record -/
structure RInv (log : List Rec) (s : RR) : Prop where
  sorted : s.msgs.Pairwise (fun a b => a.1 < b.1)
  nostart : s.start = none → s.msgs = [] ∧ -2 ≤ s.offset
  bounds : ∀ st, s.start = some st →
    0 ≤ st ∧ st ≤ s.offset ∧ (∀ r ∈ s.msgs, r ∈ log ∧ st ≤ r.1 ∧ r.1 < s.offset) ∧
    (∀ r ∈ log, st ≤ r.1 → r.1 < s.offset → r ∈ s.msgs)
  conn : s.phase = .reading → s.start ≠ none ∧ s.offset ≤ s.connOff ∧ ∀ r ∈ log, s.offset ≤ r.1 → r.1 < s.connOff → False

theorem rinv_init (log : List Rec) (o : Int) (ho : -2 ≤ o) : RInv log { offset := o } :=
  ⟨by simp, fun _ => ⟨rfl, ho⟩, (by intro st h; cases h), (by intro h; cases h)⟩

/-- What a step does to the fields the invariants speak of.  Every step of `rstep` is of one of five kinds: it leaves
`msgs`, `start`, `offset` alone and opens no connection (`frame`: sleeps, failed `initialize`, errors that only close or
retry, events that cannot occur); a successful `initialize` (`connect`); OffsetOutOfRange below the log start (`seek`); a
fetch round (`data`); a round that ends the connection or the loop after a prefix was handed on (`cut`). -/
inductive Eff (s : RR) (e : REv) (s' : RR) : Prop
  | frame (hm : s'.msgs = s.msgs) (hs : s'.start = s.start) (ho : s'.offset = s.offset)
      (hc : s'.phase = .reading → s.phase = .reading ∧ s'.connOff = s.connOff)
  | connect (f l : Int) (he : e = .initOk f l) (hp : s.phase = .top) (hm : s'.msgs = s.msgs)
      (hs : s'.start = some (s.start.getD (resolve s.offset f l))) (ho : s'.offset = resolve s.offset f l)
      (hc : s'.connOff = resolve s.offset f l)
  | seek (f l : Int) (he : e = .kerr 1 (some (f, l))) (hp : s.phase = .reading) (hlt : s.offset < f) (hm : s'.msgs = s.msgs)
      (hs : s'.start = s.start) (ho : s'.offset = f) (hc : s'.connOff = f)
  | data (d : List Rec) (off' : Int) (oc : Outcome) (he : e = .data d off' oc) (hp : s.phase = .reading)
      (hm : s'.msgs = s.msgs ++ d) (hs : s'.start = s.start) (ho : s'.offset = (pushMsgs s d).offset) (hc : s'.connOff = off')
  | cut (d : List Rec) (he : e = .cutAfter d ∨ e = .ctxCanceled d) (hp : s.phase = .reading)
      (hm : s'.msgs = s.msgs ++ d) (hs : s'.start = s.start) (ho : s'.offset = (pushMsgs s d).offset) (hc : s'.phase ≠ .reading)

/-- the one case analysis of `rstep` for the invariants (the `rstep_*` equations below say what single events do) -/
theorem rstep_eff (cfg : RCfg) (s : RR) (e : REv) : Eff s e (rstep cfg s e) := by
  have closed : ∀ s' : RR, s'.msgs = s.msgs → s'.start = s.start → s'.offset = s.offset → s'.phase ≠ .reading → Eff s e s' :=
    fun s' a b c d => .frame a b c (fun x => absurd x d)
  unfold rstep
  cases hp : s.phase with
  | stopped => exact closed _ rfl rfl rfl (by simp [hp])
  | top =>
    -- `simp only []` reduces `match Phase.top with …` so that `split` sees the `if` and the `match` on the event
    simp only []
    split
    · -- waiting for the backoff sleep
      split <;> exact closed _ rfl rfl rfl (by simp [hp])
    · -- `initialize`
      split
      · split <;> exact closed _ rfl rfl rfl (by simp)
      · exact closed _ rfl rfl rfl (by simp)
      · rename_i f l
        split
        · split <;> exact closed _ rfl rfl rfl (by simp)
        · exact .connect f l rfl hp rfl (by cases s.start <;> rfl) rfl rfl
      · exact closed _ rfl rfl rfl (by simp [hp])
  | reading =>
    have same : ∀ s' : RR, s'.msgs = s.msgs → s'.start = s.start → s'.offset = s.offset → s'.connOff = s.connOff → Eff s e s' :=
      fun s' a b c d => .frame a b c (fun _ => ⟨hp, d⟩)
    simp only []
    split
    · split <;> exact same _ rfl rfl rfl rfl
    · -- `read`, one case per event
      split
      · rename_i d off' oc
        exact .data d off' oc rfl hp (by cases oc <;> rfl) (by cases oc <;> rfl) (by cases oc <;> rfl) (by cases oc <;> rfl)
      · exact .cut _ (Or.inl rfl) hp rfl rfl rfl (by simp [toTop])
      · rename_i code offs
        unfold onKerr
        split
        · exact same _ rfl rfl rfl rfl
        · exact same _ rfl rfl rfl rfl
        · exact same _ rfl rfl rfl rfl
        · exact same _ rfl rfl rfl rfl
        · rename_i f l
          split
          · exact .seek f l rfl hp ‹_› rfl rfl rfl rfl
          · split <;> exact same _ rfl rfl rfl rfl
        · exact same _ rfl rfl rfl rfl
      · exact same _ rfl rfl rfl rfl
      · exact .cut _ (Or.inr rfl) hp rfl rfl rfl (by simp)
      · exact same _ rfl rfl rfl rfl
      · exact same _ rfl rfl rfl rfl

theorem rstep_msgs (cfg : RCfg) (s : RR) (e : REv) : ∃ d, (rstep cfg s e).msgs = s.msgs ++ d := by
  cases rstep_eff cfg s e with
  | frame hm | connect _ _ _ _ hm | seek _ _ _ _ _ hm => exact ⟨[], by rw [hm, List.append_nil]⟩
  | data d _ _ _ _ hm | cut d _ _ hm => exact ⟨d, hm⟩

theorem rstep_start (cfg : RCfg) (s : RR) (e : REv) :
    (rstep cfg s e).start = s.start ∨
    (s.start = none ∧ ∃ f l, e = .initOk f l ∧ (rstep cfg s e).start = some (resolve s.offset f l)) := by
  cases rstep_eff cfg s e with
  | frame _ hs | seek _ _ _ _ _ _ hs | data _ _ _ _ _ _ hs | cut _ _ _ _ hs => exact Or.inl hs
  | connect f l he _ _ hs =>
    cases h : s.start with
    | none => exact Or.inr ⟨rfl, f, l, he, by rw [hs, h]; rfl⟩
    | some st => exact Or.inl (by rw [hs, h]; rfl)

theorem rstep_unset (cfg : RCfg) {log : List Rec} {s : RR} (e : REv) (hi : RInv log s) (h : (rstep cfg s e).start = none) :
    s.start = none ∧ (rstep cfg s e).offset = s.offset := by
  cases rstep_eff cfg s e with
  | frame _ hs ho => exact ⟨by rw [← hs]; exact h, ho⟩
  | connect _ _ _ _ _ hs => rw [hs] at h; cases h
  | seek _ _ _ hp _ _ hs | data _ _ _ _ hp _ hs | cut _ _ hp _ hs => exact absurd (by rw [← hs]; exact h) (hi.conn hp).1

theorem rstep_stopped (cfg : RCfg) (s : RR) (hp : s.phase = .stopped) (e : REv) : rstep cfg s e = s := by
  unfold rstep
  rw [hp]

theorem rstep_data (cfg : RCfg) (s : RR) (hp : s.phase = .reading) (hs : s.slept = true) (d : List Rec) (off' : Int)
    (oc : Outcome) :
    rstep cfg s (.data d off' oc) =
      match oc with
      | .eof => again { pushMsgs s d with connOff := off' } 0
      | .timedOut => again { pushMsgs s d with connOff := off' } 0
      | .unexpectedEOF => toTop { pushMsgs s d with connOff := off' }
      | .desync => { pushMsgs s d with connOff := off', phase := .stopped } := by
  simp only [rstep, hp, hs, Bool.not_true, Bool.false_eq_true, if_false]
  cases oc <;> rfl

theorem rstep_kerr (cfg : RCfg) (s : RR) (hp : s.phase = .reading) (hs : s.slept = true) (code : Nat) (offs : Option (Int × Int)) :
    rstep cfg s (.kerr code offs) = onKerr s code offs := by
  simp only [rstep, hp, hs, Bool.not_true, Bool.false_eq_true, if_false]

theorem rstep_ioErr (cfg : RCfg) (s : RR) (hp : s.phase = .reading) (hs : s.slept = true) : rstep cfg s .ioErr = toTop s := by
  simp only [rstep, hp, hs, Bool.not_true, Bool.false_eq_true, if_false]

theorem rstep_sleep_reading (cfg : RCfg) (s : RR) (hp : s.phase = .reading) :
    (rstep cfg s .sleepOk).phase = .reading ∧ (rstep cfg s .sleepOk).connOff = s.connOff ∧ (rstep cfg s .sleepOk).slept = true := by
  cases hs : s.slept <;> simp [rstep, hp, hs]

theorem pairwise_getLast_le {d : List Rec} (hs : d.Pairwise (fun a b => a.1 < b.1)) {l : Rec} (hl : d.getLast? = some l) :
    ∀ r ∈ d, r.1 ≤ l.1 := by
  obtain ⟨pre, rfl⟩ := List.getLast?_eq_some_iff.mp hl
  intro r hr
  rcases List.mem_append.mp hr with h | h
  · exact Int.le_of_lt ((List.pairwise_append.mp hs).2.2 r h l (List.mem_singleton_self l))
  · rw [List.mem_singleton.mp h]; exact Int.le_refl _

/-- `offset` after pushing a round: unchanged when nothing was delivered, else one past the largest delivered offset -/
theorem pushMsgs_offset (s : RR) {d : List Rec} (hs : d.Pairwise (fun a b => a.1 < b.1)) :
    (d = [] ∧ (pushMsgs s d).offset = s.offset) ∨ (∃ l ∈ d, (pushMsgs s d).offset = l.1 + 1 ∧ ∀ r ∈ d, r.1 ≤ l.1) := by
  cases hl : d.getLast? with
  | none => exact Or.inl ⟨List.getLast?_eq_none_iff.mp hl, by simp [pushMsgs, hl]⟩
  | some l => exact Or.inr ⟨l, List.mem_of_getLast? hl, by simp [pushMsgs, hl], pairwise_getLast_le hs hl⟩

theorem rinv_frame {log : List Rec} {s s' : RR} (h : RInv log s) (hm : s'.msgs = s.msgs) (hs : s'.start = s.start)
    (ho : s'.offset = s.offset) (hc : s'.phase = .reading → s.phase = .reading ∧ s'.connOff = s.connOff) : RInv log s' := by
  refine ⟨by rw [hm]; exact h.sorted, by rw [hs, hm, ho]; exact h.nostart, by rw [hs, hm, ho]; exact h.bounds, ?_⟩
  intro hp
  obtain ⟨hp', hco⟩ := hc hp
  rw [hs, ho, hco]
  exact h.conn hp'

theorem RInv.connOff_nonneg {log : List Rec} {s : RR} (h : RInv log s) (hr : s.phase = .reading) : 0 ≤ s.connOff := by
  obtain ⟨hst, hoc, _⟩ := h.conn hr
  obtain ⟨st, hs⟩ := Option.ne_none_iff_exists'.mp hst
  have := h.bounds st hs
  omega

/-- a connection positioned at `v`: the old offset, or a first offset below which nothing exists any more -/
theorem rinv_seek {log : List Rec} {s s' : RR} (h : RInv log s) (hstart : s.start ≠ none) (v : Int)
    (hv : s.offset ≤ v) (hvv : v = s.offset ∨ ∀ r ∈ log, v ≤ r.1)
    (hm : s'.msgs = s.msgs) (hs : s'.start = s.start) (ho : s'.offset = v) (hc : s'.connOff = v) : RInv log s' := by
  refine ⟨by rw [hm]; exact h.sorted, by rw [hs]; intro h0; exact absurd h0 hstart, ?_, ?_⟩
  · intro st hst
    rw [hs] at hst
    obtain ⟨b0, b1, b2, b3⟩ := h.bounds st hst
    rw [hm, ho]
    refine ⟨b0, by omega, fun r hr => ⟨(b2 r hr).1, (b2 r hr).2.1, by have := (b2 r hr).2.2; omega⟩, ?_⟩
    intro r hr h1 h2
    rcases hvv with hvv | hvv
    · exact b3 r hr h1 (by omega)
    · have := hvv r hr; omega
  · intro _
    rw [hs, ho, hc]
    exact ⟨hstart, by omega, by intro r _ h1 h2; omega⟩

/-- pushing `d`, an initial segment of the log from the connection's position (a whole round that leaves the connection at
`off'`, or what got through before the connection or the loop ended) -/
theorem rinv_push {log : List Rec} {s s' : RR} (h : RInv log s) (hr : s.phase = .reading) {d : List Rec}
    (hsorted : d.Pairwise (fun a b => a.1 < b.1)) (hin : ∀ r ∈ d, r ∈ log ∧ s.connOff ≤ r.1)
    (hclosed : ∀ r ∈ log, ∀ x ∈ d, s.connOff ≤ r.1 → r.1 ≤ x.1 → r ∈ d)
    (hm : s'.msgs = s.msgs ++ d) (hs : s'.start = s.start) (ho : s'.offset = (pushMsgs s d).offset)
    (hc : s'.phase = .reading → s.connOff ≤ s'.connOff ∧ (∀ r ∈ d, r.1 < s'.connOff) ∧
      ∀ r ∈ log, s.connOff ≤ r.1 → r.1 < s'.connOff → r ∈ d) : RInv log s' := by
  obtain ⟨hst, hoc, hgap⟩ := h.conn hr
  obtain ⟨st, hst'⟩ := Option.ne_none_iff_exists'.mp hst
  obtain ⟨b0, b1, b2, b3⟩ := h.bounds st hst'
  -- the new offset `o'`: everything pushed is below it, nothing stored lies between the old one and it unpushed
  have key : s.offset ≤ s'.offset ∧ (∀ r ∈ d, r.1 < s'.offset) ∧ (∀ b, s.offset ≤ b → (∀ r ∈ d, r.1 < b) → s'.offset ≤ b) ∧
      ∀ r ∈ log, s.offset ≤ r.1 → r.1 < s'.offset → r ∈ d := by
    rw [ho]
    rcases pushMsgs_offset s hsorted with ⟨hd, he⟩ | ⟨l, hl, he, hle⟩
    · subst hd; rw [he]; exact ⟨Int.le_refl _, by simp, fun b hb _ => hb, fun r _ h1 h2 => by omega⟩
    · have := (hin l hl).2
      refine ⟨by omega, fun r hr => by have := hle r hr; omega, fun b _ hb => by have := hb l hl; omega, ?_⟩
      intro r hrl h1 h2
      by_cases hq : r.1 < s.connOff
      · exact absurd (hgap r hrl h1 hq) id
      · exact hclosed r hrl l hl (by omega) (by omega)
  obtain ⟨k1, k2, k3, k4⟩ := key
  refine ⟨?_, by rw [hs]; intro h0; exact absurd h0 hst, ?_, ?_⟩
  · rw [hm, List.pairwise_append]
    exact ⟨h.sorted, hsorted, fun a ha b hb => by have := (b2 a ha).2.2; have := (hin b hb).2; omega⟩
  · intro st' hs'
    rw [hs, hst'] at hs'
    cases hs'
    refine ⟨b0, by omega, ?_, ?_⟩
    · intro r hr'
      rw [hm, List.mem_append] at hr'
      rcases hr' with hr' | hr'
      · have := b2 r hr'; exact ⟨this.1, this.2.1, by omega⟩
      · have := (hin r hr').2; exact ⟨(hin r hr').1, by omega, k2 r hr'⟩
    · intro r hrl h1 h2
      rw [hm, List.mem_append]
      by_cases hlt : r.1 < s.offset
      · exact Or.inl (b3 r hrl h1 hlt)
      · exact Or.inr (k4 r hrl (by omega) h2)
  · intro hp'
    obtain ⟨c1, c2, c3⟩ := hc hp'
    refine ⟨by rw [hs]; exact hst, k3 _ (by omega) c2, ?_⟩
    · intro r hrl h1 h2
      by_cases hq : r.1 < s.connOff
      · exact hgap r hrl (by omega) hq
      · have := k2 r (c3 r hrl (by omega) h2); omega

/-- `Good` is asked of an event only where `rstep` looks at it: of a `read` while a connection is open (`connOff` means
nothing otherwise), of an `initialize` always -/
theorem rinv_step (cfg : RCfg) {log : List Rec} {s : RR} (e : REv) (h : RInv log s)
    (hg : (s.phase = .reading ∨ ∃ f l, e = .initOk f l) → Good log s e) : RInv log (rstep cfg s e) := by
  cases rstep_eff cfg s e with
  | frame hm hs ho hc => exact rinv_frame h hm hs ho hc
  | connect f l he hp hm hs ho hc =>
    subst he
    obtain ⟨hf0, hfle, hfl⟩ := hg (Or.inr ⟨f, l, rfl⟩)
    cases hst : s.start with
    | none =>
      -- the first connection: nothing pushed yet, `start` becomes the resolved offset
      obtain ⟨hm0, _⟩ := h.nostart hst
      rw [hst] at hs
      have h0 : 0 ≤ resolve s.offset f l := by unfold resolve; repeat' split <;> omega
      refine ⟨by rw [hm, hm0]; simp, (by rw [hs]; intro h'; cases h'), ?_, ?_⟩
      · intro st hst'
        rw [hs] at hst'
        cases hst'
        rw [hm, hm0, ho]
        exact ⟨h0, Int.le_refl _, by simp, fun r _ h1 h2 => by simp only [Option.getD_none] at h1 h2; omega⟩
      · intro _
        rw [hs, ho, hc]
        exact ⟨by simp, Int.le_refl _, fun r _ h1 h2 => by omega⟩
    | some st =>
      -- a reconnect: at the old offset, or at the first offset when the log start has moved past it
      obtain ⟨b0, b1, _, _⟩ := h.bounds st hst
      rw [hst] at hs
      have hres : resolve s.offset f l = if s.offset < f then f else s.offset := by
        unfold resolve
        rw [if_neg (by omega), if_neg (by omega)]
      refine rinv_seek h (by simp [hst]) (resolve s.offset f l) ?_ ?_ hm (by rw [hs, hst]; rfl) ho hc
      · rw [hres]; split <;> omega
      · rw [hres]; split
        · exact Or.inr hfl
        · exact Or.inl rfl
  | seek f l he hp hlt hm hs ho hc =>
    subst he
    exact rinv_seek h (h.conn hp).1 f (by omega) (Or.inr (hg (Or.inl hp))) hm hs ho hc
  | data d off' oc he hp hm hs ho hc =>
    subst he
    obtain ⟨⟨gs, gi, gn, gm⟩, _⟩ := hg (Or.inl hp)
    refine rinv_push h hp gs (fun r hr => ⟨(gi r hr).1, (gi r hr).2.1⟩)
      (fun r hr x hx h1 h2 => gn r hr h1 (by have := (gi x hx).2.2; omega)) hm hs ho (fun _ => ?_)
    rw [hc]
    exact ⟨gm, fun r hr => (gi r hr).2.2, gn⟩
  | cut d he hp hm hs ho hc =>
    have hg' : GoodCut log s.connOff d := by rcases he with rfl | rfl <;> exact hg (Or.inl hp)
    exact rinv_push h hp hg'.sorted hg'.inlog hg'.closed hm hs ho (fun x => absurd x hc)

theorem rinv_run (cfg : RCfg) (log : List Rec) : ∀ (es : List REv) (s : RR), RInv log s → GoodRun cfg log s es →
    RInv log (rrun cfg s es) := by
  intro es
  induction es with
  | nil => intro s h _; exact h
  | cons e es ih => intro s h hg; exact ih _ (rinv_step cfg e h (fun _ => hg.1)) hg.2

end KV.C02
