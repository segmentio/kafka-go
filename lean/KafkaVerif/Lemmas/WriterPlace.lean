/-
Lemmas/WriterPlace.lean — where messages are: the placement invariant of the Writer LTS
(for C01 `ack_exact`, `no_foreign_partition`, C08 `reject_before_send`).
-/
import KafkaVerif.Lemmas.WriterStep

namespace KV.Writer

structure InvPlace (s : State) : Prop where
  placed : ∀ c C, s.calls c = some C → ∀ i b, C.place i = some b →
    ∃ B, s.batches b = some B ∧ (∃ m ∈ B.msgs, m.msg = (c, i)) ∧ C.assign[i]? = some B.tp
  batchTP : ∀ b B, s.batches b = some B → ∀ m ∈ B.msgs,
    ∃ C, s.calls m.msg.1 = some C ∧ C.assign[m.msg.2]? = some B.tp ∧ C.place m.msg.2 = some b
  logTP : ∀ tp, ∀ e ∈ s.log tp, ∃ C, s.calls e.msg.1 = some C ∧ C.assign[e.msg.2]? = some tp

theorem invPlace_init : InvPlace State.init := by
  constructor <;> (intro _ _ h; cases h)

theorem InvPlace.unplaced_index {s : State} (hP : InvPlace s) {c i : Nat} {C : Call} (hC : s.calls c = some C)
    (hplace : C.place i = none) {y : Nat} {Y : Batch} (hY : s.batches y = some Y) {m : BMsg} (hm : m ∈ Y.msgs) :
    m.msg ≠ (c, i) := by
  intro e
  obtain ⟨X, hX, -, hp⟩ := hP.batchTP y Y hY m hm
  rw [e] at hX hp
  cases hC.symm.trans hX
  rw [hplace] at hp; cases hp

theorem InvPlace.unplaced {s : State} (h : InvPlace s) {c : Nat} {C : Call} (hC : s.calls c = some C)
    (hnone : ∀ i, C.place i = none) : ∀ b B, s.batches b = some B → ∀ m ∈ B.msgs, m.msg.1 ≠ c :=
  fun _ _ hB m hm hmc => h.unplaced_index hC (hnone m.msg.2) hB hm (Prod.ext hmc rfl)

/-- a message is in one batch -/
theorem InvPlace.msg_inj {s : State} (hP : InvPlace s) {b y : Nat} {B Y : Batch} (hB : s.batches b = some B)
    (hY : s.batches y = some Y) {m m' : BMsg} (hm : m ∈ B.msgs) (hm' : m' ∈ Y.msgs) (e : m'.msg = m.msg) : y = b := by
  obtain ⟨C1, hC1, -, hp1⟩ := hP.batchTP b B hB m hm
  obtain ⟨C2, hC2, -, hp2⟩ := hP.batchTP y Y hY m' hm'
  rw [e, hC1] at hC2; cases hC2
  rw [e, hp1] at hp2; exact (Option.some.inj hp2).symm

/-- what a step other than `add` may do to a call as far as placement goes: places stay, assignments are only appended -/
def PlaceCall (C C' : Call) : Prop :=
  C'.place = C.place ∧ ∀ (j : Nat) (tp : TP), C.assign[j]? = some tp → C'.assign[j]? = some tp

def PlaceBat (B B' : Batch) : Prop := B'.msgs = B.msgs ∧ B'.tp = B.tp

theorem PlaceCall.refl (C : Call) : PlaceCall C C := ⟨rfl, fun _ _ h => h⟩
theorem PlaceBat.refl (B : Batch) : PlaceBat B B := ⟨rfl, rfl⟩

namespace InvPlace

/-- every event but `add` is within this frame -/
theorem of_frame {s s' : State} (h : InvPlace s)
    (hcalls : MapRel (fun C' => ∀ i, C'.place i = none) PlaceCall s.calls s'.calls)
    (hbat : MapRel (fun B' => B'.msgs = []) PlaceBat s.batches s'.batches)
    (hlog : ∀ tp e, e ∈ s'.log tp → e ∈ s.log tp ∨ ∃ b B, s.batches b = some B ∧ B.tp = tp ∧ ∃ m ∈ B.msgs, e.msg = m.msg) :
    InvPlace s' := by
  have hbt : ∀ b B, s.batches b = some B → ∀ m ∈ B.msgs,
      ∃ C', s'.calls m.msg.1 = some C' ∧ C'.assign[m.msg.2]? = some B.tp ∧ C'.place m.msg.2 = some b := by
    intro b B hB m hm
    obtain ⟨C, hC, ha, hp⟩ := h.batchTP b B hB m hm
    obtain ⟨C', hC', hpl, hmono⟩ := hcalls.fwd _ _ hC
    exact ⟨C', hC', hmono _ _ ha, by rw [hpl]; exact hp⟩
  constructor
  · intro c C' hC' i b hp
    rcases hcalls.back c C' hC' with ⟨-, hnone⟩ | ⟨C, hC, hpl, hmono⟩
    · rw [hnone i] at hp; cases hp
    · rw [hpl] at hp
      obtain ⟨B, hB, hm, ha⟩ := h.placed c C hC i b hp
      obtain ⟨B', hB', e1, e2⟩ := hbat.fwd b B hB
      exact ⟨B', hB', e1 ▸ hm, e2 ▸ hmono _ _ ha⟩
  · intro b B' hB' m hm
    rcases hbat.back b B' hB' with ⟨-, he⟩ | ⟨B, hB, e1, e2⟩
    · rw [he] at hm; cases hm
    · rw [e2]; exact hbt b B hB m (e1 ▸ hm)
  · intro tp e he
    rcases hlog tp e he with he | ⟨b, B, hB, htp, m, hm, hem⟩
    · obtain ⟨C, hC, ha⟩ := h.logTP tp e he
      obtain ⟨C', hC', -, hmono⟩ := hcalls.fwd _ _ hC
      exact ⟨C', hC', hmono _ _ ha⟩
    · rw [hem, ← htp]
      obtain ⟨C', hC', ha, -⟩ := hbt b B hB m hm
      exact ⟨C', hC', ha⟩

end InvPlace

/-- `add`, the one event that places a message: the new place and the new message are each other's witness; every other
place and message keeps its witness, whose record only grows -/
theorem invPlace_add {s s' : State} (hI : InvPlace s) {b c i size : Nat} {P : PW} {B : Batch} {C : Call}
    (hB : s.batches b = some B) (hC : s.calls c = some C)
    (hBtp : B.tp = P.tp) (hassign : C.assign[i]? = some P.tp) (hplace : C.place i = none)
    (ebat : s'.batches = upd s.batches b (some (B.push { msg := (c, i), size := size, seq := s.seq })))
    (ecalls : s'.calls = upd s.calls c (some { C with place := upd C.place i (some b) }))
    (elog : s'.log = s.log) : InvPlace s' := by
  have hcl : ∀ x X, s.calls x = some X → ∃ X', s'.calls x = some X' ∧ X'.assign = X.assign :=
    ecalls ▸ upd_fwd (R := fun (X X' : Call) => X'.assign = X.assign) (fun _ => rfl) hC rfl
  have hbt : ∀ y Y, s.batches y = some Y → ∃ Y', s'.batches y = some Y' ∧ Y'.tp = Y.tp ∧ ∀ m ∈ Y.msgs, m ∈ Y'.msgs :=
    ebat ▸ upd_fwd (R := fun (Y Y' : Batch) => Y'.tp = Y.tp ∧ ∀ m ∈ Y.msgs, m ∈ Y'.msgs) (fun _ => ⟨rfl, fun _ h => h⟩)
      hB ⟨rfl, fun _ hm => List.mem_append_left _ hm⟩
  constructor
  · intro x X' hx j y hp
    rw [ecalls] at hx
    rcases upd_some_elim hx with ⟨rfl, rfl⟩ | ⟨hne, hx⟩
    · by_cases hji : j = i
      · subst hji
        simp at hp; subst hp
        refine ⟨B.push { msg := (x, j), size := size, seq := s.seq }, by rw [ebat]; exact upd_same ..,
          ⟨{ msg := (x, j), size := size, seq := s.seq }, by simp [Batch.push], rfl⟩, ?_⟩
        show C.assign[j]? = some B.tp
        rw [hBtp]; exact hassign
      · have hp' : C.place j = some y := by
          have : upd C.place i (some b) j = C.place j := upd_other _ _ _ _ hji
          rw [← this]; exact hp
        obtain ⟨Y, hY, ⟨m, hm, hmm⟩, ha⟩ := hI.placed x C hC j y hp'
        obtain ⟨Y', hY', htp, hsub⟩ := hbt y Y hY
        exact ⟨Y', hY', ⟨m, hsub m hm, hmm⟩, htp ▸ ha⟩
    · obtain ⟨Y, hY, ⟨m, hm, hmm⟩, ha⟩ := hI.placed x X' hx j y hp
      obtain ⟨Y', hY', htp, hsub⟩ := hbt y Y hY
      exact ⟨Y', hY', ⟨m, hsub m hm, hmm⟩, htp ▸ ha⟩
  · intro y Y' hy m hm
    have hcl2 : ∀ (m' : BMsg) (X : Call) (y0 : Nat), s.calls m'.msg.1 = some X → X.place m'.msg.2 = some y0 →
        ∃ X', s'.calls m'.msg.1 = some X' ∧ X'.assign = X.assign ∧ X'.place m'.msg.2 = some y0 := by
      intro m' X y0 hX hp
      by_cases hxc : m'.msg.1 = c
      · rw [hxc, hC] at hX; cases hX
        refine ⟨{ C with place := upd C.place i (some b) }, by rw [hxc, ecalls]; simp, rfl, ?_⟩
        by_cases hji : m'.msg.2 = i
        · rw [hji, hplace] at hp; cases hp
        · show upd C.place i (some b) m'.msg.2 = some y0
          rw [upd_other _ _ _ _ hji]; exact hp
      · exact ⟨X, by rw [ecalls, upd_other _ _ _ _ hxc]; exact hX, rfl, hp⟩
    rw [ebat] at hy
    rcases upd_some_elim hy with ⟨rfl, rfl⟩ | ⟨hne, hy⟩
    · simp only [Batch.push] at hm
      rcases List.mem_append.mp hm with hm | hm
      · obtain ⟨X, hX, ha, hp⟩ := hI.batchTP y B hB m hm
        obtain ⟨X', hX', e, hp'⟩ := hcl2 m X y hX hp
        exact ⟨X', hX', by rw [e]; exact ha, hp'⟩
      · simp at hm; subst hm
        refine ⟨{ C with place := upd C.place i (some y) }, by rw [ecalls]; exact upd_same .., ?_, ?_⟩
        · show C.assign[i]? = some B.tp
          rw [hBtp]; exact hassign
        · show upd C.place i (some y) i = some y
          simp
    · obtain ⟨X, hX, ha, hp⟩ := hI.batchTP y Y' hy m hm
      obtain ⟨X', hX', e, hp'⟩ := hcl2 m X y hX hp
      exact ⟨X', hX', by rw [e]; exact ha, hp'⟩
  · intro tp e he
    rw [elog] at he
    obtain ⟨X, hX, ha⟩ := hI.logTP tp e he
    obtain ⟨X', hX', e'⟩ := hcl _ _ hX
    exact ⟨X', hX', by rw [e']; exact ha⟩

theorem invPlace_step {cfg : Cfg} {s s' : State} {e : Event} (hI : InvPlace s) (h : Step cfg s e s') : InvPlace s' := by
  have hlogid : ∀ (tp : TP) (e : LogEntry), e ∈ s.log tp → e ∈ s.log tp ∨ ∃ b B, s.batches b = some B ∧ B.tp = tp ∧ ∃ m ∈ B.msgs, e.msg = m.msg :=
    fun _ _ h => Or.inl h
  induction h with
  | add hP hB hC hg =>
    exact invPlace_add hI hB hC hg.sameTp hg.assign hg.place rfl rfl rfl
  | begin_ hg =>
    exact hI.of_frame (.new PlaceCall.refl (Option.isNone_iff_eq_none.mp hg.free) fun _ => rfl) (.refl PlaceBat.refl) hlogid
  | assign hC hg =>
    exact hI.of_frame (.upd PlaceCall.refl hC ⟨rfl, fun _ _ h => getElem?_concat.mpr (.inl h)⟩) (.refl PlaceBat.refl) hlogid
  | newBatch hP hg =>
    exact hI.of_frame (.refl PlaceCall.refl) (.new PlaceBat.refl (Option.isNone_iff_eq_none.mp hg.free) rfl) hlogid
  | detach _ hB | timerFire _ hB | completion _ hB | complete _ hB =>
    exact hI.of_frame (.refl PlaceCall.refl) (.upd PlaceBat.refl hB ⟨rfl, rfl⟩) hlogid
  | @produce _ b _ tp _ _ _ B hP hsend hB hg =>
    refine hI.of_frame (.refl PlaceCall.refl) (.upd PlaceBat.refl hB ⟨rfl, rfl⟩) ?_
    intro t e he
    rcases mem_produced_log.mp he with h | ⟨-, rfl, h⟩
    · exact Or.inl h
    · obtain ⟨m, hm, rfl⟩ := List.mem_map.mp h
      exact Or.inr ⟨b, B, hB, hg.batchTp, m, hm, rfl⟩
  | rejectToolarge hC | rejectTopic hC | rejectMetadata hC | rejectClosed hC | batch hC | batched hC | ret hC =>
    exact hI.of_frame (.upd PlaceCall.refl hC ⟨rfl, fun _ _ h => h⟩) (.refl PlaceBat.refl) hlogid
  | _ => exact hI.of_frame (.refl PlaceCall.refl) (.refl PlaceBat.refl) hlogid

theorem invPlace (cfg : Cfg) : ∀ s, Reachable cfg s → InvPlace s :=
  Reachable.step_induction invPlace_init fun _ _ _ _ hI h => invPlace_step hI h

end KV.Writer
