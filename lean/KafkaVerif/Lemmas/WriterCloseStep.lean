/-
Lemmas/WriterCloseStep.lean — the successful steps of Model/WriterClose.lean as a relation: one constructor per branch
of `step`, with the guard as found in the model and the new state written out; `Step` is exactly the graph of `step`
(`Step.of_step`, `Step.to_step`).  Invariant proofs analyse a step by `cases Step.of_step h` instead of unfolding
`step`; an event is shown enabled by building its `Step` (`Step.enabled`).
-/
import KafkaVerif.Model.WriterClose
import KafkaVerif.Base.Run

namespace KV.WriterClose

theorem hasCall_mem {s : State} {c : Nat} {p : Call → Bool} (h : hasCall s c p = true) :
    ∃ x ∈ s.calls, x.id = c ∧ p x = true := by
  simpa only [hasCall, List.any_eq_true, Bool.and_eq_true, decide_eq_true_eq] using h

theorem hasPW_mem {s : State} {i : Nat} {p : PW → Bool} (h : hasPW s i p = true) :
    ∃ x ∈ s.writers, x.pid = i ∧ p x = true := by
  simpa only [hasPW, List.any_eq_true, Bool.and_eq_true, decide_eq_true_eq] using h

theorem hasCall_of_mem {s : State} {x : Call} {q : Call → Bool} (hx : x ∈ s.calls) (hq : q x = true) :
    hasCall s x.id q = true :=
  List.any_eq_true.mpr ⟨x, hx, by rw [hq, decide_eq_true rfl]; rfl⟩

theorem hasPW_of_mem {s : State} {x : PW} {q : PW → Bool} (hx : x ∈ s.writers) (hq : q x = true) :
    hasPW s x.pid q = true :=
  List.any_eq_true.mpr ⟨x, hx, by rw [hq, decide_eq_true rfl]; rfl⟩

theorem foldl_addOne_frame (cfg : Cfg) (l : List (Nat × Nat)) (t : State) :
    (l.foldl (addOne cfg) t).closed = t.closed ∧ (l.foldl (addOne cfg) t).close = t.close ∧
    (l.foldl (addOne cfg) t).calls = t.calls ∧ (l.foldl (addOne cfg) t).completed = t.completed := by
  induction l generalizing t with
  | nil => exact ⟨rfl, rfl, rfl, rfl⟩
  | cons a l ih => exact ih (addOne cfg t a)

theorem live_of_sender_eq {p q : PW} (h : q.sender = p.sender) : q.live = p.live := by
  simp only [PW.live, h]

theorem putBatch_sender (p : PW) (b : Batch) : (putBatch p b).sender = p.sender := by
  unfold putBatch; split <;> rfl

theorem putBatch_opn (p : PW) (b : Batch) : (putBatch p b).opn = p.opn := by
  unfold putBatch; split <;> rfl

theorem timerPW_sender (b : Nat) (p : PW) : (timerPW b p).sender = p.sender := by
  unfold timerPW
  split
  · split
    · exact putBatch_sender _ _
    · rfl
  · rfl

theorem timerPW_opn (b : Nat) (p : PW) : (timerPW b p).opn = p.opn := by
  unfold timerPW
  split
  · split
    · exact putBatch_opn _ _
    · rfl
  · rfl

theorem closePW_sender (p : PW) : (closePW p).sender = p.sender := by
  unfold closePW; split <;> rfl

theorem closePW_opn (p : PW) : (closePW p).opn = false := by
  unfold closePW; split <;> rfl

theorem addMsgPW_sender (cfg : Cfg) (p : PW) (m n : Nat) : (addMsgPW cfg p m n).sender = p.sender := by
  simp only [addMsgPW]
  split <;> split
  · exact putBatch_sender _ _
  · rfl
  · exact putBatch_sender _ _
  · rfl

theorem addMsgPW_opn (cfg : Cfg) (p : PW) (m n : Nat) : (addMsgPW cfg p m n).opn = p.opn := by
  simp only [addMsgPW]
  split <;> split
  · exact putBatch_opn _ _
  · rfl
  · exact putBatch_opn _ _
  · rfl

theorem batch_call {s : State} {c : Nat} {x : Call}
    (hx : s.calls.find? (fun x => x.id = c && x.phase = .entered && !x.msgs.isEmpty && !x.held) = some x) :
    x ∈ s.calls ∧ x.id = c ∧ x.phase = .entered := by
  have h := List.find?_some hx
  simp only [Bool.and_eq_true, decide_eq_true_eq] at h
  exact ⟨List.mem_of_find?_eq_some hx, h.1.1.1, h.1.1.2⟩

theorem complete_pw {s : State} {i : Nat} {p : PW}
    (hp : s.writers.find? (fun p => p.pid = i && p.sender.isCompleting) = some p) : p ∈ s.writers ∧ p.pid = i := by
  have h := List.find?_some hp
  simp only [Bool.and_eq_true, decide_eq_true_eq] at h
  exact ⟨List.mem_of_find?_eq_some hp, h.1⟩

/-! What the sender goroutine of a partition writer does to its record, named (in `step` they are written out in
place): `batchQueue.Get` returning a batch, the goroutine's exit, the answer to an attempt, `batch.complete`. -/

def takeBatch (p : PW) : PW :=
  match p.queue with
  | b :: rest => { p with queue := rest, sender := .sending b 0 }
  | [] => p

def exitPW (p : PW) : PW := { p with sender := .exited }

def answer (cfg : Cfg) (o : Outcome) (p : PW) : PW :=
  match p.sender with
  | .sending b k => { p with sender := attemptNext cfg b k o }
  | _ => p

def finish (p : PW) : PW := { p with sender := .idle }

theorem takeBatch_opn (p : PW) : (takeBatch p).opn = p.opn := by unfold takeBatch; split <;> rfl

theorem answer_opn (cfg : Cfg) (o : Outcome) (p : PW) : (answer cfg o p).opn = p.opn := by unfold answer; split <;> rfl

inductive Step (cfg : Cfg) (s : State) : Event → State → Prop
  | callBegin (c : Nat) (msgs : List (Nat × Nat)) (mf : Bool) (h : ¬ s.calls.any (·.id = c) = true) :
    Step cfg s (.callBegin c msgs mf) { s with calls := s.calls ++ [⟨c, msgs, mf, false, false, s.closed, .invoked⟩] }
  | ctxCancel (c : Nat) (h : hasCall s c (fun _ => true) = true) :
    Step cfg s (.ctxCancel c) (updCalls s c (fun _ => true) fun x => { x with cancelled := true })
  | closeBegin (h : s.close = 0) : Step cfg s .closeBegin { s with close := 1 }
  | enter (c : Nat) (h : hasCall s c (·.phase = .invoked) = true) :
    Step cfg s (.enter c)
      (updCalls s c (·.phase = .invoked) fun x => { x with phase := if s.closed then .left .closedPipe else .entered })
  | metaReq (c : Nat) (h : hasCall s c (·.phase = .entered) = true) :
    Step cfg s (.metaReq c) (updCalls s c (·.phase = .entered) fun x => { x with held := true })
  | metaRel (c : Nat) (h : hasCall s c (fun x => x.phase = .entered && x.held) = true) :
    Step cfg s (.metaRel c) (updCalls s c (·.phase = .entered) fun x => { x with held := false })
  | early (c : Nat) (r : Res) (h : hasCall s c (fun x => x.phase = .entered && earlyOk r x) = true) :
    Step cfg s (.early c r) (updCalls s c (·.phase = .entered) fun x => { x with phase := .left r })
  | batchRefused (c : Nat) (x : Call)
    (hx : s.calls.find? (fun x => x.id = c && x.phase = .entered && !x.msgs.isEmpty && !x.held) = some x)
    (h : (cfg.fixed && s.closed) = true) :
    Step cfg s (.batch c) (updCalls s c (·.phase = .entered) fun y => { y with phase := .left .closedPipe })
  | batchAccepted (c : Nat) (x : Call)
    (hx : s.calls.find? (fun x => x.id = c && x.phase = .entered && !x.msgs.isEmpty && !x.held) = some x)
    (h : ¬ (cfg.fixed && s.closed) = true) :
    Step cfg s (.batch c)
      (updCalls (x.msgs.foldl (addOne cfg) s) c (· == x) fun y => { y with phase := if cfg.async then .left .nil else .waiting })
  | timer (b : Nat) (h : s.awaiters.contains b = true) :
    Step cfg s (.timer b) { s with awaiters := s.awaiters.erase b, writers := s.writers.map (timerPW b) }
  | getBatch (i : Nat) (h : hasPW s i (fun p => p.sender = .idle && !p.queue.isEmpty) = true) :
    Step cfg s (.get i) (updPWs s i (fun p => p.sender = .idle && !p.queue.isEmpty) takeBatch)
  | getExit (i : Nat) (hn : ¬ hasPW s i (fun p => p.sender = .idle && !p.queue.isEmpty) = true)
    (h : hasPW s i (fun p => p.sender = .idle && p.queue.isEmpty && !p.opn) = true) :
    Step cfg s (.get i) (updPWs s i (fun p => p.sender = .idle && p.queue.isEmpty && !p.opn) exitPW)
  | attempt (i : Nat) (o : Outcome) (h : hasPW s i (·.sender.isSending) = true) :
    Step cfg s (.attempt i o) (updPWs s i (fun _ => true) (answer cfg o))
  | complete (i : Nat) (p : PW) (b : Batch) (why : Why)
    (hp : s.writers.find? (fun p => p.pid = i && p.sender.isCompleting) = some p) (hs : p.sender = .completing b why) :
    Step cfg s (.complete i)
      { (updPWs s i (fun q => q.sender = .completing b why) finish) with
        completed := s.completed ++ b.msgs.map fun m => (m, why) }
  | leave (c : Nat) (r : Res) (h : hasCall s c (fun x => x.phase = .waiting && leaveOk s r x) = true) :
    Step cfg s (.leave c r) (updCalls s c (·.phase = .waiting) fun x => { x with phase := .left r })
  | ret (c : Nat) (h : hasCall s c (·.phase.isLeft) = true) :
    Step cfg s (.ret c) (updCalls s c (·.phase.isLeft) Call.doReturn)
  | closeMark (h : s.close = 1) :
    Step cfg s .closeMark { s with close := 2, closed := true, writers := s.writers.map closePW }
  | closeReturn (h : (s.close = 2 && s.wg = 0) = true) : Step cfg s .closeReturn { s with close := 3 }

theorem Step.of_step {cfg : Cfg} {s s' : State} {e : Event} (h : step cfg s e = some s') : Step cfg s e s' := by
  cases e <;> dsimp only [step] at h
  case batch c =>
    split at h
    · cases h
    · rename_i x hx
      split at h <;> cases h
      · exact .batchRefused c x hx ‹_›
      · exact .batchAccepted c x hx ‹_›
  case get i =>
    split at h
    · cases h; exact .getBatch i ‹_›
    · rename_i hn
      split at h <;> cases h
      exact .getExit i hn ‹_›
  case complete i =>
    split at h
    · rename_i p hp
      split at h <;> cases h
      exact .complete i p _ _ hp ‹_›
    · cases h
  all_goals
    split at h <;> cases h
    constructor
    assumption

theorem Step.to_step {cfg : Cfg} {s s' : State} {e : Event} (h : Step cfg s e s') : step cfg s e = some s' := by
  cases h with
  | callBegin c msgs mf h => exact if_neg h
  | batchRefused c x hx h => dsimp only [step]; rw [hx]; exact if_pos h
  | batchAccepted c x hx h => dsimp only [step]; rw [hx]; exact if_neg h
  | getExit i hn h => dsimp only [step]; rw [if_neg hn]; exact if_pos h
  | complete i p b why hp hs => dsimp only [step]; rw [hp]; dsimp only; rw [hs]; rfl
  | _ => exact if_pos ‹_›

theorem Step.enabled {cfg : Cfg} {s s' : State} {e : Event} (h : Step cfg s e s') : (step cfg s e).isSome = true := by
  rw [h.to_step]; rfl

theorem run_eq (cfg : Cfg) (s : State) (es : List Event) : run cfg s es = es.foldlM (step cfg) s :=
  Run.eq_foldlM (fun _ => rfl) (fun s e es => by rw [run]; cases step cfg s e <;> rfl) es s

end KV.WriterClose
