/-
Lemmas/RecordWriter.lean — the writer models of `Model/RecordWriter.lean` emit exactly the reference
encoding (`Spec/RecordBatch.lean`) of the records they were given; computed sizes are actual lengths.

Each batch writer's bytes are `encFrame crc f` for a frame `f` given as a value (`*_eq`, through `encFrame_fields`); what the
reference decoder makes of such a frame is said once (`written_batch_spec`); plain / compressed and protocol / Conn path
differ in its hypotheses only.
-/
import KafkaVerif.Model.RecordWriter
import KafkaVerif.Lemmas.RecordBatchSpec

namespace KV.Model.RecordWriter
open KV KV.RW KV.Spec.RB

theorem bitLen_zero : bitLen 0 = 0 := by rw [bitLen]; simp

theorem bitLen_step (n : Nat) (h : n ≠ 0) : bitLen n = 1 + bitLen (n / 2) := by
  rw [bitLen]; simp [h]

/-! `sizeOfUnsignedVarInt u = (bitLen (if u = 0 then 1 else u) + 6) / 7` (Go: `bits.Len64(u|1)`, the same bit length) counts LEB128
bytes: below 128 that bit length is between 1 (`bitLen_step`) and 7 (`bitLen_le`), one byte;
from 128 on, `bitLen u = 7 + bitLen (u / 128)` (`bitLen_div_pow`), so the quotient grows by exactly one per byte, as `uvarintLen` does. -/

theorem bitLen_le (k n : Nat) (h : n < 2 ^ k) : bitLen n ≤ k := by
  induction k generalizing n with
  | zero => have : n = 0 := by simpa using h
            subst this; simp [bitLen_zero]
  | succ k ih =>
    by_cases h0 : n = 0
    · subst h0; simp [bitLen_zero]
    · rw [bitLen_step n h0]
      have : n / 2 < 2 ^ k := by rw [Nat.pow_succ] at h; omega
      have := ih _ this
      omega

theorem bitLen_div_pow (k n : Nat) (h : 2 ^ k ≤ n) : bitLen n = k + bitLen (n / 2 ^ k) := by
  induction k generalizing n with
  | zero => simp
  | succ k ih =>
    have hpos : 0 < 2 ^ k := Nat.pow_pos (by decide)
    rw [Nat.pow_succ] at h
    rw [bitLen_step n (by omega), ih (n / 2) (by omega), Nat.div_div_eq_div_mul, Nat.pow_succ, Nat.mul_comm 2]
    omega

theorem sizeOfUnsignedVarInt_eq (u : Nat) : sizeOfUnsignedVarInt u = uvarintLen u := by
  induction u using uvarintLen.induct with
  | case1 u h =>
    rw [uvarintLen]; simp only [h, if_true]
    unfold sizeOfUnsignedVarInt
    have hv : (if u = 0 then 1 else u) < 2 ^ 7 := by split <;> omega
    have hv0 : (if u = 0 then 1 else u) ≠ 0 := by split <;> omega
    have h1 := bitLen_le 7 _ hv
    have h2 := bitLen_step _ hv0
    omega
  | case2 u h ih =>
    rw [uvarintLen]; simp only [h, if_false]
    unfold sizeOfUnsignedVarInt at *
    have hu : ¬ u = 0 := by omega
    have hu' : ¬ u / 128 = 0 := by omega
    simp only [hu, hu', if_false] at *
    rw [bitLen_div_pow 7 u (by omega), show 2 ^ 7 = 128 from rfl]
    omega

theorem sizeOfVarInt_eq (x : Int) : sizeOfVarInt x = (varint x).length := by
  rw [varint_length]; exact sizeOfUnsignedVarInt_eq _

theorem varIntLen_eq (x : Int) : varIntLen x = (varint x).length := by
  rw [varint_length]; rfl

/-! The sizing / writing helpers of protocol/size.go and protocol/encode.go call the zig-zag functions (the names
are read off the source by `go/extract sizefns` on every run): these lemmas stop to hold when one of them switches to the
unsigned varint, and with them `recordV2_eq` and everything that says the writer emits the Spec encoding. -/

theorem prefixSize_zz (n : Int) : prefixSize "sizeOfVarInt" n = (varint n).length := by
  simp [prefixSize, sizeOfVarInt_eq]

theorem prefixBytes_zz (n : Int) : prefixBytes "writeVarInt" n = varint n := by
  simp [prefixBytes]

theorem writeVarNullBytes_eq (b : Option Bytes) : writeVarNullBytes b = varbytes b := by
  cases b <;> simp [writeVarNullBytes, nth, Gen.SizeFns.writeVarNullBytesCalls, prefixBytes_zz, varbytes]

theorem writeVarNullBytesFrom_eq (b : Option Bytes) : writeVarNullBytesFrom b = varbytes b := by
  cases b <;> simp [writeVarNullBytesFrom, nth, Gen.SizeFns.writeVarNullBytesFromCalls, prefixBytes_zz, varbytes]

theorem sizeOfVarNullBytes_eq (b : Option Bytes) : sizeOfVarNullBytes b = (varbytes b).length := by
  cases b <;> simp [sizeOfVarNullBytes, nth, Gen.SizeFns.varNullBytesCalls, prefixSize_zz, varbytes]

theorem sizeOfVarNullBytesIface_eq (b : Option Bytes) : sizeOfVarNullBytesIface b = (varbytes b).length := by
  cases b <;> simp [sizeOfVarNullBytesIface, nth, Gen.SizeFns.varNullBytesIfaceCalls, prefixSize_zz, varbytes]

theorem sizeOfVarString_eq (s : Bytes) : sizeOfVarString s = (varint (s.length : Int)).length + s.length := by
  simp [sizeOfVarString, nth, Gen.SizeFns.varStringCalls, prefixSize_zz]

/-- For a null field Go SIZES `varIntLen(len(nil)) = varIntLen(0)` but WRITES `varint(-1)`: the size is right only because
both take one byte (`varint_zero`, `varint_neg_one`). -/
theorem varBytesLen_eq (b : Option Bytes) : varBytesLen b = (varbytes b).length := by
  cases b with
  | none => simp [varBytesLen, optLen, varbytes, varIntLen_eq, varint_neg_one, varint_zero]
  | some b => simp [varBytesLen, optLen, varbytes, varIntLen_eq]

theorem writeHeaders_eq (hs : List Hdr) : writeHeaders hs = encHdrs hs := by
  induction hs with
  | nil => rfl
  | cons h hs ih =>
    simp [writeHeaders, encHdrs, writeHeader, encHdr, writeVarNullBytes_eq, ih, nth, Gen.SizeFns.writeVarStringCalls,
      prefixBytes_zz]

theorem headersSize_eq (hs : List Hdr) : headersSize hs = (encHdrs hs).length := by
  induction hs with
  | nil => rfl
  | cons h hs ih =>
    simp [headersSize, encHdrs, encHdr, sizeOfVarString_eq, sizeOfVarNullBytes_eq, ih]; omega

theorem headersLen_eq (hs : List Hdr) : headersLen hs = (encHdrs hs).length := by
  induction hs with
  | nil => rfl
  | cons h hs ih =>
    simp [headersLen, encHdrs, encHdr, varStringLen, varBytesLen_eq, varIntLen_eq, ih]; omega

/-- the reference record that record `i` of a written batch stands for: record attributes 0 (both record writers write a zero byte),
the timestamp delta `delta`, offset delta `i`, key / value / headers as given -/
def specRec (delta : Int) (i : Nat) (r : PRec) : RecV2 := ⟨0, delta, (i : Int), r.key, r.value, r.headers⟩

theorem recBody_length (x : RecV2) : (recBody x).length =
    1 + (varint x.tsDelta).length + (varint x.offDelta).length + (varbytes x.key).length +
      (varbytes x.value).length + (varint (x.headers.length : Int)).length + (encHdrs x.headers).length := by
  simp [recBody]; omega

theorem recordV2_eq (first : Int) (i : Nat) (t : Int) (r : PRec) :
    recordV2 first i t r = encRec (specRec (t - first) i r) := by
  have hl := recBody_length (specRec (t - first) i r)
  simp only [specRec] at hl
  simp only [recordV2, encRec, sizeOfVarInt_eq, sizeOfVarNullBytesIface_eq, headersSize_eq]
  rw [← hl]
  simp [recBody, specRec, writeVarNullBytesFrom_eq, writeHeaders_eq]

theorem recordSize_eq (d : Int) (i : Nat) (r : PRec) : recordSize d i r = (recBody (specRec d i r)).length := by
  rw [recBody_length]
  simp [recordSize, specRec, varIntLen_eq, varBytesLen_eq, headersLen_eq]; omega

theorem legacyRecordWith_eq (delta : Int → Int → Int) (base : Int) (i : Nat) (r : PRec) :
    legacyRecordWith delta base i r = encRec (specRec (delta base r.time) i r) := by
  simp only [legacyRecordWith, encRec, recordSize_eq]
  simp [recBody, specRec, writeVarNullBytes_eq, writeHeaders_eq]

/-- the reference records of a written sequence: offset deltas `i`, `i+1`, …, timestamp deltas by the rule `d` -/
def specRecs (d : PRec → Int) : Nat → List PRec → List RecV2
  | _, [] => []
  | i, r :: rs => specRec (d r) i r :: specRecs d (i + 1) rs

theorem specRecs_length (d : PRec → Int) (i : Nat) (rs : List PRec) : (specRecs d i rs).length = rs.length := by
  induction rs generalizing i with
  | nil => rfl
  | cons r rs ih => simp [specRecs, ih]

theorem recordsV2_eq (now first : Int) (i : Nat) (rs : List PRec) :
    recordsV2 now first i rs = encRecs (specRecs (fun r => effTime now r - first) i rs) := by
  induction rs generalizing i with
  | nil => rfl
  | cons r rs ih => simp [recordsV2, specRecs, encRecs, recordV2_eq, ih]

theorem legacyRecordsWith_eq (delta : Int → Int → Int) (base : Int) (i : Nat) (rs : List PRec) :
    legacyRecordsWith delta base i rs = encRecs (specRecs (fun r => delta base r.time) i rs) := by
  induction rs generalizing i with
  | nil => rfl
  | cons r rs ih => simp [legacyRecordsWith, specRecs, encRecs, legacyRecordWith_eq, ih]

theorem recordBatchSizeWith_eq (delta : Int → Int → Int) (base : Int) (i : Nat) (rs : List PRec) :
    recordBatchSizeWith delta base i rs = 61 + (legacyRecordsWith delta base i rs).length := by
  induction rs generalizing i with
  | nil => rfl
  | cons r rs ih =>
    simp only [recordBatchSizeWith, legacyRecordsWith, ih, legacyRecordWith_eq, encRec, List.length_append,
      recordSize_eq, varIntLen_eq]
    omega

/-- the logical records a consumer must see: offsets i, i+1, …, the given millisecond timestamps,
keys / values / headers untouched -/
def expectedFrom : Nat → List Int → List PRec → List Rec
  | _, _, [] => []
  | _, [], _ :: _ => []
  | i, t :: ts, r :: rs => ⟨(i : Int), t, r.key, r.value, r.headers⟩ :: expectedFrom (i + 1) ts rs

def expected (times : List Int) (recs : List PRec) : List Rec := expectedFrom 0 times recs

theorem map_recOfV2_specRecs (f : FrameV2) (hb : f.baseOffset = 0) (hl : logAppend f.attributes = false) (t : PRec → Int)
    (i : Nat) (rs : List PRec) :
    (specRecs (fun r => t r - f.firstTs) i rs).map (recOfV2 f) = expectedFrom i (rs.map t) rs := by
  induction rs generalizing i with
  | nil => rfl
  | cons r rs ih =>
    simp only [specRecs, List.map_cons, expectedFrom, ih]
    simp [recOfV2, recOfV2c, stamp, hl, specRec, hb]
    omega

theorem written_batch_spec (crc : Bytes → Nat) (hcrc : ∀ b, crc b < M32) (dec : Int → Bytes → Option Bytes) (f : FrameV2)
    (hwf : f.WF) (t : PRec → Int) (recs : List PRec) (hb : f.baseOffset = 0) (hc : f.count = (recs.length : Int))
    (hl : logAppend f.attributes = false)
    (hp : (if codecOf f.attributes = 0 then some f.payload else dec (codecOf f.attributes) f.payload) =
      some (encRecs (specRecs (fun r => t r - f.firstTs) 0 recs))) :
    readFrame crc (encFrame crc f) = some (f, []) ∧
      flattenEntry ⟨crc, crc⟩ dec (.batch f) = some (isControl f.attributes, expected (recs.map t) recs) := by
  refine ⟨by simpa using readFrame_encFrame crc hcrc f hwf [], ?_⟩
  rw [flattenEntry_batch _ dec f _ hp (by rw [specRecs_length, hc]), map_recOfV2_specRecs f hb hl]
  rfl

/-- `firstTimestamp` of `writeToVersion2`: the effective time of the first record (`now` for a zero `Record.Time`); for no record the
writer returns `ErrNoRecord` and the value is not used -/
def firstTime (now : Int) : List PRec → Int
  | [] => 0
  | r0 :: _ => effTime now r0

/-- the batch `writeToVersion2` (protocol/record_v2.go) leaves behind, as a value: baseOffset 0, partitionLeaderEpoch -1, the record set's
attributes, lastOffsetDelta `n - 1`, firstTimestamp, maxTimestamp (`maxTime`, starting from 0), producerId / producerEpoch / baseSequence
-1 (the writer never fills them in), count `n`, and the records as payload -/
def frameOfV2 (attrs now : Int) (recs : List PRec) : FrameV2 :=
  ⟨0, -1, attrs, (recs.length : Int) - 1, firstTime now recs, maxTime now 0 recs, -1, -1, -1, (recs.length : Int),
    recordsV2 now (firstTime now recs) 0 recs⟩

/-- the same with a compressor installed: the payload is what the compressor made of the records -/
def frameOfV2C (comp : Bytes → Bytes) (attrs now : Int) (recs : List PRec) : FrameV2 :=
  { frameOfV2 attrs now recs with payload := comp (recordsV2 now (firstTime now recs) 0 recs) }

theorem writeV2C_eq (crc : Bytes → Nat) (comp : Bytes → Bytes) (attrs now : Int) (recs : List PRec) (hne : recs ≠ []) :
    writeV2C crc comp attrs now recs = some (encFrame crc (frameOfV2C comp attrs now recs)) := by
  cases recs with
  | nil => exact absurd rfl hne
  | cons r0 rs =>
    refine congrArg some (encFrame_fields crc (frameOfV2C comp attrs now (r0 :: rs)) _ ?_)
    show ((21 + (frameBody (frameOfV2C comp attrs now (r0 :: rs))).length - 12 : Nat) : Int) = _
    rw [frameBody_length]; omega

/-- `writeV2` is `writeV2C` at `comp = id` and `frameOfV2` is `frameOfV2C id`, both by unfolding: the two writer models
have the same text up to `comp` -/
theorem writeV2_eq (crc : Bytes → Nat) (attrs now : Int) (recs : List PRec) (hne : recs ≠ []) :
    writeV2 crc attrs now recs = some (encFrame crc (frameOfV2 attrs now recs)) :=
  writeV2C_eq crc id attrs now recs hne

theorem frameOfV2_spec (crc : Bytes → Nat) (hcrc : ∀ b, crc b < M32) (attrs now : Int) (recs : List PRec)
    (hwf : (frameOfV2 attrs now recs).WF) (hcodec : codecOf attrs = 0) (hlog : logAppend attrs = false) :
    readFrame crc (encFrame crc (frameOfV2 attrs now recs)) = some (frameOfV2 attrs now recs, []) ∧
      flattenEntry ⟨crc, crc⟩ (fun _ _ => none) (.batch (frameOfV2 attrs now recs)) =
        some (isControl attrs, expected (recs.map (effTime now)) recs) :=
  written_batch_spec crc hcrc (fun _ _ => none) _ hwf (effTime now) recs rfl rfl hlog
    ((if_pos hcodec).trans (congrArg some (recordsV2_eq ..)))

theorem frameOfV2C_spec (crc : Bytes → Nat) (hcrc : ∀ b, crc b < M32) (comp : Bytes → Bytes)
    (dec : Int → Bytes → Option Bytes) (attrs now : Int) (recs : List PRec)
    (hwf : (frameOfV2C comp attrs now recs).WF) (hcodec : codecOf attrs ≠ 0)
    (hlog : logAppend attrs = false) (hdec : ∀ p, dec (codecOf attrs) (comp p) = some p) :
    readFrame crc (encFrame crc (frameOfV2C comp attrs now recs)) = some (frameOfV2C comp attrs now recs, []) ∧
      flattenEntry ⟨crc, crc⟩ dec (.batch (frameOfV2C comp attrs now recs)) =
        some (isControl attrs, expected (recs.map (effTime now)) recs) :=
  written_batch_spec crc hcrc dec _ hwf (effTime now) recs rfl rfl hlog
    ((if_neg hcodec).trans ((hdec _).trans (congrArg some (recordsV2_eq ..))))

/-- `msgs[0].Time` (recordbatch.go), in nanoseconds: what the timestamp deltas of the Conn path are taken against.  `Conn.WriteMessages`
returns before the batch writer for no messages; the value for `[]` is not used -/
def baseTime : List PRec → Int
  | [] => 0
  | r0 :: _ => r0.time

/-- the batch `recordBatch.writeTo` + `writeRecordBatch` (recordbatch.go, write.go) emit, as a value: attributes 0, firstTimestamp the
milliseconds of the first message's time, maxTimestamp those of the LAST message's time (`lastTime`: the Go code does not take the
maximum), producerId / producerEpoch / baseSequence -1 -/
def legacyFrame (recs : List PRec) : FrameV2 :=
  ⟨0, -1, 0, (recs.length : Int) - 1, timestampOf (baseTime recs), timestampOf (lastTime (baseTime recs) recs), -1, -1, -1,
    (recs.length : Int), legacyRecordsWith tsDelta (baseTime recs) 0 recs⟩

/-- `compressRecordBatch`: attributes are the codec's code, the payload is what the compressor made of the records -/
def legacyFrameC (comp : Bytes → Bytes) (code : Int) (recs : List PRec) : FrameV2 :=
  { legacyFrame recs with attributes := code, payload := comp (legacyRecordsWith tsDelta (baseTime recs) 0 recs) }

theorem legacyBatchC_eq (crc : Bytes → Nat) (comp : Bytes → Bytes) (code : Int) (recs : List PRec) (hne : recs ≠ []) :
    legacyBatchC crc comp code recs = encFrame crc (legacyFrameC comp code recs) := by
  cases recs with
  | nil => exact absurd rfl hne
  | cons r0 rs =>
    refine encFrame_fields crc (legacyFrameC comp code (r0 :: rs)) _ ?_
    show ((61 + (comp (legacyRecordsWith tsDelta r0.time 0 (r0 :: rs))).length : Nat) : Int) - 12 =
      49 + (comp (legacyRecordsWith tsDelta r0.time 0 (r0 :: rs))).length
    omega

/-- the uncompressed batch is the compressed one at `comp = id`, code 0: only the size is computed differently
(`recordBatchSize` sums over the records, `compressRecordBatch` takes the buffer's length) -/
theorem legacyBatch_eq_C (crc : Bytes → Nat) (recs : List PRec) : legacyBatch crc recs = legacyBatchC crc id 0 recs := by
  cases recs with
  | nil => rfl
  | cons r0 rs => simp only [legacyBatch, legacyBatchWith, legacyBatchC, recordBatchSizeWith_eq, id]

theorem legacyBatch_eq (crc : Bytes → Nat) (recs : List PRec) (hne : recs ≠ []) :
    legacyBatch crc recs = encFrame crc (legacyFrame recs) :=
  legacyBatch_eq_C crc recs ▸ legacyBatchC_eq crc id 0 recs hne

theorem writeNullBytes_eq (b : Option Bytes) : writeNullBytes b = nbytes b := by cases b <;> rfl

/-- the messages `writeToVersion1` (protocol/record_v1.go) writes for `recs`: magic 1, offsets `i`, `i + 1`, …, the record set's attributes,
effective times; headers have no place in this format -/
def msgsOfV1 (attrs now : Int) : Nat → List PRec → List Msg
  | _, [] => []
  | i, r :: rs => ⟨(i : Int), 1, attrs, effTime now r, r.key, r.value⟩ :: msgsOfV1 attrs now (i + 1) rs

theorem messageV1_eq (crc : Bytes → Nat) (attrs now : Int) (i : Nat) (r : PRec) :
    messageV1 crc attrs now i r = encMsg crc ⟨(i : Int), 1, attrs, effTime now r, r.key, r.value⟩ := by
  simp [messageV1, encMsg, msgBody, writeNullBytes_eq]

theorem writeV1_eq (c : Crcs) (attrs now : Int) (i : Nat) (rs : List PRec) :
    writeV1 c.ieee attrs now i rs = encSet c ((msgsOfV1 attrs now i rs).map Entry.msg) := by
  induction rs generalizing i with
  | nil => rfl
  | cons r rs ih => simp [writeV1, msgsOfV1, encSet, encEntry, messageV1_eq, ih]

theorem writeV1_spec (c : Crcs) (h1 : ∀ b, c.ieee b < M32) (h2 : ∀ b, c.castagnoli b < M32)
    (attrs now : Int) (recs : List PRec) (hwf : ∀ m ∈ msgsOfV1 attrs now 0 recs, m.WF) :
    decodeSet c (writeV1 c.ieee attrs now 0 recs) = some ((msgsOfV1 attrs now 0 recs).map Entry.msg) := by
  rw [writeV1_eq]; exact decodeSet_encSet_msgs c h1 h2 _ hwf

theorem writeV1C_eq (crc : Bytes → Nat) (comp : Bytes → Bytes) (attrs now : Int) (recs : List PRec) :
    writeV1C crc comp attrs now recs =
      encMsg crc ⟨0, 1, attrs, now, none, some (comp (writeV1 crc (attrs - attrs % 8) now 0 recs))⟩ := by
  simp [writeV1C, messageV1_eq, effTime]

theorem writeV1C_spec (c : Crcs) (h1 : ∀ b, c.ieee b < M32) (h2 : ∀ b, c.castagnoli b < M32) (comp : Bytes → Bytes)
    (attrs now : Int) (recs : List PRec)
    (hw : (⟨0, 1, attrs, now, none, some (comp (writeV1 c.ieee (attrs - attrs % 8) now 0 recs))⟩ : Msg).WF)
    (hwf : ∀ m ∈ msgsOfV1 (attrs - attrs % 8) now 0 recs, m.WF) :
    decodeSet c (writeV1C c.ieee comp attrs now recs) =
      some [.msg ⟨0, 1, attrs, now, none, some (comp (writeV1 c.ieee (attrs - attrs % 8) now 0 recs))⟩] ∧
    decodeSet c (writeV1 c.ieee (attrs - attrs % 8) now 0 recs) =
      some ((msgsOfV1 (attrs - attrs % 8) now 0 recs).map Entry.msg) := by
  refine ⟨?_, writeV1_spec c h1 h2 _ now recs hwf⟩
  rw [writeV1C_eq]
  simpa [encSet, encEntry] using decodeSet_encSet_msgs c h1 h2 [_] (fun m hm => List.mem_singleton.mp hm ▸ hw)

theorem legacyMessage_eq (crc : Bytes → Nat) (offset attrs : Int) (r : PRec) :
    legacyMessage crc offset attrs r = encMsg crc ⟨offset, 1, attrs, timestampOf r.time, r.key, r.value⟩ := by
  simp only [legacyMessage, encMsg, msgBody, writeNullBytes_eq]
  simp only [show ((1 : Int) = 0) = False from by simp, if_false, List.length_append, i8_length, i64_length, nbytes_length]
  congr 3
  omega

/-- the messages `writeMessage` (write.go) writes on the Conn produce v2 path: magic 1, the milliseconds of each message's time.  The offset
of the `j`-th is `offs j`, a function because the two callers differ there: the plain set writes `Message.Offset`, 0 in the model
(`legacyMessageSet`), `compressMessageSet` numbers the inner messages of a wrapper 0, 1, … (`legacyInner`) -/
def legacyMsgs (attrs : Int) (offs : Nat → Int) : Nat → List PRec → List Msg
  | _, [] => []
  | i, r :: rs => ⟨offs i, 1, attrs, timestampOf r.time, r.key, r.value⟩ :: legacyMsgs attrs offs (i + 1) rs

theorem legacyMessageSet_eq (c : Crcs) (rs : List PRec) :
    legacyMessageSet c.ieee rs = encSet c ((legacyMsgs 0 (fun _ => 0) 0 rs).map Entry.msg) := by
  -- the index of `legacyMsgs` only feeds the (here constant) offset function: any start will do
  suffices h : ∀ i, legacyMessageSet c.ieee rs = encSet c ((legacyMsgs 0 (fun _ => 0) i rs).map Entry.msg) from h 0
  induction rs with
  | nil => intro i; rfl
  | cons r rs ih => intro i; simp [legacyMessageSet, legacyMsgs, encSet, encEntry, legacyMessage_eq, ih (i + 1)]

theorem legacyInner_eq (c : Crcs) (rs : List PRec) (i : Nat) :
    legacyInner c.ieee i rs = encSet c ((legacyMsgs 0 (fun j => (j : Int)) i rs).map Entry.msg) := by
  induction rs generalizing i with
  | nil => rfl
  | cons r rs ih => simp [legacyInner, legacyMsgs, encSet, encEntry, legacyMessage_eq, ih (i + 1)]

theorem legacyWrapper_eq (crc : Bytes → Nat) (comp : Bytes → Bytes) (code : Int) (recs : List PRec) :
    legacyWrapper crc comp code recs = encMsg crc ⟨0, 1, code, 0, none, some (comp (legacyInner crc 0 recs))⟩ :=
  legacyMessage_eq crc 0 code ⟨0, none, some (comp (legacyInner crc 0 recs)), []⟩

end KV.Model.RecordWriter
