/-
Lemmas/RecordBatchSpec.lean — round-trip lemmas for the reference codec `Spec/RecordBatch.lean`:
every reader applied to its encoder's output followed by arbitrary bytes returns the value and the rest.
-/
import KafkaVerif.Spec.RecordBatch

namespace KV.Spec.RB
open KV KV.RW

theorem readVarbytes_varbytes (b : Option Bytes) (r : Bytes) : readVarbytes (varbytes b ++ r) = some (b, r) := by
  cases b <;> simp [varbytes, readVarbytes, readVarint_varint, Int.not_ofNat_neg, takeN_append]

theorem readHdr_encHdr (h : Hdr) (r : Bytes) : readHdr (encHdr h ++ r) = some (h, r) := by
  simp [encHdr, readHdr, readVarint_varint, Int.not_ofNat_neg, takeN_append, readVarbytes_varbytes]

theorem readHdrs_encHdrs (hs : List Hdr) (r : Bytes) : readHdrs hs.length (encHdrs hs ++ r) = some (hs, r) := by
  induction hs with
  | nil => simp [readHdrs, encHdrs]
  | cons h hs ih => simp [readHdrs, encHdrs, List.append_assoc, readHdr_encHdr, ih]

theorem readRecBody_recBody (x : RecV2) : readRecBody (recBody x) = some x := by
  have := readHdrs_encHdrs x.headers []
  simp only [List.append_nil] at this
  simp [recBody, readRecBody, readVarint_varint, readVarbytes_varbytes, Int.not_ofNat_neg, this]

theorem readRec_encRec (x : RecV2) (r : Bytes) : readRec (encRec x ++ r) = some (x, r) := by
  simp [encRec, readRec, readVarint_varint, Int.not_ofNat_neg, takeN_append, readRecBody_recBody]

theorem readRecs_encRecs (xs : List RecV2) (r : Bytes) : readRecs xs.length (encRecs xs ++ r) = some (xs, r) := by
  induction xs with
  | nil => simp [readRecs, encRecs]
  | cons x xs ih => simp [readRecs, encRecs, List.append_assoc, readRec_encRec, ih]

theorem encRec_pos (r : RecV2) : 0 < (encRec r).length := by
  simp only [encRec, List.length_append, varint_length]
  have := uvarintLen_pos (zigzag ((recBody r).length : Int))
  simp only [varintLen]; omega

theorem encRecs_length_ge (xs : List RecV2) : xs.length ≤ (encRecs xs).length := by
  induction xs with
  | nil => simp
  | cons x xs ih =>
    have := encRec_pos x
    simp only [encRecs, List.length_cons, List.length_append]; omega

theorem decodeRecs_encRecs (xs : List RecV2) : decodeRecs (xs.length : Int) (encRecs xs) = some xs := by
  have := readRecs_encRecs xs []
  simp only [List.append_nil] at this
  simp [decodeRecs, Int.not_ofNat_neg, this]

namespace FrameV2.WF
variable {f : FrameV2} (h : f.WF)
include h
theorem baseOffset : InRange M64 f.baseOffset := h.1
theorem leaderEpoch : InRange M32 f.leaderEpoch := h.2.1
theorem attributes : InRange M16 f.attributes := h.2.2.1
theorem lastOffsetDelta : InRange M32 f.lastOffsetDelta := h.2.2.2.1
theorem firstTs : InRange M64 f.firstTs := h.2.2.2.2.1
theorem maxTs : InRange M64 f.maxTs := h.2.2.2.2.2.1
theorem producerId : InRange M64 f.producerId := h.2.2.2.2.2.2.1
theorem producerEpoch : InRange M16 f.producerEpoch := h.2.2.2.2.2.2.2.1
theorem baseSeq : InRange M32 f.baseSeq := h.2.2.2.2.2.2.2.2.1
theorem count : InRange M32 f.count := h.2.2.2.2.2.2.2.2.2.1
theorem len : 2 * (49 + f.payload.length) < M32 := h.2.2.2.2.2.2.2.2.2.2
end FrameV2.WF

/-- The constants of the v2 layout: 40 = attributes … count (2+4+8+8+8+2+4+4), the part under the checksum before the records;
9 = leaderEpoch, magic, crc (4+1+4), so the announced length is `9 + |body| = 49 + |payload|`; 61 = 49 + offset and length
fields (8+4).  `FrameV2.WF` bounds `2 * (49 + |payload|)` because the length must be `InRange M32`. -/
theorem frameBody_length (f : FrameV2) : (frameBody f).length = 40 + f.payload.length := by
  simp [frameBody]; omega

theorem encFrame_eq (crc : Bytes → Nat) (f : FrameV2) : encFrame crc f =
    i64 f.baseOffset ++ (i32 ((9 + (frameBody f).length : Nat) : Int) ++ (i32 f.leaderEpoch ++ (i8 2 ++
      (u32 (crc (frameBody f)) ++ frameBody f)))) := rfl

theorem encFrame_fields (crc : Bytes → Nat) (f : FrameV2) (len : Int) (h : len = 49 + f.payload.length) :
    i64 f.baseOffset ++ (i32 len ++ (i32 f.leaderEpoch ++ (i8 2 ++ (u32 (crc (frameBody f)) ++ frameBody f)))) =
      encFrame crc f := by
  have : ((9 + (frameBody f).length : Nat) : Int) = len := by rw [frameBody_length]; omega
  rw [encFrame_eq, this]

theorem encFrame_length (crc : Bytes → Nat) (f : FrameV2) : (encFrame crc f).length = 61 + f.payload.length := by
  simp only [encFrame_eq, List.length_append, i64_length, i32_length, i8_length, u32_length, frameBody_length]; omega

theorem readFrameBody_append (f : FrameV2) (h : f.WF) (rest : Bytes) :
    readFrameBody f.baseOffset f.leaderEpoch (frameBody f ++ rest) = some { f with payload := f.payload ++ rest } := by
  simp [frameBody, readFrameBody, readI16_i16 _ _ h.attributes, readI32_i32 _ _ h.lastOffsetDelta, readI64_i64 _ _ h.firstTs,
    readI64_i64 _ _ h.maxTs, readI64_i64 _ _ h.producerId, readI16_i16 _ _ h.producerEpoch, readI32_i32 _ _ h.baseSeq,
    readI32_i32 _ _ h.count]

theorem readFrameBody_frameBody (f : FrameV2) (h : f.WF) :
    readFrameBody f.baseOffset f.leaderEpoch (frameBody f) = some f := by
  simpa using readFrameBody_append f h []

theorem frameLen_inRange (f : FrameV2) (h : f.WF) : InRange M32 ((9 + (frameBody f).length : Nat) : Int) := by
  have hlen := h.len
  rw [frameBody_length]; unfold InRange M32 at *; omega

theorem takeN_frameBlock (f : FrameV2) (e : Int) (c : Nat) (r : Bytes) :
    takeN ((9 + (frameBody f).length : Nat) : Int).toNat (i32 e ++ (i8 2 ++ (u32 c ++ (frameBody f ++ r)))) =
      some (i32 e ++ (i8 2 ++ (u32 c ++ frameBody f)), r) := by
  have hl : (i32 e ++ (i8 2 ++ (u32 c ++ frameBody f))).length = ((9 + (frameBody f).length : Nat) : Int).toNat := by
    simp only [List.length_append, i32_length, i8_length, u32_length]; omega
  have := takeN_append (i32 e ++ (i8 2 ++ (u32 c ++ frameBody f))) r
  rwa [hl, List.append_assoc, List.append_assoc, List.append_assoc] at this

/-- the writer's and the reader's checksum functions are two parameters: the frame is accepted exactly when they agree on its body -/
theorem readFrame_encFrame_crc (crc crc' : Bytes → Nat) (f : FrameV2) (h : f.WF) (hc : crc' (frameBody f) < M32) (r : Bytes) :
    readFrame crc (encFrame crc' f ++ r) = if crc (frameBody f) = crc' (frameBody f) then some (f, r) else none := by
  have h9 : ¬ (((9 + (frameBody f).length : Nat) : Int) < 9) := by omega
  have hm : InRange M8 2 := by decide
  simp only [encFrame, readFrame, List.append_assoc, readI64_i64 _ _ h.baseOffset, readI32_i32 _ _ (frameLen_inRange f h), h9, if_false,
    takeN_frameBlock, readI32_i32 _ _ h.leaderEpoch, readI8_i8 _ _ hm, readU32_u32 _ _ hc, readFrameBody_frameBody f h]
  by_cases hcrc : crc (frameBody f) = crc' (frameBody f) <;> simp [hcrc]

theorem readFrame_encFrame (crc : Bytes → Nat) (hcrc : ∀ b, crc b < M32) (f : FrameV2) (h : f.WF) (r : Bytes) :
    readFrame crc (encFrame crc f ++ r) = some (f, r) :=
  (readFrame_encFrame_crc crc crc f h (hcrc _) r).trans (if_pos rfl)

theorem flattenEntry_batch (c : Crcs) (dec : Int → Bytes → Option Bytes) (f : FrameV2) (xs : List RecV2)
    (hp : (if codecOf f.attributes = 0 then some f.payload else dec (codecOf f.attributes) f.payload) = some (encRecs xs))
    (hc : f.count = (xs.length : Int)) :
    flattenEntry c dec (.batch f) = some (isControl f.attributes, xs.map (recOfV2 f)) := by
  simp only [flattenEntry, hp, hc, decodeRecs_encRecs]

theorem readNbytes_nbytes (b : Option Bytes) (r : Bytes) (h : 2 * optLen b < M32) :
    readNbytes (nbytes b ++ r) = some (b, r) := by
  cases b with
  | none =>
    have : InRange M32 (-1) := by decide
    simp [nbytes, readNbytes, readI32_i32 _ _ this]
  | some b =>
    have hr : InRange M32 (b.length : Int) := by unfold InRange; simp [optLen] at h; omega
    simp [nbytes, readNbytes, readI32_i32 _ _ hr, Int.not_ofNat_neg, takeN_append]

theorem nbytes_length (b : Option Bytes) : (nbytes b).length = 4 + optLen b := by
  cases b <;> simp [nbytes, optLen]

theorem msgBody_length (m : Msg) :
    (msgBody m).length = 10 + (if m.magic = 0 then 0 else 8) + optLen m.key + optLen m.value := by
  simp only [msgBody, List.length_append, i8_length, nbytes_length]
  split <;> simp <;> omega

namespace Msg.WF
variable {m : Msg} (h : m.WF)
include h
theorem offset : InRange M64 m.offset := h.1
theorem magic : m.magic = 0 ∨ m.magic = 1 := h.2.1
theorem attributes : InRange M8 m.attributes := h.2.2.1
theorem ts : InRange M64 m.ts := h.2.2.2.1
theorem ts_zero : m.magic = 0 → m.ts = 0 := h.2.2.2.2.1
theorem len : 2 * (30 + optLen m.key + optLen m.value) < M32 := h.2.2.2.2.2
theorem key_lt : 2 * optLen m.key < M32 := by have := h.len; omega
theorem value_lt : 2 * optLen m.value < M32 := by have := h.len; omega
end Msg.WF

theorem readMsgBody_msgBody (m : Msg) (h : m.WF) : readMsgBody m.offset (msgBody m) = some m := by
  have hk := h.key_lt
  have hv := h.value_lt
  have hm := h.magic
  have ha := h.attributes
  have ht := h.ts
  have hz := h.ts_zero
  obtain ⟨off, magic, attrs, ts, key, value⟩ := m
  simp only at hm ha ht hz hk hv
  have hvn := readNbytes_nbytes value [] hv
  simp only [List.append_nil] at hvn
  have hm0 : InRange M8 0 := by decide
  have hm1 : InRange M8 1 := by decide
  cases hm with
  | inl h0 =>
    subst h0
    have := hz rfl
    subst this
    simp [msgBody, readMsgBody, readI8_i8 _ _ hm0, readI8_i8 _ _ ha, readNbytes_nbytes _ _ hk, hvn]
  | inr h1 =>
    subst h1
    simp [msgBody, readMsgBody, readI8_i8 _ _ hm1, readI8_i8 _ _ ha, readI64_i64 _ _ ht,
      readNbytes_nbytes _ _ hk, hvn]

/-- the announced size is `22 + |key| + |value|` at most (crc 4, magic, attributes, timestamp 8, two length prefixes of 4);
`Msg.WF` bounds twice `30 + |key| + |value|` by `M32`: 8 more than this needs -/
theorem msgLen_inRange (m : Msg) (h : m.WF) : InRange M32 ((4 + (msgBody m).length : Nat) : Int) := by
  have hl := h.len
  rw [msgBody_length]
  unfold InRange M32 at *
  split <;> omega

theorem takeN_msgBlock (m : Msg) (c : Nat) (r : Bytes) :
    takeN ((4 + (msgBody m).length : Nat) : Int).toNat (u32 c ++ (msgBody m ++ r)) = some (u32 c ++ msgBody m, r) := by
  have hl : (u32 c ++ msgBody m).length = ((4 + (msgBody m).length : Nat) : Int).toNat := by
    simp only [List.length_append, u32_length]; omega
  have := takeN_append (u32 c ++ msgBody m) r
  rwa [hl, List.append_assoc] at this

theorem readMsg_encMsg (crc : Bytes → Nat) (hcrc : ∀ b, crc b < M32) (m : Msg) (h : m.WF) (r : Bytes) :
    readMsg crc (encMsg crc m ++ r) = some (m, r) := by
  have h4 : ¬ (((4 + (msgBody m).length : Nat) : Int) < 4) := by omega
  simp only [encMsg, readMsg, List.append_assoc, readI64_i64 _ _ h.offset, readI32_i32 _ _ (msgLen_inRange m h), h4, if_false,
    takeN_msgBlock, readU32_u32 _ _ (hcrc _), readMsgBody_msgBody m h]
  simp

theorem i8_eq (x : Int) : i8 x = [byte (toU M8 x)] := by simp [i8, beN]

theorem magicOf_frame (a b c : Int) (X : Bytes) : magicOf (i64 a ++ (i32 b ++ (i32 c ++ (i8 2 ++ X)))) = some 2 := by
  simp only [magicOf, List.getElem?_append_right, i64_length, i32_length, Nat.reduceLeDiff, Nat.reduceSub]
  simp [i8_eq]
  decide

theorem magicOf_encFrame (crc : Bytes → Nat) (f : FrameV2) (r : Bytes) :
    magicOf (encFrame crc f ++ r) = some 2 := by
  simp only [encFrame, List.append_assoc]
  exact magicOf_frame ..

theorem magicOf_encMsg (crc : Bytes → Nat) (m : Msg) (r : Bytes) (h : m.magic = 0 ∨ m.magic = 1) :
    ∃ b, magicOf (encMsg crc m ++ r) = some b ∧ (b = 0 ∨ b = 1) ∧ b ≠ 2 := by
  simp only [magicOf, encMsg, msgBody, List.append_assoc, List.getElem?_append_right, i64_length, i32_length, u32_length,
    Nat.reduceLeDiff, Nat.reduceSub]
  rcases h with h | h <;> simp [i8_eq, h] <;> decide

theorem readEntry_encEntry (c : Crcs) (h1 : ∀ b, c.ieee b < M32) (h2 : ∀ b, c.castagnoli b < M32)
    (e : Entry) (hwf : match e with | .msg m => m.WF | .batch f => f.WF) (r : Bytes) :
    readEntry c (encEntry c e ++ r) = some (e, r) := by
  cases e with
  | msg m =>
    obtain ⟨b, hb, _, hne⟩ := magicOf_encMsg c.ieee m r hwf.magic
    simp [readEntry, encEntry, hb, hne, readMsg_encMsg c.ieee h1 m hwf r]
  | batch f =>
    simp [readEntry, encEntry, magicOf_encFrame, readFrame_encFrame c.castagnoli h2 f hwf r]

theorem encEntry_length_ge17 (c : Crcs) (e : Entry) : 17 ≤ (encEntry c e).length := by
  cases e with
  | msg m =>
    simp only [encEntry, encMsg, msgBody, List.length_append, i64_length, i32_length, u32_length, i8_length]; omega
  | batch f => simp [encEntry, encFrame, frameBody]; omega

theorem encEntry_append_ne_nil (c : Crcs) (e : Entry) (r : Bytes) : encEntry c e ++ r ≠ [] := fun h => by
  have := encEntry_length_ge17 c e
  have := congrArg List.length h
  rw [List.length_append, List.length_nil] at this; omega

theorem readSet_encSet (c : Crcs) (h1 : ∀ b, c.ieee b < M32) (h2 : ∀ b, c.castagnoli b < M32)
    (es : List Entry) (hwf : ∀ e ∈ es, match e with | .msg m => m.WF | .batch f => f.WF)
    (fuel : Nat) (hf : es.length ≤ fuel) : readSet c fuel (encSet c es) = some es := by
  induction es generalizing fuel with
  | nil => cases fuel <;> simp [readSet, encSet]
  | cons e es ih =>
    cases fuel with
    | zero => simp at hf
    | succ fuel =>
      have hrest := ih (fun e' he' => hwf e' (by simp [he'])) fuel (by simp only [List.length_cons] at hf; omega)
      -- `readSet` matches the empty input before the fuel: `eq_3` is its equation for `fuel + 1` on an input that is not `[]`
      rw [encSet, readSet.eq_3 c _ fuel (encEntry_append_ne_nil c e _), readEntry_encEntry c h1 h2 e (hwf e (by simp))]
      simp only [hrest]

theorem encSet_length_ge (c : Crcs) (es : List Entry) : es.length ≤ (encSet c es).length := by
  induction es with
  | nil => simp [encSet]
  | cons e es ih =>
    have := encEntry_length_ge17 c e
    simp [encSet]; omega

theorem decodeSet_encSet (c : Crcs) (h1 : ∀ b, c.ieee b < M32) (h2 : ∀ b, c.castagnoli b < M32)
    (es : List Entry) (hwf : ∀ e ∈ es, match e with | .msg m => m.WF | .batch f => f.WF) :
    decodeSet c (encSet c es) = some es :=
  readSet_encSet c h1 h2 es hwf _ (encSet_length_ge c es)

theorem decodeSet_encSet_msgs (c : Crcs) (h1 : ∀ b, c.ieee b < M32) (h2 : ∀ b, c.castagnoli b < M32)
    (ms : List Msg) (hwf : ∀ m ∈ ms, m.WF) : decodeSet c (encSet c (ms.map Entry.msg)) = some (ms.map Entry.msg) :=
  decodeSet_encSet c h1 h2 _ fun e he => by
    obtain ⟨m, hm, rfl⟩ := List.mem_map.mp he
    exact hwf m hm

end KV.Spec.RB
