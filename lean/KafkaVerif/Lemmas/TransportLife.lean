/-
Lemmas/TransportLife.lean — life-cycle facts of pooled Transport connections (Model/TransportConnC17.lean, the LTS
over the T.* hook events of transport.go) used by C09, read off the from/to table `arrow` of
Lemmas/TransportConnC17.lean: a connection whose release was refused (its group is closed) or that was taken off the
idle stack can only exit; an exited connection stays exited.
-/
import KafkaVerif.Lemmas.TransportConnC17

namespace KV.TransportConn

theorem closing_own (f : TFacts) (s s' : State) (e : Ev) (c : Nat) (hcl : get s c = some .closing)
    (h : step f s e = some s') (hc : connOf e = some c) : e = .exit c ∧ get s' c = some .exited := by
  obtain ⟨h1, h2⟩ := step_own f s s' e c .closing h hc hcl
  obtain ⟨c', rfl⟩ := arrow_closing f e h1
  cases hc
  exact ⟨rfl, h2⟩

theorem closing_only_exits (f : TFacts) (s s' : State) (e : Ev) (c : Nat) (hcl : get s c = some .closing)
    (h : step f s e = some s') :
    get s' c = some .closing ∨ (e = .exit c ∧ get s' c = some .exited) :=
  (step_conn f s s' e c .closing h hcl (by decide)).elim (fun ⟨hc, _⟩ => Or.inr (closing_own f s s' e c hcl h hc))
    fun ⟨_, hs⟩ => Or.inl hs

theorem released_refused_exits (f : TFacts) (s s' : State) (c : Nat) (h : step f s (.release c false) = some s') :
    get s' c = some .closing ∧
    ∀ e s'', step f s' e = some s'' → connOf e = some c → e = .exit c ∧ get s'' c = some .exited := by
  obtain ⟨st, h1, _, rfl⟩ := move_spec h
  have hcl : get (set s c .closing) c = some .closing := get_set_same _ h1
  exact ⟨hcl, fun e s'' hs hc => closing_own f _ s'' e c hcl hs hc⟩

theorem exited_is_final (f : TFacts) (s s' : State) (e : Ev) (c : Nat) (hx : get s c = some .exited) (h : step f s e = some s') :
    get s' c = some .exited := by
  rcases step_conn f s s' e c .exited h hx (by decide) with ⟨_, hfrom, _⟩ | ⟨_, hs⟩
  · rw [arrow_exited] at hfrom; cases hfrom
  · exact hs

end KV.TransportConn
