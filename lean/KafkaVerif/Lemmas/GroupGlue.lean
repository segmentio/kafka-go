/-
Lemmas/GroupGlue.lean — the leader glue on association lists with distinct keys (`mapGet` is `List.lookup`, `mapInsert` a
Go assignment: Lemmas/AssocList.lean): a lookup does not depend on the iteration order of the Go map.
Section `Topics`: the leader asks for `extractTopics ms` (duplicate-free, exactly the subscribed topics); what `readPartitions` /
`readTopicMetadata` return, missing topics passed over, is the cluster's partitions of those topics (`readPartitions_reads`,
`leaderPartitions_reads`).
-/
import KafkaVerif.Model.GroupGlue
import KafkaVerif.Lemmas.GroupBalancer
import KafkaVerif.Lemmas.AssocList

namespace KV.GroupGlue
open KV.Spec.GroupAssign KV.AssocList

/-- the keys of a Go map in its iteration order -/
def keys (m : TopicMap) : List Nat := m.map (·.1)

theorem mapGet_nil (k : Nat) : mapGet k [] = none := rfl

theorem mapGet_cons (k : Nat) (e : Nat × List Int) (m : TopicMap) :
    mapGet k (e :: m) = if e.1 = k then some e.2 else mapGet k m := by
  unfold mapGet
  rw [List.find?_cons]
  by_cases h : e.1 = k
  · rw [if_pos h, beq_iff_eq.mpr h]; rfl
  · rw [if_neg h, beq_eq_false_iff_ne.mpr h]

theorem mapGet_eq_lookup (k : Nat) (m : TopicMap) : mapGet k m = m.lookup k := by
  unfold mapGet
  rw [find?_key]
  cases m.lookup k <;> rfl

theorem mapInsert_assigns : Assigns (fun (m : TopicMap) k v => mapInsert k v m) := fun m k v k' => by
  induction m with
  | nil => rfl
  | cons e es ih =>
    obtain ⟨ek, ev⟩ := e
    simp only [mapInsert]
    split
    · next h => subst h; simp only [List.lookup_cons]; cases k' == ek <;> rfl
    · next h =>
      rw [List.lookup_cons, ih, List.lookup_cons, List.lookup_cons, List.lookup_cons]
      cases h1 : k' == ek
      · rfl
      · rw [beq_false_of_ne fun hk => h ((beq_iff_eq.mp h1).symm.trans hk)]

theorem mapGet_insert (t k : Nat) (v : List Int) (m : TopicMap) :
    mapGet t (mapInsert k v m) = if k = t then some v else mapGet t m := by
  rw [mapGet_eq_lookup, mapInsert_assigns m k v t, ← mapGet_eq_lookup, mapGet_cons]

/-- filling a map from a list of entries: the fold keeps the LAST value of a key, a lookup in the list finds the FIRST,
so the keys must be distinct -/
theorem mapGet_fold (t : Nat) (l acc : TopicMap) (h : (keys l).Nodup) :
    mapGet t (l.foldl (fun acc e => mapInsert e.1 e.2 acc) acc) = (mapGet t l).or (mapGet t acc) := by
  simp only [mapGet_eq_lookup]
  exact mapInsert_assigns.lookup_foldl_nodup l acc h t

theorem keys_insert (k : Nat) (v : List Int) : ∀ (m : TopicMap),
    keys (mapInsert k v m) = if k ∈ keys m then keys m else keys m ++ [k]
  | [] => rfl
  | (k', v') :: r => by
    unfold mapInsert
    by_cases h : k' = k
    · subst h; simp [keys]
    · have h' : ¬ k = k' := fun e => h e.symm
      have ih := keys_insert k v r
      simp only [keys, List.map_cons, List.mem_cons, h, h', if_false, false_or] at ih ⊢
      rw [ih]
      split <;> simp [*]

theorem keys_insert_nodup (k : Nat) (v : List Int) (m : TopicMap) (h : (keys m).Nodup) : (keys (mapInsert k v m)).Nodup := by
  rw [keys_insert]
  split
  · exact h
  · rename_i hk
    exact List.nodup_append.mpr ⟨h, List.nodup_cons.mpr ⟨List.not_mem_nil, List.nodup_nil⟩, fun a ha b hb e => hk (by simp at hb; rw [← hb, ← e]; exact ha)⟩

theorem keys_fold_nodup : ∀ (l acc : TopicMap), (keys acc).Nodup →
    (keys (l.foldl (fun acc e => mapInsert e.1 e.2 acc) acc)).Nodup
  | [], _, h => h
  | e :: l, acc, h => keys_fold_nodup l _ (keys_insert_nodup e.1 e.2 acc h)

theorem mapGet_perm (t : Nat) (m₁ m₂ : TopicMap) (hp : m₁.Perm m₂) (h : (keys m₁).Nodup) : mapGet t m₁ = mapGet t m₂ := by
  rw [mapGet_eq_lookup, mapGet_eq_lookup, lookup_perm hp h]

theorem mapGet_map (t : Nat) (f : List Int → List Int) (m : TopicMap) :
    mapGet t (m.map (fun e => (e.1, f e.2))) = (mapGet t m).map f := by
  rw [mapGet_eq_lookup, mapGet_eq_lookup, lookup_map_snd]

theorem toTopics32_get (t : Nat) (topics : TopicMap) (h : (keys topics).Nodup) :
    mapGet t (toTopics32 topics) = (mapGet t topics).map (·.map toInt32) := by
  unfold toTopics32
  have hk : keys (topics.map (fun e => (e.1, e.2.map toInt32))) = keys topics := by
    unfold keys; rw [List.map_map]; rfl
  rw [mapGet_fold t _ [] (by rw [hk]; exact h), mapGet_nil, Option.or_none, mapGet_map]

theorem toTopics32_keys_nodup (topics : TopicMap) : (keys (toTopics32 topics)).Nodup :=
  keys_fold_nodup _ [] (by simp [keys])

theorem decode_encode (ρ : TopicMap → TopicMap) (hρ : ∀ l, (ρ l).Perm l) (m : TopicMap) (h : (keys m).Nodup) (t : Nat) :
    mapGet t (decodeAssignment (encodeAssignment ρ m)) = mapGet t m := by
  unfold decodeAssignment encodeAssignment
  have hk : (keys (ρ m)).Nodup := ((hρ m).map _).nodup_iff.mpr h
  rw [mapGet_fold t _ [] hk, mapGet_nil, Option.or_none]
  exact mapGet_perm t _ _ (hρ m) hk

theorem toInt32_id (x : Int) (h : InInt32 x) : toInt32 x = x := by
  unfold toInt32; unfold InInt32 at h; omega

theorem map_toInt32_id : ∀ (l : List Int), (∀ x ∈ l, InInt32 x) → l.map toInt32 = l
  | [], _ => rfl
  | x :: l, h => by
    rw [List.map_cons, toInt32_id x (h x List.mem_cons_self), map_toInt32_id l (fun y hy => h y (List.mem_cons_of_mem _ hy))]

theorem find_ids {β : Type} (g : Nat → β) (id : Nat) (ids : List Nat) :
    (ids.map fun i => (i, g i)).find? (fun e => e.1 == id) = if id ∈ ids then some (id, g id) else none := by
  rw [find?_key, lookup_map_ids]
  split <;> rfl

theorem filterMap_graph (p : Nat → Bool) (h : Nat → List Int) : ∀ (ts : List Nat),
    (ts.filterMap fun t => if p t then none else some (t, h t)) = (ts.filter (fun t => !p t)).map fun t => (t, h t)
  | [] => rfl
  | t :: ts => by
    by_cases hp : p t <;> simp [hp, filterMap_graph p h ts]

theorem keys_filterMap (p : Nat → Bool) (h : Nat → List Int) (ts : List Nat) :
    keys (ts.filterMap fun t => if p t then none else some (t, h t)) = ts.filter (fun t => !p t) := by
  rw [filterMap_graph, keys, List.map_map]
  exact List.map_id _

theorem mapGet_filterMap (p : Nat → Bool) (h : Nat → List Int) (t : Nat) (ts : List Nat) :
    mapGet t (ts.filterMap fun t' => if p t' then none else some (t', h t')) =
      if t ∈ ts ∧ p t = false then some (h t) else none := by
  rw [filterMap_graph, mapGet_eq_lookup, lookup_map_ids]
  simp only [List.mem_filter, Bool.not_eq_true']

/-- filling a map with `f x` under every key `x` of a list: the value depends on the key only, so the list may repeat keys -/
theorem mapGet_foldInsert (f : Nat → List Int) (t : Nat) (topics : List Nat) (acc : TopicMap) :
    mapGet t (topics.foldl (fun acc x => mapInsert x (f x) acc) acc) = if t ∈ topics then some (f t) else mapGet t acc := by
  have := mapInsert_assigns.lookup_foldl (topics.map fun x => (x, f x)) acc t
  rw [List.foldl_map, ← List.map_reverse, List.lookup_append, lookup_map_ids] at this
  simp only [List.mem_reverse] at this
  rw [mapGet_eq_lookup, mapGet_eq_lookup]
  exact this.trans (by split <;> rfl)

theorem generationView_eq (ρ : TopicMap → TopicMap) (A : Assignments) (id : Nat) (topics : List Nat) (t : Nat) :
    generationView ρ A id topics t = if t ∈ topics then (mapGet t (received ρ A id)).getD [] else [] := by
  unfold generationView makeAssignments
  rw [mapGet_foldInsert (fun x => (mapGet x (received ρ A id)).getD []) t topics []]
  by_cases h : t ∈ topics <;> simp [h, mapGet_nil]

section Topics
open KV.GroupBalancer

theorem insertNat_perm (x : Nat) : ∀ (l : List Nat), (insertNat x l).Perm (x :: l)
  | [] => List.Perm.refl _
  | y :: ys => by
    unfold insertNat
    split
    · exact List.Perm.refl _
    · exact (List.Perm.cons y (insertNat_perm x ys)).trans (List.Perm.swap x y ys)

theorem sortNat_perm : ∀ (l : List Nat), (sortNat l).Perm l
  | [] => List.Perm.refl _
  | x :: xs => (insertNat_perm x _).trans (List.Perm.cons x (sortNat_perm xs))

theorem extractTopics_nodup (ms : List Member) : (extractTopics ms).Nodup :=
  (sortNat_perm _).nodup_iff.mpr (firstListings_nodup _ [])

theorem mem_extractTopics (ms : List Member) (t : Nat) : t ∈ extractTopics ms ↔ ∃ m ∈ ms, t ∈ m.topics := by
  unfold extractTopics
  rw [(sortNat_perm _).mem_iff, mem_firstListings]
  simp [List.mem_flatMap]

theorem readsTopics_of_filter (cluster got : List Part) (topics : List Nat)
    (h : ∀ t ∈ topics, got.filter (fun p => p.topic == t) = cluster.filter (fun p => p.topic == t)) :
    ReadsTopics cluster topics got := by
  intro t ht
  refine ⟨by unfold partsOf; rw [h t ht], fun z => ?_⟩
  rw [ledIn_eq, ledIn_eq]
  unfold partsOfTopic
  rw [h t ht]

theorem readPartitions_reads (cluster : List Part) (topics : List Nat) :
    ReadsTopics cluster topics (readPartitions cluster topics) := by
  refine readsTopics_of_filter _ _ _ (fun t ht => ?_)
  unfold readPartitions
  rw [List.filter_filter]
  apply List.filter_congr
  intro p _
  by_cases hp : p.topic = t <;> simp [hp, ht]

/-- several topics requested (`n > 1`, so an unknown one is passed over): the partitions of topic `t` in the result are
those in the accumulator followed by those of the answers still to come -/
theorem readTopicMetadata_go (t : Nat) (n : Nat) (hn : n > 1) : ∀ (ans : List (Nat × Option (List Part))) (acc : List Part) (err : Bool),
    ((readTopicMetadata.go n ans acc err).1).filter (fun p => p.topic == t) =
      acc.filter (fun p => p.topic == t) ++ (ans.flatMap fun a => (a.2.getD []).filter (fun p => p.topic == t))
  | [], acc, err => by simp [readTopicMetadata.go]
  | (x, none) :: rest, acc, err => by
    simp only [readTopicMetadata.go, hn, if_true]
    rw [readTopicMetadata_go t n hn rest acc true]; simp
  | (x, some ps) :: rest, acc, err => by
    simp only [readTopicMetadata.go]
    rw [readTopicMetadata_go t n hn rest (acc ++ ps) err]; simp

theorem filter_filter_topic (cluster : List Part) (t x : Nat) :
    (cluster.filter (fun p => p.topic == x)).filter (fun p => p.topic == t) =
      if x = t then cluster.filter (fun p => p.topic == t) else [] := by
  rw [List.filter_filter]
  by_cases h : x = t
  · subst h; simp
  · simp only [h, if_false, List.filter_eq_nil_iff]
    intro p _; simp; intro h1 h2; exact h (h2 ▸ h1 ▸ rfl)

theorem readTopicMetadata_topic (cluster : List Part) (missing topics : List Nat) (hn : topics.Nodup)
    (hmiss : ∀ p ∈ cluster, ¬ p.topic ∈ missing) (t : Nat) (ht : t ∈ topics) :
    ((readTopicMetadata (metadataAnswer cluster missing topics)).1).filter (fun p => p.topic == t) =
      cluster.filter (fun p => p.topic == t) := by
  have hmt : t ∈ missing → cluster.filter (fun p => p.topic == t) = [] := by
    intro hm
    rw [List.filter_eq_nil_iff]; intro p hp; simp; intro e; exact hmiss p hp (e ▸ hm)
  unfold readTopicMetadata
  have hlen : (metadataAnswer cluster missing topics).length = topics.length := by simp [metadataAnswer]
  by_cases hbig : topics.length > 1
  · rw [readTopicMetadata_go t _ (by rw [hlen]; exact hbig)]
    simp only [List.filter_nil, List.nil_append, metadataAnswer, List.flatMap_map]
    rw [flatMap_eq_single _ t topics hn ht]
    · by_cases hm : t ∈ missing
      · simp [hm, hmt hm]
      · simp [hm]
    · intro x _ hx
      by_cases hm : x ∈ missing
      · simp [hm]
      · simp only [List.contains_iff_mem, hm, if_false, Option.getD_some]
        rw [filter_filter_topic]; simp [hx]
  · -- a single topic: an unknown one ends the call with nothing, and the cluster has nothing of it either
    match topics, ht, hbig with
    | [x], ht, _ =>
      have hx : t = x := by simpa using ht
      subst hx
      by_cases hm : t ∈ missing
      · simp [metadataAnswer, hm, readTopicMetadata.go, hmt hm]
      · simp [metadataAnswer, hm, readTopicMetadata.go]
    | _ :: _ :: _, _, hb => exact absurd (by simp) hb

theorem leaderPartitions_reads (cluster : List Part) (missing : List Nat) (ms : List Member)
    (hmiss : ∀ p ∈ cluster, ¬ p.topic ∈ missing) :
    ReadsTopics cluster (extractTopics ms) (leaderPartitions cluster missing ms) :=
  readsTopics_of_filter _ _ _
    (readTopicMetadata_topic cluster missing (extractTopics ms) (extractTopics_nodup ms) hmiss)
end Topics

end KV.GroupGlue
