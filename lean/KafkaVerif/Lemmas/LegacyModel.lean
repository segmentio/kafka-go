/-
Lemmas/LegacyModel.lean — the writeBuffer primitives of the hand-written Conn codec (Base/LegacyWire.lean) are the
model encoder of Model/Codec.lean at the corresponding non-flexible Kafka types.  Used by the generated
`T.legacy_model` theorems of Gen/Legacy.lean.
-/
import KafkaVerif.Base.LegacyWire
import KafkaVerif.Model.Codec

namespace KV.Legacy
open KV KV.Wire KV.Codec

/-! The simp set `legacy_enc` turns `encode ty v`, at a struct type given by its field list, into the concatenation of
writeBuffer calls, both sides associated to the right.  `List.length_cons`, `List.length_nil` are in it to discharge the
side condition `ts.length = vs.length` of `encFields_ite_append`. -/
attribute [legacy_enc] List.cons_append List.nil_append List.append_assoc List.append_nil List.length_cons List.length_nil
  Bool.false_eq_true if_false Int.ofNat_eq_natCast writeArray writeStringArray writeInt32Array

@[legacy_enc] theorem enc_int8 (i : Int) : encode .int8 (.int i) = writeInt8 i := by simp [encode, writeInt8]
@[legacy_enc] theorem enc_int16 (i : Int) : encode .int16 (.int i) = writeInt16 i := by simp [encode, writeInt16]
@[legacy_enc] theorem enc_int32 (i : Int) : encode .int32 (.int i) = writeInt32 i := by simp [encode, writeInt32]
@[legacy_enc] theorem enc_int64 (i : Int) : encode .int64 (.int i) = writeInt64 i := by simp [encode, writeInt64]
@[legacy_enc] theorem enc_bool (b : Bool) : encode .bool (.bool b) = writeBool b := by simp [encode, encBool, writeBool]
@[legacy_enc] theorem enc_string (s : Bytes) : encode (.string false false) (.str s) = writeString s := by
  simp [encode, encString, writeString]
@[legacy_enc] theorem enc_bytes (b : Bytes) : encode (.bytes false false) (.bytes (some b)) = writeBytes b := by
  simp [encode, encBytes, writeBytes]

/-- the writers use either for the count in front of a loop -/
@[legacy_enc] theorem writeArrayLen_eq (n : Int) : writeArrayLen n = writeInt32 n := rfl

theorem encodeElems_map {α : Type} (ty : Ty) (val : α → Val) (l : List α) :
    encodeElems ty (l.map val) = writeEach l (fun x => encode ty (val x)) := by
  induction l with
  | nil => simp [encodeElems, writeEach]
  | cons x xs ih => simp [encodeElems, writeEach, ih]

@[legacy_enc] theorem enc_array {α : Type} (ty : Ty) (n : Bool) (val : α → Val) (l : List α) :
    encode (.array false n ty) (.arr (some (l.map val))) = writeArray l (fun x => encode ty (val x)) := by
  cases n <;> simp [encode, encArrayLen, encodeElems_map, writeArray, writeArrayLen]

theorem enc_array_null (ty : Ty) : encode (.array false true ty) (.arr none) = writeArrayLen (-1) := by
  simp [encode, encArrayLen, encodeElems, writeArrayLen]

/-- `if x == nil { writeArrayLen(-1) } else { writeArray(…) }` -/
@[legacy_enc] theorem enc_array_ite {α : Type} (c : Prop) [Decidable c] (ty : Ty) (val : α → Val) (l : List α) :
    encode (.array false true ty) (.arr (if c then none else some (l.map val))) =
      if c then writeArrayLen (-1) else writeArray l (fun x => encode ty (val x)) := by
  split
  · exact enc_array_null ty
  · exact enc_array ty true val l

@[legacy_enc] theorem enc_struct (fs : List Ty) (vs : List Val) :
    encode (.struct false fs [] []) (.struct vs []) = encodeFields fs vs := by
  simp [encode]

@[legacy_enc] theorem encFields_nil : encodeFields [] [] = [] := by simp [encodeFields]
@[legacy_enc] theorem encFields_cons (t : Ty) (ts : List Ty) (v : Val) (vs : List Val) :
    encodeFields (t :: ts) (v :: vs) = (if t.zeroSize then [] else encode t v) ++ encodeFields ts vs := by
  simp [encodeFields]

theorem encFields_append : ∀ (ts ts' : List Ty) (vs vs' : List Val), ts.length = vs.length →
    encodeFields (ts ++ ts') (vs ++ vs') = encodeFields ts vs ++ encodeFields ts' vs'
  | [], _, [], _, _ => by simp only [List.nil_append, encFields_nil]
  | t :: ts, ts', v :: vs, vs', h => by
    simp only [List.cons_append, encFields_cons, List.append_assoc,
      encFields_append ts ts' vs vs' (Nat.succ.inj h)]

/-- fields written under a version test `if t.v >= vN { … }`, at the end of the struct and before further fields -/
@[legacy_enc] theorem encFields_ite (c : Prop) [Decidable c] (ts : List Ty) (vs : List Val) :
    encodeFields (if c then ts else []) (if c then vs else []) = if c then encodeFields ts vs else [] := by
  split <;> simp only [encFields_nil]
@[legacy_enc] theorem encFields_ite_append (c : Prop) [Decidable c] (ts ts' : List Ty) (vs vs' : List Val)
    (h : ts.length = vs.length) :
    encodeFields ((if c then ts else []) ++ ts') ((if c then vs else []) ++ vs') =
      (if c then encodeFields ts vs else []) ++ encodeFields ts' vs' := by
  split
  · exact encFields_append ts ts' vs vs' h
  · simp only [List.nil_append]

@[simp, legacy_enc] theorem zs_int8 : Ty.zeroSize .int8 = false := rfl
@[simp, legacy_enc] theorem zs_int16 : Ty.zeroSize .int16 = false := rfl
@[simp, legacy_enc] theorem zs_int32 : Ty.zeroSize .int32 = false := rfl
@[simp, legacy_enc] theorem zs_int64 : Ty.zeroSize .int64 = false := rfl
@[simp, legacy_enc] theorem zs_bool : Ty.zeroSize .bool = false := rfl
@[simp, legacy_enc] theorem zs_string (c n : Bool) : Ty.zeroSize (.string c n) = false := rfl
@[simp, legacy_enc] theorem zs_bytes (c n : Bool) : Ty.zeroSize (.bytes c n) = false := rfl
@[simp, legacy_enc] theorem zs_array (c n : Bool) (t : Ty) : Ty.zeroSize (.array c n t) = false := rfl
@[simp, legacy_enc] theorem zs_struct (f : Bool) (a : List Ty) (b : List Int) (c : List Ty) : Ty.zeroSize (.struct f a b c) = false := rfl

/-! The two writers of array elements as functions, and the primitive arrays with the element writer eta-expanded (the
form `enc_array` leaves). -/
theorem writeInt32_fun : writeInt32 = fun x => Wire.encInt 4 x := rfl
theorem writeString_fun : writeString = fun s => Wire.encInt 2 s.length ++ s := rfl

theorem writeStringArray_eta (a : List Bytes) : writeArray a (fun x => writeString x) = writeStringArray a := rfl
theorem writeInt32Array_eta (a : List Int) : writeArray a (fun x => writeInt32 x) = writeInt32Array a := rfl

end KV.Legacy
