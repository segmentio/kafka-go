/-
Lemmas/PullReader.lean — `pull_eq_run_all`: the pull parser of Model/PullReader.lean (message_reader.go / batch.go as written)
computes what the token machine of Model/MessageSetReader.lean computes, on any stream of tokens whose v0/v1 headers carry
magic 0 or 1 (`allWF`), whenever the token machine does not report a desynchronisation.

A position `Cfg` of the token machine is as fine as the pull parser's calls: between two tokens, or inside a decompressed
payload.  The reader stack and the Batch are a function of it (`Cfg.stack`, `Cfg.msr`, `Cfg.batch`): the token state holds
everything the pull state holds.  What the two sides have to agree on beyond that is an invariant of the token
machine alone (`Cfg.Inv`).  Every function of message_reader.go is met through its equations at a position; `Yields` says what
any of them does there; `Below` is the order on positions in which every round of every loop descends (field `lt`: `Cfg.measure`
decreases; each loop's fuel stays at or above it: `Below.fuel`).  The functions of batch.go around them (`batchReadMessage`,
`batchReadMessageSkip`, `drain`, `Pull.readAll`) are unfolded where they are met.
-/
import KafkaVerif.Model.PullReader
import KafkaVerif.Lemmas.TokenMachine

namespace KV.C02
open Pull

/-- a position of the token machine, as fine as the pull parser's calls -/
inductive Cfg
  /-- between two tokens of the connection's stream: one reader on the stack -/
  | flat (s : St) (ts : List Tok)
  /-- inside a decompressed v2 payload, records `rs` still to be read (`s`: the state before them) -/
  | v2c (s : St) (rs : List (Int × Nat × Nat)) (ts : List Tok)
  /-- inside a v0/v1 wrapper, inner messages `ms` still to be read.  `stale`: magic and offset field of the inner message header
  read last, which the pushed level still holds and the code never reads again — the one thing in the reader stack that the
  token machine's state does not determine -/
  | v1c (s : St) (base : Int) (ms : List (Int × Nat)) (ts : List Tok) (stale : Nat × Int)

/-- what the token machine makes of the rest -/
def Cfg.res (e : Bool) (o : Int) : Cfg → St × Outcome
  | .flat s ts => run .fixed e o s ts
  | .v2c s rs ts => run .fixed e o (recordsV2 .fixed o s rs) ts
  | .v1c s base ms ts _ => run .fixed e o (messagesV1 .fixed o base s ms) ts

/-- an upper bound on the `readMessage` calls the rest of the stream can take (each token at most two: a header and its
body, `Pull.size`; each record or inner message of a pushed payload one resp. two more); `Pull.readAll`'s fuel
`2 * size toks + 8` is above it -/
def Cfg.measure : Cfg → Nat
  | .flat _ ts => 2 * Pull.size ts + 4
  | .v2c _ rs ts => rs.length + 2 * Pull.size ts + 4
  | .v1c _ _ ms ts _ => 2 * ms.length + 2 * Pull.size ts + 5

def Cfg.st : Cfg → St
  | .flat s _ => s
  | .v2c s _ _ => s
  | .v1c s _ _ _ _ => s

/-- the connection's own tokens still to come -/
def Cfg.ts : Cfg → List Tok
  | .flat _ ts => ts
  | .v2c _ _ ts => ts
  | .v1c _ _ _ ts _ => ts

/-- the reader level that holds the header fields of `s`, with `ts` left to read -/
def lvl (s : St) (ts : List Tok) : Lvl :=
  { toks := ts, count := s.count, magic := s.magic, first := s.first, lastD := s.lastD, hcount := s.hcount, codec := s.codec }

/-- the reader stack at a position.  A pushed v2 payload carries the batch header, the level under it is marked read
(`count = 0`); a pushed wrapper level has `count = 0` and the wrapper's `base` -/
def Cfg.stack : Cfg → List Lvl
  | .flat s ts => [lvl s ts]
  | .v2c s rs ts => [{ lvl s (r2Toks rs) with base := -1 }, { lvl s ts with count := 0 }]
  | .v1c s base ms ts stale => [{ toks := innerToks s.magic ms, base := base, magic := stale.1, first := stale.2 }, lvl s ts]

def Cfg.msr (cfg : Cfg) : MSR := { stack := cfg.stack, lengthRemain := cfg.st.lenRem, batchEnd := cfg.st.batchEnd }

def Cfg.batch (cfg : Cfg) : Batch := { msgs := cfg.msr, offset := cfg.st.off, lastOffset := cfg.st.lastOff, started := true }

/-- the reader part of a token-machine state agrees with a level of the pull reader: as a relation, what `lvl` and `Cfg.msr`
compute (`mrel_flat`) -/
structure MRel (s : St) (l : Lvl) (m : MSR) : Prop where
  started : s.started = true
  count : s.count = l.count
  magic : s.magic = l.magic
  first : s.first = l.first
  lastD : s.lastD = l.lastD
  hcount : s.hcount = l.hcount
  codec : s.codec = l.codec
  lenRem : s.lenRem = m.lengthRemain
  batchEnd : s.batchEnd = m.batchEnd

theorem mrel_flat {s : St} (ts : List Tok) (h : s.started = true) : MRel s (lvl s ts) (Cfg.flat s ts).msr :=
  ⟨h, rfl, rfl, rfl, rfl, rfl, rfl, rfl, rfl⟩

theorem unwind_single (l : Lvl) : unwind [l] = [l] := rfl

/-- what the token machine's state satisfies at a position it can reach on a stream of well-formed tokens.  `flat`: a batch in
progress is a v2 batch (its compressed payload not yet pushed: `count = hcount`) or a v0/v1 message whose header is read
(`lengthRemain = 1`).  `v2c`: a record has been read from the pushed payload, so `count < hcount` and `readMessageV2` does not push
a second time.  `v1c`: the wrapper is marked read and `lengthRemain` is the 1 its header left; an exhausted level (`ms = []`)
is met only inside `readMessageV1`'s loop, right after the push of an empty wrapper (`unwindStack` pops it otherwise) -/
def Cfg.Inv : Cfg → Prop
  | .flat s _ => s.started = true ∧
      (s.count ≠ 0 → (s.magic = 2 ∧ (s.codec = true → s.count = s.hcount)) ∨ (s.magic ≤ 1 ∧ s.count = 1 ∧ s.lenRem = 1))
  | .v2c s rs _ => s.started = true ∧ s.magic = 2 ∧ s.count = rs.length ∧ rs ≠ [] ∧ s.count < s.hcount
  | .v1c s _ ms _ _ => s.started = true ∧ s.count = 0 ∧ s.magic ≤ 1 ∧ s.lenRem = 1 ∧ (ms = [] → s.inV1 = true)

/-- the position after an inner message of a wrapper, `ms` still to come: `unwindStack` pops the exhausted level -/
def Cfg.inner (s : St) (base : Int) (ms : List (Int × Nat)) (ts : List Tok) (stale : Nat × Int) : Cfg :=
  if ms = [] then .flat s ts else .v1c s base ms ts stale

/-- the position after a record of a decompressed payload, `rs` still to come -/
def Cfg.payload (s : St) (rs : List (Int × Nat × Nat)) (ts : List Tok) : Cfg :=
  if rs = [] then .flat s ts else .v2c s rs ts

/-- inside `readMessageV1`'s loop: no v2 batch is in progress, and between two messages the token machine knows it is inside
the loop (`inV1`: it will not accept a v2 header, which the loop cannot read) -/
def Cfg.InLoop : Cfg → Prop
  | .flat s _ => (s.count = 0 → s.inV1 = true) ∧ (s.count ≠ 0 → s.magic ≤ 1)
  | .v2c .. => False
  | .v1c .. => True

def Cfg.WF (cfg : Cfg) : Prop := allWF cfg.ts

/-- the Batch's part of the state: offset, lastOffset, what has been handed out.  A round of a loop that returns nothing
(a header, a message skipped below `min`, a push, a pop) leaves it alone -/
def St.key (s : St) : Int × Int × List (Int × Nat) := (s.off, s.lastOff, s.out)

theorem size_lt_cons (t : Tok) (ts : List Tok) : Pull.size ts < Pull.size (t :: ts) := by
  cases t <;> simp [Pull.size] <;> omega

/-- `cfg'` lies further down the computation that starts at `cfg`: the token machine ends the same way from both, and fewer
calls are left.  Every round of every loop of the pull parser goes from a position to one below it (`measure_cons` …
`measure_z2`) -/
structure Below (e : Bool) (o : Int) (cfg cfg' : Cfg) : Prop where
  res : cfg'.res e o = cfg.res e o
  lt : cfg'.measure < cfg.measure
  inv : cfg'.Inv
  wf : Cfg.WF cfg'

theorem Below.trans {e : Bool} {o : Int} {a b c : Cfg} (h : Below e o a b) (h' : Below e o b c) : Below e o a c :=
  ⟨h'.res.trans h.res, Nat.lt_trans h'.lt h.lt, h'.inv, h'.wf⟩

theorem Below.fuel {e : Bool} {o : Int} {cfg cfg2 : Cfg} {fuel : Nat} (h : Below e o cfg cfg2) (hm : cfg.measure ≤ fuel + 1) :
    cfg2.measure ≤ fuel := Nat.le_of_lt_succ (Nat.lt_of_lt_of_le h.lt hm)

theorem measure_cons {s s' : St} {t : Tok} {ts : List Tok} : (Cfg.flat s' ts).measure < (Cfg.flat s (t :: ts)).measure := by
  have := size_lt_cons t ts
  simp only [Cfg.measure]; omega

theorem measure_zv {s s' : St} {z : Nat} {inner : List (Int × Nat)} {ts : List Tok} {b : Int} {stale : Nat × Int} :
    (Cfg.v1c s' b inner ts stale).measure < (Cfg.flat s (.zv z inner :: ts)).measure := by
  simp only [Cfg.measure, Pull.size]; omega

theorem measure_pop {s s' : St} {b : Int} {ts : List Tok} {stale : Nat × Int} : (Cfg.flat s' ts).measure < (Cfg.v1c s b [] ts stale).measure := by
  simp only [Cfg.measure, List.length_nil]; omega

theorem measure_inner {s s' : St} {b : Int} {m : Int × Nat} {ms : List (Int × Nat)} {ts : List Tok} {stale stale' : Nat × Int} :
    (Cfg.inner s' b ms ts stale').measure < (Cfg.v1c s b (m :: ms) ts stale).measure := by
  cases ms <;> simp [Cfg.inner, Cfg.measure] <;> omega

theorem measure_payload {s s' : St} {r : Int × Nat × Nat} {rs : List (Int × Nat × Nat)} {ts : List Tok} :
    (Cfg.payload s' rs ts).measure < (Cfg.v2c s (r :: rs) ts).measure := by
  cases rs <;> simp [Cfg.payload, Cfg.measure]

theorem measure_z2 {s s' : St} {p : Nat} {r : Int × Nat × Nat} {rs : List (Int × Nat × Nat)} {ts : List Tok} :
    (Cfg.payload s' rs ts).measure < (Cfg.flat s (.z2 p (r :: rs) :: ts)).measure :=
  Nat.lt_trans (measure_payload (s := s) (r := r)) (by simp only [Cfg.measure, Pull.size, List.length_cons]; omega)

/-- the token machine's result `R` is `finish` in a state that agrees with the reader `m'` a call that failed with errShortRead
leaves, and with the Batch at `cfg` -/
def EndAt (e : Bool) (cfg : Cfg) (R : St × Outcome) (m' : MSR) : Prop :=
  ∃ s', R = finish .fixed e s' ∧ s'.started = true ∧ s'.lenRem = m'.lengthRemain ∧ s'.batchEnd = m'.batchEnd ∧ s'.key = cfg.st.key

/-- what a call of `readMessage` (or the rest of one) does at `cfg`: it returns the message the token machine hands out next and
leaves the reader of a position further down the same computation, or fails with errShortRead where the token machine finishes.
`s0` is the machine's state after the reader's part of that step (`preRec s z` for a v2 record, `{ s with count := 0 }` for a
top-level v0/v1 message, `s` itself, whose `count` is 0, for one inside a wrapper); `onRecord` is the Batch's part, which `call_of_yields` finds in `batchReadMessage` -/
def Yields (e : Bool) (o : Int) (cfg : Cfg) (res : Except Fail (MSR × Msg)) : Prop :=
  (∃ cfg' s0 x lo t, res = .ok (cfg'.msr, (x, lo, t)) ∧ cfg'.st = onRecord .fixed o s0 x lo t ∧ s0.out = cfg.st.out ∧
      Below e o cfg cfg') ∨
  (∃ m', res = .error (.shortRead, m') ∧ EndAt e cfg (cfg.res e o) m')

theorem Yields.of_below {e : Bool} {o : Int} {cfg cfg2 : Cfg} {res : Except Fail (MSR × Msg)} (ha : Below e o cfg cfg2)
    (hk : cfg2.st.key = cfg.st.key) (h : Yields e o cfg2 res) : Yields e o cfg res := by
  rcases h with ⟨cfg', s0, x, lo, t, r1, r2, r3, r4⟩ | ⟨m', r1, s', q1, q2, q3, q4, q5⟩
  · exact .inl ⟨cfg', s0, x, lo, t, r1, r2, r3.trans (congrArg (·.2.2) hk), ha.trans r4⟩
  · exact .inr ⟨m', r1, s', ha.res ▸ q1, q2, q3, q4, q5.trans hk⟩

theorem res_eat {e : Bool} {o : Int} {s : St} {t : Tok} (ts : List Tok) (h : s.expects t) :
    (Cfg.flat s (t :: ts)).res e o = (Cfg.flat (s.eat o t) ts).res e o := run_cons_cont (step_expected h)

theorem below_h2 {e : Bool} {o : Int} {s : St} {b ld : Int} {c : Nat} {z : Bool} {pl : Nat} {ts : List Tok} (h0 : s.count = 0)
    (hi : s.inV1 = false) (hv : allWF (.h2 b ld c z pl :: ts)) :
    Below e o (.flat s (.h2 b ld c z pl :: ts)) (.flat (stH2 s b ld c z pl) ts) :=
  ⟨(res_eat ts (t := .h2 b ld c z pl) ⟨h0, hi⟩).symm, measure_cons, ⟨rfl, fun _ => .inl ⟨rfl, fun _ => rfl⟩⟩, hv.tail⟩

theorem below_h1 {e : Bool} {o : Int} {s : St} {mg : Nat} {f : Int} {z : Bool} {ts : List Tok} (h0 : s.count = 0)
    (hv : allWF (.h1 mg f z :: ts)) : Below e o (.flat s (.h1 mg f z :: ts)) (.flat (afterH1 s mg f z) ts) :=
  ⟨(res_eat ts (t := .h1 mg f z) h0).symm, measure_cons, ⟨rfl, fun _ => .inr ⟨hv.h1, rfl, rfl⟩⟩, hv.tail⟩

theorem inner_msr (s : St) (base : Int) (ms : List (Int × Nat)) (ts : List Tok) (stale : Nat × Int) :
    (Cfg.inner s base ms ts stale).msr =
      { stack := unwind [{ toks := innerToks s.magic ms, base := base, magic := stale.1, first := stale.2 }, lvl s ts],
        lengthRemain := s.lenRem, batchEnd := s.batchEnd } := by
  cases ms <;> simp [Cfg.inner, Cfg.msr, Cfg.stack, Cfg.st, unwind, innerToks]

theorem inner_res (e : Bool) (o : Int) (s : St) (base : Int) (ms : List (Int × Nat)) (ts : List Tok) (stale : Nat × Int) :
    (Cfg.inner s base ms ts stale).res e o = run .fixed e o (messagesV1 .fixed o base s ms) ts := by
  cases ms <;> rfl

theorem v1_top_nil (min : Int) (fuel : Nat) (s : St) :
    readMessageV1 min (fuel + 2) (Cfg.flat s []).msr = .error (.shortRead, { (Cfg.flat s []).msr with stack := [] }) := by
  simp [readMessageV1, Cfg.msr, Cfg.stack, lvl]

theorem v1_top_cut (min : Int) (fuel : Nat) {s : St} (ts : List Tok) (h0 : s.count = 0) :
    readMessageV1 min (fuel + 1) (Cfg.flat s (.cut :: ts)).msr = .error (.shortRead, (Cfg.flat s (.cut :: ts)).msr) := by
  simp [readMessageV1, readHeader, Cfg.msr, Cfg.stack, lvl, h0, bind, Except.bind]

theorem v1_top_h1 (min : Int) (fuel : Nat) {s : St} (mg : Nat) (f : Int) (z : Bool) (ts : List Tok) (h0 : s.count = 0) :
    readMessageV1 min (fuel + 1) (Cfg.flat s (.h1 mg f z :: ts)).msr =
      v1Body min (readMessageV1 min fuel) (Cfg.flat (afterH1 s mg f z) ts).msr := by
  simp [readMessageV1, readHeader, Cfg.msr, Cfg.stack, Cfg.st, lvl, afterH1, h0, bind, Except.bind]

theorem v1_top_body (min : Int) (fuel : Nat) {s : St} (t : Tok) (ts : List Tok) (h0 : s.count ≠ 0) :
    readMessageV1 min (fuel + 1) (Cfg.flat s (t :: ts)).msr = v1Body min (readMessageV1 min fuel) (Cfg.flat s (t :: ts)).msr := by
  have : s.count > 0 := Nat.pos_of_ne_zero h0
  simp [readMessageV1, readHeader, Cfg.msr, Cfg.stack, lvl, this, bind, Except.bind]

theorem v1Body_end (min : Int) (k : MSR → Except Fail (MSR × Msg)) (s : St) {ts : List Tok} (h : isEnd ts) :
    v1Body min k (Cfg.flat s ts).msr = .error (.shortRead, (Cfg.flat s ts).msr) := by
  rcases h with rfl | ⟨r, rfl⟩ <;> cases hc : s.codec <;> simp [v1Body, Cfg.msr, Cfg.stack, lvl, hc]

theorem v1Body_kv (min : Int) (k : MSR → Except Fail (MSR × Msg)) {s : St} (t z : Nat) (ts : List Tok) (h1 : s.count = 1)
    (hc : s.codec = false) :
    v1Body min k (Cfg.flat s (.kv t z :: ts)).msr =
      if s.first < min then k (Cfg.flat { s with count := 0, inV1 := true } ts).msr
      else .ok ((Cfg.flat { s with count := 0 } ts).msr, (s.first, -1, t)) := by
  simp [v1Body, markRead, unwind, Cfg.msr, Cfg.stack, Cfg.st, lvl, h1, hc, bind, Except.bind, pure, Except.pure]

theorem v1Body_zv (min : Int) (k : MSR → Except Fail (MSR × Msg)) {s : St} (z : Nat) (inner : List (Int × Nat)) (ts : List Tok)
    (h1 : s.count = 1) (hc : s.codec = true) :
    v1Body min k (Cfg.flat s (.zv z inner :: ts)).msr =
      k (Cfg.v1c { s with count := 0, inV1 := true } (wrapperBase s.first inner) inner ts (0, 0)).msr := by
  simp [v1Body, markRead, unwind, Cfg.msr, Cfg.stack, Cfg.st, lvl, h1, hc, bind, Except.bind]

theorem v1_child_nil (min : Int) (fuel : Nat) (s : St) (base : Int) (ts : List Tok) (stale : Nat × Int) :
    readMessageV1 min (fuel + 1) (Cfg.v1c s base [] ts stale).msr = readMessageV1 min fuel (Cfg.flat s ts).msr := by
  simp [readMessageV1, Cfg.msr, Cfg.stack, Cfg.st, innerToks]

theorem v1_child_cons (min : Int) (fuel : Nat) {s : St} (base f : Int) (t : Nat) (ms : List (Int × Nat)) (ts : List Tok) (stale : Nat × Int)
    (h0 : s.count = 0) (hl : s.lenRem = 1) :
    readMessageV1 min (fuel + 1) (Cfg.v1c s base ((f, t) :: ms) ts stale).msr =
      if f + base < min then readMessageV1 min fuel (Cfg.inner { s with inV1 := true } base ms ts (s.magic, f)).msr
      else .ok ((Cfg.inner s base ms ts (s.magic, f)).msr, (f + base, -1, t)) := by
  rw [inner_msr, inner_msr]
  simp [readMessageV1, v1Body, readHeader, markRead, Cfg.msr, Cfg.stack, Cfg.st, innerToks, lvl, h0, hl, bind, Except.bind, pure, Except.pure]

section
variable {s : St} {base : Int} {ms : List (Int × Nat)} {ts : List Tok} {stale : Nat × Int}

theorem inner_st : (Cfg.inner s base ms ts stale).st = s := by cases ms <;> rfl

theorem inner_wf (hv : allWF ts) : (Cfg.inner s base ms ts stale).WF := by cases ms <;> exact hv

theorem inner_inv (hst : s.started = true) (h0 : s.count = 0) (hmg : s.magic ≤ 1) (hl : s.lenRem = 1) :
    (Cfg.inner s base ms ts stale).Inv := by
  cases ms with
  | nil => exact ⟨hst, fun h => absurd h0 h⟩
  | cons y ms' => exact ⟨hst, h0, hmg, hl, fun h => nomatch h⟩

theorem inner_inLoop (hi : s.inV1 = true) (h0 : s.count = 0) : (Cfg.inner s base ms ts stale).InLoop := by
  cases ms with
  | nil => exact ⟨fun _ => hi, fun h => absurd h0 h⟩
  | cons y ms' => trivial

end

/-- `readMessageV1`'s loop with `fuel` does at every position inside the loop what the token machine does -/
def V1Loop (e : Bool) (o : Int) (fuel : Nat) : Prop :=
  ∀ cfg : Cfg, cfg.measure ≤ fuel → cfg.Inv → cfg.InLoop → Cfg.WF cfg → (cfg.res e o).2 ≠ .desync →
    Yields e o cfg (readMessageV1 cfg.st.off fuel cfg.msr)

/-- a round of the loop that ends in `continue` -/
theorem V1Loop.next {e : Bool} {o : Int} {fuel : Nat} (IH : V1Loop e o fuel) {cfg cfg2 : Cfg} (ha : Below e o cfg cfg2)
    (hk : cfg2.st.key = cfg.st.key) (hl : cfg2.InLoop) (hm : cfg.measure ≤ fuel + 1) (hnd : (cfg.res e o).2 ≠ .desync) :
    Yields e o cfg (readMessageV1 cfg.st.off fuel cfg2.msr) := by
  rw [← show cfg2.st.off = cfg.st.off from congrArg (·.1) hk]
  exact .of_below ha hk (IH cfg2 (ha.fuel hm) ha.inv hl ha.wf (ha.res ▸ hnd))

theorem v1_body (e : Bool) (o : Int) (fuel : Nat) (IH : V1Loop e o fuel) {s : St} {ts : List Tok} (hst : s.started = true)
    (h1 : s.count = 1) (hmg : s.magic ≤ 1) (hl : s.lenRem = 1) (hv : allWF ts) (hnd : (run .fixed e o s ts).2 ≠ .desync)
    (hm : (Cfg.flat s ts).measure ≤ fuel + 1) :
    Yields e o (.flat s ts) (v1Body s.off (readMessageV1 s.off fuel) (Cfg.flat s ts).msr) := by
  by_cases hend : isEnd ts
  · rw [v1Body_end _ _ _ hend]
    exact .inr ⟨_, rfl, s, run_end hend, hst, rfl, rfl, rfl⟩
  · cases ts with
    | nil => exact absurd (.inl rfl) hend
    | cons tk ts' =>
      have hx : s.expects tk := run_expects hnd (fun h => hend (.inr ⟨ts', h ▸ rfl⟩))
      have hres := res_eat (e := e) (o := o) ts' hx
      cases tk with
      | kv t z =>
        rw [v1Body_kv _ _ t z ts' h1 hx.2.2]
        simp only [St.eat, messageV1] at hres
        by_cases hlt : s.first < s.off
        · rw [if_pos hlt] at hres ⊢
          exact IH.next (cfg2 := .flat { s with count := 0, inV1 := true } ts')
            ⟨hres.symm, measure_cons, ⟨hst, fun h => absurd rfl h⟩, hv.tail⟩ rfl ⟨fun _ => rfl, fun h => absurd rfl h⟩ hm hnd
        · rw [if_neg hlt] at hres ⊢
          exact .inl ⟨.flat (onRecord .fixed o { s with count := 0 } s.first (-1) t) ts', _, _, _, _, rfl, rfl, rfl,
            ⟨hres.symm, measure_cons, ⟨hst, fun h => absurd rfl h⟩, hv.tail⟩⟩
      | zv z inner =>
        rw [v1Body_zv _ _ z inner ts' h1 hx.2.2]
        exact IH.next (cfg2 := .v1c { s with count := 0, inV1 := true } (wrapperBase s.first inner) inner ts' (0, 0))
          ⟨hres.symm, measure_zv, ⟨hst, rfl, hmg, hl, fun _ => rfl⟩, hv.tail⟩ rfl trivial hm hnd
      | cut => exact absurd hx id
      | h2 b ld c zz pl => exact absurd hx.1 (by omega)
      | h1 m f zz => exact absurd (show s.count = 0 from hx) (by omega)
      | r2 d t z => exact absurd hx.1 (by omega)
      | z2 p rs => exact absurd hx.1 (by omega)

/-- the loop of `readMessageV1`: from any position inside the loop it returns the message the token machine delivers next
(skipping what lies below `min`, descending into wrappers, popping exhausted readers) or fails with errShortRead where
the token machine finishes -/
theorem v1_loop (e : Bool) (o : Int) : ∀ fuel : Nat, V1Loop e o fuel := by
  intro fuel
  induction fuel with
  | zero => intro cfg hm; cases cfg <;> simp [Cfg.measure] at hm
  | succ fuel ih =>
    intro cfg hm hI hin hv hnd
    cases cfg with
    | v2c => exact absurd hin id
    | flat s ts =>
      cases ts with
      | nil =>
        obtain ⟨f', rfl⟩ : ∃ f', fuel = f' + 1 := ⟨fuel - 1, by simp only [Cfg.measure] at hm; omega⟩
        exact .inr ⟨_, v1_top_nil _ f' s, s, rfl, hI.1, rfl, rfl, rfl⟩
      | cons tk ts' =>
        by_cases hc0 : s.count = 0
        · by_cases hcut : tk = .cut
          · subst hcut
            exact .inr ⟨_, v1_top_cut _ fuel ts' hc0, s, run_end (.inr ⟨_, rfl⟩), hI.1, rfl, rfl, rfl⟩
          · have hx : s.expects tk := run_expects hnd hcut
            cases tk with
            | h1 mg f z =>
              have ha : Below e o (.flat s (.h1 mg f z :: ts')) (.flat (afterH1 s mg f z) ts') := below_h1 hc0 hv
              refine .of_below ha rfl ?_
              rw [v1_top_h1 _ fuel mg f z ts' hc0]
              exact v1_body e o fuel ih rfl rfl hv.h1 rfl hv.tail (show ((Cfg.flat (afterH1 s mg f z) ts').res e o).2 ≠ _ from ha.res ▸ hnd)
                (Nat.le_of_lt (Nat.lt_of_lt_of_le ha.lt hm))
            | h2 b ld c z pl => exact absurd (hin.1 hc0) (by rw [hx.2]; exact Bool.noConfusion)
            | cut => exact absurd rfl hcut
            | r2 d t z => exact absurd hc0 hx.2.1
            | z2 p rs => exact absurd hc0 hx.2.1
            | kv t z => exact absurd hc0 hx.2.1
            | zv z inner => exact absurd hc0 hx.2.1
        · obtain ⟨hmg, hc1, hl1⟩ : s.magic ≤ 1 ∧ s.count = 1 ∧ s.lenRem = 1 := by
            have := hin.2 hc0
            rcases hI.2 hc0 with ⟨h2, _⟩ | h
            · omega
            · exact h
          rw [v1_top_body _ fuel tk ts' hc0]
          exact v1_body e o fuel ih hI.1 hc1 hmg hl1 hv hnd hm
    | v1c s base ms ts stale =>
      obtain ⟨hst, h0, hmg, hl, hiv⟩ := hI
      show Yields e o _ (readMessageV1 s.off _ _)
      cases ms with
      | nil =>
        rw [v1_child_nil]
        exact ih.next (cfg2 := .flat s ts) ⟨rfl, measure_pop, ⟨hst, fun h => absurd h0 h⟩, hv⟩ rfl
          ⟨fun _ => hiv rfl, fun h => absurd h0 h⟩ hm hnd
      | cons x ms' =>
        obtain ⟨f, t⟩ := x
        rw [v1_child_cons _ fuel base f t ms' ts stale h0 hl]
        have hres : (Cfg.v1c s base ((f, t) :: ms') ts stale).res e o
            = run .fixed e o (messagesV1 .fixed o base (messageV1 .fixed o s (f + base) t) ms') ts := rfl
        simp only [messageV1] at hres
        by_cases hlt : f + base < s.off
        · rw [if_pos hlt] at hres ⊢
          rw [← inner_res e o _ base ms' ts (s.magic, f)] at hres
          exact ih.next ⟨hres.symm, measure_inner, inner_inv hst h0 hmg hl, inner_wf hv⟩ (by rw [inner_st]; rfl)
            (inner_inLoop rfl h0) hm hnd
        · rw [if_neg hlt] at hres ⊢
          rw [← inner_res e o _ base ms' ts (s.magic, f)] at hres
          exact .inl ⟨.inner (onRecord .fixed o s (f + base) (-1) t) base ms' ts (s.magic, f), s, _, _, _,
            by rw [inner_msr, inner_msr]; rfl, inner_st, rfl, ⟨hres.symm, measure_inner, inner_inv hst h0 hmg hl, inner_wf hv⟩⟩

/-- `recordV2` before the message is handed to the Batch: `lengthRemain`, `batchEnd`, `markRead` (the `batchEnd` clause spelt as
in `recordV2` with its `v = .fixed` conjunct instantiated, as in `stH2`, so that `recordV2_preRec` holds by unfolding) -/
def preRec (s : St) (z : Nat) : St :=
  { s with lenRem := s.lenRem - z,
           batchEnd := if Variant.fixed = Variant.fixed ∧ s.count = 1 then s.first + s.lastD + 1 else s.batchEnd, count := s.count - 1 }

theorem recordV2_preRec (o : Int) (s : St) (d : Int) (t z : Nat) :
    recordV2 .fixed o s d t z = onRecord .fixed o (preRec s z) (s.first + d) (s.first + s.lastD) t := rfl

theorem payload_msr {s : St} {rs : List (Int × Nat × Nat)} (ts : List Tok) (h : s.count = rs.length) :
    (Cfg.payload s rs ts).msr =
      { stack := unwind [{ lvl s (r2Toks rs) with base := -1 }, { lvl s ts with count := 0 }], lengthRemain := s.lenRem,
        batchEnd := s.batchEnd } := by
  cases rs <;> simp [Cfg.payload, Cfg.msr, Cfg.stack, Cfg.st, unwind, r2Toks, lvl, h]

section
variable {s : St} {rs : List (Int × Nat × Nat)} {ts : List Tok}

theorem payload_st : (Cfg.payload s rs ts).st = s := by cases rs <;> rfl

theorem payload_wf (hv : allWF ts) : (Cfg.payload s rs ts).WF := by cases rs <;> exact hv

theorem payload_res (e : Bool) (o : Int) (s : St) (rs : List (Int × Nat × Nat)) (ts : List Tok) :
    (Cfg.payload s rs ts).res e o = run .fixed e o (recordsV2 .fixed o s rs) ts := by
  cases rs <;> rfl

theorem payload_inv (hst : s.started = true) (hm : s.magic = 2) (hc : s.count = rs.length) (hlt : s.count < s.hcount) :
    (Cfg.payload s rs ts).Inv := by
  cases rs with
  | nil => exact ⟨hst, fun h => absurd hc h⟩
  | cons y rs' => exact ⟨hst, hm, hc, by simp, hlt⟩

end

theorem readHeader_pos {s : St} (ts : List Tok) (hc : s.count ≠ 0) : readHeader (Cfg.flat s ts).msr = .ok (Cfg.flat s ts).msr := by
  have : s.count > 0 := Nat.pos_of_ne_zero hc
  simp [readHeader, Cfg.msr, Cfg.stack, lvl, this]

theorem readMessageV2_end {s : St} {ts : List Tok} (hc : s.count ≠ 0) (hend : isEnd ts) :
    readMessageV2 (Cfg.flat s ts).msr = .error (.shortRead, (Cfg.flat s ts).msr) := by
  simp only [readMessageV2, readHeader_pos ts hc, bind, Except.bind]
  rcases hend with rfl | ⟨r, rfl⟩ <;> by_cases hp : s.count = s.hcount ∧ s.codec = true <;> simp [Cfg.msr, Cfg.stack, lvl, hp]

theorem readMessageV2_r2 {s : St} (d : Int) (t z : Nat) (ts : List Tok) (hc : s.count ≠ 0) (hcd : s.codec = false) :
    readMessageV2 (Cfg.flat s (.r2 d t z :: ts)).msr = .ok ((Cfg.flat (preRec s z) ts).msr, (s.first + d, s.first + s.lastD, t)) := by
  have : s.count > 0 := Nat.pos_of_ne_zero hc
  simp [readMessageV2, readHeader, markRead, unwind, preRec, Cfg.msr, Cfg.stack, Cfg.st, lvl, this, hc, hcd, bind, Except.bind, pure,
    Except.pure]

theorem readMessageV2_z2 {s : St} (p : Nat) (d : Int) (t z : Nat) (rs : List (Int × Nat × Nat)) (ts : List Tok)
    (hc : s.count = rs.length + 1) (hh : s.count = s.hcount) (hcd : s.codec = true) :
    readMessageV2 (Cfg.flat s (.z2 p ((d, t, z) :: rs) :: ts)).msr =
      .ok ((Cfg.payload (preRec s z) rs ts).msr, (s.first + d, s.first + s.lastD, t)) := by
  rw [payload_msr ts (show (preRec s z).count = rs.length by simp [preRec, hc])]
  simp [readMessageV2, readHeader, markRead, preRec, r2Toks, Cfg.msr, Cfg.stack, Cfg.st, lvl, hc, ← hh, hcd, bind, Except.bind, pure,
    Except.pure]

theorem readMessageV2_child {s : St} (d : Int) (t z : Nat) (rs : List (Int × Nat × Nat)) (ts : List Tok)
    (hc : s.count = rs.length + 1) (hlt : s.count < s.hcount) :
    readMessageV2 (Cfg.v2c s ((d, t, z) :: rs) ts).msr =
      .ok ((Cfg.payload (preRec s z) rs ts).msr, (s.first + d, s.first + s.lastD, t)) := by
  rw [payload_msr ts (show (preRec s z).count = rs.length by simp [preRec, hc])]
  have : ¬ rs.length + 1 = s.hcount := by omega
  simp [readMessageV2, readHeader, markRead, preRec, r2Toks, Cfg.msr, Cfg.stack, Cfg.st, lvl, hc, this, bind, Except.bind, pure,
    Except.pure]

theorem yields_payload (e : Bool) (o : Int) {cfg : Cfg} {s : St} (d : Int) (t z : Nat) (rs : List (Int × Nat × Nat)) (ts : List Tok)
    (hst : s.started = true) (hm : s.magic = 2) (hc : s.count = rs.length + 1) (hle : s.count ≤ s.hcount) (hv : allWF ts)
    (hres : run .fixed e o (recordsV2 .fixed o s ((d, t, z) :: rs)) ts = cfg.res e o)
    (hlt : (Cfg.payload (recordV2 .fixed o s d t z) rs ts).measure < cfg.measure) (hout : s.out = cfg.st.out) :
    Yields e o cfg (.ok ((Cfg.payload (preRec s z) rs ts).msr, (s.first + d, s.first + s.lastD, t))) := by
  have hcnt : (preRec s z).count = rs.length := by simp [preRec, hc]
  exact .inl ⟨.payload (recordV2 .fixed o s d t z) rs ts, preRec s z, _, _, _,
    by rw [payload_msr ts hcnt, payload_msr ts (show (recordV2 .fixed o s d t z).count = rs.length from hcnt)]; rfl,
    payload_st.trans (recordV2_preRec o s d t z), hout,
    ⟨(payload_res e o _ rs ts).trans hres, hlt, payload_inv hst hm hcnt (by show s.count - 1 < s.hcount; omega), payload_wf hv⟩⟩

theorem v2_child (e : Bool) (o : Int) {s : St} {rs : List (Int × Nat × Nat)} {ts : List Tok} (hI : (Cfg.v2c s rs ts).Inv) (hv : allWF ts) :
    Yields e o (.v2c s rs ts) (readMessageV2 (Cfg.v2c s rs ts).msr) := by
  obtain ⟨hst, hm, hc, hne, hlt⟩ := hI
  cases rs with
  | nil => exact absurd rfl hne
  | cons x rs' =>
    obtain ⟨d, t, z⟩ := x
    rw [readMessageV2_child d t z rs' ts hc hlt]
    exact yields_payload e o d t z rs' ts hst hm hc (by omega) hv rfl (measure_payload) rfl

theorem v2_flat (e : Bool) (o : Int) {s : St} {ts : List Tok} (hI : (Cfg.flat s ts).Inv) (hc : s.count ≠ 0) (hm : s.magic = 2)
    (hv : allWF ts) (hnd : (run .fixed e o s ts).2 ≠ .desync) : Yields e o (.flat s ts) (readMessageV2 (Cfg.flat s ts).msr) := by
  by_cases hend : isEnd ts
  · exact .inr ⟨_, readMessageV2_end hc hend, s, run_end hend, hI.1, rfl, rfl, rfl⟩
  · cases ts with
    | nil => exact absurd (.inl rfl) hend
    | cons tk ts' =>
      have hx : s.expects tk := run_expects hnd (fun h => hend (.inr ⟨ts', h ▸ rfl⟩))
      have hres := res_eat (e := e) (o := o) ts' hx
      cases tk with
      | r2 d t z =>
        rw [readMessageV2_r2 d t z ts' hc hx.2.2]
        exact .inl ⟨.flat (recordV2 .fixed o s d t z) ts', preRec s z, _, _, _, rfl, recordV2_preRec o s d t z, rfl,
          ⟨hres.symm, measure_cons, ⟨hI.1, fun _ => .inl ⟨hm, fun h => nomatch (show s.codec = true from h).symm.trans hx.2.2⟩⟩,
            hv.tail⟩⟩
      | z2 p recs =>
        obtain ⟨_, _, hcd, hh, hlen⟩ := hx
        cases recs with
        | nil => exact absurd hlen.symm hc
        | cons x rs' =>
          obtain ⟨d, t, z⟩ := x
          rw [readMessageV2_z2 p d t z rs' ts' hlen.symm hh hcd]
          exact yields_payload e o d t z rs' ts' hI.1 hm hlen.symm (by omega) hv.tail hres.symm (measure_z2) rfl
      | cut => exact absurd hx id
      | h2 b ld c zz pl => exact absurd hx.1 hc
      | h1 m f zz => exact absurd hx hc
      | kv t z => exact absurd hx.1 (by omega)
      | zv z inner => exact absurd hx.1 (by omega)

/-- `readMessage` with the fuel of its two loops apart, `n` for `headerLoop`, `fuel` for `readMessageV1` (`readMessage_eq_fuels`):
the induction over the empty batches uses up the first only -/
def readMessageFuels (n fuel : Nat) (r : MSR) (min : Int) : Except Fail (MSR × Msg) :=
  if r.empty then .error (.timedOut, r)
  else do
    let r ← headerLoop n r
    match top? r with
    | none => .error (.desync, r)
    | some l => if l.magic = 2 then readMessageV2 r else readMessageV1 min fuel r

theorem readMessage_eq_fuels (fuel : Nat) (r : MSR) (min : Int) : readMessage fuel r min = readMessageFuels fuel fuel r min := rfl

theorem readMessageFuels_pos (n fuel : Nat) (min : Int) {s : St} (ts : List Tok) (hc : s.count ≠ 0) :
    readMessageFuels (n + 1) fuel (Cfg.flat s ts).msr min =
      if s.magic = 2 then readMessageV2 (Cfg.flat s ts).msr else readMessageV1 min fuel (Cfg.flat s ts).msr := by
  simp only [readMessageFuels, headerLoop, readHeader_pos ts hc]
  simp [Cfg.msr, Cfg.stack, lvl, top?, hc, bind, Except.bind, pure, Except.pure]

theorem readMessageFuels_end (n fuel : Nat) (min : Int) {s : St} {ts : List Tok} (h0 : s.count = 0) (hend : isEnd ts) :
    readMessageFuels (n + 1) fuel (Cfg.flat s ts).msr min = .error (.shortRead, (Cfg.flat s ts).msr) := by
  rcases hend with rfl | ⟨r, rfl⟩ <;> simp [readMessageFuels, headerLoop, readHeader, Cfg.msr, Cfg.stack, lvl, h0, bind, Except.bind]

theorem readMessageFuels_h2 (n fuel : Nat) (min : Int) {s : St} (b ld : Int) (c : Nat) (z : Bool) (pl : Nat) (ts : List Tok) (h0 : s.count = 0) :
    readMessageFuels (n + 1) fuel (Cfg.flat s (.h2 b ld c z pl :: ts)).msr min =
      if c = 0 then readMessageFuels n fuel (Cfg.flat (stH2 s b ld c z pl) ts).msr min else readMessageV2 (Cfg.flat (stH2 s b ld c z pl) ts).msr := by
  by_cases hc : c = 0 <;>
    simp [readMessageFuels, headerLoop, readHeader, top?, Cfg.msr, Cfg.stack, Cfg.st, lvl, stH2, h0, hc, bind, Except.bind, pure, Except.pure]

theorem readMessageFuels_h1 (n fuel : Nat) (min : Int) {s : St} (mg : Nat) (f : Int) (z : Bool) (ts : List Tok) (h0 : s.count = 0) (hmg : mg ≠ 2) :
    readMessageFuels (n + 1) fuel (Cfg.flat s (.h1 mg f z :: ts)).msr min = readMessageV1 min fuel (Cfg.flat (afterH1 s mg f z) ts).msr := by
  simp [readMessageFuels, headerLoop, readHeader, top?, Cfg.msr, Cfg.stack, Cfg.st, lvl, afterH1, h0, hmg, bind, Except.bind, pure, Except.pure]

theorem readMessageFuels_v2c (n fuel : Nat) (min : Int) {s : St} (rs : List (Int × Nat × Nat)) (ts : List Tok) (hc : s.count ≠ 0) (hm : s.magic = 2) :
    readMessageFuels (n + 1) fuel (Cfg.v2c s rs ts).msr min = readMessageV2 (Cfg.v2c s rs ts).msr := by
  have : s.count > 0 := Nat.pos_of_ne_zero hc
  simp only [readMessageFuels, headerLoop, readHeader]
  simp [top?, Cfg.msr, Cfg.stack, lvl, hc, this, hm, bind, Except.bind, pure, Except.pure]

/-- inside a wrapper the loop at the head of `readMessage` reads the inner message's header; `readMessageV1` goes on from there -/
theorem readMessageFuels_v1c (n fuel : Nat) (min : Int) {s : St} (base f : Int) (t : Nat) (ms : List (Int × Nat)) (ts : List Tok) (stale : Nat × Int)
    (hm : s.magic ≠ 2) :
    readMessageFuels (n + 1) (fuel + 1) (Cfg.v1c s base ((f, t) :: ms) ts stale).msr min =
      readMessageV1 min (fuel + 1) (Cfg.v1c s base ((f, t) :: ms) ts stale).msr := by
  simp [readMessageFuels, headerLoop, readHeader, top?, readMessageV1, v1Body, Cfg.msr, Cfg.stack, innerToks, hm, bind, Except.bind, pure, Except.pure]

/-- a position between two `ReadMessage` calls -/
structure Ready (cfg : Cfg) : Prop where
  inv : cfg.Inv
  wf : Cfg.WF cfg
  notV1 : cfg.st.inV1 = false

theorem yields_pos (e : Bool) (o : Int) (n fuel : Nat) {s : St} {ts : List Tok} (hI : (Cfg.flat s ts).Inv) (hc : s.count ≠ 0) (hv : allWF ts)
    (hnd : (run .fixed e o s ts).2 ≠ .desync) (hf : (Cfg.flat s ts).measure ≤ fuel) :
    Yields e o (.flat s ts) (readMessageFuels (n + 1) fuel (Cfg.flat s ts).msr s.off) := by
  rw [readMessageFuels_pos n fuel s.off ts hc]
  rcases hI.2 hc with ⟨hm, _⟩ | ⟨hm, _, _⟩
  · rw [if_pos hm]; exact v2_flat e o hI hc hm hv hnd
  · rw [if_neg (by omega)]
    exact v1_loop e o fuel (.flat s ts) hf hI ⟨fun h => absurd h hc, fun _ => hm⟩ hv hnd

theorem length_le_size (ts : List Tok) : ts.length ≤ Pull.size ts := by
  induction ts with
  | nil => exact Nat.le_refl _
  | cons t ts ih => have := size_lt_cons t ts; simp only [List.length_cons]; omega

theorem yields_flat (e : Bool) (o : Int) (fuel : Nat) : ∀ (ts : List Tok) (n : Nat) (s : St), ts.length < n → (Cfg.flat s ts).Inv →
    s.inV1 = false → allWF ts → (run .fixed e o s ts).2 ≠ .desync → (Cfg.flat s ts).measure ≤ fuel →
    Yields e o (.flat s ts) (readMessageFuels n fuel (Cfg.flat s ts).msr s.off) := by
  intro ts
  induction ts with
  | nil =>
    intro n s hn hI _ hv hnd hf
    obtain ⟨n, rfl⟩ : ∃ k, n = k + 1 := ⟨n - 1, by omega⟩
    by_cases h0 : s.count = 0
    · exact .inr ⟨_, readMessageFuels_end n fuel _ h0 (.inl rfl), s, rfl, hI.1, rfl, rfl, rfl⟩
    · exact yields_pos e o n fuel hI h0 hv hnd hf
  | cons tk ts ih =>
    intro n s hn hI hi hv hnd hf
    obtain ⟨n, rfl⟩ : ∃ k, n = k + 1 := ⟨n - 1, by omega⟩
    by_cases h0 : s.count = 0
    · by_cases hcut : tk = .cut
      · subst hcut
        exact .inr ⟨_, readMessageFuels_end n fuel _ h0 (.inr ⟨_, rfl⟩), s, run_end (.inr ⟨_, rfl⟩), hI.1, rfl, rfl, rfl⟩
      · have hx : s.expects tk := run_expects hnd hcut
        have hres := res_eat (e := e) (o := o) ts hx
        have hnd' : ((Cfg.flat (s.eat o tk) ts).res e o).2 ≠ .desync := hres ▸ hnd
        have hf' : (Cfg.flat (s.eat o tk) ts).measure ≤ fuel := Nat.le_trans (Nat.le_of_lt (measure_cons)) hf
        cases tk with
        | h2 b ld c z pl =>
          have ha : Below e o (.flat s (.h2 b ld c z pl :: ts)) (.flat (stH2 s b ld c z pl) ts) := below_h2 h0 hi hv
          refine .of_below ha rfl ?_
          rw [readMessageFuels_h2 n fuel s.off b ld c z pl ts h0]
          by_cases hc : c = 0
          · rw [if_pos hc]
            exact ih n _ (Nat.lt_of_succ_lt_succ hn) ha.inv hi hv.tail hnd' hf'
          · rw [if_neg hc]
            exact v2_flat e o ha.inv hc rfl hv.tail hnd'
        | h1 mg f z =>
          have hmg : mg ≤ 1 := hv.h1
          have ha : Below e o (.flat s (.h1 mg f z :: ts)) (.flat (afterH1 s mg f z) ts) := below_h1 h0 hv
          refine .of_below ha rfl ?_
          rw [readMessageFuels_h1 n fuel s.off mg f z ts h0 (by omega)]
          exact v1_loop e o fuel (.flat (afterH1 s mg f z) ts) hf' ha.inv ⟨fun h => absurd h Nat.one_ne_zero, fun _ => hmg⟩ hv.tail hnd'
        | cut => exact absurd rfl hcut
        | r2 d t z => exact absurd h0 hx.2.1
        | z2 p rs => exact absurd h0 hx.2.1
        | kv t z => exact absurd h0 hx.2.1
        | zv z inner => exact absurd h0 hx.2.1
    · exact yields_pos e o n fuel hI h0 hv hnd hf

theorem yields_any (e : Bool) (o : Int) (fuel : Nat) {cfg : Cfg} (hr : Ready cfg) (hnd : (cfg.res e o).2 ≠ .desync) (hf : cfg.measure ≤ fuel) :
    Yields e o cfg (readMessage fuel cfg.msr cfg.st.off) := by
  rw [readMessage_eq_fuels]
  obtain ⟨hI, hv, hi⟩ := hr
  cases cfg with
  | flat s ts =>
    exact yields_flat e o fuel ts fuel s (by have := length_le_size ts; simp only [Cfg.measure] at hf; omega) hI hi hv hnd hf
  | v2c s rs ts =>
    obtain ⟨n, rfl⟩ : ∃ k, fuel = k + 1 := ⟨fuel - 1, by simp only [Cfg.measure] at hf; omega⟩
    rw [readMessageFuels_v2c n _ _ rs ts (by rw [hI.2.2.1]; exact fun h => hI.2.2.2.1 (List.eq_nil_of_length_eq_zero h)) hI.2.1]
    exact v2_child e o hI hv
  | v1c s base ms ts stale =>
    obtain ⟨n, rfl⟩ : ∃ k, fuel = k + 1 := ⟨fuel - 1, by simp only [Cfg.measure] at hf; omega⟩
    cases ms with
    | nil => exact nomatch (hI.2.2.2.2 rfl).symm.trans hi
    | cons x ms' =>
      rw [readMessageFuels_v1c n n _ base x.1 x.2 ms' ts stale (by have := hI.2.2.1; omega)]
      exact v1_loop e o (n + 1) _ hf hI trivial hv hnd

/-- what one `(*Batch).readMessage` call does at a position: a message and the Batch of a position further down the same
computation, or the end with the token machine's result -/
def Call (e : Bool) (o : Int) (cfg : Cfg) (res : Batch × Option Msg) : Prop :=
  (∃ cfg' x lo t, res = (cfg'.batch, some (x, lo, t)) ∧ cfg'.st.out = cfg.st.out ++ (if x < o then [] else [(x, t)]) ∧
      Ready cfg' ∧ cfg'.res e o = cfg.res e o ∧ cfg'.measure < cfg.measure) ∨
  (∃ b', res = (b', none) ∧
      ((cfg.res e o).1.out, (cfg.res e o).1.off, (cfg.res e o).2) = (cfg.st.out, b'.offset, b'.err.getD .desync))

/-- `(*Batch).readMessage` around `readMessage`: `onRecord` is what it does with a message, `finish` what it does with errShortRead -/
theorem call_of_yields {e : Bool} {o : Int} {cfg : Cfg} {fuel : Nat} (h : Yields e o cfg (readMessage fuel cfg.msr cfg.st.off)) :
    Call e o cfg (batchReadMessage fuel e cfg.batch) := by
  rcases h with ⟨cfg', s0, x, lo, t, r1, r2, r3, r4⟩ | ⟨m', r1, s', q1, q2, q3, q4, q5⟩
  · refine .inl ⟨cfg', x, lo, t, ?_, ?_, ⟨r4.inv, r4.wf, by rw [r2]; rfl⟩, r4.res, r4.lt⟩
    · have hb : batchReadMessage fuel e cfg.batch = ({ cfg.batch with msgs := cfg'.msr, offset :=
          if cfg'.msr.batchEnd > x + 1 then cfg'.msr.batchEnd else x + 1, lastOffset := lo }, some (x, lo, t)) := by
        simp only [batchReadMessage, Cfg.batch, r1]
      rw [hb]
      simp [Cfg.batch, Cfg.msr, r2, onRecord]
    · rw [r2, ← r3]
      by_cases h : x < o <;> simp [onRecord, h]
  · obtain ⟨k1, k2, k3⟩ : s'.off = cfg.st.off ∧ s'.lastOff = cfg.st.lastOff ∧ s'.out = cfg.st.out := by
      simpa [St.key] using q5
    right
    rw [q1]
    cases e <;> simp [batchReadMessage, Cfg.batch, r1, finish, q2, q3, q4, k1, k2, k3]

theorem Call.of_below {e : Bool} {o : Int} {cfg cfg2 : Cfg} {res : Batch × Option Msg} (ha : Below e o cfg cfg2)
    (hout : cfg2.st.out = cfg.st.out) (h : Call e o cfg2 res) : Call e o cfg res := by
  rcases h with ⟨cfg', x, lo, t, r1, r2, r3, r4, r5⟩ | ⟨b', r1, r2⟩
  · exact .inl ⟨cfg', x, lo, t, r1, hout ▸ r2, r3, r4.trans ha.res, Nat.lt_trans r5 ha.lt⟩
  · exact .inr ⟨b', r1, by rw [← ha.res, ← hout]; exact r2⟩

/-- `(*Batch).ReadMessage`: messages below the conn offset are skipped -/
theorem skip_call (e : Bool) (o : Int) : ∀ (fuel : Nat) (cfg : Cfg), cfg.measure < fuel → Ready cfg → (cfg.res e o).2 ≠ .desync →
    Call e o cfg (batchReadMessageSkip o e fuel cfg.batch) ∧
    ∀ m, (batchReadMessageSkip o e fuel cfg.batch).2 = some m → ¬ m.1 < o := by
  intro fuel
  induction fuel with
  | zero => intro cfg hf; omega
  | succ fuel ih =>
    intro cfg hf hr hnd
    rcases call_of_yields (yields_any e o (fuel + 1) hr hnd (by omega)) with ⟨cfg', x, lo, t, r1, r2, r3, r4, r5⟩ | ⟨b', r1, r2⟩
    · by_cases hlt : x < o
      · rw [show batchReadMessageSkip o e (fuel + 1) cfg.batch = batchReadMessageSkip o e fuel cfg'.batch by
          simp [batchReadMessageSkip, r1, hlt]]
        obtain ⟨h1, h2⟩ := ih cfg' (by omega) r3 (r4 ▸ hnd)
        exact ⟨h1.of_below ⟨r4, r5, r3.inv, r3.wf⟩ (by simpa [hlt] using r2), h2⟩
      · rw [show batchReadMessageSkip o e (fuel + 1) cfg.batch = (cfg'.batch, some (x, lo, t)) by simp [batchReadMessageSkip, r1, hlt]]
        exact ⟨.inl ⟨cfg', x, lo, t, rfl, r2, r3, r4, r5⟩, fun m hm => by cases hm; exact hlt⟩
    · rw [show batchReadMessageSkip o e (fuel + 1) cfg.batch = (b', none) by simp [batchReadMessageSkip, r1]]
      exact ⟨.inr ⟨b', rfl, r2⟩, fun m hm => nomatch hm⟩

theorem drain_eq (e : Bool) (o : Int) : ∀ (fuel : Nat) (cfg : Cfg), cfg.measure < fuel → Ready cfg → (cfg.res e o).2 ≠ .desync →
    ((drain o e fuel cfg.batch cfg.st.out).2, (drain o e fuel cfg.batch cfg.st.out).1.offset,
      (drain o e fuel cfg.batch cfg.st.out).1.err.getD .desync) = ((cfg.res e o).1.out, (cfg.res e o).1.off, (cfg.res e o).2) := by
  intro fuel
  induction fuel with
  | zero => intro cfg hf; omega
  | succ fuel ih =>
    intro cfg hf hr hnd
    obtain ⟨hc, hx⟩ := skip_call e o (fuel + 1) cfg hf hr hnd
    rcases hc with ⟨cfg', x, lo, t, r1, r2, r3, r4, r5⟩ | ⟨b', r1, r2⟩
    · have hxo : ¬ x < o := hx (x, lo, t) (by rw [r1])
      rw [if_neg hxo] at r2
      simp only [drain, r1]
      rw [← r2, ih cfg' (by omega) r3 (r4 ▸ hnd), r4]
    · simp [drain, r1, r2]

/-- `newMessageSetReader` has read the first header: from there the Batch is read to its end -/
theorem pull_after_header (e : Bool) (o hwm : Int) (hh : hwm ≠ o) (t : Tok) (ts : List Tok) {s : St}
    (hrh : readHeader { stack := [{ toks := t :: ts }] } = .ok (Cfg.flat s ts).msr) (hstep : step .fixed e o { off := o } t = .cont s)
    (hb : (Cfg.flat s ts).batch = { msgs := (Cfg.flat s ts).msr, offset := o, started := true }) (hout : s.out = [])
    (hr : Ready (.flat s ts)) (hnd : (run .fixed e o s ts).2 ≠ .desync) :
    Pull.readAll e o hwm (t :: ts) = readAll .fixed e o hwm (t :: ts) := by
  have hd := drain_eq e o (2 * Pull.size (t :: ts) + 8) (.flat s ts)
    (by simp only [Cfg.measure]; have := size_lt_cons t ts; omega) hr hnd
  simp only [Pull.readAll, readAll, hh, if_false, hrh, run, hstep, ← hb]
  rw [show (Cfg.flat s ts).st.out = [] from hout] at hd
  exact hd

/-- **the pull parser is the token machine**: whenever the token machine does not report a
desynchronisation, `Conn.ReadBatch` + `ReadMessage`* + `Close` as written in Go (Model/PullReader.lean) deliver the
same messages, leave the same conn offset and end the same way. -/
theorem pull_eq_run_all (e : Bool) (o hwm : Int) (toks : List Tok) (hv : allWF toks)
    (hnd : (readAll .fixed e o hwm toks).2.2 ≠ .desync) :
    Pull.readAll e o hwm toks = readAll .fixed e o hwm toks := by
  by_cases hh : hwm = o
  · simp [Pull.readAll, readAll, hh]
  · simp only [readAll, hh, if_false] at hnd
    cases toks with
    | nil => simp [Pull.readAll, readAll, hh, readHeader, run, finish]
    | cons tk ts =>
      cases tk with
      | cut => simp [Pull.readAll, readAll, hh, readHeader, run, step, finish]
      | h2 b ld c z pl =>
        have ha := below_h2 (e := e) (o := o) (s := { off := o }) rfl rfl hv
        exact pull_after_header e o hwm hh _ ts (s := stH2 { off := o } b ld c z pl) (by simp [readHeader, Cfg.msr, Cfg.stack, Cfg.st, lvl, stH2])
          (step_expected (t := .h2 b ld c z pl) ⟨rfl, rfl⟩) rfl rfl ⟨ha.inv, ha.wf, rfl⟩
          (show ((Cfg.flat (stH2 { off := o } b ld c z pl) ts).res e o).2 ≠ _ from ha.res ▸ hnd)
      | h1 mg f z =>
        have ha := below_h1 (e := e) (o := o) (s := { off := o }) rfl hv
        exact pull_after_header e o hwm hh _ ts (s := afterH1 { off := o } mg f z) (by simp [readHeader, Cfg.msr, Cfg.stack, Cfg.st, lvl, afterH1])
          (step_expected (t := .h1 mg f z) rfl) rfl rfl ⟨ha.inv, ha.wf, rfl⟩
          (show ((Cfg.flat (afterH1 { off := o } mg f z) ts).res e o).2 ≠ _ from ha.res ▸ hnd)
      | _ => exact absurd (run_unexpected (by simp [St.expects]) (by simp)) hnd

end KV.C02
