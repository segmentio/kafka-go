/-
Lemmas/CodecPrim.lean — what the codec proofs start from (beside `Ty.ind` of Model/Schema.lean): the shape of a well-typed value per
type (`wt_*`), reading back what the primitive writers wrote (`Reads` with its rules `bind` / `map` / `pass`; fixed-width integers,
varints, byte runs), and the length prefix that strings, byte sequences and arrays share (`encLen` / `decLen`; both walks over the
decoder, `rt_all` and `walk_all`, go through `decLen`).
-/
import KafkaVerif.Model.Codec
import KafkaVerif.Model.CodecWF

namespace KV.Codec
open KV KV.Wire

theorem Res.bind_ok {α β : Type} (a : α) (d : Dec) (f : α → Dec → Res β) : (Res.ok a d).bind f = f a d := rfl

theorem inRange_iff (b : Nat) (i : Int) : inRange b i = true ↔ -(2 ^ (b - 1) : Nat) ≤ i ∧ i < (2 ^ (b - 1) : Nat) := by
  simp only [inRange, Bool.and_eq_true, decide_eq_true_eq]

theorem inRange_natCast (k n : Nat) (h : n < 2 ^ (8 * k - 1)) : inRange (8 * k) (n : Int) = true :=
  (inRange_iff _ _).2 (natCast_inRng k n h)

/-- `f` reads exactly `bs` and returns `a`, whatever follows in the stream and however much of the frame is left -/
def Reads {α : Type} (f : Dec → Res α) (bs : Bytes) (a : α) : Prop :=
  ∀ (r : Bytes) (rem : Nat), bs.length ≤ rem → f ⟨bs ++ r, rem⟩ = .ok a ⟨r, rem - bs.length⟩

section
variable {α β : Type} {f : Dec → Res α} {bs cs : Bytes} {a : α}

theorem Reads.nil (a : α) : Reads (fun d => .ok a d) [] a := fun _ _ _ => rfl

theorem Reads.bind {g : α → Dec → Res β} {b : β} (hf : Reads f bs a) (hg : Reads (g a) cs b) :
    Reads (fun d => (f d).bind g) (bs ++ cs) b := by
  intro r rem h
  rw [List.length_append] at h
  simp only [List.append_assoc]
  rw [hf _ rem (by omega), Res.bind_ok, hg r _ (by omega), List.length_append, Nat.sub_sub]

theorem Reads.map (k : α → β) (hf : Reads f bs a) : Reads (fun d => (f d).bind fun a d => .ok (k a) d) bs (k a) := by
  intro r rem h
  simp only []
  rw [hf r rem h, Res.bind_ok]

/-- a step that reads nothing and succeeds because enough bytes follow (`allocElems`, `tagCount`, the `remain = 0` test of
`decodeElems`) -/
theorem Reads.pass {g : Dec → Res α} (hg : Reads g bs a) (h : ∀ r rem, bs.length ≤ rem → f ⟨bs ++ r, rem⟩ = g ⟨bs ++ r, rem⟩) :
    Reads f bs a := fun r rem hr => (h r rem hr).trans (hg r rem hr)

/-- the same with the frame counter written as a sum: consecutive header fields peel off without arithmetic -/
theorem Reads.run_add (h : Reads f bs a) (r : Bytes) (m : Nat) (k : α → Dec → Res β) :
    (f ⟨bs ++ r, bs.length + m⟩).bind k = k a ⟨r, m⟩ := by
  rw [h r _ (Nat.le_add_right ..), Nat.add_sub_cancel_left, Res.bind_ok]

end

theorem readN_reads (k : Nat) (bs : Bytes) (hl : bs.length = k) : Reads (readN k) bs bs := by
  intro r rem hr
  subst hl
  simp [readN, hr, List.take_left', List.drop_left']

theorem readInt_reads (k : Nat) (hk : 0 < k) (i : Int) (hi : inRange (8 * k) i = true) : Reads (readInt k) (encInt k i) i := by
  intro r rem hr
  rw [inRange_iff] at hi
  rw [readInt, readN_reads k _ (encInt_length k i) r rem hr, Res.bind_ok, decInt_encInt k i hk hi.1 hi.2]

theorem be_eq_encInt (k n : Nat) (h : n < 2 ^ (8 * k)) : be k n = encInt k (n : Int) := by
  unfold encInt toU
  have : ((n : Int) % ((2 ^ (8 * k) : Nat) : Int)) = (n : Int) := Int.emod_eq_of_lt (by omega) (by omega)
  rw [this, Int.toNat_natCast]

theorem toI64_toU64 (i : Int) (h0 : 0 ≤ i) (h1 : i < 2 ^ 63) : toI64 (toU64 i) = i := by
  unfold toI64 toU64
  have hlt := toU_lt 64 i
  rw [Nat.mod_eq_of_lt hlt]
  exact toS_toU 64 i (by decide) (by omega) (by omega)

/-- a 64-bit value takes at most 10 bytes (`binary.MaxVarintLen64`); `readUvarint` reads with fuel `min 11 remain` -/
theorem uvarint_length_le10 (n : Nat) (h : n < 2 ^ 64) : (uvarint n).length ≤ 10 :=
  uvarint_length_le 10 n (by decide) (by omega)

theorem readUvarint_reads (n : Nat) (h : n < 2 ^ 64) : Reads readUvarint (uvarint n) n := by
  intro r rem hr
  have h10 := uvarint_length_le10 n h
  have hf : (uvarint n).length ≤ min 11 rem := by omega
  simp only [readUvarint]
  rw [readUvarintAux_uvarint _ n r hf]
  simp [Nat.mod_eq_of_lt h]

/-- (`65536`: the read-ahead bound in the `growing = false` branch of `readLen`, never reached when the bytes are there; the number
is `Gen.readChunk` of Gen/DecoderCfg.lean, written as a literal in Model/Codec.lean) -/
theorem readLen_reads (cfg : Cfg) (bs : Bytes) : Reads (readLen cfg bs.length) bs bs := by
  intro r rem hr
  have h0 : ¬ ((bs.length : Int) < 0) := by omega
  have h1 : ¬ (bs.length > rem) := by omega
  have h2 : ¬ (bs.length > (bs ++ r).length + 65536) := by simp; omega
  have h3 : bs.length ≤ (bs ++ r).length := by simp
  simp only [readLen, h0, if_false, Int.toNat_natCast, h1, h2, decide_false, Bool.and_false, Bool.false_eq_true, h3, if_true,
    List.take_left' rfl, List.drop_left' rfl]

theorem lenOfU_small (cfg : Cfg) (u : Nat) (h : u < 2 ^ 31) : lenOfU cfg u = u := by
  unfold lenOfU
  split
  · have : ¬ (u > 2147483647) := by omega
    simp [this]
  · unfold toI64 toS
    have h1 : u % 2 ^ 64 = u := Nat.mod_eq_of_lt (by omega)
    rw [h1]
    have : u < 2 ^ (64 - 1) := by omega
    simp [this]

/-- (`1024`: the bound on elements allocated ahead of the data in the `growing = false` branch of `allocElems`; `Gen.arrayChunk`,
a literal in Model/Codec.lean) -/
theorem allocElems_reads (cfg : Cfg) {body : Nat → Dec → Res Val} {n : Nat} {bs : Bytes} {v : Val} (hn : n ≤ bs.length)
    (h : Reads (body n) bs v) : Reads (fun d => (allocElems cfg n d).bind body) bs v :=
  h.pass fun r rem hr => by
    have h0 : ¬ ((n : Int) < 0) := by omega
    have h1 : ¬ (n > rem) := by omega
    have h2 : ¬ (bs.length + r.length + 1024 < n) := by omega
    simp [allocElems, h0, h1, h2, Res.bind_ok]

section
variable {v : Val}

theorem wt_bool (h : wt .bool v = true) : ∃ b, v = .bool b := by
  cases v <;> simp only [wt, Bool.false_eq_true] at h; exact ⟨_, rfl⟩

theorem wt_float64 (h : wt .float64 v = true) : ∃ i, v = .int i ∧ 0 ≤ i ∧ i < (2 ^ 64 : Nat) := by
  cases v <;> simp only [wt, Bool.false_eq_true, Bool.and_eq_true, decide_eq_true_eq] at h; exact ⟨_, rfl, h⟩

theorem wt_string {c n : Bool} (h : wt (.string c n) v = true) :
    ∃ s, v = .str s ∧ s.length < 2 ^ 31 - 1 ∧ (c = false → s.length < 2 ^ 15) := by
  cases v <;> simp only [wt, Bool.false_eq_true] at h
  cases c <;> simp only [Bool.false_eq_true, if_false, if_true, decide_eq_true_eq] at h
  · exact ⟨_, rfl, by omega, fun _ => h⟩
  · exact ⟨_, rfl, h, nofun⟩

theorem wt_bytes {c n : Bool} (h : wt (.bytes c n) v = true) : ∃ b, v = .bytes b ∧ (b.getD []).length < 2 ^ 31 - 1 := by
  cases v <;> simp only [wt, Bool.false_eq_true, decide_eq_true_eq] at h; exact ⟨_, rfl, h⟩

theorem wt_array {c n : Bool} {t : Ty} (h : wt (.array c n t) v = true) :
    ∃ a, v = .arr a ∧ (a.getD []).length < 2 ^ 31 - 1 ∧ wtElems t (a.getD []) = true := by
  cases v <;> simp only [wt, Bool.false_eq_true, Bool.and_eq_true, decide_eq_true_eq] at h; exact ⟨_, rfl, h⟩

theorem wt_struct {flex : Bool} {fs ts : List Ty} {ids : List Int} (h : wt (.struct flex fs ids ts) v = true) :
    ∃ vs tvs, v = .struct vs tvs ∧ wtFields fs vs = true ∧ wtFields ts tvs = true := by
  cases v <;> simp only [wt, Bool.false_eq_true, Bool.and_eq_true] at h; exact ⟨_, _, rfl, h⟩

theorem wt_unit {flex : Bool} (h : wt (.unit flex) v = true) : v = .struct [] [] := by
  cases v with
  | struct a b => cases a <;> cases b <;> simp only [wt, Bool.false_eq_true] at h; rfl
  | _ => simp only [wt, Bool.false_eq_true] at h

theorem wt_records (h : wt .records v = true) : ∃ s, v = .records (some s) ∧ 0 < s.length ∧ s.length < 2 ^ 31 := by
  cases v with
  | records p =>
    cases p <;> simp only [wt, Bool.false_eq_true, Bool.and_eq_true, decide_eq_true_eq] at h
    exact ⟨_, rfl, h⟩
  | _ => simp only [wt, Bool.false_eq_true] at h

end

section
variable {t : Ty} {k : Nat} (h : IntTy t k)
include h

theorem IntTy.pos : 0 < k := by cases h <;> decide

theorem wt_int {v : Val} (hv : wt t v = true) : ∃ i, v = .int i ∧ inRange (8 * k) i = true := by
  cases h <;> cases v <;> simp only [wt, Bool.false_eq_true] at hv <;> exact ⟨_, rfl, hv⟩

theorem IntTy.encode (i : Int) : encode t (.int i) = encInt k i := by
  cases h <;> simp only [Codec.encode]

theorem IntTy.decode (cfg : Cfg) (d : Dec) : decode cfg t d = (readInt k d).bind fun i d => .ok (.int i) d := by
  cases h <;> simp only [Codec.decode]

end

theorem wf_array {c n : Bool} {t : Ty} (h : (Ty.array c n t).wf = true) : posWidth t = true ∧ t.wf = true := by
  simp only [Ty.wf, Bool.and_eq_true] at h; exact ⟨h.1.1, h.2⟩

theorem wf_struct {flex : Bool} {fs ts : List Ty} {ids : List Int} (h : (Ty.struct flex fs ids ts).wf = true) :
    wfList fs = true ∧ fs.all regularOk = true ∧ ts.all isMarker = true := by
  simp only [Ty.wf, Bool.and_eq_true] at h; exact ⟨h.1.1.1, h.1.1.2, h.1.2⟩

theorem wfList_mem : ∀ {ts : List Ty}, wfList ts = true → ∀ t ∈ ts, t.wf = true
  | t :: ts, h, t', ht' => by
    simp only [wfList, Bool.and_eq_true] at h
    rcases List.mem_cons.1 ht' with rfl | ht'
    · exact h.1
    · exact wfList_mem h.2 t' ht'

/-- `none` is the null marker (−1, compact: 0); a length `n` is written in `k` bytes, compact as the varint `n + 1` -/
def encLen (compact : Bool) (k : Nat) : Option Nat → Bytes
  | none => if compact then uvarint 0 else encInt k (-1)
  | some n => if compact then uvarint (n + 1) else encInt k n

def decLen (cfg : Cfg) (compact : Bool) (k : Nat) (nul : Val) (body : Int → Dec → Res Val) (d : Dec) : Res Val :=
  if compact then (readUvarint d).bind fun n d => if n < 1 then .ok nul d else body (lenOfU cfg (n - 1)) d
  else (readInt k d).bind fun n d => if n < 0 then .ok nul d else body n d

theorem encString_eq (c n : Bool) (s : Bytes) :
    encString c n s = encLen c 2 (if n && s.isEmpty then none else some s.length) ++ s := by
  unfold encString
  by_cases h : (n && s.isEmpty) = true
  · obtain ⟨rfl, he⟩ := Bool.and_eq_true_iff.1 h
    obtain rfl := List.isEmpty_iff.1 he
    cases c <;> simp [encLen]
  · cases c <;> simp [encLen, h]

theorem encBytes_eq (c n : Bool) (b : Option Bytes) :
    encBytes c n b = encLen c 4 (if n then b.map List.length else some (b.getD []).length) ++ b.getD [] := by
  cases b <;> cases n <;> cases c <;> simp [encBytes, encLen]

theorem encArrayLen_eq (c n : Bool) (a : Option (List Val)) :
    encArrayLen c n a = encLen c 4 (if n then a.map List.length else some (a.getD []).length) := by
  cases a <;> cases n <;> cases c <;> simp [encArrayLen, encLen]

theorem decode_string (cfg : Cfg) (c n : Bool) :
    decode cfg (.string c n) = decLen cfg c 2 (.str []) fun n d => (readLen cfg n d).bind fun bs d => .ok (.str bs) d := by
  funext d; simp only [decode, decLen]

theorem decode_bytes (cfg : Cfg) (c n : Bool) :
    decode cfg (.bytes c n) =
      decLen cfg c 4 (.bytes none) fun n d => (readLen cfg n d).bind fun bs d => .ok (.bytes (some bs)) d := by
  funext d; simp only [decode, decLen]

theorem decode_array (cfg : Cfg) (c n : Bool) (t : Ty) :
    decode cfg (.array c n t) = decLen cfg c 4 (.arr none) fun n d => (allocElems cfg n d).bind fun k d =>
      (decodeElems (decode cfg t) (zero t) k d).bind fun vs d => .ok (.arr (some vs)) d := by
  funext d; simp only [decode, decLen]

theorem encLen_pos (c : Bool) (k : Nat) (hk : 0 < k) (o : Option Nat) : 0 < (encLen c k o).length := by
  cases o <;> cases c <;> simp only [encLen, Bool.false_eq_true, if_false, if_true, encInt_length] <;>
    first | exact hk | exact uvarint_length_pos _

section
variable (cfg : Cfg) (c : Bool) (k : Nat) (hk : 0 < k) (nul : Val) {body : Int → Dec → Res Val}
include hk

theorem decLen_null_reads : Reads (decLen cfg c k nul body) (encLen c k none) nul := by
  rw [← List.append_nil (encLen c k none)]
  cases c
  · have hin : inRange (8 * k) (-1) = true := by
      have := Nat.two_pow_pos (8 * k - 1)
      rw [inRange_iff]; omega
    exact (readInt_reads k hk (-1) hin).bind (Reads.nil nul)
  · exact (readUvarint_reads 0 (by decide)).bind (Reads.nil nul)

/-- a length that fits the prefix (`n < 2^31` for the varint, the signed `k`-byte range otherwise), then what `body n` reads -/
theorem decLen_some_reads {n : Nat} {bs : Bytes} {v : Val} (hn : n < 2 ^ 31) (hnk : c = false → n < 2 ^ (8 * k - 1))
    (hb : Reads (body n) bs v) : Reads (decLen cfg c k nul body) (encLen c k (some n) ++ bs) v := by
  cases c
  · refine (readInt_reads k hk n (inRange_natCast k n (hnk rfl))).bind ?_
    simpa only [if_neg (Int.not_lt.2 (Int.natCast_nonneg n))] using hb
  · refine (readUvarint_reads (n + 1) (by omega)).bind ?_
    have h1 : ¬ (n + 1 < 1) := by omega
    simpa only [if_neg h1, Nat.add_sub_cancel, lenOfU_small cfg n hn] using hb

end

end KV.Codec
