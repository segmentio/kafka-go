/-
Lemmas/RecordWriterPaged.lean — writeToVersion2 / writeToVersion1 / RecordSet.WriteTo executed on the page buffer
(placeholders, back-patching through `WriteAt`, CRC over `scan`, `Truncate`) leave the buffer's previous content followed by
exactly the bytes of the flat writer models (which `Lemmas/RecordWriter` proves to be the Spec encoding).

The buffer is followed as `Holds P pb F` (Lemmas/PageBuffer): every `Write` appends to `F`, every `WriteAt` is a `patch` of `F`,
carried over the fields in front of it to the placeholder it replaces (`patch_skip`, `patch_append_right`, `patch_head` of
Lemmas/PageBuffer); the back-patches of one stretch of the Go code are taken together (`writeAts`, `Holds.writeAts`).
-/
import KafkaVerif.Model.RecordWriterPaged
import KafkaVerif.Lemmas.PageBuffer
import KafkaVerif.Lemmas.RecordWriter

namespace KV.Model.RecordWriter
open KV KV.RW KV.Model.PageBuffer
open KV.Spec.RB (encFrame)

theorem recordChunks_flatten (now first : Int) : ∀ (i : Nat) (rs : List PRec),
    (recordChunks now first i rs).flatten = recordsV2 now first i rs
  | _, [] => rfl
  | i, r :: rs => by simp [recordChunks, recordsV2, recordChunks_flatten now first (i + 1) rs]

section
variable {P : Nat} {pb : PB} {F : Bytes}

theorem holds_writeAll (hP : 0 < P) : ∀ (bs : List Bytes) {pb : PB} {F : Bytes}, Holds P pb F →
    Holds P (RecordWriter.writeAll P pb bs) (F ++ bs.flatten)
  | [], _, _, h => by rw [List.flatten_nil, List.append_nil]; exact h
  | b :: bs, _, _, h => by rw [List.flatten_cons, ← List.append_assoc]; exact holds_writeAll hP bs (h.write hP b)

theorem writeV2PagedWith_spec (hP : 0 < P) (crc : Bytes → Nat) (attrs first mx : Int) (n : Nat) (chunks : List Bytes)
    (h : Holds P pb F) :
    Holds P (writeV2PagedWith P crc attrs first mx n chunks pb) (F ++ frameBytes crc attrs first mx n chunks.flatten) := by
  simp only [writeV2PagedWith, frameBytes, h.size]
  generalize hR : chunks.flatten = R
  -- the header with placeholders and the payload
  have h2 := holds_writeAll hP chunks (holds_writeAll hP [i64 0, i32 0, i32 (-1), i8 2, i32 0, i16 attrs, i32 0, i64 0, i64 0,
    i64 (-1), i16 (-1), i32 (-1), i32 0] h)
  simp only [hR, List.flatten_cons, List.flatten_nil, List.append_nil, List.append_assoc] at h2
  generalize writeAll P (writeAll P pb [i64 0, i32 0, i32 (-1), i8 2, i32 0, i16 attrs, i32 0, i64 0, i64 0, i64 (-1), i16 (-1),
    i32 (-1), i32 0]) chunks = pb2 at h2 ⊢
  -- lastOffsetDelta, firstTimestamp, maxTimestamp, numRecords: each lands on its placeholder
  have h6 := Holds.writeAts hP [(i32 ((n : Int) - 1), F.length + 23), (i64 first, F.length + 27), (i64 mx, F.length + 35),
    (i32 (n : Int), F.length + 57)] h2 (by simp; omega)
  simp only [writeAts, patches, patch_skip, patch_append_right, patch_head, i64_length, i32_length, i16_length, i8_length,
    Nat.reduceLeDiff, Nat.reduceSub, Nat.le_refl, Nat.sub_self] at h6
  generalize writeAt P (writeAt P (writeAt P (writeAt P pb2 _ _) _ _) _ _) _ _ = pb6 at h6 ⊢
  -- totalLength, and the checksum region `[offset+21, end)`: attributes … records
  generalize hB : i16 attrs ++ (i32 ((n : Int) - 1) ++ (i64 first ++ (i64 mx ++ (i64 (-1) ++ (i16 (-1) ++ (i32 (-1) ++
    (i32 (n : Int) ++ R))))))) = body at h6 ⊢
  have ht : pb6.base + (flat pb6).length - F.length = 21 + body.length := by rw [h6.size]; simp; omega
  have hs : scan P pb6 (F.length + 21) (F.length + (21 + body.length)) = body := by
    rw [h6.scan hP _ _ (by omega), ← Nat.add_assoc,
      show F ++ (i64 0 ++ (i32 0 ++ (i32 (-1) ++ (i8 2 ++ (i32 0 ++ body))))) =
        (F ++ (i64 0 ++ (i32 0 ++ (i32 (-1) ++ (i8 2 ++ i32 0))))) ++ body by simp,
      show F.length + 21 = (F ++ (i64 0 ++ (i32 0 ++ (i32 (-1) ++ (i8 2 ++ i32 0))))).length by simp]
    exact seg_mid _ _
  rw [ht, hs]
  -- batchLength, crc
  have h8 := Holds.writeAts hP [(i32 ((21 + body.length - 12 : Nat) : Int), F.length + 8), (u32 (crc body), F.length + 17)] h6
    (by simp; omega)
  simpa only [writeAts, patches, patch_skip, patch_append_right, patch_head, i64_length, i32_length, i8_length, u32_length,
    Nat.reduceLeDiff, Nat.reduceSub, Nat.le_refl, Nat.sub_self] using h8

/-- `frameBytes` (Model/RecordWriterPaged) is the text of the flat writer with the header values and the payload for parameters -/
theorem writeV2C_frameBytes (crc : Bytes → Nat) (comp : Bytes → Bytes) (attrs now : Int) (r0 : PRec) (rs : List PRec) :
    writeV2C crc comp attrs now (r0 :: rs) = some (frameBytes crc attrs (effTime now r0) (maxTime now 0 (r0 :: rs))
      (r0 :: rs).length (comp (recordsV2 now (effTime now r0) 0 (r0 :: rs)))) := rfl

theorem writeV2PagedC_spec (hP : 0 < P) (crc : Bytes → Nat) (comp : Bytes → Bytes) (chunks : List Bytes)
    (attrs now : Int) (recs : List PRec) (h : Holds P pb F) (hne : recs ≠ [])
    (hch : chunks.flatten = comp (recordsV2 now (firstTime now recs) 0 recs)) :
    ∃ pb', writeV2PagedC P crc chunks attrs now recs pb = some pb' ∧
      Holds P pb' (F ++ encFrame crc (frameOfV2C comp attrs now recs)) := by
  cases recs with
  | nil => exact absurd rfl hne
  | cons r0 rs =>
    have hw := writeV2PagedWith_spec hP crc attrs (effTime now r0) (maxTime now 0 (r0 :: rs)) (r0 :: rs).length chunks h
    rw [show chunks.flatten = comp (recordsV2 now (effTime now r0) 0 (r0 :: rs)) from hch,
      Option.some.inj ((writeV2C_frameBytes crc comp attrs now r0 rs).symm.trans (writeV2C_eq crc comp attrs now (r0 :: rs) hne))] at hw
    exact ⟨_, rfl, hw⟩

/-- **writeToVersion2 through the page buffer = the flat writer**: the plain writer is the compressing one with the identity for a
compressor and the records, one chunk each, for its output -/
theorem writeV2Paged_spec (hP : 0 < P) (crc : Bytes → Nat) (attrs now : Int) (recs : List PRec) (h : Holds P pb F)
    (hne : recs ≠ []) :
    ∃ pb', writeV2Paged P crc attrs now recs pb = some pb' ∧ Holds P pb' (F ++ encFrame crc (frameOfV2 attrs now recs)) := by
  have := writeV2PagedC_spec hP crc id (recordChunks now (firstTime now recs) 0 recs) attrs now recs h hne
    (recordChunks_flatten ..)
  cases recs with
  | nil => exact absurd rfl hne
  | cons r0 rs => exact this

theorem writeSetPagedWith_spec (hP : 0 < P) (inner : PB → Option PB) (h : Holds P pb F) (pb2 : PB) (bytes : Bytes)
    (g1 : inner (write P pb (u32 0)) = some pb2) (g2 : Holds P pb2 (F ++ u32 0 ++ bytes)) :
    ∃ pb', writeSetPagedWith P inner pb = some pb' ∧ Holds P pb' (F ++ (u32 bytes.length ++ bytes)) := by
  have hl : pb2.base + (flat pb2).length - F.length = 4 + bytes.length := by
    rw [g2.size]; simp only [List.length_append, u32_length]; omega
  simp only [writeSetPagedWith, g1, h.size, hl]
  rw [if_neg (by omega), Nat.add_sub_cancel_left]
  exact ⟨_, rfl, by
    rw [← patch_head (u32 0) bytes _ (by simp), ← patch_skip, Nat.add_zero, ← List.append_assoc]
    exact g2.writeAt hP _ _ (by simp)⟩

theorem writeSetV2Paged_holds (hP : 0 < P) (crc : Bytes → Nat) (attrs now : Int) (recs : List PRec) (h : Holds P pb F)
    (hne : recs ≠ []) :
    ∃ pb', writeSetV2Paged P crc attrs now recs pb = some pb' ∧
      Holds P pb' (F ++ (u32 (encFrame crc (frameOfV2 attrs now recs)).length ++ encFrame crc (frameOfV2 attrs now recs))) := by
  obtain ⟨pb2, g1, g3⟩ := writeV2Paged_spec hP crc attrs now recs (h.write hP (u32 0)) hne
  exact writeSetPagedWith_spec hP _ h pb2 _ g1 g3

theorem writeSetV2PagedC_holds (hP : 0 < P) (crc : Bytes → Nat) (comp : Bytes → Bytes) (chunks : List Bytes)
    (attrs now : Int) (recs : List PRec) (h : Holds P pb F) (hne : recs ≠ [])
    (hch : chunks.flatten = comp (recordsV2 now (firstTime now recs) 0 recs)) :
    ∃ pb', writeSetV2PagedC P crc chunks attrs now recs pb = some pb' ∧
      Holds P pb' (F ++ (u32 (encFrame crc (frameOfV2C comp attrs now recs)).length ++
        encFrame crc (frameOfV2C comp attrs now recs))) := by
  obtain ⟨pb2, g1, g3⟩ := writeV2PagedC_spec hP crc comp chunks attrs now recs (h.write hP (u32 0)) hne hch
  exact writeSetPagedWith_spec hP _ h pb2 _ g1 g3

theorem messageV1Paged_spec (hP : 0 < P) (crc : Bytes → Nat) (attrs now : Int) (i : Nat) (r : PRec) (h : Holds P pb F) :
    Holds P (messageV1Paged P crc attrs now i r pb) (F ++ messageV1 crc attrs now i r) := by
  simp only [messageV1Paged, messageV1, h.size]
  generalize writeNullBytes r.key = K
  generalize writeNullBytes r.value = V
  have h1 := holds_writeAll hP [i64 (i : Int), i32 0, i32 0, i8 1, i8 attrs, i64 (effTime now r), K, V] h
  simp only [List.flatten_cons, List.flatten_nil, List.append_nil] at h1
  generalize writeAll P pb [i64 (i : Int), i32 0, i32 0, i8 1, i8 attrs, i64 (effTime now r), K, V] = pb1 at h1 ⊢
  have hsz : pb1.base + (flat pb1).length - (F.length + 12) =
      4 + (i8 1 ++ (i8 attrs ++ (i64 (effTime now r) ++ (K ++ V)))).length := by
    rw [h1.size]; simp; omega
  rw [hsz]
  -- size, crc: each lands on its placeholder
  have h2 := Holds.writeAts hP [(i32 ((4 + (i8 1 ++ (i8 attrs ++ (i64 (effTime now r) ++ (K ++ V)))).length : Nat) : Int),
    F.length + 8), (u32 (crc (i8 1 ++ (i8 attrs ++ (i64 (effTime now r) ++ (K ++ V))))), F.length + 12)] h1 (by simp; omega)
  simpa only [writeAts, patches, patch_skip, patch_append_right, patch_head, i64_length, i32_length, u32_length, Nat.reduceLeDiff,
    Nat.reduceSub, Nat.le_refl, Nat.sub_self] using h2

theorem writeV1Paged_spec (hP : 0 < P) (crc : Bytes → Nat) (attrs now : Int) :
    ∀ (rs : List PRec) (i : Nat) {pb : PB} {F : Bytes}, Holds P pb F →
      Holds P (writeV1Paged P crc attrs now i rs pb) (F ++ writeV1 crc attrs now i rs)
  | [], _, _, _, h => by simpa [writeV1Paged, writeV1] using h
  | r :: rs, i, _, _, h => by
    simpa [writeV1Paged, writeV1] using writeV1Paged_spec hP crc attrs now rs (i + 1) (messageV1Paged_spec hP crc attrs now i r h)

theorem writeV1PagedC_spec (hP : 0 < P) (crc : Bytes → Nat) (comp : Bytes → Bytes) (attrs now : Int) (recs : List PRec)
    (h : Holds P pb F) :
    Holds P (writeV1PagedC P crc comp attrs now recs pb) (F ++ writeV1C crc comp attrs now recs) := by
  have h1 := writeV1Paged_spec hP crc (attrs - attrs % 8) now recs 0 h
  simp only [writeV1PagedC, writeV1C, h.size]
  generalize writeV1Paged P crc (attrs - attrs % 8) now 0 recs pb = pb1 at h1 ⊢
  generalize writeV1 crc (attrs - attrs % 8) now 0 recs = inner at h1 ⊢
  rw [h1.size, h1.scan hP _ _ (by simp), List.length_append, seg_mid]
  have ht := h1.truncate F.length
  rw [List.take_left' rfl] at ht
  exact messageV1Paged_spec hP crc attrs now 0 ⟨0, none, some (comp inner), []⟩ ht

end

/-- `RecordSet.WriteTo` with a compressor installed: old content, the size, the compressed batch -/
theorem writeSetV2PagedC_spec (P : Nat) (hP : 0 < P) (crc : Bytes → Nat) (comp : Bytes → Bytes) (chunks : List Bytes)
    (attrs now : Int) (recs : List PRec) (pb : PB) (hc : Contig P pb.pages) (hb : pb.base = 0) (hne : recs ≠ [])
    (hch : chunks.flatten = comp (recordsV2 now (firstTime now recs) 0 recs)) :
    ∃ pb' bytes, writeSetV2PagedC P crc chunks attrs now recs pb = some pb' ∧ writeV2C crc comp attrs now recs = some bytes ∧
      flat pb' = flat pb ++ (u32 bytes.length ++ bytes) ∧ Contig P pb'.pages ∧ pb'.base = 0 := by
  obtain ⟨pb', k1, k3⟩ := writeSetV2PagedC_holds hP crc comp chunks attrs now recs ⟨hc, hb, rfl⟩ hne hch
  exact ⟨pb', _, k1, writeV2C_eq crc comp attrs now recs hne, k3.flat, k3.contig, k3.base⟩

end KV.Model.RecordWriter
