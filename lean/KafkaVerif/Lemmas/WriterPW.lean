/-
Lemmas/WriterPW.lean — three invariants of the Writer LTS that stand on their own (no other invariant is needed to
prove them): `InvPos`, `InvClosedQ`, `InvFresh`.  `InvPos`: small facts about sender positions (attempt numbers below
MaxAttempts, an exited sender has a closed and empty queue, …), for every MaxAttempts; `InvProg`: the same as `PWProg`,
given MaxAttempts ≥ 1.
-/
import KafkaVerif.Lemmas.WriterStep
namespace KV.Writer

structure PWProg (cfg : Cfg) (P : PW) : Prop where
  readyBound : ∀ b k, P.sender = .ready b k → k < cfg.maxAttempts
  attBound : ∀ b k br, P.sender = .attempting b k br → k < cfg.maxAttempts
  finTrue : ∀ b c, P.sender = .finishing b c true → cfg.completion = true
  rejNonzero : ∀ b k c, P.sender = .attempting b k (some (.rejected c)) → c ≠ 0
  exitedEmpty : P.sender = .exited → P.queue = [] ∧ P.qclosed = true
  pendingCurr : P.pending.isSome = true → P.curr = none

theorem PWProg.congr {cfg : Cfg} {P P' : PW} (h : PWProg cfg P) (h1 : P'.sender = P.sender) (h2 : P'.queue = P.queue)
    (h3 : P'.qclosed = P.qclosed) (h4 : P'.pending = P.pending) (h5 : P'.curr = P.curr) : PWProg cfg P' := by
  constructor
  · intro b k hs; exact h.readyBound b k (h1 ▸ hs)
  · intro b k br hs; exact h.attBound b k br (h1 ▸ hs)
  · intro b c hs; exact h.finTrue b c (h1 ▸ hs)
  · intro b k c hs; exact h.rejNonzero b k c (h1 ▸ hs)
  · intro hs; rw [h2, h3]; exact h.exitedEmpty (h1 ▸ hs)
  · intro hp; rw [h5]; exact h.pendingCurr (h4 ▸ hp)

/-- the four clauses of `PWProg` that speak of the sender's position alone, as one predicate on the position.  The bound
on a position about to start attempt k is conditional: the sender takes a batch from the queue at attempt 0 whatever
MaxAttempts is, so `k < MaxAttempts` there needs `1 ≤ MaxAttempts` -/
def SenderOK (cfg : Cfg) : Sender → Prop
  | .ready _ k => 1 ≤ cfg.maxAttempts → k < cfg.maxAttempts
  | .attempting _ k br => k < cfg.maxAttempts ∧ br ≠ some (.rejected 0)
  | .finishing _ _ cb => cb = true → cfg.completion = true
  | _ => True

/-- `PWProg` in the form the steps keep, for every MaxAttempts: one fact about the sender's position, one about
the queue of an exited sender, one about `pending` -/
structure PWPos (cfg : Cfg) (P : PW) : Prop where
  sender : SenderOK cfg P.sender
  exitedEmpty : P.sender = .exited → P.queue = [] ∧ P.qclosed = true
  /-- `pending` is the batch between its detaching and `queue.Put`, both under ptw.mutex: `pending = none` reads "ptw.mutex is
  free", which is why every event of that mutex asks for it -/
  pendingCurr : P.pending.isSome = true → P.curr = none

theorem PWPos.prog {cfg : Cfg} {P : PW} (hmax : 1 ≤ cfg.maxAttempts) (h : PWPos cfg P) : PWProg cfg P := by
  have h1 := h.sender
  refine ⟨?_, ?_, ?_, ?_, h.exitedEmpty, h.pendingCurr⟩
  · intro b k e; rw [e] at h1; exact h1 hmax
  · intro b k br e; rw [e] at h1; exact h1.1
  · intro b c e; rw [e] at h1; exact h1 rfl
  · intro b k c e h0; rw [e, h0] at h1; exact h1.2 rfl

theorem senderOK_afterAttempt (cfg : Cfg) (b k : Nat) (code : Code) : SenderOK cfg (afterAttempt cfg b k code) := by
  rcases afterAttempt_cases cfg b k code with ⟨-, e⟩ | ⟨-, -, h, e⟩ | ⟨-, e⟩ <;> rw [e]
  · nofun
  · exact fun _ => h
  · nofun

theorem afterAttempt_ne_exited (cfg : Cfg) (b k : Nat) (code : Code) : afterAttempt cfg b k code ≠ .exited := by
  rcases afterAttempt_cases cfg b k code with ⟨-, e⟩ | ⟨-, -, -, e⟩ | ⟨-, e⟩ <;> rw [e] <;> nofun

theorem gpws_id {s : State} : ∀ pw P, s.pws pw = some P → ∃ P', s.pws pw = some P' ∧ P'.tp = P.tp :=
  fun _ P h => ⟨P, h, rfl⟩

def InvPos (cfg : Cfg) (s : State) : Prop := ∀ pw P, s.pws pw = some P → PWPos cfg P

theorem invPos_step {cfg : Cfg} {s s' : State} {e : Event} (hI : InvPos cfg s) (h : Step cfg s e s') : InvPos cfg s' := by
  induction h with
  | detach hP hB hg =>
    have h := hI _ _ hP
    exact forall_upd _ _ _ hI ⟨h.sender, h.exitedEmpty, fun _ => rfl⟩
  | qput hq hP hg =>
    have h := hI _ _ hP
    refine forall_upd _ _ _ hI ⟨h.sender, fun hex => ?_, nofun⟩
    -- the sender has exited only after the queue was closed: the batch is refused
    obtain ⟨hq0, hqc⟩ := h.exitedEmpty hex
    exact ⟨by show enq _ _ _ = []; rw [hg.accepted, hqc, hq0]; rfl, hqc⟩
  | qgetSome hq hP hg => exact forall_upd _ _ _ hI ⟨id, nofun, (hI _ _ hP).pendingCurr⟩
  | qgetNone hq hP hg => exact forall_upd _ _ _ hI ⟨trivial, fun _ => ⟨hg.empty, hg.qclosed⟩, (hI _ _ hP).pendingCurr⟩
  | qclose hq hP hg =>
    have h := hI _ _ hP
    exact forall_upd _ _ _ hI ⟨h.sender, fun hex => ⟨(h.exitedEmpty hex).1, rfl⟩, h.pendingCurr⟩
  | attempt hP hg => exact forall_upd _ _ _ hI ⟨⟨hg.bound, nofun⟩, nofun, (hI _ _ hP).pendingCurr⟩
  | produce hP hsend hB hg =>
    have h := hI _ _ hP
    have hs := h.sender
    rw [hsend] at hs
    exact forall_upd _ _ _ hI ⟨⟨hs.1, fun e => hg.decided (Option.some.inj e)⟩, nofun, h.pendingCurr⟩
  | attemptDone hP hsend hg =>
    exact forall_upd _ _ _ hI
      ⟨senderOK_afterAttempt .., fun e => absurd e (afterAttempt_ne_exited _ _ _ _), (hI _ _ hP).pendingCurr⟩
  | completion hP hB hg => exact forall_upd _ _ _ hI ⟨fun _ => hg.on, nofun, (hI _ _ hP).pendingCurr⟩
  | complete hP hB hg => exact forall_upd _ _ _ hI ⟨trivial, nofun, (hI _ _ hP).pendingCurr⟩
  | newBatch hP hg =>
    have h := hI _ _ hP
    exact forall_upd _ _ _ hI ⟨h.sender, h.exitedEmpty, fun hp => by simp [hg.pending] at hp⟩
  | newPW hg => exact forall_upd _ _ _ hI ⟨trivial, nofun, nofun⟩
  | _ => exact hI

theorem invPos (cfg : Cfg) : ∀ s, Reachable cfg s → InvPos cfg s :=
  Reachable.step_induction (fun _ _ h => by cases h) fun _ _ _ _ hI h => invPos_step hI h

structure InvProg (cfg : Cfg) (s : State) : Prop where
  pw : ∀ pw P, s.pws pw = some P → PWProg cfg P

theorem invProg (cfg : Cfg) (hmax : 1 ≤ cfg.maxAttempts) : ∀ s, Reachable cfg s → InvProg cfg s :=
  fun s hr => ⟨fun pw P hP => (invPos cfg s hr pw P hP).prog hmax⟩

/-- a closed queue is never handed a batch -/
structure InvClosedQ (s : State) : Prop where
  lockOpen : s.wlock.isCall = true → s.closed = false
  closedQ : ∀ pw P, s.pws pw = some P → P.qclosed = true → s.closed = true ∧ P.curr = none ∧ P.pending = none

theorem invClosedQ_init : InvClosedQ State.init := by
  constructor <;> (intros; contradiction)

/-- what `InvClosedQ` says of one partition writer, the Writer's `closed` flag given -/
def ClosedOK (closed : Bool) (P : PW) : Prop := P.qclosed = true → closed = true ∧ P.curr = none ∧ P.pending = none

theorem InvClosedQ.of_frame {s s' : State} (h : InvClosedQ s) (hw : s'.wlock = s.wlock) (hc : s'.closed = s.closed)
    (hpws : MapRel (fun P' => P'.qclosed = false) (fun P P' => ClosedOK s.closed P → ClosedOK s.closed P') s.pws s'.pws) :
    InvClosedQ s' := by
  constructor
  · intro hl; rw [hw] at hl; rw [hc]; exact h.lockOpen hl
  · intro x X' hx hqc
    rw [hc]
    rcases hpws.back x X' hx with ⟨-, hn⟩ | ⟨X, hX, hk⟩
    · rw [hn] at hqc; cases hqc
    · exact hk (h.closedQ x X hX) hqc

theorem invClosedQ_step {cfg : Cfg} {s s' : State} {e : Event} (hI : InvClosedQ s) (h : Step cfg s e s') :
    InvClosedQ s' := by
  induction h with
  | batch hC hg => exact ⟨fun _ => hg.notClosed, hI.closedQ⟩
  | batched hC hg | closeMarked hg => exact ⟨nofun, hI.closedQ⟩
  | closeBegin hg => exact ⟨nofun, fun x X hx hqc => ⟨rfl, (hI.closedQ x X hx hqc).2⟩⟩
  | newPW hg => exact hI.of_frame rfl rfl (.new (fun _ => id) (Option.isNone_iff_eq_none.mp hg.pwFree) rfl)
  | newBatch hP hg =>
    -- a partition writer with a closed queue gets no new batch: the writer is closed, batchMessages is not running
    refine hI.of_frame rfl rfl (.upd (fun _ => id) hP fun h hqc => ?_)
    have := (h hqc).1
    rw [hI.lockOpen hg.lock] at this; cases this
  | detach hP hB hg =>
    refine hI.of_frame rfl rfl (.upd (fun _ => id) hP fun h hqc => ?_)
    have := (h hqc).2.1
    rw [hg.curr] at this; cases this
  | qclose hq hP hg => exact hI.of_frame rfl rfl (.upd (fun _ => id) hP fun _ _ => ⟨hg.closed, hg.curr, hg.pending⟩)
  | qput hq hP hg => exact hI.of_frame rfl rfl (.upd (fun _ => id) hP fun h hqc => ⟨(h hqc).1, (h hqc).2.1, rfl⟩)
  | qgetSome hq hP hg | qgetNone hq hP hg | attempt hP hg | attemptDone hP hsend hg | produce hP hsend hB hg
  | completion hP hB hg | complete hP hB hg => exact hI.of_frame rfl rfl (.upd (fun _ => id) hP fun h hqc => (h hqc :))
  | _ => exact hI.of_frame rfl rfl (.refl fun _ => id)

theorem invClosedQ (cfg : Cfg) : ∀ s, Reachable cfg s → InvClosedQ s :=
  Reachable.step_induction invClosedQ_init fun _ _ _ _ hI h => invClosedQ_step hI h

/-- the window between newWriteBatch and the first add; sent batches are not empty -/
structure InvFresh (s : State) : Prop where
  freshLock : s.fresh.isSome = true → s.wlock.isCall = true
  emptyFresh : ∀ b B, s.batches b = some B → B.msgs = [] → s.fresh = some b
  detNonempty : ∀ b B, s.batches b = some B → B.detached.isSome = true → B.msgs ≠ []

theorem invFresh_init : InvFresh State.init := by
  constructor <;> (intros; contradiction)

/-- what a step other than `newBatch`, `add` does to a batch as far as `InvFresh` goes: messages stay, and it becomes
detached only if it has a message -/
def FreshBat (B B' : Batch) : Prop :=
  B'.msgs = B.msgs ∧ (B'.detached.isSome = true → B.detached.isSome = true ∨ B.msgs ≠ [])

theorem FreshBat.refl (B : Batch) : FreshBat B B := ⟨rfl, Or.inl⟩

theorem InvFresh.of_frame {s s' : State} (h : InvFresh s) (hf : s'.fresh = s.fresh)
    (hw : s.wlock.isCall = true → s'.wlock.isCall = true ∨ s.fresh = none)
    (hbat : MapRel (fun _ => False) FreshBat s.batches s'.batches) : InvFresh s' := by
  constructor
  · intro hs
    rw [hf] at hs
    rcases hw (h.freshLock hs) with h1 | h1
    · exact h1
    · rw [h1] at hs; cases hs
  · intro b B' hB' hm
    obtain ⟨B, hB, e, -⟩ := hbat.old b B' hB'
    rw [hf]; exact h.emptyFresh b B hB (e ▸ hm)
  · intro b B' hB' hd
    obtain ⟨B, hB, e, hk⟩ := hbat.old b B' hB'
    rw [e]
    rcases hk hd with h1 | h1
    · exact h.detNonempty b B hB h1
    · exact h1

theorem InvFresh.fresh_none {s : State} (h : InvFresh s) (hlock : s.wlock.isCall = false) : s.fresh = none := by
  cases hf : s.fresh with
  | none => rfl
  | some b =>
    have := h.freshLock (by rw [hf]; rfl)
    rw [hlock] at this; cases this

theorem invFresh_step {cfg : Cfg} {s s' : State} {e : Event} (hI : InvFresh s) (h : Step cfg s e s') : InvFresh s' := by
  induction h with
  | newBatch hP hg =>
    refine ⟨fun _ => hg.lock, forall_upd_key _ _ _ (fun x X _ hx hm => ?_) fun _ => rfl,
      forall_upd _ _ _ hI.detNonempty nofun⟩
    -- there was no empty batch
    have := hI.emptyFresh x X hx hm; rw [hg.fresh] at this; cases this
  | add hP hB hC hg =>
    refine ⟨nofun, forall_upd_key _ _ _ (fun x X hne hx hm => ?_) fun hm => by simp [Batch.push] at hm,
      forall_upd _ _ _ hI.detNonempty fun _ => by simp [Batch.push]⟩
    -- an empty batch is the one just created, and that is the one the message goes to
    have := hI.emptyFresh x X hx hm
    rcases hg.fresh with h0 | h0 <;> rw [h0] at this <;> cases this
    exact absurd rfl hne
  | detach hP hB hg =>
    -- the batch just created cannot be detached, every other batch has a message
    exact hI.of_frame rfl Or.inl
      (.upd FreshBat.refl hB ⟨rfl, fun _ => Or.inr fun hm => hg.fresh (hI.emptyFresh _ _ hB hm)⟩)
  | batch hC hg => exact hI.of_frame rfl (fun _ => Or.inl rfl) (.refl FreshBat.refl)
  | batched hC hg => exact hI.of_frame rfl (fun _ => Or.inr hg.fresh) (.refl FreshBat.refl)
  | closeBegin hg => exact hI.of_frame rfl (fun h => by rw [hg] at h; cases h) (.refl FreshBat.refl)
  | closeMarked hg => exact hI.of_frame rfl (fun h => by rw [hg.lock] at h; cases h) (.refl FreshBat.refl)
  | timerFire hP hB hg | completion hP hB hg | complete hP hB hg | produce hP hsend hB hg =>
    exact hI.of_frame rfl Or.inl (.upd FreshBat.refl hB ⟨rfl, Or.inl⟩)
  | _ => exact hI.of_frame rfl Or.inl (.refl FreshBat.refl)

theorem invFresh (cfg : Cfg) : ∀ s, Reachable cfg s → InvFresh s :=
  Reachable.step_induction invFresh_init fun _ _ _ _ hI h => invFresh_step hI h

end KV.Writer
