/-
Lemmas/ConnDeadline.lean — what each event of Model/ConnDeadline.lean does to the two deadline objects, the socket and
the holder, and the invariant of the discipline "whoever gives the read lock back detaches first".
-/
import KafkaVerif.Model.ConnDeadline
import KafkaVerif.Base.Run

namespace KV.ConnDeadline

theorem step_set {s s' : State} {o : Obj} {t : Nat} (h : step s (.set o t) = some s') :
    (∀ o', s'.obj o' = if o' = o then { s.obj o with value := t } else s.obj o') ∧
    s'.sock = (if (s.obj o).attached then t else s.sock) ∧ s'.holder = s.holder := by
  cases h
  exact ⟨fun o' => by cases o <;> cases o' <;> rfl, rfl, by cases o <;> rfl⟩

theorem step_attach {s s' : State} {o : Obj} (h : step s (.attach o) = some s') :
    s.holder = none ∧ (∀ o', s'.obj o' = if o' = o then { s.obj o with attached := true } else s.obj o') ∧
    s'.sock = (s.obj o).value ∧ s'.holder = some o := by
  dsimp only [step] at h
  split at h
  · next hn =>
    cases h
    exact ⟨hn, fun o' => by cases o <;> cases o' <;> rfl, rfl, rfl⟩
  · cases h

theorem step_release {s s' : State} {b : Bool} (h : step s (.release b) = some s') :
    ∃ o, s.holder = some o ∧
      (∀ o', s'.obj o' = if o' = o then { s.obj o with attached := (s.obj o).attached && !b } else s.obj o') ∧
      s'.sock = s.sock ∧ s'.holder = none := by
  dsimp only [step] at h
  split at h
  · next o ho =>
    cases h
    exact ⟨o, ho, fun o' => by cases o <;> cases o' <;> rfl, by cases o <;> rfl, rfl⟩
  · cases h

/-- only the lock holder's deadline object is attached, and the socket carries its current value -/
structure DInv (s : State) : Prop where
  attached : ∀ o, (s.obj o).attached = true → s.holder = some o
  holder : ∀ o, s.holder = some o → s.sock = (s.obj o).value ∧ (s.obj o).attached = true

theorem dinv_init : DInv init :=
  ⟨fun o h => (by cases o <;> cases h), nofun⟩

theorem DInv.other_detached {s : State} (hi : DInv s) {o o' : Obj} (hh : s.holder = some o) (hne : o' ≠ o) :
    (s.obj o').attached = false := by
  cases hoa : (s.obj o').attached with
  | false => rfl
  | true => exact absurd (Option.some.inj ((hi.attached o' hoa).symm.trans hh)) hne

theorem dinv_step {s s' : State} {e : Event} (hi : DInv s) (h : step s e = some s') (hd : e ≠ .release false) :
    DInv s' := by
  have ⟨ha, hg⟩ := hi
  cases e with
  | set o t =>
    obtain ⟨hobj, hsock, hhold⟩ := step_set h
    have hatt : ∀ o', (s'.obj o').attached = (s.obj o').attached := fun o' => by
      rw [hobj]; split
      · next heq => rw [heq]
      · rfl
    refine ⟨fun o' hat => hhold ▸ ha o' (hatt o' ▸ hat), fun o' hh => ?_⟩
    obtain ⟨hs, hat⟩ := hg o' (hhold ▸ hh)
    refine ⟨?_, hatt o' ▸ hat⟩
    rw [hsock, hobj]
    by_cases heq : o' = o
    · rw [if_pos heq, ← heq, hat]; rfl
    · rw [if_neg heq, hi.other_detached (hhold ▸ hh) (Ne.symm heq)]; exact hs
  | attach o =>
    obtain ⟨hfree, hobj, hsock, hhold⟩ := step_attach h
    refine ⟨fun o' hat => ?_, fun o' hh => ?_⟩
    · rw [hhold]
      by_cases heq : o' = o
      · rw [heq]
      · rw [hobj, if_neg heq] at hat
        exact absurd (ha o' hat) (by rw [hfree]; nofun)
    · cases hhold.symm.trans hh
      rw [hsock, hobj, if_pos rfl]; exact ⟨rfl, rfl⟩
  | release b =>
    cases b with
    | false => exact absurd rfl hd
    | true =>
      obtain ⟨o, hho, hobj, _, hhold⟩ := step_release h
      refine ⟨fun o' hat => ?_, fun o' hh => by rw [hhold] at hh; cases hh⟩
      rw [hobj] at hat
      by_cases heq : o' = o
      · rw [if_pos heq, Bool.not_true, Bool.and_false] at hat; cases hat
      · rw [if_neg heq] at hat
        exact absurd (Option.some.inj ((ha o' hat).symm.trans hho)) heq

theorem disciplined_iff {es : List Event} : disciplined es = true ↔ ∀ e, e ∈ es → e ≠ .release false := by
  induction es with
  | nil => exact ⟨fun _ _ h => (nomatch h), fun _ => rfl⟩
  | cons e es ih =>
    by_cases he : e = .release false
    · subst he
      exact ⟨fun h => (nomatch h), fun h => absurd rfl (h _ List.mem_cons_self)⟩
    · have hd : disciplined (e :: es) = disciplined es := by
        cases e with
        | set o t => rfl
        | attach o => rfl
        | release d => cases d with
          | false => exact absurd rfl he
          | true => rfl
      rw [hd, ih]
      exact ⟨fun h x hx => (List.mem_cons.mp hx).elim (fun hxe => hxe ▸ he) (h x),
        fun h x hx => h x (List.mem_cons_of_mem _ hx)⟩

theorem runFrom_eq (s : State) (es : List Event) : runFrom s es = es.foldlM step s :=
  Run.eq_foldlM (fun _ => rfl) (fun s e es => by rw [runFrom]; cases step s e <;> rfl) es s

theorem dinv_run (es : List Event) (s s' : State) (hi : DInv s) (hd : disciplined es = true)
    (h : runFrom s es = some s') : DInv s' :=
  Run.invariant_mem (fun _ e _ he hi hs => dinv_step hi hs (disciplined_iff.mp hd e he)) (runFrom_eq s es ▸ h) hi

theorem dinv_of_run {es : List Event} {s : State} (hd : disciplined es = true) (h : run es = some s) : DInv s :=
  dinv_run es init s dinv_init hd h

end KV.ConnDeadline
