/-
Lemmas/WriterFirstCopy.lean — what a reader of the partition log sees (C07 across retries): `InvFirst`:
every log entry is a message of its batch, and an entry x of a batch is preceded, in the log, by an entry for every
message of that batch that was submitted before x — copies are whole batches in batch order, so the FIRST copy of a
batch already is in submission order.  With `InvOrd.logOrd` this gives: whenever y stands after x in the log although
y was submitted earlier, y is a repeated copy — the same message already stands before x.  Read off `InvLogE`: the log is a
concatenation of whole copies.
-/
import KafkaVerif.Lemmas.WriterLogJournal

namespace KV.Writer

structure InvFirst (s : State) : Prop where
  entryIn : ∀ tp, ∀ x ∈ s.log tp, ∃ B, s.batches x.batch = some B ∧ ∃ m ∈ B.msgs, m.seq = x.seq ∧ m.msg = x.msg
  prefixCopy : ∀ tp l1 x l2, s.log tp = l1 ++ x :: l2 → ∀ B, s.batches x.batch = some B →
    ∀ m ∈ B.msgs, m.seq < x.seq → ∃ y ∈ l1, y.seq = m.seq ∧ y.msg = m.msg

/-- in a copy of a batch, whatever was stamped before an entry stands before it -/
theorem mkEntries_prefix {pw b : Nat} {B : Batch} {bs cs : List LogEntry} {x : LogEntry}
    (hs : B.msgs.Pairwise (fun m m' => m.seq < m'.seq)) (h : mkEntries pw b B = bs ++ x :: cs) {m : BMsg}
    (hm : m ∈ B.msgs) (hlt : m.seq < x.seq) : ∃ y ∈ bs, y.seq = m.seq ∧ y.msg = m.msg := by
  obtain ⟨p, q', hpq, hp, hq'⟩ := List.map_eq_append_iff.mp h
  obtain ⟨mx, q, hq, hfx, -⟩ := List.map_eq_cons_iff.mp hq'
  subst hfx
  rw [hpq, hq] at hs hm
  have hmp : m ∈ p := by
    rcases List.mem_append.mp hm with hm | hm
    · exact hm
    · exfalso
      rcases List.mem_cons.mp hm with rfl | hmq
      · exact Nat.lt_irrefl _ hlt
      · exact Nat.lt_asymm ((List.pairwise_cons.mp (List.pairwise_append.mp hs).2.1).1 m hmq) hlt
  exact ⟨_, hp ▸ List.mem_map.mpr ⟨m, hmp, rfl⟩, rfl, rfl⟩

theorem InvLogE.first {s : State} (h : InvLogE s) (hO : InvOrd s) : InvFirst s := by
  refine ⟨fun tp x hx => h.mem_log hx, fun tp l1 x l2 hl B hB m hm hlt => ?_⟩
  rw [h.log] at hl
  -- x stands in the copy made by one attempt, a copy of its own batch
  obtain ⟨j, -, pre, bs, cs, hf, rfl⟩ := flatMap_eq_append_cons hl
  obtain ⟨B0, hB0, eb, -⟩ := mem_entriesOf (x := x) (by rw [hf]; exact List.mem_append_right _ (List.mem_cons_self ..))
  rw [entriesOf_eq hB0] at hf
  rw [← eb, hB] at hB0; cases hB0
  obtain ⟨y, hy, h1⟩ := mkEntries_prefix (hO.sorted _ B hB) hf hm hlt
  exact ⟨y, List.mem_append_right _ hy, h1⟩

theorem invFirst (cfg : Cfg) : ∀ s, Reachable cfg s → InvFirst s := fun s hr => (invLogE cfg s hr).first (invOrd cfg s hr)

end KV.Writer
