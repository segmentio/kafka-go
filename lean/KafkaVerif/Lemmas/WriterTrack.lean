/-
Lemmas/WriterTrack.lean — three invariants of the Writer close protocol (Model/WriterClose.lean).
* `Track`, message tracking: every message queued by batchMessages is either completed (its Completion ran) or held by a
  partition writer whose sender goroutine is alive; a closed partition writer has no open batch and an open one has a
  live sender; a call waiting for its batches waits only for accepted messages.  Hence no waiting call is orphaned
  (`not_waitingBlocked`).
* The WaitGroup does not grow once the writer is closed (`wg_nonincreasing`), so it stays 0 after Close has returned
  (`reachable_returned_quiescent`).
* `BornInv`: a call invoked after the closed mark never gets past `enter`.
-/
import KafkaVerif.Lemmas.WriterClose

namespace KV.WriterClose

def Held (ws : List PW) (m : Nat) : Prop := ∃ p ∈ ws, p.live = true ∧ m ∈ p.msgs

def PWok (p : PW) : Prop := (p.opn = false → p.curr = none) ∧ (p.opn = true → p.live = true)

/-- the Completion callback ran for message `m` -/
def Done (cs : List (Nat × Why)) (m : Nat) : Prop := ∃ x ∈ cs, x.1 = m

/-- tracking as far as the partition writers go: every accepted message is completed or held, every partition writer
is well-formed (stated over the three lists, so that `batchMessages` can be followed message by message) -/
def TrackW (ws : List PW) (acc : List Nat) (comp : List (Nat × Why)) : Prop :=
  (∀ m ∈ acc, Done comp m ∨ Held ws m) ∧ (∀ p ∈ ws, PWok p)

structure Track (s : State) : Prop where
  writers : TrackW s.writers s.accepted s.completed
  waits : ∀ c ∈ s.calls, c.phase = .waiting → ∀ mk ∈ c.msgs, mk.1 ∈ s.accepted

theorem isCompleted_iff (s : State) (m : Nat) : s.isCompleted m = true ↔ Done s.completed m := by
  simp [State.isCompleted, Done]

/-- `q` still holds, alive, every message `p` held alive, except those in `L`; and `q` is well-formed -/
structure Keeps (L : List Nat) (p q : PW) : Prop where
  held : p.live = true → ∀ m ∈ p.msgs, (q.live = true ∧ m ∈ q.msgs) ∨ m ∈ L
  ok : PWok q

theorem Keeps.refl {p : PW} (L : List Nat) (hok : PWok p) : Keeps L p p := ⟨fun hl _ h => Or.inl ⟨hl, h⟩, hok⟩

theorem Keeps.of_msgs_eq {p q : PW} (hs : q.sender = p.sender) (hm : q.msgs = p.msgs) (hok : PWok q) : Keeps [] p q :=
  ⟨fun hl _ h => Or.inl ⟨live_of_sender_eq hs ▸ hl, hm ▸ h⟩, hok⟩

theorem msgs_flush (p : PW) (cb : Batch) (o : Bool) (hc : p.curr = some cb) :
    ({ p with queue := p.queue ++ [cb], curr := none, opn := o } : PW).msgs = p.msgs := by
  simp [PW.msgs, PW.queueMsgs, PW.currMsgs, hc]

theorem timerPW_keeps (b : Nat) (p : PW) (hok : PWok p) : Keeps [] p (timerPW b p) := by
  unfold timerPW
  split
  · rename_i cb hc
    split
    · have hopn : p.opn = true := by
        cases ho : p.opn
        · rw [hok.1 ho] at hc; cases hc
        · rfl
      simp only [putBatch, hopn, if_true]
      exact .of_msgs_eq rfl (msgs_flush p cb true hc) ⟨fun _ => rfl, fun _ => hok.2 hopn⟩
    · exact .refl _ hok
  · exact .refl _ hok

theorem closePW_keeps (p : PW) : Keeps [] p (closePW p) := by
  unfold closePW
  split
  · rename_i cb hc
    exact .of_msgs_eq rfl (msgs_flush p cb false hc) ⟨fun _ => rfl, fun h => nomatch h⟩
  · rename_i hc
    exact .of_msgs_eq rfl rfl ⟨fun _ => hc, fun h => nomatch h⟩

theorem addMsgPW_msgs (cfg : Cfg) (p : PW) (m0 n : Nat) (hopn : p.opn = true) :
    (addMsgPW cfg p m0 n).msgs = p.queueMsgs ++ (p.currMsgs ++ [m0]) ++ p.sender.msgs := by
  simp only [addMsgPW, putBatch, hopn, if_true]
  cases hc : p.curr <;> simp only [] <;> split <;> simp [PW.msgs, PW.queueMsgs, PW.currMsgs, hc]

theorem addMsgPW_keeps (cfg : Cfg) (p : PW) (m0 n : Nat) (hopn : p.opn = true) (hok : PWok p) :
    Keeps [] p (addMsgPW cfg p m0 n) ∧ (addMsgPW cfg p m0 n).live = true ∧ m0 ∈ (addMsgPW cfg p m0 n).msgs := by
  have hlive : (addMsgPW cfg p m0 n).live = true := live_of_sender_eq (addMsgPW_sender cfg p m0 n) ▸ hok.2 hopn
  refine ⟨⟨fun _ m h => Or.inl ⟨hlive, ?_⟩, fun h => ?_, fun _ => hlive⟩, hlive, ?_⟩
  · rw [addMsgPW_msgs cfg p m0 n hopn]
    rcases List.mem_append.mp h with h | h
    · rcases List.mem_append.mp h with h | h
      · exact List.mem_append_left _ (List.mem_append_left _ h)
      · exact List.mem_append_left _ (List.mem_append_right _ (List.mem_append_left _ h))
    · exact List.mem_append_right _ h
  · rw [addMsgPW_opn, hopn] at h; cases h
  · rw [addMsgPW_msgs cfg p m0 n hopn]
    exact List.mem_append_left _ (List.mem_append_right _ (List.mem_append_right _ (List.mem_singleton_self _)))

theorem takeBatch_keeps (p : PW) (hok : PWok p) (hs : p.sender = .idle) : Keeps [] p (takeBatch p) := by
  cases hq : p.queue with
  | nil => unfold takeBatch; rw [hq]; exact .refl _ hok
  | cons b rest =>
    simp only [takeBatch, hq]
    refine ⟨fun _ m hm => Or.inl ⟨by simp [PW.live], ?_⟩, hok.1, fun _ => by simp [PW.live]⟩
    simp only [PW.msgs, PW.queueMsgs, hq, hs, Sender.msgs, List.flatMap_cons, List.mem_append] at hm ⊢
    rcases hm with ((h | h) | h) | h
    · exact Or.inr h
    · exact Or.inl (Or.inl h)
    · exact Or.inl (Or.inr h)
    · cases h

theorem exitPW_keeps (p : PW) (hok : PWok p) (hs : p.sender = .idle) (hq : p.queue = []) (ho : p.opn = false) :
    Keeps [] p (exitPW p) := by
  show Keeps [] p { p with sender := .exited }
  refine ⟨fun _ m hm => ?_, hok.1, fun h => ?_⟩
  · simp [PW.msgs, PW.queueMsgs, PW.currMsgs, hq, hs, hok.1 ho, Sender.msgs] at hm
  · rw [ho] at h; cases h

theorem answer_keeps (cfg : Cfg) (o : Outcome) (p : PW) (hok : PWok p) : Keeps [] p (answer cfg o p) := by
  unfold answer
  split
  · rename_i b k hs
    have hl : ({ p with sender := attemptNext cfg b k o } : PW).live = true := by
      simp [PW.live, (attemptNext_spec cfg b k o).1]
    refine ⟨fun _ m hm => Or.inl ⟨hl, ?_⟩, hok.1, fun _ => hl⟩
    have hm : m ∈ p.queueMsgs ++ p.currMsgs ++ p.sender.msgs := hm
    rw [hs] at hm
    show m ∈ p.queueMsgs ++ p.currMsgs ++ (attemptNext cfg b k o).msgs
    rw [(attemptNext_spec cfg b k o).2.1]; exact hm
  · exact .refl _ hok

theorem finish_keeps (p : PW) (b : Batch) (why : Why) (hok : PWok p) (hs : p.sender = .completing b why) :
    Keeps b.msgs p (finish p) := by
  show Keeps b.msgs p { p with sender := .idle }
  refine ⟨fun _ m hm => ?_, hok.1, fun _ => by simp [PW.live]⟩
  have hm : m ∈ p.queueMsgs ++ p.currMsgs ++ p.sender.msgs := hm
  rw [hs] at hm
  rcases List.mem_append.mp hm with hm | hm
  · exact Or.inl ⟨by simp [PW.live], List.mem_append.mpr (Or.inl hm)⟩
  · exact Or.inr hm

theorem trackW_map {ws : List PW} {acc : List Nat} {comp comp' : List (Nat × Why)} {g : PW → PW} {L : List Nat}
    (hk : ∀ p ∈ ws, PWok p → Keeps L p (g p)) (hL : ∀ m ∈ L, Done comp' m) (hc : ∀ m, Done comp m → Done comp' m)
    (h : TrackW ws acc comp) : TrackW (ws.map g) acc comp' := by
  refine ⟨fun m hm => ?_, fun q hq => ?_⟩
  · rcases h.1 m hm with hd | ⟨p, hp, hl, hmm⟩
    · exact Or.inl (hc m hd)
    · rcases (hk p hp (h.2 p hp)).held hl m hmm with ⟨hl', hm'⟩ | hL'
      · exact Or.inr ⟨g p, List.mem_map.mpr ⟨p, hp, rfl⟩, hl', hm'⟩
      · exact Or.inl (hL m hL')
  · obtain ⟨p, hp, rfl⟩ := List.mem_map.mp hq
    exact (hk p hp (h.2 p hp)).ok

theorem trackW_updPWs (s : State) (i : Nat) (q : PW → Bool) (f : PW → PW) {L : List Nat} {comp' : List (Nat × Why)}
    (hk : ∀ p ∈ s.writers, q p = true → PWok p → Keeps L p (f p)) (hL : ∀ m ∈ L, Done comp' m)
    (hc : ∀ m, Done s.completed m → Done comp' m) (h : TrackW s.writers s.accepted s.completed) :
    TrackW (updPWs s i q f).writers s.accepted comp' := by
  refine trackW_map (fun p hp hok => ?_) hL hc h
  split
  · rename_i hq
    exact hk p hp (Bool.and_eq_true_iff.mp hq).2 hok
  · exact .refl L hok

theorem addOne_track (cfg : Cfg) (s : State) (mk : Nat × Nat) (h : TrackW s.writers s.accepted s.completed) :
    TrackW (addOne cfg s mk).writers (s.accepted ++ [mk.1]) s.completed := by
  -- the writer list after find-or-create still tracks the accepted messages and has an open writer for the key
  let ws := if s.writers.any (fun p => p.opn && p.key = mk.2) then s.writers
            else s.writers ++ [newPW s.writers.length mk.2]
  have hws : TrackW ws s.accepted s.completed ∧ ∃ p ∈ ws, (p.opn && decide (p.key = mk.2)) = true := by
    simp only [ws]
    split
    · rename_i hany
      exact ⟨h, by simpa only [List.any_eq_true] using hany⟩
    · refine ⟨⟨fun m hm => (h.1 m hm).imp_right fun ⟨p, hp, hl⟩ => ⟨p, List.mem_append_left _ hp, hl⟩, fun p hp => ?_⟩,
        newPW s.writers.length mk.2, List.mem_append_right _ (List.mem_singleton_self _), by simp [newPW]⟩
      rcases List.mem_append.mp hp with hp | hp
      · exact h.2 p hp
      · rw [List.mem_singleton.mp hp]; exact ⟨nofun, fun _ => rfl⟩
  obtain ⟨hws, p0, hp0, hk0⟩ := hws
  have hmap := trackW_map (g := fun p => if p.opn && p.key = mk.2 then addMsgPW cfg p mk.1 s.nextB else p)
    (L := []) (comp' := s.completed) (fun p _ hok => by
      show Keeps [] p (if _ then _ else _)
      split
      · rename_i hc
        exact (addMsgPW_keeps cfg p mk.1 s.nextB (Bool.and_eq_true_iff.mp hc).1 hok).1
      · exact .refl _ hok) nofun (fun _ h => h) hws
  refine ⟨fun m hm => ?_, hmap.2⟩
  rcases List.mem_append.mp hm with hm | hm
  · exact hmap.1 m hm
  · rw [List.mem_singleton.mp hm]
    have := addMsgPW_keeps cfg p0 mk.1 s.nextB (Bool.and_eq_true_iff.mp hk0).1 (hws.2 p0 hp0)
    exact Or.inr ⟨_, List.mem_map.mpr ⟨p0, hp0, rfl⟩, by simp only [hk0, if_true]; exact this.2⟩

theorem foldl_addOne_track (cfg : Cfg) (l : List (Nat × Nat)) (s : State)
    (h : TrackW s.writers s.accepted s.completed) :
    TrackW (l.foldl (addOne cfg) s).writers (s.accepted ++ l.map (·.1)) s.completed ∧
    (l.foldl (addOne cfg) s).accepted = s.accepted ++ l.map (·.1) := by
  induction l generalizing s with
  | nil => simpa using h
  | cons a l ih =>
    have := ih (addOne cfg s a) (addOne_track cfg s a h)
    simpa only [List.foldl_cons, List.map_cons, List.append_assoc, List.singleton_append, addOne] using this

theorem track_calls_only (s : State) (c : Nat) (q : Call → Bool) (f : Call → Call)
    (hf : ∀ x, (f x).msgs = x.msgs ∧ ((f x).phase = .waiting → x.phase = .waiting))
    (h : Track s) : Track (updCalls s c q f) := by
  refine ⟨h.writers, fun y hy hp mk hmk => ?_⟩
  obtain ⟨x, hx, rfl⟩ := List.mem_map.mp hy
  split at hp <;> rename_i hq <;> simp only [hq] at hmk
  · exact h.waits x hx ((hf x).2 hp) mk ((hf x).1 ▸ hmk)
  · exact h.waits x hx hp mk hmk

theorem Track.of_writers {s s' : State} (h : Track s) (hc : s'.calls = s.calls) (ha : s'.accepted = s.accepted)
    (hw : TrackW s'.writers s.accepted s'.completed) : Track s' :=
  ⟨ha ▸ hw, hc ▸ ha ▸ h.waits⟩

theorem track_step (cfg : Cfg) (s s' : State) (e : Event) (h : Track s) (hstep : step cfg s e = some s') :
    Track s' := by
  have hw := h.writers
  cases Step.of_step hstep with
  | callBegin c ms mf =>
    refine ⟨hw, fun y hy hp => ?_⟩
    rcases List.mem_append.mp hy with hy | hy
    · exact h.waits y hy hp
    · rw [List.mem_singleton.mp hy] at hp; cases hp
  | closeBegin | closeReturn => exact ⟨hw, h.waits⟩
  | ctxCancel | metaReq | metaRel => exact track_calls_only s _ _ _ (fun x => ⟨rfl, id⟩) h
  | enter => exact track_calls_only s _ _ _ (fun x => ⟨rfl, fun hp => by dsimp only at hp; split at hp <;> cases hp⟩) h
  | early | leave | batchRefused => exact track_calls_only s _ _ _ (fun x => ⟨rfl, nofun⟩) h
  | ret =>
    refine track_calls_only s _ _ _ (fun x => ?_) h
    unfold Call.doReturn
    split
    · exact ⟨rfl, nofun⟩
    · exact ⟨rfl, id⟩
  | closeMark => exact h.of_writers rfl rfl (trackW_map (fun p _ _ => closePW_keeps p) (fun _ h => nomatch h) (fun _ => id) hw)
  | timer b => exact h.of_writers rfl rfl (trackW_map (fun p _ hok => timerPW_keeps b p hok) (fun _ h => nomatch h) (fun _ => id) hw)
  | batchAccepted c x hx =>
    obtain ⟨f1, facc⟩ := foldl_addOne_track cfg x.msgs s hw
    have fl := foldl_addOne_frame cfg x.msgs s
    refine ⟨⟨fun m hm => ?_, f1.2⟩, fun y hy hp mk hmk => ?_⟩
    · show Done (x.msgs.foldl (addOne cfg) s).completed m ∨ _
      rw [fl.2.2.2]; exact f1.1 m (facc ▸ hm)
    show mk.1 ∈ (x.msgs.foldl (addOne cfg) s).accepted
    rw [facc]
    simp only [updCalls, fl.2.2.1] at hy
    obtain ⟨z, hz, rfl⟩ := List.mem_map.mp hy
    split at hp <;> rename_i hq <;> simp only [hq] at hmk
    · -- the call that was just batched: its messages are the ones appended
      rw [(beq_iff_eq.mp (Bool.and_eq_true_iff.mp hq).2)] at hmk
      exact List.mem_append_right _ (List.mem_map.mpr ⟨mk, hmk, rfl⟩)
    · exact List.mem_append_left _ (h.waits z hz hp mk hmk)
  | getBatch i =>
    refine h.of_writers rfl rfl (trackW_updPWs s i _ _ (L := []) (fun p _ hq hok => ?_) (fun _ h => nomatch h) (fun _ => id) hw)
    exact takeBatch_keeps p hok (of_decide_eq_true (Bool.and_eq_true_iff.mp hq).1)
  | getExit i _ =>
    refine h.of_writers rfl rfl (trackW_updPWs s i _ _ (L := []) (fun p _ hq hok => ?_) (fun _ h => nomatch h) (fun _ => id) hw)
    simp only [Bool.and_eq_true, decide_eq_true_eq, Bool.not_eq_true', List.isEmpty_iff] at hq
    exact exitPW_keeps p hok hq.1.1 hq.1.2 hq.2
  | attempt i o => exact h.of_writers rfl rfl (trackW_updPWs s i _ _ (fun p _ _ hok => answer_keeps cfg o p hok) (fun _ h => nomatch h) (fun _ => id) hw)
  | complete i p b why =>
    refine h.of_writers rfl rfl (trackW_updPWs s i _ _ (L := b.msgs) (fun p _ hq hok => ?_) (fun m hm => ?_) (fun m hd => ?_) hw)
    · exact finish_keeps p b why hok (of_decide_eq_true hq)
    · exact ⟨(m, why), List.mem_append_right _ (List.mem_map.mpr ⟨m, hm, rfl⟩), rfl⟩
    · obtain ⟨x, hx, hxm⟩ := hd
      exact ⟨x, List.mem_append_left _ hx, hxm⟩

theorem track_init : Track State.init :=
  ⟨⟨by simp [State.init], by simp [State.init]⟩, by simp [State.init]⟩

theorem reachable_track (cfg : Cfg) : ∀ s, Reachable cfg s → Track s :=
  reachable_induction cfg Track track_init (track_step cfg)

theorem not_waitingBlocked (s : State) (h : Track s) : ¬ WaitingBlocked s := by
  intro ⟨_, hdead, c, hc, hw, mk, hmk, hnc⟩
  rcases h.writers.1 mk.1 (h.waits c hc hw mk hmk) with hd | ⟨p, hp, hl, _⟩
  · rw [← isCompleted_iff] at hd; simp [hd] at hnc
  · simp [hdead p hp] at hl

/-- why a batch ended is determined by the answers to its attempts -/
theorem attemptNext_why (cfg : Cfg) (b b' : Batch) (k : Nat) (o : Outcome) (why : Why)
    (h : attemptNext cfg b k o = .completing b' why) :
    b' = b ∧ (why = .acked ↔ o = .ok) ∧ (why = .permanent ↔ o = .perm) ∧
    (why = .exhausted ↔ o = .temp ∧ cfg.maxAttempts ≤ k + 1) := by
  cases o
  · simp [attemptNext] at h; obtain ⟨rfl, rfl⟩ := h; simp
  · by_cases hk : k + 1 < cfg.maxAttempts
    · simp [attemptNext, hk] at h
    · simp [attemptNext, hk] at h; obtain ⟨rfl, rfl⟩ := h; simp; omega
  · simp [attemptNext] at h; obtain ⟨rfl, rfl⟩ := h; simp

theorem wg_updCalls_le (s : State) (c : Nat) (q : Call → Bool) (f : Call → Call)
    (h : ∀ x, (f x).holdsGroup = true → x.holdsGroup = true) : (updCalls s c q f).wg ≤ s.wg := by
  have : (updCalls s c q f).calls.countP Call.holdsGroup ≤ s.calls.countP Call.holdsGroup :=
    countP_map_le _ _ _ fun x _ hx => by
      split at hx
      · exact h x hx
      · exact hx
  exact Nat.add_le_add_right (Nat.add_le_add_right this _) _

theorem wg_updPWs_le (s : State) (i : Nat) (q : PW → Bool) (f : PW → PW)
    (h : ∀ x, q x = true → (f x).live = true → x.live = true) : (updPWs s i q f).wg ≤ s.wg := by
  have := countP_map_le s.writers (fun x => if x.pid = i && q x then f x else x) PW.live fun x _ hx => by
    split at hx
    · rename_i hq; exact h x (Bool.and_eq_true_iff.mp hq).2 hx
    · exact hx
  exact Nat.add_le_add_right (Nat.add_le_add_left this _) _

theorem wg_nonincreasing (cfg : Cfg) (hfix : cfg.fixed = true) (s s' : State) (e : Event) (hcl : s.closed = true)
    (h : step cfg s e = some s') : s'.wg ≤ s.wg := by
  cases Step.of_step h with
  | callBegin c ms mf => simp [State.wg, List.countP_append, Call.holdsGroup]
  | closeBegin | closeReturn => exact Nat.le_refl _
  | ctxCancel | metaReq | metaRel => exact wg_updCalls_le _ _ _ _ fun x hx => hx
  | enter => exact wg_updCalls_le _ _ _ _ fun x hx => by simp [Call.holdsGroup, hcl] at hx
  | early | leave | batchRefused => exact wg_updCalls_le _ _ _ _ fun x hx => by simp [Call.holdsGroup] at hx
  | ret =>
    refine wg_updCalls_le _ _ _ _ fun x hx => ?_
    unfold Call.doReturn at hx
    split at hx
    · simp [Call.holdsGroup] at hx
    · exact hx
  | batchAccepted c x hx hn => exact absurd (by rw [hfix, hcl]; rfl) hn
  | timer b hb =>
    have h1 := List.length_erase_of_mem (List.contains_iff_mem.mp hb)
    have h2 := countP_map_le s.writers (timerPW b) PW.live fun p _ hp => live_of_sender_eq (timerPW_sender b p) ▸ hp
    simp only [State.wg]; omega
  | closeMark =>
    have := countP_map_le s.writers closePW PW.live fun p _ hp => live_of_sender_eq (closePW_sender p) ▸ hp
    exact Nat.add_le_add_right (Nat.add_le_add_left this _) _
  | getBatch i => exact wg_updPWs_le _ _ _ _ fun x hq _ => by simp [PW.live, of_decide_eq_true (Bool.and_eq_true_iff.mp hq).1]
  | getExit i _ => exact wg_updPWs_le _ _ _ _ fun x _ hx => by simp [exitPW, PW.live] at hx
  | attempt i o =>
    refine wg_updPWs_le _ _ _ _ fun x _ hx => ?_
    unfold answer at hx
    split at hx
    · rename_i hs; simp [PW.live, hs]
    · exact hx
  | complete i p b why => exact wg_updPWs_le s i _ _ fun x hq _ => by simp [PW.live, of_decide_eq_true hq]

theorem reachable_returned_quiescent (cfg : Cfg) (hfix : cfg.fixed = true) :
    ∀ s, Reachable cfg s → s.close = 3 → s.wg = 0 := by
  intro s hr
  suffices h : (2 ≤ s.close ↔ s.closed = true) ∧ (s.close = 3 → s.wg = 0) from h.2
  refine reachable_induction cfg (fun s => (2 ≤ s.close ↔ s.closed = true) ∧ (s.close = 3 → s.wg = 0))
    (by simp [State.init]) (fun s s' e ⟨ih1, ih2⟩ hs => ?_) s hr
  refine ⟨closed_iff_step cfg s s' e ih1 hs, fun h3 => ?_⟩
  rcases step_close_flags cfg s s' e hs with ⟨h1, _⟩ | ⟨_, rfl⟩ | ⟨h1, _⟩ | ⟨_, h0, rfl⟩
  · have hc3 : s.close = 3 := h1 ▸ h3
    have := wg_nonincreasing cfg hfix s s' e (ih1.mp (by omega)) hs
    have := ih2 hc3
    omega
  · cases h3
  · omega
  · exact h0

/-- the closed flag is never reset -/
theorem closed_mono (cfg : Cfg) (s s' : State) (e : Event) (hs : step cfg s e = some s') (hc : s.closed = true) :
    s'.closed = true := by
  rcases step_close_flags cfg s s' e hs with ⟨_, b⟩ | ⟨_, rfl⟩ | ⟨_, b⟩ | ⟨_, _, rfl⟩
  · rw [b]; exact hc
  · exact hc
  · exact b
  · exact hc

/-- The ghost flag `bornClosed` records that the writer was already marked closed when the call was invoked; it is what
lets "a call invoked after the mark only ever returns io.ErrClosedPipe" be stated over whole runs
(`after_close_ErrClosedPipe`): such a call is still `invoked`, or was refused by `enter`. -/
def BornOk (x : Call) : Prop :=
  x.bornClosed = true → (x.phase = .invoked ∨ x.phase = .left .closedPipe ∨ x.phase = .returned .closedPipe)

structure BornInv (s : State) : Prop where
  closed : ∀ x ∈ s.calls, x.bornClosed = true → s.closed = true
  phase : ∀ x ∈ s.calls, BornOk x

theorem bornOk_not_active (x : Call) (h : BornOk x) (hp : x.phase = .entered ∨ x.phase = .waiting) : x.bornClosed = false := by
  cases hb : x.bornClosed with
  | false => rfl
  | true => rcases h hb with h1 | h1 | h1 <;> rcases hp with h2 | h2 <;> rw [h1] at h2 <;> cases h2

theorem born_updCalls (s : State) (c : Nat) (q : Call → Bool) (f : Call → Call)
    (hf : ∀ x, q x = true → (f x).bornClosed = x.bornClosed ∧
      (BornOk x → (x.bornClosed = true → s.closed = true) → BornOk (f x)))
    (hi : BornInv s) : BornInv (updCalls s c q f) := by
  have key : ∀ y ∈ (updCalls s c q f).calls, (y.bornClosed = true → s.closed = true) ∧ BornOk y := by
    intro y hy
    obtain ⟨x, hx, rfl⟩ := List.mem_map.mp hy
    split
    · rename_i hq
      obtain ⟨hb, hok⟩ := hf x (Bool.and_eq_true_iff.mp hq).2
      exact ⟨fun h => hi.closed x hx (hb ▸ h), hok (hi.phase x hx) (hi.closed x hx)⟩
    · exact ⟨hi.closed x hx, hi.phase x hx⟩
  exact ⟨fun y hy => (key y hy).1, fun y hy => (key y hy).2⟩

theorem born_same_calls (s s' : State) (hc : s'.calls = s.calls) (hm : s.closed = true → s'.closed = true)
    (hi : BornInv s) : BornInv s' :=
  ⟨fun x hx hb => hm (hi.closed x (hc ▸ hx) hb), fun x hx => hi.phase x (hc ▸ hx)⟩

theorem born_step (cfg : Cfg) (s s' : State) (e : Event) (hi : BornInv s) (h : step cfg s e = some s') : BornInv s' := by
  -- a call that is past `enter` was not born closed, so whatever happens to it keeps `BornOk`
  -- (stated in the shape of the hypothesis `hf` of `born_updCalls`; `t` is the state that lemma is applied to)
  have active : ∀ {t : State} {x y : Call}, (x.phase = .entered ∨ x.phase = .waiting) → y.bornClosed = x.bornClosed →
      y.bornClosed = x.bornClosed ∧ (BornOk x → (x.bornClosed = true → t.closed = true) → BornOk y) :=
    fun hp hb => ⟨hb, fun hok _ hby => by rw [hb, bornOk_not_active _ hok hp] at hby; cases hby⟩
  cases Step.of_step h with
  | callBegin c ms mf =>
    constructor <;> intro x hx <;> rcases List.mem_append.mp hx with hx | hx
    · exact hi.closed x hx
    · rw [List.mem_singleton.mp hx]; exact id
    · exact hi.phase x hx
    · rw [List.mem_singleton.mp hx]; exact fun _ => Or.inl rfl
  | ctxCancel | metaReq | metaRel => exact born_updCalls s _ _ _ (fun x _ => ⟨rfl, fun hok _ => hok⟩) hi
  | enter =>
    refine born_updCalls s _ _ _ (fun x _ => ⟨rfl, fun _ hcl hby => ?_⟩) hi
    exact Or.inr (Or.inl (by simp only [hcl hby, if_true]))
  | early | batchRefused => exact born_updCalls s _ _ _ (fun x hq => active (Or.inl (of_decide_eq_true hq)) rfl) hi
  | leave => exact born_updCalls s _ _ _ (fun x hq => active (Or.inr (of_decide_eq_true hq)) rfl) hi
  | ret =>
    refine born_updCalls s _ _ _ (fun x _ => ?_) hi
    unfold Call.doReturn
    split
    · rename_i r hp
      refine ⟨rfl, fun hok _ hby => ?_⟩
      rcases hok hby with h1 | h1 | h1 <;> rw [hp] at h1 <;> cases h1
      exact Or.inr (Or.inr rfl)
    · exact ⟨rfl, fun hok _ => hok⟩
  | batchAccepted c x hx =>
    have hfl := foldl_addOne_frame cfg x.msgs s
    refine born_updCalls _ c _ _ (fun y hq => ?_) (born_same_calls s _ hfl.2.2.1 (fun hc => hfl.1 ▸ hc) hi)
    rw [beq_iff_eq.mp hq]
    exact active (Or.inl (batch_call hx).2.2) rfl
  | closeMark => exact born_same_calls s _ rfl (fun _ => rfl) hi
  | closeBegin | closeReturn | timer | getBatch | getExit | attempt | complete => exact born_same_calls s _ rfl id hi

theorem reachable_born (cfg : Cfg) : ∀ s, Reachable cfg s → BornInv s :=
  reachable_induction cfg BornInv ⟨by simp [State.init], by simp [State.init]⟩ (born_step cfg)

end KV.WriterClose
