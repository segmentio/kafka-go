/-
Lemmas/ConnReader.lean — on every valid (Spec-encoded) complete message set the byte-level Conn reader model returns
the reference decoder's records EXACTLY (null and empty keys / values / header values are told apart).
-/
import KafkaVerif.Model.ConnReader
import KafkaVerif.Lemmas.RecordReader

namespace KV.Model.ConnReader
open KV KV.RW KV.Spec.RB KV.Model.RecordReader

@[simp] theorem connCodecOf_eq (a : Int) : connCodecOf a = codecOf a := by
  simp only [connCodecOf, codecOf, Gen.RecordConsts.legacyCompressionMask]; rfl

/-! ### the v2 record decoder of this path is the Client path's, on every input

The models of `readMessageV2` (message_reader.go) and of the record loop of `readFromVersion2` (protocol/record_v2.go) are the same
function under two names; the texts differ only for a header key of negative length (`connHeaderRec`: a null key mapped to `[]` /
`libHeader`: no bytes taken), and both give the empty key. -/

theorem connVarBytes_eq : connVarBytes = libVarBytes := rfl

theorem connHeaderRec_eq (bs : Bytes) : connHeaderRec bs = libHeader bs := by
  simp only [connHeaderRec, libHeader, connVarBytes_eq, libVarBytes]
  cases readVarint bs with
  | none => rfl
  | some p =>
    obtain ⟨n, r⟩ := p
    by_cases hn : n < 0
    · simp only [hn, if_true, takeN, Nat.zero_le, List.take_zero, List.drop_zero, Option.getD_none]; rfl
    · simp only [hn, if_false]
      cases takeN n.toNat r <;> rfl

theorem connHeaders_eq : ∀ (n : Nat) (bs : Bytes), connHeaders n bs = libHeaders n bs
  | 0, _ => rfl
  | n + 1, bs => by
    simp only [connHeaders, libHeaders, connHeaderRec_eq]
    cases libHeader bs with
    | none => rfl
    | some p => simp only [connHeaders_eq n]; rfl

theorem connRecordV2_eq (base first : Int) (bs : Bytes) : connRecordV2 base first bs = libRecord base first bs := by
  simp only [connRecordV2, libRecord, connVarBytes_eq, connHeaders_eq]; rfl

theorem connRecordV2_encRec (base first : Int) (x : RecV2) (r : Bytes) :
    connRecordV2 base first (encRec x ++ r) =
      some (⟨base + x.offDelta, first + x.tsDelta, x.key, x.value, x.headers⟩, r) := by
  rw [connRecordV2_eq, libRecord_encRec]

theorem connRecordsV2_encRecs (f : FrameV2) (xs : List RecV2) (r : Bytes) :
    connRecordsV2 f.baseOffset f.firstTs xs.length (encRecs xs ++ r) = some (xs.map (recOfV2c f), r) := by
  induction xs with
  | nil => simp [connRecordsV2, encRecs]
  | cons x xs ih =>
    simp only [List.length_cons, connRecordsV2, encRecs, List.append_assoc, connRecordV2_encRec, ih, List.map_cons]
    simp [recOfV2c]

/-- the masks message_reader.go tests are the timestamp-type bit of the Spec (breaks when the test disappears) -/
@[simp] theorem connLogAppendV2_eq (a : Int) : connLogAppendV2 a = logAppend a := by
  simp [connLogAppendV2, connMaskTest, Gen.RecordConsts.legacyStampMasksV2, logAppend]
@[simp] theorem connLogAppendV1_eq (a : Int) : connLogAppendV1 a = logAppend a := by
  simp [connLogAppendV1, connMaskTest, Gen.RecordConsts.legacyStampMasksV1, logAppend]

@[simp] theorem connIsControl_eq (a : Int) : connIsControl a = isControl a := by
  simp [connIsControl, connMaskTest, Gen.RecordConsts.legacyHeaderMasks, isControl]

theorem connStampV2_spec (f : FrameV2) (xs : List RecV2) (r : Bytes) :
    connStampV2 f.attributes f.maxTs (some (xs.map (recOfV2c f), r)) = some (xs.map (recOfV2 f), r) := by
  simp [connStampV2, List.map_map, Function.comp_def, recOfV2]

theorem connBatchV2_encFrame (crc : Bytes → Nat) (hcrc : ∀ b, crc b < M32) (dec : Int → Bytes → Option Bytes)
    (f : FrameV2) (xs : List RecV2) (h : GoodBatch dec f xs) (rest : Bytes) :
    connBatchV2 dec (encFrame crc f ++ rest) = some (if isControl f.attributes then [] else xs.map (recOfV2 f), rest) := by
  have hw := h.wf
  have hm : InRange M8 2 := by decide
  simp only [encFrame, connBatchV2, List.append_assoc, readI64_i64 _ _ hw.baseOffset, readI32_i32 _ _ (frameLen_inRange f hw),
    readI32_i32 _ _ hw.leaderEpoch, readI8_i8 _ _ hm, readU32_u32 _ _ (hcrc _), readFrameBody_append f hw rest, connCodecOf_eq,
    connIsControl_eq, h.count]
  have hbr0 : ((9 + (frameBody f).length : Nat) : Int) - 49 = (f.payload.length : Int) := by
    rw [frameBody_length]; omega
  by_cases hctl : isControl f.attributes = true
  · simp only [hctl, if_true, hbr0, Int.toNat_natCast, takeN_append]
    by_cases hp0 : (f.payload.length : Int) > 0
    · simp only [hp0, if_true]
    · have : f.payload = [] := by
        cases hpl : f.payload with
        | nil => rfl
        | cons _ _ => rw [hpl] at hp0; simp at hp0
      simp [this]
  have hctl' : isControl f.attributes = false := by simpa using hctl
  simp only [hctl', Bool.false_eq_true, if_false]
  by_cases hc : codecOf f.attributes = 0
  · have hp : f.payload = encRecs xs := by
      have := h.payload; simp only [hc, if_true, Option.some.injEq] at this; exact this
    simp only [hc, if_true, hp, Int.toNat_natCast, connRecordsV2_encRecs, Int.not_ofNat_neg, if_false, connStampV2_spec]
  · have hp : dec (codecOf f.attributes) f.payload = some (encRecs xs) := by
      have := h.payload; simp only [hc, if_false] at this; exact this
    have hr := connRecordsV2_encRecs f xs []
    simp only [List.append_nil] at hr
    simp only [hc, if_false, hbr0, Int.not_ofNat_neg, Int.toNat_natCast, takeN_append, hp, hr, connStampV2_spec]

theorem connBytes_nbytes (b : Option Bytes) (r : Bytes) (h : 2 * optLen b < M32) :
    connBytes (nbytes b ++ r) = some (b, r) := by
  cases b with
  | none =>
    have : InRange M32 (-1) := by decide
    simp [nbytes, connBytes, readI32_i32 _ _ this]
  | some b =>
    have hr : InRange M32 (b.length : Int) := by unfold InRange; simp [optLen] at h; omega
    simp [nbytes, connBytes, readI32_i32 _ _ hr, Int.not_ofNat_neg, takeN_append]

theorem connHeaderV1_encMsg (crc : Bytes → Nat) (hcrc : ∀ b, crc b < M32) (m : Msg) (h : m.WF) (rest : Bytes) :
    connHeaderV1 (encMsg crc m ++ rest) =
      some ((m.offset, m.magic, m.attributes, m.ts), nbytes m.key ++ (nbytes m.value ++ rest)) := by
  have hm0 : InRange M8 0 := by decide
  have hm1 : InRange M8 1 := by decide
  simp only [encMsg, connHeaderV1, List.append_assoc, readI64_i64 _ _ h.offset, readI32_i32 _ _ (msgLen_inRange m h),
    readU32_u32 _ _ (hcrc _)]
  rcases h.magic with h0 | h1
  · simp only [msgBody, h0, if_true, List.append_assoc, List.nil_append, readI8_i8 _ _ hm0, readI8_i8 _ _ h.attributes,
      h.ts_zero h0]
  · have hne : ¬ ((1 : Int) = 0) := by decide
    simp only [msgBody, h1, hne, if_false, if_true, List.append_assoc, readI8_i8 _ _ hm1, readI8_i8 _ _ h.attributes,
      readI64_i64 _ _ h.ts]

theorem connPlainV1_spec (m : Msg) (h : m.WF) (rest : Bytes) :
    connPlainV1 m.offset m.ts (nbytes m.key ++ (nbytes m.value ++ rest)) = some (recOfMsg m, rest) := by
  simp [connPlainV1, connBytes_nbytes _ _ h.key_lt, connBytes_nbytes _ _ h.value_lt, recOfMsg]

theorem connInner_encSet (c : Crcs) (h1 : ∀ b, c.ieee b < M32) (inner : List Msg) (hwf : ∀ x ∈ inner, x.WF)
    (fuel : Nat) (hf : inner.length ≤ fuel) :
    connInner fuel (encSet c (inner.map Entry.msg)) = some (inner.map recOfMsg) := by
  induction inner generalizing fuel with
  | nil => cases fuel <;> simp [connInner, encSet]
  | cons m ms ih =>
    cases fuel with
    | zero => simp at hf
    | succ fuel =>
      have hw := hwf m (by simp)
      have hrest := ih (fun x hx => hwf x (by simp [hx])) fuel (by simp only [List.length_cons] at hf; omega)
      -- `eq_3` (of `connInner` here, of `connReadSet` below): the loop's equation for `fuel + 1` on an input that is not `[]`
      rw [encSet_msgs_cons, connInner.eq_3 _ _ (show encMsg c.ieee m ++ _ ≠ [] from encEntry_append_ne_nil c (.msg m) _),
        connHeaderV1_encMsg c.ieee h1 m hw]
      simp only [connPlainV1_spec m hw, hrest, List.map_cons]

theorem lastOffsetOf_map (inner : List Msg) :
    lastOffsetOf (inner.map recOfMsg) = lastOffset inner := by
  induction inner with
  | nil => rfl
  | cons a t ih =>
    cases t with
    | nil => simp [lastOffsetOf, lastOffset, recOfMsg]
    | cons b t' => simp only [List.map_cons, lastOffsetOf, lastOffset] at ih ⊢; exact ih

theorem connMessageV1_plain (crc : Bytes → Nat) (hcrc : ∀ b, crc b < M32) (dec : Int → Bytes → Option Bytes)
    (m : Msg) (h : m.WF) (hc : codecOf m.attributes = 0) (rest : Bytes) :
    connMessageV1 dec (encMsg crc m ++ rest) = some ([recOfMsg m], rest) := by
  simp only [connMessageV1, connHeaderV1_encMsg crc hcrc m h rest, connCodecOf_eq, hc, if_true, connPlainV1_spec m h rest]

theorem connMessageV1_wrapper (c : Crcs) (h1 : ∀ b, c.ieee b < M32) (dec : Int → Bytes → Option Bytes)
    (m : Msg) (inner : List Msg) (h : GoodWrapper c dec m inner) (rest : Bytes) :
    connMessageV1 dec (encMsg c.ieee m ++ rest) = some (wrapperRecs m inner, rest) := by
  obtain ⟨v, hv, hd⟩ := h.value
  have hvl := h.wf.value_lt
  have hkl := h.wf.key_lt
  have hvr : InRange M32 (v.length : Int) := by unfold InRange; simp [hv, optLen] at hvl; omega
  have hin := connInner_encSet c h1 inner (fun x hx => (h.innerWF x hx).1) (encSet c (inner.map Entry.msg)).length
    (by have := encSet_length_ge c (inner.map Entry.msg); simpa using this)
  simp only [connMessageV1, connHeaderV1_encMsg c.ieee h1 m h.wf rest, connCodecOf_eq, h.codec, if_false,
    connBytes_nbytes m.key _ hkl]
  simp only [hv, nbytes, List.append_assoc]
  have hon : (decide (m.magic = 1) && logAppend m.attributes) = logAppend m.attributes := by simp [h.magic]
  simp only [readI32_i32 _ _ hvr, Int.not_ofNat_neg, if_false, Int.toNat_natCast, takeN_append, hd, hin, lastOffsetOf_map,
    wrapperRecs, List.map_map, connLogAppendV1_eq, hon]
  congr 2
  apply List.map_congr_left
  intro x _
  simp only [Function.comp]
  congr 1
  simp only [recOfMsg, Rec.mk.injEq, and_true]
  omega

/-- what the Conn path surfaces of a decoded entry: nothing of a control batch -/
def visible (g : Bool × List Rec) : List Rec := if g.1 then [] else g.2

theorem flatMap_visible (gs : List (Bool × List Rec)) : gs.flatMap visible = surfaced gs := by
  induction gs with
  | nil => rfl
  | cons g gs ih =>
    simp only [surfaced, List.flatMap_cons, visible] at ih ⊢
    cases hg : g.1 <;> simp [hg, ih]

theorem connReadSet_encEntry (c : Crcs) (h1 : ∀ b, c.ieee b < M32) (h2 : ∀ b, c.castagnoli b < M32)
    (dec : Int → Bytes → Option Bytes) (e : Entry) (g : Bool × List Rec) (hg : GoodEntry c dec e g)
    (rest : Bytes) (fuel : Nat) :
    connReadSet dec (fuel + 1) (encEntry c e ++ rest) =
      (connReadSet dec fuel rest).map (fun t => visible g ++ t) := by
  rw [connReadSet.eq_3 dec _ fuel (encEntry_append_ne_nil c e rest)]
  cases hg with
  | batch f xs' hb =>
    have hm := magicOf_encFrame c.castagnoli f rest
    simp only [magicOf] at hm
    simp only [encEntry, hm, if_true, connBatchV2_encFrame c.castagnoli h2 dec f xs' hb rest, visible]
    cases connReadSet dec fuel rest <;> rfl
  | msg m hw hc =>
    obtain ⟨b, hb, _, hne⟩ := magicOf_encMsg c.ieee m rest hw.magic
    simp only [magicOf] at hb
    simp only [encEntry, hb, hne, if_false, connMessageV1_plain c.ieee h1 dec m hw hc rest]
    cases connReadSet dec fuel rest <;> rfl
  | wrapper m inner hw =>
    obtain ⟨b, hb, _, hne⟩ := magicOf_encMsg c.ieee m rest hw.wf.magic
    simp only [magicOf] at hb
    simp only [encEntry, hb, hne, if_false, connMessageV1_wrapper c h1 dec m inner hw rest]
    cases connReadSet dec fuel rest <;> rfl

theorem connReadSet_encSet (c : Crcs) (h1 : ∀ b, c.ieee b < M32) (h2 : ∀ b, c.castagnoli b < M32)
    (dec : Int → Bytes → Option Bytes) (es : List Entry) (gs : List (Bool × List Rec)) (h : AllGood c dec es gs)
    (fuel : Nat) (hf : es.length ≤ fuel) :
    connReadSet dec fuel (encSet c es) = some (surfaced gs) := by
  rw [← flatMap_visible]
  induction h generalizing fuel with
  | nil => cases fuel <;> simp [connReadSet, encSet]
  | cons hg _ ih =>
    cases fuel with
    | zero => simp at hf
    | succ fuel =>
      simp only [encSet]
      rw [connReadSet_encEntry c h1 h2 dec _ _ hg]
      rw [ih fuel (by simp only [List.length_cons] at hf; omega)]
      simp

end KV.Model.ConnReader

