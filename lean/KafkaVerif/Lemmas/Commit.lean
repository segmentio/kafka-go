/-
Lemmas/Commit.lean — the parts of the commit-loop LTS (Model/Commit.lean) as the step proof of Lemmas/CommitTwo.lean meets
them; `cstep_attempt` is also quoted by Props/C03.lean.
-/
import KafkaVerif.Lemmas.Stash

namespace KV.Commit

/-- the offset `e.2` for partition `e.1` is at most one past a message of that partition passed to CommitMessages -/
def Covered (passed : List (TP × Int)) (e : TP × Int) : Prop := ∃ m, (e.1, m) ∈ passed ∧ e.2 ≤ m + 1

theorem Covered.mono {p : List (TP × Int)} (q : List (TP × Int)) {e : TP × Int} (h : Covered p e) : Covered (p ++ q) e := by
  obtain ⟨m, hm, hle⟩ := h
  exact ⟨m, List.mem_append_left _ hm, hle⟩

theorem enterCommit_eq (s : CState) (rs : List Req) (f : Bool) :
    enterCommit s rs f = { s with pc := (enterCommit s rs f).pc } := by
  unfold enterCommit; split <;> rfl

theorem settle_eq (s : CState) : settle s = { s with pc := (settle s).pc } := by
  unfold settle
  split
  · exact enterCommit_eq ..
  · split <;> rfl
  · rfl

/-- Settling moves only the program counter, which the step overwrites, so the new state is written from `s`. -/
theorem cstep_attempt {s s' : CState} {offs : Stash} {ok : Bool} (h : cstep s (.attempt offs ok) = some s') :
    ∃ rs att final, (settle s).pc = .committing rs att final ∧ sameMap offs s.stash = true ∧
      s' = { s with sent := s.sent ++ [(offs, ok)],
                    pc := if ok then .done rs true final
                          else if att + 1 < retries then .committing rs (att + 1) final else .done rs false final } := by
  rw [cstep, settle_eq] at h
  split at h
  · rename_i rs att final hp
    obtain ⟨hc, h⟩ := Option.ite_none_right_eq_some.mp h
    simp only [Bool.and_eq_true, decide_eq_true_eq] at hc
    refine ⟨rs, att, final, hp, hc.1, ?_⟩
    split at h
    · rename_i hk; cases h; rw [if_pos hk]
    · rename_i hk
      split at h
      · rename_i ha; cases h; rw [if_neg hk, if_pos ha]
      · rename_i ha; cases h; rw [if_neg hk, if_neg ha]
  · cases h

theorem takeReq_spec (q : List Req) (cs : List Commit) (r : Req) (q' : List Req) (h : takeReq q cs = some (r, q')) :
    r ∈ q ∧ r.commits = cs ∧ ∀ x ∈ q', x ∈ q := by
  induction q generalizing q' with
  | nil => simp [takeReq] at h
  | cons a rest ih =>
    unfold takeReq at h
    split at h
    · rename_i hc
      cases h
      exact ⟨List.mem_cons_self, by simpa using hc, fun x hx => List.mem_cons_of_mem _ hx⟩
    · simp only [Option.map_eq_some_iff] at h
      obtain ⟨⟨x, q2⟩, hx, heq⟩ := h
      cases heq
      obtain ⟨h1, h2, h3⟩ := ih q2 hx
      refine ⟨List.mem_cons_of_mem _ h1, h2, ?_⟩
      intro y hy
      rcases List.mem_cons.mp hy with rfl | hy
      · exact List.mem_cons_self
      · exact List.mem_cons_of_mem _ (h3 y hy)

theorem sameMap_mem {a b : Stash} (h : sameMap a b = true) (e : TP × Int) : e ∈ a ↔ e ∈ b := by
  unfold sameMap at h
  simp only [Bool.and_eq_true, List.all_eq_true, List.contains_iff_mem] at h
  exact ⟨h.1 e, h.2 e⟩

end KV.Commit
