/-
Lemmas/Mappings.lean — over Model/Mappings.lean, for the field mappings of Props/C19.lean: a map built by assigning a list
of pairs (`goMap`) reads like that list reversed; the loop of `readPartitions` in closed form.
-/
import KafkaVerif.Model.Mappings
import KafkaVerif.Lemmas.Ainsert

namespace KV.Lemmas.Mappings
open KV.Routing (ainsert)
open KV.Mappings (goMap)
open KV.AssocList KV.Lemmas.Ainsert

variable {κ ν : Type} [BEq κ] [LawfulBEq κ]

theorem lookup_goMap_eq (l : List (κ × ν)) (k : κ) : (goMap l).lookup k = l.reverse.lookup k := by
  rw [goMap, ainsert_assigns.lookup_foldl, List.append_nil]

theorem lookup_goMap_none (l : List (κ × ν)) (k : κ) (h : ∀ e ∈ l, e.1 ≠ k) : (goMap l).lookup k = none := by
  rw [lookup_goMap_eq]
  exact List.lookup_eq_none_iff.mpr fun p hp => bne_iff_ne.mpr (h p (List.mem_reverse.mp hp)).symm

theorem lookup_goMap (l : List (κ × ν)) (k : κ) (v : ν) (hmem : (k, v) ∈ l) (hnd : (l.map (·.1)).Nodup) :
    (goMap l).lookup k = some v := by
  rw [goMap, ainsert_assigns.lookup_foldl_nodup l [] hnd, lookup_of_mem hnd hmem]
  rfl

theorem goMap_forall (P : κ → ν → Prop) (l : List (κ × ν)) (h : ∀ e ∈ l, P e.1 e.2) (k : κ) (v : ν)
    (hk : (goMap l).lookup k = some v) : P k v :=
  h (k, v) (List.mem_reverse.mp (mem_of_lookup (lookup_goMap_eq l k ▸ hk)))

theorem foldlM_guard {ε α β : Type} (bad : α → Bool) (err : α → ε) (g : β → α → β) (l : List α) (acc : β) :
    l.foldlM (fun acc t => if bad t then Except.error (err t) else Except.ok (g acc t)) acc =
      match l.find? bad with
      | some t => .error (err t)
      | none => .ok (l.foldl g acc) := by
  induction l generalizing acc with
  | nil => rfl
  | cons t ts ih =>
    rw [List.foldlM_cons, List.find?_cons]
    cases bad t
    · exact ih _
    · rfl

open KV.Mappings in
theorem readPartitions_eq (connTopic : String) (res : KV.Routing.MResponse) :
    readPartitions connTopic res =
      match res.topics.find? (concerns connTopic) with
      | some t => .error t.error
      | none => .ok (res.topics.flatMap fun t => t.partitions.map (convPartition (brokerMap res.brokers) t)) := by
  rw [readPartitions, foldlM_guard (concerns connTopic) (·.error), List.flatMap_eq_foldl]
  cases res.topics.find? (concerns connTopic) <;> rfl

end KV.Lemmas.Mappings
