/-
Lemmas/TransportConnC17.lean — the connection LTS of Model/TransportConnC17.lean seen from one connection: `arrow` is the
from/to table of `step`, and `step_conn` says that an event of the connection's own takes it along its arrow while any
other event leaves it (unless it is idle and its group is closed).  Read off the table here: a failed connection is
absorbing — once `dead`, every later accepted event leaves it dead and does not use it (C17); the facts C09 reads off
it are in Lemmas/TransportLife.lean.
-/
import KafkaVerif.Model.TransportConnC17
import KafkaVerif.Base.Run

namespace KV.TransportConn

theorem get_set_same {s : State} {c : Nat} {x : St} (st : St) (h : get s c = some x) : get (set s c st) c = some st := by
  induction s with
  | nil => simp [get] at h
  | cons hd tl ih =>
    obtain ⟨c', g, st'⟩ := hd
    unfold set
    by_cases hc : c' = c
    · simp [hc, get]
    · simp only [hc, ↓reduceIte, get]
      simp only [get, hc, ↓reduceIte] at h
      exact ih h

theorem get_set_other {s : State} {c d : Nat} (st : St) (h : c ≠ d) : get (set s c st) d = get s d := by
  induction s with
  | nil => rfl
  | cons hd tl ih =>
    obtain ⟨c', g, st'⟩ := hd
    unfold set
    by_cases hc : c' = c
    · subst hc
      simp [get, h]
    · simp only [hc, ↓reduceIte, get]
      by_cases hd' : c' = d
      · simp [hd']
      · simp [hd', ih]

theorem get_closeGroup {s : State} {g d : Nat} {st : St} (h : get s d = some st) (hi : st ≠ .idle) :
    get (closeGroup s g) d = some st := by
  induction s with
  | nil => simp [get] at h
  | cons hd tl ih =>
    obtain ⟨c', g', st'⟩ := hd
    simp only [closeGroup, List.map_cons]
    by_cases hc : c' = d
    · simp only [get, hc, ↓reduceIte, Option.some.injEq] at h
      subst h
      simp [hi, get, hc]
    · simp only [get, hc, ↓reduceIte] at h
      have := ih h
      simp only [closeGroup] at this
      split <;> simp [get, hc, this]

theorem move_spec {s s' : State} {c : Nat} {frm : List St} {to : St} (h : move s c frm to = some s') :
    ∃ st, get s c = some st ∧ frm.contains st = true ∧ s' = set s c to := by
  unfold move at h
  cases hg : get s c with
  | none => simp [hg] at h
  | some st =>
    simp only [hg] at h
    cases hf : frm.contains st with
    | true =>
      rw [hf] at h
      simp only [↓reduceIte, Option.some.injEq] at h
      exact ⟨st, rfl, hf, h.symm⟩
    | false => rw [hf] at h; simp at h

/-- the connection named by an event -/
def connOf : Ev → Option Nat
  | .new c _ | .grab c | .recv c | .done c _ _ | .release c _ | .remove c | .exit c => some c
  | .closeIdle _ => none

/-- The statuses in which an event may find the connection it names, and the status it leaves it in (`new` finds none).
This is the from/to table of `TransportConn.step` (Model/TransportConnC17.lean) read as data; `step_move` is the proof
that the two agree (`rfl`, event by event), and fails to check if one is changed without the other; `step_own` reads it for one
connection. -/
def arrow (f : TFacts) : Ev → List St × St
  | .grab _ => ([.idle], .fresh)
  | .recv _ => ([.fresh], .serving)
  | .done _ ok nr => ([.serving], if ok || nr then .doneOk else .doneFail)
  | .release _ true => (if f.dropFailed then [.doneOk, .fresh] else [.doneOk, .doneFail, .fresh], .idle)
  | .release _ false => ([.doneOk, .fresh], .closing)
  | .remove _ => ([.idle], .closing)
  | .exit _ => (if f.dropFailed then [.doneFail, .closing] else [.doneFail, .closing, .idle], .exited)
  | _ => ([], .fresh)

theorem step_move (f : TFacts) (s : State) (e : Ev) (c : Nat) (hc : connOf e = some c) (hn : ∀ g, e ≠ .new c g) :
    step f s e = move s c (arrow f e).1 (arrow f e).2 := by
  cases e <;> simp only [connOf, Option.some.injEq] at hc <;> try subst hc
  case new c' g => exact absurd rfl (hn g)
  case closeIdle g => cases hc
  case release c' k => cases k <;> rfl
  all_goals rfl

theorem step_own (f : TFacts) (s s' : State) (e : Ev) (c : Nat) (st : St) (h : step f s e = some s')
    (hc : connOf e = some c) (hst : get s c = some st) :
    (arrow f e).1.contains st = true ∧ get s' c = some (arrow f e).2 := by
  -- an existing connection is not created again
  have hn : ∀ g, e ≠ .new c g := fun g he => by subst he; simp [step, hst] at h
  obtain ⟨st', h1, h2, rfl⟩ := move_spec ((step_move f s e c hc hn).symm.trans h)
  rw [hst] at h1
  exact ⟨Option.some.inj h1 ▸ h2, get_set_same _ hst⟩

theorem arrow_closing (f : TFacts) (e : Ev) (h : (arrow f e).1.contains .closing = true) : ∃ c, e = .exit c := by
  obtain ⟨d⟩ := f
  cases e
  case exit c => exact ⟨c, rfl⟩
  case release c k => cases k <;> cases d <;> cases h
  all_goals cases h

theorem arrow_exited (f : TFacts) (e : Ev) : (arrow f e).1.contains .exited = false := by
  obtain ⟨d⟩ := f
  cases e
  case release c k => cases k <;> cases d <;> rfl
  case exit c => cases d <;> rfl
  all_goals rfl

theorem arrow_serving (f : TFacts) (e : Ev) (h : (arrow f e).1.contains .serving = true) : ∃ c ok nr, e = .done c ok nr := by
  obtain ⟨d⟩ := f
  cases e
  case done c ok nr => exact ⟨c, ok, nr, rfl⟩
  case release c k => cases k <;> cases d <;> cases h
  case exit c => cases d <;> cases h
  all_goals cases h

theorem step_other (f : TFacts) (s s' : State) (e : Ev) (c : Nat) (st : St) (h : step f s e = some s') (hg : get s c = some st)
    (hn : st ≠ .idle) (hc : connOf e ≠ some c) : get s' c = some st := by
  cases hce : connOf e with
  | none =>
    -- a group close
    cases e <;> cases hce
    simp only [step] at h; injection h with h; subst h; exact get_closeGroup hg hn
  | some c' =>
    have hne : c' ≠ c := fun hh => hc (hh ▸ hce)
    by_cases hnew : ∃ g, e = .new c' g
    · obtain ⟨g, rfl⟩ := hnew
      simp only [step] at h
      split at h
      · simp at h
      · injection h with h; subst h
        simp [get, hne, hg]
    · -- an event of another connection moves that one
      rw [step_move f s e c' hce fun g he => hnew ⟨g, he⟩] at h
      obtain ⟨_, _, _, rfl⟩ := move_spec h
      rw [get_set_other _ hne]; exact hg

theorem step_conn (f : TFacts) (s s' : State) (e : Ev) (c : Nat) (st : St) (h : step f s e = some s')
    (hg : get s c = some st) (hn : st ≠ .idle) :
    (connOf e = some c ∧ (arrow f e).1.contains st = true ∧ get s' c = some (arrow f e).2) ∨
    (connOf e ≠ some c ∧ get s' c = some st) := by
  by_cases hc : connOf e = some c
  · exact Or.inl ⟨hc, step_own f s s' e c st h hc hg⟩
  · exact Or.inr ⟨hc, step_other f s s' e c st h hg hn hc⟩

/-- what the regenerated fact `dropFailed` gives: only the exit starts from `doneFail` (no `release … true` does) -/
theorem arrow_doneFail (f : TFacts) (hf : f.dropFailed = true) (e : Ev) (h : (arrow f e).1.contains .doneFail = true) :
    ∃ c, e = .exit c := by
  cases e
  case exit c => exact ⟨c, rfl⟩
  case release c k => cases k <;> simp [arrow, hf] at h
  all_goals cases h

theorem uses_connOf {c : Nat} {e : Ev} (h : uses c e = true) : connOf e = some c := by
  cases e <;> first | cases h | exact congrArg some (beq_iff_eq.mp h)

theorem beq_false_of_ne {a b : Nat} (h : a ≠ b) : (a == b) = false := by simp [h]

/-- a dead connection stays dead, and no accepted event uses it: its only own event is the exit (`arrow_doneFail`,
`arrow_exited`), every other event leaves it as it is -/
theorem dead_step {f : TFacts} (hf : f.dropFailed = true) {s s' : State} {c : Nat} {e : Ev} (hd : dead s c) (h : step f s e = some s') :
    dead s' c ∧ uses c e = false := by
  have key : ∀ st, get s c = some st → (st = .doneFail ∨ st = .exited) →
      (get s' c = some st ∨ get s' c = some .exited) ∧ uses c e = false := by
    intro st hg hst
    have hn : st ≠ .idle := by rcases hst with rfl | rfl <;> decide
    rcases step_conn f s s' e c st h hg hn with ⟨_, hfrom, hto⟩ | ⟨hc, hsame⟩
    · rcases hst with rfl | rfl
      · obtain ⟨c', rfl⟩ := arrow_doneFail f hf e hfrom
        exact ⟨Or.inr hto, rfl⟩
      · rw [arrow_exited] at hfrom; cases hfrom
    · exact ⟨Or.inl hsame, Bool.eq_false_iff.mpr fun hu => hc (uses_connOf hu)⟩
  rcases hd with hd | hd
  · exact key _ hd (Or.inl rfl)
  · exact ⟨(key _ hd (Or.inr rfl)).1.elim Or.inr Or.inr, (key _ hd (Or.inr rfl)).2⟩

theorem dead_run {f : TFacts} (hf : f.dropFailed = true) {s s' : State} {c : Nat} (es : List Ev) (hd : dead s c) (h : run f s es = some s') :
    dead s' c ∧ ∀ e ∈ es, uses c e = false := by
  induction es generalizing s with
  | nil => simp only [run, Option.some.injEq] at h; subst h; exact ⟨hd, by simp⟩
  | cons e es ih =>
    simp only [run] at h
    cases hs : step f s e with
    | none => simp [hs] at h
    | some s1 =>
      simp only [hs] at h
      have h1 := dead_step hf hd hs
      have h2 := ih h1.1 h
      refine ⟨h2.1, ?_⟩
      intro e' he'
      rcases List.mem_cons.mp he' with rfl | hm
      · exact h1.2
      · exact h2.2 e' hm

theorem run_eq (f : TFacts) (s : State) (es : List Ev) : run f s es = es.foldlM (step f) s :=
  Run.eq_foldlM (fun _ => rfl) (fun s e es => by rw [run]; cases step f s e <;> rfl) es s

theorem run_append {f : TFacts} {s : State} (a b : List Ev) : run f s (a ++ b) = (run f s a).bind (fun s1 => run f s1 b) := by
  simp only [run_eq, List.foldlM_append]; rfl

theorem dead_of_failed_done {f : TFacts} {s s' : State} {c : Nat} (h : step f s (.done c false false) = some s') : dead s' c := by
  obtain ⟨st, hg, _, rfl⟩ := move_spec (show move s c [.serving] .doneFail = some s' from h)
  exact Or.inl (get_set_same _ hg)

end KV.TransportConn
