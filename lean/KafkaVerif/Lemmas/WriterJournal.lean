/-
Lemmas/WriterJournal.lean — what C01 states about journal and logs, read off `InvLogE` (Lemmas/WriterLogJournal.lean).
-/
import KafkaVerif.Lemmas.WriterLogJournal

namespace KV.Writer

variable {cfg : Cfg} {s : State}

/-- the messages of batch `b`, as the log of its partition lists them -/
def batchMsgs (bt : Nat → Option Batch) (b : Nat) : List Msg :=
  match bt b with
  | some B => B.msgs.map (·.msg)
  | none => []

/-- what the journal says the log of tp must contain -/
def journalLog (bt : Nat → Option Batch) (journal : List JEntry) (tp : TP) : List Msg :=
  (journal.filter (appliedTo tp)).flatMap (fun j => batchMsgs bt j.batch)

/-- the equation of `InvLogE` for the messages alone: the semantics the journal-based monitors of `Spec/WriterMonitors.lean`
assume of the fake broker -/
structure InvLogJ (s : State) : Prop where
  logJournal : ∀ tp, (s.log tp).map (·.msg) = journalLog s.batches s.journal tp

/-- the journal of produce attempts and the number of copies in the log.  `journalOnce` and `counts` are clauses of `InvLogE`
as they stand, the others are its readings -/
structure InvJournal (s : State) : Prop where
  journalAcked : ∀ j ∈ s.journal, j.out = .acked → ∃ B, s.batches j.batch = some B ∧ B.acked = true ∧ B.tp = j.tp
  ackedJournal : ∀ b B, s.batches b = some B → B.acked = true → ∃ j ∈ s.journal, j.batch = b ∧ j.out = .acked ∧ j.tp = B.tp
  journalOnce : s.journal.Pairwise (fun j1 j2 => j1.batch = j2.batch → j1.out ≠ .acked)
  counts : ∀ b B, s.batches b = some B → B.napplied = B.nlost + (if B.acked then 1 else 0)
  appliedDet : ∀ b B, s.batches b = some B → 0 < B.napplied → B.detached.isSome = true
  logBatchEx : ∀ tp, ∀ e ∈ s.log tp, ∃ B, s.batches e.batch = some B
  logCount : ∀ b B, s.batches b = some B →
    ((s.log B.tp).filter (fun e => e.batch == b)).length = B.napplied * B.msgs.length

/-- acknowledged means in the log: every message of an `acked` batch has an entry of that batch in the log of its partition -/
def InvAckLog (s : State) : Prop :=
  ∀ b B, s.batches b = some B → B.acked = true → ∀ m ∈ B.msgs, ∃ e ∈ s.log B.tp, e.msg = m.msg ∧ e.batch = b

namespace InvLogE

theorem logJ (h : InvLogE s) : InvLogJ s := by
  refine ⟨fun tp => ?_⟩
  rw [h.log, journalEntries, journalLog, List.map_flatMap]
  congr 1
  funext j
  cases hb : s.batches j.batch <;> simp [entriesOf, batchMsgs, mkEntries, hb]

theorem logCount (h : InvLogE s) : ∀ b B, s.batches b = some B →
    ((s.log B.tp).filter (fun e => e.batch == b)).length = B.napplied * B.msgs.length := by
  intro b B hB
  rw [← List.countP_eq_length_filter, h.countP_log hB]
  intro j hj
  obtain ⟨Y, hY, -⟩ := h.journalDet j hj
  rw [entriesOf_eq hY, mkEntries, List.countP_map]
  by_cases hjb : j.batch = b
  · rw [hjb, hB] at hY; cases hY
    rw [hjb, beq_self_eq_true, if_pos rfl, List.countP_eq_length]
    exact fun _ _ => beq_self_eq_true _
  · rw [beq_false_of_ne hjb]
    show List.countP _ _ = 0
    rw [List.countP_eq_zero]
    exact fun _ _ he => hjb (eq_of_beq he)

theorem journal (h : InvLogE s) : InvJournal s := by
  refine ⟨fun j hj ho => ?_, fun b B hB ha => ?_, h.once, h.counts, fun b B hB hpos => ?_,
    fun tp e he => (h.mem_log he).imp fun _ h => h.1, h.logCount⟩
  · obtain ⟨B, hB, -, ht⟩ := h.journalDet j hj
    exact ⟨B, hB, by rw [h.acked _ B hB, List.any_eq_true]; exact ⟨j, hj, by rw [ho]; simp⟩, ht⟩
  · rw [h.acked b B hB, List.any_eq_true] at ha
    obtain ⟨j, hj, hp⟩ := ha
    obtain ⟨ho, hjb⟩ := Bool.and_eq_true_iff.mp hp
    obtain ⟨B0, hB0, -, ht⟩ := h.journalDet j hj
    rw [eq_of_beq hjb, hB] at hB0; cases hB0
    exact ⟨j, hj, eq_of_beq hjb, eq_of_beq ho, ht.symm⟩
  · rw [h.applied b B hB, List.countP_pos_iff] at hpos
    obtain ⟨j, hj, hp⟩ := hpos
    obtain ⟨B0, hB0, hd, -⟩ := h.journalDet j hj
    rw [eq_of_beq (Bool.and_eq_true_iff.mp hp).2, hB] at hB0; cases hB0
    exact hd

theorem ackLog (h : InvLogE s) : InvAckLog s := by
  intro b B hB hack m hm
  obtain ⟨j, hj, rfl, ho, ht⟩ := h.journal.ackedJournal b B hB hack
  refine ⟨{ msg := m.msg, seq := m.seq, batch := j.batch, ord := B.ord, pw := j.pw }, ?_, rfl, rfl⟩
  rw [h.log]
  refine List.mem_flatMap.mpr ⟨j, List.mem_filter.mpr ⟨hj, ?_⟩, ?_⟩
  · simp [appliedTo, ho, BrOut.applied, ht]
  · rw [entriesOf_eq hB]; exact List.mem_map.mpr ⟨m, hm, rfl⟩

end InvLogE

theorem invLogJ (cfg : Cfg) : ∀ s, Reachable cfg s → InvLogJ s := fun s hr => (invLogE cfg s hr).logJ

theorem invJournal (cfg : Cfg) : ∀ s, Reachable cfg s → InvJournal s := fun s hr => (invLogE cfg s hr).journal

theorem invAckLog (cfg : Cfg) : ∀ s, Reachable cfg s → InvAckLog s := fun s hr => (invLogE cfg s hr).ackLog

theorem InvLife.done_outcome (hL : InvLife cfg s) (hA : InvAckLog s) {b : Nat} {B : Batch} {code : Code}
    (hB : s.batches b = some B) (hd : B.done = some code) :
    (code = 0 ↔ B.acked = true) ∧ (code = 0 → ∀ m ∈ B.msgs, ∃ e ∈ s.log B.tp, e.msg = m.msg ∧ e.batch = b) :=
  ⟨hL.done_acked hB hd, fun h => hA b B hB ((hL.done_acked hB hd).mp h)⟩

end KV.Writer
