/-
Lemmas/PageHeap.lean — bytes handed out stay intact: a page on which some holder keeps a count and which has no
writer (its buffer is gone: the decode finished) keeps its content over EVERY run of the heap, whatever other buffers
allocate, recycle, write, reference and release meanwhile (`heap_stable_step`, `heap_stable_run`).  A held page that
still has its writer only grows as long as nobody overwrites it: what was there stays a prefix (`heap_grow_step`,
`heap_grow_run`).  Both rest on `hstep_spec`.
-/
import KafkaVerif.Model.PageHeap
import KafkaVerif.Lemmas.Pages

namespace KV.Model.Pages
open KV

/-- What a heap step does, seen once.  It is a step of the count-level system (or leaves it alone); and for every page `p`:
its bytes stay and it gains no writer, or it is the fresh page or in the pool (all `newPage` can hand out; a held page is
neither: `held_not_handed_out`), or its writer stores into it. -/
theorem hstep_spec (s s' : HState) (e : HEvent) (h : hstep s e = some s') :
    ((e.base = none ∧ s'.ps = s.ps) ∨ (∃ b, e.base = some b ∧ step s.ps b = some s'.ps)) ∧
    ∀ p, (s'.content p = s.content p ∧ (s'.writer p = true → s.writer p = true)) ∨
      (p = s.ps.fresh ∨ p ∈ s.ps.pool) ∨
      (s.writer p = true ∧ ((∃ bs, e = .write p bs) ∨ s.content p <+: s'.content p)) := by
  cases e with
  | allocPage =>
    simp only [hstep] at h
    cases hs : step s.ps .allocPage with
    | none => simp [hs] at h
    | some ps' =>
      simp only [hs, Option.some.injEq] at h; subst h
      refine ⟨.inr ⟨_, rfl, hs⟩, fun p => ?_⟩
      by_cases hp : p = s.ps.fresh
      · exact .inr (.inl (.inl hp))
      · exact .inl (by simp [upd, hp])
  | reusePage i =>
    simp only [hstep] at h
    cases hg : s.ps.pool[i]? with
    | none => simp [hg] at h
    | some q =>
      simp only [hg] at h
      cases hs : step s.ps (.reusePage i) with
      | none => simp [hs] at h
      | some ps' =>
        simp only [hs, Option.some.injEq] at h; subst h
        refine ⟨.inr ⟨_, rfl, hs⟩, fun p => ?_⟩
        by_cases hp : p = q
        · exact .inr (.inl (.inr (hp ▸ List.mem_of_getElem? hg)))
        · exact .inl (by simp [upd, hp])
  | write q bs =>
    simp only [hstep] at h
    split at h
    · rename_i hq
      simp only [Option.some.injEq] at h; subst h
      refine ⟨.inl ⟨rfl, rfl⟩, fun p => ?_⟩
      by_cases hp : p = q
      · subst hp; exact .inr (.inr ⟨hq, .inl ⟨bs, rfl⟩⟩)
      · exact .inl (by simp [upd, hp])
    · simp at h
  | append q bs =>
    simp only [hstep] at h
    split at h
    · rename_i hq
      simp only [Option.some.injEq] at h; subst h
      refine ⟨.inl ⟨rfl, rfl⟩, fun p => ?_⟩
      by_cases hp : p = q
      · subst hp; exact .inr (.inr ⟨hq, .inr ⟨bs, by simp [upd]⟩⟩)
      · exact .inl (by simp [upd, hp])
    · simp at h
  | refTo q =>
    simp only [hstep] at h
    cases hs : step s.ps (.ref q) with
    | none => simp [hs] at h
    | some ps' => simp only [hs, Option.some.injEq] at h; subst h; exact ⟨.inr ⟨_, rfl, hs⟩, fun p => .inl ⟨rfl, id⟩⟩
  | unrefRef q =>
    simp only [hstep] at h
    by_cases hc : (if s.writer q then 2 else 1) ≤ s.ps.held.count q
    · rw [if_pos hc] at h
      cases hs : step s.ps (.unref q) with
      | none => simp [hs] at h
      | some ps' => simp only [hs, Option.some.injEq] at h; subst h; exact ⟨.inr ⟨_, rfl, hs⟩, fun p => .inl ⟨rfl, id⟩⟩
    · rw [if_neg hc] at h; simp at h
  | unrefBuf q =>
    simp only [hstep] at h
    split at h
    · cases hs : step s.ps (.unref q) with
      | none => simp [hs] at h
      | some ps' =>
        simp only [hs, Option.some.injEq] at h; subst h
        refine ⟨.inr ⟨_, rfl, hs⟩, fun p => .inl ⟨rfl, ?_⟩⟩
        by_cases hp : p = q <;> simp [upd, hp]
    · simp at h
  | poolDrop i =>
    simp only [hstep] at h
    cases hs : step s.ps (.poolDrop i) with
    | none => simp [hs] at h
    | some ps' => simp only [hs, Option.some.injEq] at h; subst h; exact ⟨.inr ⟨_, rfl, hs⟩, fun p => .inl ⟨rfl, id⟩⟩


theorem hinv_step (s s' : HState) (e : HEvent) (hi : Inv s.ps) (h : hstep s e = some s') : Inv s'.ps := by
  rcases (hstep_spec s s' e h).1 with ⟨_, he⟩ | ⟨b, _, hb⟩
  · rw [he]; exact hi
  · exact inv_step s.ps s'.ps b hi hb

theorem hrun_eq (es : List HEvent) (s : HState) : hrun s es = es.foldlM hstep s :=
  Run.eq_foldlM (fun _ => rfl) (fun s e es => by rw [hrun]; cases hstep s e <;> rfl) es s

theorem hinv_run (es : List HEvent) (s s' : HState) (hi : Inv s.ps) (h : hrun s es = some s') : Inv s'.ps :=
  Run.invariant (P := fun s => Inv s.ps) (fun s e s' hi => hinv_step s s' e hi) (hrun_eq es s ▸ h) hi

theorem held_not_handed_out (s : HState) (hi : Inv s.ps) (p : Nat) (hp : p ∈ s.ps.held) : ¬ (p = s.ps.fresh ∨ p ∈ s.ps.pool) := by
  rintro (h | h)
  · have := hi.bound p (.inr hp); omega
  · exact hi.held_not_pooled hp h

theorem heap_stable_step (s s' : HState) (e : HEvent) (hi : Inv s.ps) (p : Nat) (hp : p ∈ s.ps.held)
    (hw : s.writer p = false) (h : hstep s e = some s') : s'.content p = s.content p ∧ s'.writer p = false := by
  rcases (hstep_spec s s' e h).2 p with ⟨hc, hw'⟩ | hout | ⟨hwt, _⟩
  · exact ⟨hc, by cases hx : s'.writer p; rfl; rw [hw' hx] at hw; exact absurd hw (by decide)⟩
  · exact absurd hout (held_not_handed_out s hi p hp)
  · rw [hw] at hwt; exact absurd hwt (by decide)

theorem heap_stable_run (es : List HEvent) (s : HState) (hi : Inv s.ps) (p : Nat) (hp : p ∈ s.ps.held)
    (hw : s.writer p = false) :
    ∀ s', hrun s es = some s' → (∀ k, k ≤ es.length → ∀ sk, hrun s (es.take k) = some sk → p ∈ sk.ps.held) →
      s'.content p = s.content p ∧ s'.writer p = false := by
  induction es generalizing s with
  | nil => intro s' hr _; simp [hrun] at hr; subst hr; exact ⟨rfl, hw⟩
  | cons e es ih =>
    intro s' hr hk
    simp only [hrun] at hr
    cases hs : hstep s e with
    | none => simp [hs] at hr
    | some s1 =>
      simp only [hs] at hr
      have h1 := heap_stable_step s s1 e hi p hp hw hs
      have hp1 : p ∈ s1.ps.held := hk 1 (by simp) s1 (by simp [hrun, hs])
      have := ih s1 (hinv_step s s1 e hi hs) hp1 h1.2 s' hr (fun k hkl sk hrun' =>
        hk (k + 1) (by simp; omega) sk (by simp [hrun, hs, hrun']))
      exact ⟨by rw [this.1, h1.1], this.2⟩

theorem heap_grow_step (s s' : HState) (e : HEvent) (hi : Inv s.ps) (p : Nat) (hp : p ∈ s.ps.held)
    (hno : noOverwrite p [e] = true) (h : hstep s e = some s') : s.content p <+: s'.content p := by
  rcases (hstep_spec s s' e h).2 p with ⟨hc, _⟩ | hout | ⟨_, ⟨bs, rfl⟩ | happ⟩
  · rw [hc]; exact List.prefix_refl _
  · exact absurd hout (held_not_handed_out s hi p hp)
  · simp [noOverwrite] at hno
  · exact happ

theorem noOverwrite_cons (p : Nat) (e : HEvent) (es : List HEvent) (h : noOverwrite p (e :: es) = true) :
    noOverwrite p [e] = true ∧ noOverwrite p es = true := by
  cases e <;> simp_all [noOverwrite]

theorem heap_grow_run (es : List HEvent) (s : HState) (hi : Inv s.ps) (p : Nat) (hp : p ∈ s.ps.held)
    (hno : noOverwrite p es = true) :
    ∀ s', hrun s es = some s' → (∀ k, k ≤ es.length → ∀ sk, hrun s (es.take k) = some sk → p ∈ sk.ps.held) →
      s.content p <+: s'.content p := by
  induction es generalizing s with
  | nil => intro s' hr _; simp [hrun] at hr; subst hr; exact List.prefix_refl _
  | cons e es ih =>
    intro s' hr hk
    simp only [hrun] at hr
    cases hs : hstep s e with
    | none => simp [hs] at hr
    | some s1 =>
      simp only [hs] at hr
      obtain ⟨h1e, h1r⟩ := noOverwrite_cons p e es hno
      have h1 := heap_grow_step s s1 e hi p hp h1e hs
      have hp1 : p ∈ s1.ps.held := hk 1 (by simp) s1 (by simp [hrun, hs])
      have := ih s1 (hinv_step s s1 e hi hs) hp1 h1r s' hr (fun k hkl sk hrun' =>
        hk (k + 1) (by simp; omega) sk (by simp [hrun, hs, hrun']))
      exact List.IsPrefix.trans h1 this

end KV.Model.Pages

