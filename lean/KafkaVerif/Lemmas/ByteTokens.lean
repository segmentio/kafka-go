/-
Lemmas/ByteTokens.lean — the general tokenizer inverts the reference encoder: the bytes of a described record set
tokenize to the token stream of its layout (Spec/Layout `allTokens`), and the layout's records are the logical
records of the description.
-/
import KafkaVerif.Spec.ByteTokens
import KafkaVerif.Lemmas.RecordReader

namespace KV.Spec.RB
open KV KV.RW KV.C02 KV.Model.RecordReader

def Desc.Good (c : Crcs) (dec : Int → Bytes → Option Bytes) : Desc → Prop
  | .batch f xs => GoodBatch dec f xs
  | .msg m => m.WF ∧ codecOf m.attributes = 0
  | .wrapper m inner => GoodWrapper c dec m inner

theorem wrapRecs_eq (m : Msg) (inner : List Msg) : wrapRecs m inner = wrapperRecs m inner := rfl

theorem Desc.goodEntry (c : Crcs) (dec : Int → Bytes → Option Bytes) (d : Desc) (h : d.Good c dec) :
    GoodEntry c dec d.entry d.group := by
  cases d with
  | batch f xs => exact .batch f xs h
  | msg m => exact .msg m h.1 h.2
  | wrapper m inner => exact .wrapper m inner h

theorem allGood_descs (c : Crcs) (dec : Int → Bytes → Option Bytes) (ds : List Desc) (h : ∀ d ∈ ds, d.Good c dec) :
    AllGood c dec (ds.map Desc.entry) (ds.map Desc.group) := by
  induction ds with
  | nil => exact .nil
  | cons d ds ih => exact .cons (d.goodEntry c dec (h d (by simp))) (ih fun d' hd' => h d' (by simp [hd']))

theorem magic_toNat (m : Msg) (h : m.WF) : (m.magic.toNat = 0 ∨ m.magic.toNat = 1) := by
  rcases h.magic with h0 | h1
  · left; rw [h0]; rfl
  · right; rw [h1]; rfl

theorem tokenizeEntry_enc (c : Crcs) (h1 : ∀ b, c.ieee b < M32) (h2 : ∀ b, c.castagnoli b < M32)
    (dec : Int → Bytes → Option Bytes) (tagOf : Rec → Nat) (d : Desc) (h : d.Good c dec) (rest : Bytes) :
    tokenizeEntry c dec tagOf (encEntry c d.entry ++ rest) = some (tokensOf (d.item c tagOf), rest) := by
  cases d with
  | batch f xs =>
    have hb : GoodBatch dec f xs := h
    have e1 : f.baseOffset + f.lastOffsetDelta - f.baseOffset = f.lastOffsetDelta := by omega
    have e2 : (recToks tagOf f xs).length = xs.length := by simp [recToks]
    have hp := hb.payload
    simp only [Desc.entry, encEntry, tokenizeEntry, magicOf_encFrame, if_true, readFrame_encFrame c.castagnoli h2 f hb.wf rest]
    by_cases hc : codecOf f.attributes = 0
    · simp only [hc, if_true, Option.some.injEq] at hp
      simp only [hc, if_true, hp, hb.count, decodeRecs_encRecs, Desc.item, tokensOf, ne_eq, not_true_eq_false,
        decide_false, Bool.false_eq_true, if_false, e1, e2]
    · simp only [hc, if_false] at hp
      simp only [hc, if_false, hp, hb.count, decodeRecs_encRecs, Desc.item, tokensOf, ne_eq, not_false_eq_true,
        decide_true, if_true, e1, e2]
  | msg m =>
    obtain ⟨hw, hc⟩ := (h : m.WF ∧ codecOf m.attributes = 0)
    obtain ⟨b, hb, _, hne⟩ := magicOf_encMsg c.ieee m rest hw.magic
    simp only [Desc.entry, encEntry, tokenizeEntry, hb, hne, if_false, readMsg_encMsg c.ieee h1 m hw rest, hc, if_true,
      Desc.item, tokensOf]
    simp
  | wrapper m inner =>
    have hw : GoodWrapper c dec m inner := h
    obtain ⟨b, hb, _, hne⟩ := magicOf_encMsg c.ieee m rest hw.wf.magic
    obtain ⟨v, hv, hd⟩ := hw.value
    have hrs : readSet c (encSet c (inner.map Entry.msg)).length (encSet c (inner.map Entry.msg)) = some (inner.map Entry.msg) :=
      decodeSet_encSet_msgs c h1 h2 inner fun x hx => (hw.innerWF x hx).1
    simp only [Desc.entry, encEntry, tokenizeEntry, hb, hne, if_false, readMsg_encMsg c.ieee h1 m hw.wf rest, hw.codec,
      hv, hd, hrs]
    rw [filterMap_msgs _ (fun x => rfl) inner]
    simp [Desc.item, tokensOf]

theorem tokenizeAll_encSet (c : Crcs) (h1 : ∀ b, c.ieee b < M32) (h2 : ∀ b, c.castagnoli b < M32)
    (dec : Int → Bytes → Option Bytes) (tagOf : Rec → Nat) (ds : List Desc) (h : ∀ d ∈ ds, d.Good c dec)
    (fuel : Nat) (hf : ds.length ≤ fuel) :
    tokenizeAll c dec tagOf fuel (encSet c (ds.map Desc.entry)) = some (allTokens (ds.map (Desc.item c tagOf))) := by
  induction ds generalizing fuel with
  | nil => cases fuel <;> simp [tokenizeAll, encSet, allTokens]
  | cons d ds ih =>
    cases fuel with
    | zero => simp at hf
    | succ fuel =>
      simp only [List.map_cons, encSet]
      cases hbs : encEntry c d.entry ++ encSet c (ds.map Desc.entry) with
      | nil => exact absurd hbs (encEntry_append_ne_nil c d.entry _)
      | cons x xs =>
        simp only [tokenizeAll]
        rw [← hbs, tokenizeEntry_enc c h1 h2 dec tagOf d (h d (by simp))]
        simp only
        rw [ih (fun d' hd' => h d' (by simp [hd'])) fuel (by simp only [List.length_cons] at hf; omega)]
        simp [allTokens]

theorem getLast_offsets (f : Msg → Nat) (l : List Msg) :
    ((l.map (fun x => (x.offset, f x))).getLast?.map (·.1)).getD 0 = lastOffset l := by
  induction l with
  | nil => rfl
  | cons a t ih =>
    cases t with
    | nil => simp [lastOffset]
    | cons b t' =>
      simp only [List.map_cons, List.getLast?_cons_cons, lastOffset] at ih ⊢
      exact ih

theorem item_records (c : Crcs) (tagOf : Rec → Nat) (d : Desc) :
    (d.item c tagOf).records = d.group.2.map (fun r => (r.offset, tagOf r)) := by
  cases d with
  | batch f xs => simp [Desc.item, Desc.group, Item.records, recToks, recOfV2, recOfV2c]
  | msg m => simp [Desc.item, Desc.group, Item.records, recOfMsg]
  | wrapper m inner =>
    simp only [Desc.item, Desc.group, Item.records, wrapperBase, innerToks, getLast_offsets, wrapRecs, List.map_map]
    apply List.map_congr_left
    intro x _
    simp only [Function.comp, stamp_offset, recOfMsg, Prod.mk.injEq, and_true]
    omega

theorem allRecords_descs (c : Crcs) (tagOf : Rec → Nat) (ds : List Desc) :
    allRecords (ds.map (Desc.item c tagOf)) = ((ds.map Desc.group).flatMap (·.2)).map (fun r => (r.offset, tagOf r)) := by
  induction ds with
  | nil => rfl
  | cons d ds ih =>
    simp only [allRecords, List.map_cons, List.flatMap_cons, List.map_append] at ih ⊢
    rw [ih, item_records]

end KV.Spec.RB
