/-
Lemmas/WriterMsgCount.lean — copies per message (C01): `InvMsgCount`: for every message of every batch, the number of
entries of the partition log that carry this message equals the number of attempts of the batch the broker applied: a copy
of the batch holds the message once, a copy of another batch does not hold it (`InvLogE.countP_log`).
-/
import KafkaVerif.Lemmas.WriterLogJournal
import KafkaVerif.Lemmas.WriterMsgs

namespace KV.Writer

def InvMsgCount (s : State) : Prop :=
  ∀ b B, s.batches b = some B → ∀ m ∈ B.msgs, (s.log B.tp).countP (fun e => e.msg == m.msg) = B.napplied

theorem countP_msg_eq_one {l : List BMsg} (hnd : (l.map (·.msg)).Nodup) {m : BMsg} (hm : m ∈ l) :
    l.countP (fun x => x.msg == m.msg) = 1 := by
  induction l with
  | nil => cases hm
  | cons a t ih =>
    simp only [List.map_cons, List.nodup_cons] at hnd
    obtain ⟨hna, hnt⟩ := hnd
    rcases List.mem_cons.mp hm with rfl | hmt
    · have h0 : t.countP (fun x => x.msg == m.msg) = 0 := by
        rw [List.countP_eq_zero]
        intro x hx hxe
        have : x.msg = m.msg := by simpa using hxe
        exact hna (this ▸ List.mem_map.mpr ⟨x, hx, rfl⟩)
      simp [h0]
    · have hne : ¬ (a.msg = m.msg) := by
        intro he
        exact hna (he ▸ List.mem_map.mpr ⟨m, hmt, rfl⟩)
      have : (a.msg == m.msg) = false := by simpa using hne
      simp [this, ih hnt hmt]

theorem countP_mkEntries (pw b : Nat) (B : Batch) (k : Msg) :
    (mkEntries pw b B).countP (fun e => e.msg == k) = B.msgs.countP (fun x => x.msg == k) := by
  unfold mkEntries
  rw [List.countP_map]
  rfl

theorem InvLogE.msgCount {s : State} (h : InvLogE s) (hP : InvPlace s) (hM : InvMsgs s) : InvMsgCount s := by
  intro b B hB m hm
  rw [h.countP_log hB (n := 1), Nat.mul_one]
  intro j hj
  obtain ⟨Y, hY, -⟩ := h.journalDet j hj
  rw [entriesOf_eq hY, countP_mkEntries]
  by_cases hjb : j.batch = b
  · rw [hjb, hB] at hY; cases hY
    rw [countP_msg_eq_one (hM.nodup b B hB) hm, hjb, beq_self_eq_true]; rfl
  · rw [beq_false_of_ne hjb]
    show List.countP _ _ = 0
    rw [List.countP_eq_zero]
    exact fun y hy hye => hjb (hP.msg_inj hB hY hm hy (eq_of_beq hye))

theorem invMsgCount (cfg : Cfg) : ∀ s, Reachable cfg s → InvMsgCount s :=
  fun s hr => (invLogE cfg s hr).msgCount (invPlace cfg s hr) (invMsgs cfg s hr)

end KV.Writer
