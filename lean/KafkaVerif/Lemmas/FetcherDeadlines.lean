/-
Lemmas/FetcherDeadlines.lean — with both deadline facts a cancelled fetcher that has not exited has an enabled control step
(`progress_after_cancel_silent`); blocked in an operation whose fact is false it has none other than `cancel` outside `oor`
(`blocked_without_deadline`, `hne`).
The model is Model/FetcherDeadlines.lean.
-/
import KafkaVerif.Model.FetcherDeadlines
import KafkaVerif.Lemmas.FetcherLife
namespace KV.FetcherLife

theorem stepSilent_sub (f : NetFacts) (s s' : State) (e : Event) (h : stepSilent f s e = some s') : step s e = some s' := by
  unfold stepSilent at h
  split at h
  · split at h
    · exact h
    · cases h
  · exact h

theorem stepSilent_all (f : NetFacts) (ho : f.offsets = true) (hr : f.read = true) (s : State) (e : Event) :
    stepSilent f s e = step s e := by
  unfold stepSilent
  cases e <;> simp [Event.deadline, ho, hr]

theorem terminates_after_cancel_silent (f : NetFacts) (s s' : State) (e : Event) (hc : s.cancelled = true)
    (he : e.control = true) (h : stepSilent f s e = some s') : rank s' < rank s ∧ s'.cancelled = true :=
  terminates_after_cancel s s' e hc he (stepSilent_sub f s s' e h)

theorem progress_after_cancel_silent (f : NetFacts) (ho : f.offsets = true) (hr : f.read = true) (s : State)
    (hc : s.cancelled = true) (hx : s.pc ≠ .exited) :
    ∃ e, e.control = true ∧ (stepSilent f s e).isSome = true ∧ (e = .cancel → s.sampled = true) := by
  simp only [stepSilent_all f ho hr]
  exact progress_after_cancel_sampled s hc hx

/-- for `hne` see `fetcher_blocked_without_deadline`, Props/C09.lean -/
theorem blocked_without_deadline (f : NetFacts) (s : State) (b : NetFacts → Bool) (hb : blockedIn s = some b)
    (hf : b f = false) (e : Event) (he : e.control = true) (hne : e ≠ .cancel ∨ s.pc = .oor) :
    stepSilent f s e = none := by
  obtain ⟨pc, co, ca, sa⟩ := s
  cases pc <;> simp only [blockedIn] at hb <;> try (cases hb; done)
  case oor =>
    injection hb with hb; subst hb
    cases e <;> simp [Event.control] at he <;> simp [stepSilent, Event.deadline, step, hf]
  case top | iterating =>
    cases sa <;> simp at hb
    subst hb
    rcases hne with hne | hne
    · cases e <;> simp [Event.control] at he <;> simp [stepSilent, Event.deadline, step, hf] <;> try (exact absurd rfl hne)
    · cases hne

end KV.FetcherLife
