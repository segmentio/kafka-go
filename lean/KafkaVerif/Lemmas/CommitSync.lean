/-
Lemmas/CommitSync.lean — what a commit loop knows: `Loop` is one loop given the shared histories, `Shared` what the loops share.
That the steps of the LTS preserve both is Lemmas/CommitTwo.lean.
-/
import KafkaVerif.Lemmas.Commit
namespace KV.Commit

/-- the stash dominates every commit of the request -/
def Dom (s : Stash) (r : Req) : Prop := ∀ c ∈ r.commits, Has s c.tp c.offset

/-- an acknowledged OffsetCommit request, issued after the call of `r` began, covers every commit of `r` -/
def Rec (sent : List (Stash × Bool)) (r : Req) : Prop :=
  ∀ c ∈ r.commits, ∃ i offs, sent[i]? = some (offs, true) ∧ r.sentAtCall ≤ i ∧ Has offs c.tp c.offset

theorem Rec.mono {sent : List (Stash × Bool)} {r : Req} (x : List (Stash × Bool)) (h : Rec sent r) : Rec (sent ++ x) r := by
  intro c hc
  obtain ⟨i, offs, hi, hb, hh⟩ := h c hc
  refine ⟨i, offs, ?_, hb, hh⟩
  have hlt : i < sent.length := by
    rcases Nat.lt_or_ge i sent.length with h | h
    · exact h
    · rw [List.getElem?_eq_none h] at hi; cases hi
  rw [List.getElem?_append_left hlt]; exact hi

/-- With an empty stash `CommitOffsets` returns nil without a request; a request with commits never meets an empty stash
(`Dom [] r` holds only for a request without commits), so the nil answer records it vacuously. -/
theorem dom_nil_rec {r : Req} (sent : List (Stash × Bool)) (h : Dom [] r) : Rec sent r := by
  intro c hc
  obtain ⟨o, hm, _⟩ := h c hc
  cases hm

def pcReqs : LPC → List Req
  | .draining rs | .committing rs _ _ | .done rs _ _ => rs
  | _ => []

def domPc (st : Stash) : LPC → Prop
  | .draining rs | .committing rs _ _ => ∀ r ∈ rs, Dom st r
  | _ => True

def recPc (sent : List (Stash × Bool)) : LPC → Prop
  | .done rs true _ => ∀ r ∈ rs, Rec sent r
  | _ => True

/-- One commit loop, given the shared histories: what its stash holds was handed over (`cov`), the stash is a map (`uniq`);
while it drains and commits, its stash dominates the requests it holds (`dom`), after an acknowledged commit they are
recorded (`recp`) — the two phases through which a request reaches a positive answer; and a held request was called
before the requests issued so far (`bp`), since `Rec` asks for a request issued AFTER the call began. -/
structure Loop (passed : List (TP × Int)) (sent : List (Stash × Bool)) (stash : Stash) (pc : LPC) : Prop where
  cov : ∀ e ∈ stash, Covered passed e
  uniq : Uniq stash
  dom : domPc stash pc
  recp : recPc sent pc
  bp : ∀ r ∈ pcReqs pc, r.sentAtCall ≤ sent.length

/-- What both loops share: a queued request was called before the requests issued so far and its commits were handed over
(they will be merged into a stash); a request issued carried covered offsets (a copy of a stash); a positive answer was only
given for a recorded request; a call only returned what the loop answered. -/
structure Shared (passed : List (TP × Int)) (sent : List (Stash × Bool)) (queue : List Req) (replied : List (Req × Bool))
    (rets : List (Nat × Bool)) : Prop where
  queued : ∀ r ∈ queue, r.sentAtCall ≤ sent.length ∧ ∀ c ∈ r.commits, Covered passed (c.tp, c.offset)
  issued : ∀ x ∈ sent, ∀ e ∈ x.1, Covered passed e
  answered : ∀ x ∈ replied, x.2 = true → Rec sent x.1
  returned : ∀ x ∈ rets, ∃ r, r.id = x.1 ∧ (r, x.2) ∈ replied

theorem recPc_mono {sent : List (Stash × Bool)} {pc : LPC} (l : List (Stash × Bool)) (h : recPc sent pc) :
    recPc (sent ++ l) pc := by
  cases pc with
  | done rs ok fin =>
    cases ok
    · trivial
    · exact fun r hr => (h r hr).mono _
  | _ => trivial

theorem domPc_mono {st st' : Stash} {pc : LPC} (hd : ∀ x, Dom st x → Dom st' x) (h : domPc st pc) : domPc st' pc := by
  cases pc with
  | draining | committing => exact fun r hr => hd r (h r hr)
  | _ => trivial

theorem phases_nil {pc : LPC} (hp : pcReqs pc = []) (st : Stash) (sent : List (Stash × Bool)) :
    domPc st pc ∧ recPc sent pc := by
  cases pc with
  | draining rs | committing rs _ _ => cases hp; exact ⟨(by intro r hr; cases hr), trivial⟩
  | done rs ok f =>
    cases hp
    cases ok
    · exact ⟨trivial, trivial⟩
    · exact ⟨trivial, (by intro r hr; cases hr)⟩
  | _ => exact ⟨trivial, trivial⟩

namespace Loop
variable {passed : List (TP × Int)} {sent : List (Stash × Bool)} {stash : Stash} {pc : LPC}

theorem more_passed (p : List (TP × Int)) (h : Loop passed sent stash pc) : Loop (passed ++ p) sent stash pc :=
  ⟨fun e he => (h.cov e he).mono p, h.uniq, h.dom, h.recp, h.bp⟩

theorem more_sent (l : List (Stash × Bool)) (h : Loop passed sent stash pc) : Loop passed (sent ++ l) stash pc :=
  ⟨h.cov, h.uniq, h.dom, recPc_mono l h.recp,
   fun r hr => by rw [List.length_append]; exact Nat.le_trans (h.bp r hr) (Nat.le_add_right _ _)⟩

theorem empty (hp : pcReqs pc = []) : Loop passed sent [] pc :=
  ⟨(by intro e he; cases he), uniq_nil, (phases_nil hp [] sent).1, (phases_nil hp [] sent).2, by rw [hp]; intro r hr; cases hr⟩

theorem release (h : Loop passed sent stash pc) {pc' : LPC} (hp : pcReqs pc' = []) : Loop passed sent stash pc' :=
  ⟨h.cov, h.uniq, (phases_nil hp stash sent).1, (phases_nil hp stash sent).2, by rw [hp]; intro r hr; cases hr⟩

theorem merge (h : Loop passed sent stash pc) {cs : List Commit} (hc : ∀ c ∈ cs, Covered passed (c.tp, c.offset)) :
    Loop passed sent (stash.merge cs) pc := by
  refine ⟨?_, uniq_merge _ _ h.uniq,
    domPc_mono (fun x hx c hcx => has_merge_mono cs stash h.uniq _ _ (hx c hcx)) h.dom, h.recp, h.bp⟩
  intro e he
  rcases merge_mem cs stash e he with h1 | ⟨c, hcs, rfl⟩
  · exact h.cov e h1
  · exact hc c hcs

theorem enter (u : CState) {rs : List Req} (f : Bool) (h : Loop passed sent u.stash pc)
    (hd : ∀ r ∈ rs, Dom u.stash r) (hb : ∀ r ∈ rs, r.sentAtCall ≤ sent.length) :
    Loop passed sent u.stash (enterCommit u rs f).pc := by
  unfold enterCommit
  split
  · rename_i he
    have hnil : u.stash = [] := by simpa using he
    exact ⟨h.cov, h.uniq, trivial, fun r hr => dom_nil_rec _ (hnil ▸ hd r hr), hb⟩
  · exact ⟨h.cov, h.uniq, hd, trivial, hb⟩

theorem after_settle {s : CState} (h : Loop s.passed s.sent s.stash s.pc) : Loop s.passed s.sent s.stash (settle s).pc := by
  unfold settle
  split
  · rename_i rs hp
    rw [hp] at h
    exact enter s true h h.dom h.bp
  · split
    · exact h
    · exact h.release rfl
  · exact h

end Loop

end KV.Commit
