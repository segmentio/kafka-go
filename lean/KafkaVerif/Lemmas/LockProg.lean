/-
Lemmas/LockProg.lean — soundness of the must-lockset analysis of Model/LockProg.lean: the algebra of locksets;
`an_sound_in` (on every run every access is covered by a row of the analysis whose lockset is held); the evaluated
conditions read as its hypotheses (`prog_sound`).
-/
import KafkaVerif.Model.LockProg

namespace KV.LockProg
open KV.Lockset

theorem subB_iff {a b : LS} : subB a b = true ↔ Sub a b := by
  unfold subB Sub
  rw [List.all_eq_true]
  constructor
  · intro h x hx; exact List.contains_iff_mem.1 (h x hx)
  · intro h x hx; exact List.contains_iff_mem.2 (h x hx)

theorem Sub.refl (a : LS) : Sub a a := fun _ h => h
theorem Sub.trans {a b c : LS} (h₁ : Sub a b) (h₂ : Sub b c) : Sub a c := fun x hx => h₂ x (h₁ x hx)
theorem sub_nil (a : LS) : Sub [] a := fun _ h => nomatch h

theorem meet_sub_left (a b : LS) : Sub (meet a b) a := fun _ hx => (List.mem_filter.1 hx).1
theorem meet_sub_right (a b : LS) : Sub (meet a b) b :=
  fun _ hx => List.contains_iff_mem.1 (List.mem_filter.1 hx).2

theorem meet_eq_self {a b : LS} (h : Sub a b) : meet a b = a := by
  unfold meet
  rw [List.filter_eq_self]
  intro x hx; exact List.contains_iff_mem.2 (h x hx)

theorem meetO_left {x y : Option LS} {a : LS} (h : x = some a) : ∃ c, meetO x y = some c ∧ Sub c a := by
  subst h
  cases y with
  | none => exact ⟨a, rfl, Sub.refl a⟩
  | some b => exact ⟨meet a b, rfl, meet_sub_left a b⟩

theorem meetO_right {x y : Option LS} {b : LS} (h : y = some b) : ∃ c, meetO x y = some c ∧ Sub c b := by
  subst h
  cases x with
  | none => exact ⟨b, rfl, Sub.refl b⟩
  | some a => exact ⟨meet a b, rfl, meet_sub_right a b⟩

theorem meetL_sub (a : LS) (o : Option LS) : Sub (meetL a o) a := by
  cases o with
  | none => exact Sub.refl a
  | some b => exact meet_sub_left a b

theorem meetL_sub_some {a b : LS} : Sub (meetL a (some b)) b := meet_sub_right a b

theorem meetL_eq_self {a : LS} {o : Option LS} (h : ∀ b, o = some b → Sub a b) : meetL a o = a := by
  cases o with
  | none => rfl
  | some b => exact meet_eq_self (h b rfl)

theorem sub_cons {L h : LS} (x : Hold) (hs : Sub L h) : Sub (x :: L) (x :: h) := by
  intro y hy
  rcases List.mem_cons.1 hy with rfl | hy
  · exact List.mem_cons_self
  · exact List.mem_cons_of_mem _ (hs y hy)

theorem mem_dropM {m : Mutex} {h : LS} {x : Hold} : x ∈ dropM m h ↔ x ∈ h ∧ x.m ≠ m := by
  simp [dropM]

theorem mem_dropAll {ms : List Mutex} {h : LS} {x : Hold} : x ∈ dropAll ms h ↔ x ∈ h ∧ x.m ∉ ms := by
  simp [dropAll]

theorem dropAll_cons (m : Mutex) (ms : List Mutex) (h : LS) : dropAll (m :: ms) h = dropAll ms (dropM m h) := by
  unfold dropAll dropM
  rw [List.filter_filter]
  congr 1
  funext x
  by_cases hx : x.m = m <;> simp [hx, Bool.and_comm]

theorem mem_realLocks {tokens : List Mutex} {a : Access} {x : Hold} :
    x ∈ realLocks tokens a ↔ x ∈ a.locks ∧ tokens.contains x.m = false := by
  simp [realLocks]

theorem sub_dropM {L h : LS} (m : Mutex) (hs : Sub L h) : Sub (dropM m L) (dropM m h) :=
  fun y hy => mem_dropM.2 ⟨hs y (mem_dropM.1 hy).1, (mem_dropM.1 hy).2⟩

theorem loopOk_iff {inv : LS} {r : Res} :
    loopOk inv r = true ↔ (∀ o, r.out = some o → Sub inv o) := by
  unfold loopOk
  constructor
  · intro h₁ o ho; rw [ho] at h₁; exact subB_iff.1 h₁
  · intro h₁
    cases ho : r.out with
    | none => rfl
    | some o => exact subB_iff.2 (h₁ o ho)

theorem inv_sub (f : LS → Res) (L : LS) : Sub (invOfWith f L) L := by
  unfold invOfWith
  simp only
  split
  · exact meetL_sub _ _
  · exact sub_nil L

theorem inv_ok (f : LS → Res) (L : LS) : loopOk (invOfWith f L) (f (invOfWith f L)) = true := by
  unfold invOfWith
  simp only
  split
  · assumption
  · exact loopOk_iff.2 (fun o _ => sub_nil o)

theorem inv_idem (f : LS → Res) (L : LS) : invOfWith f (invOfWith f L) = invOfWith f L := by
  have hok := inv_ok f L
  generalize invOfWith f L = inv at hok
  have h := loopOk_iff.1 hok
  unfold invOfWith
  simp only
  have e₁ : meetL inv (f inv).out = inv := meetL_eq_self h
  rw [e₁, hok]
  rfl

theorem an_loop_idem (relOf : Nat → List Mutex) (a : Cmd) (L : LS) :
    an relOf (.loop a) (invOfWith (an relOf a) L) = an relOf (.loop a) L := by
  simp only [an]
  rw [inv_idem]

theorem exitAt_meetX (a b : List (Option LS)) (n : Nat) : exitAt (meetX a b) n = meetO (exitAt a n) (exitAt b n) := by
  induction a generalizing b n with
  | nil => cases b <;> rfl
  | cons x xs ih =>
    cases b with
    | nil => show exitAt (x :: xs) n = meetO (exitAt (x :: xs) n) none; cases exitAt (x :: xs) n <;> rfl
    | cons y ys =>
      cases n with
      | zero => rfl
      | succ n => exact ih ys n

theorem exitAt_meetX_left {e₁ e₂ : List (Option LS)} {n : Nat} {a : LS} (h : exitAt e₁ n = some a) :
    ∃ c, exitAt (meetX e₁ e₂) n = some c ∧ Sub c a := by
  rw [exitAt_meetX]; exact meetO_left h

theorem exitAt_meetX_right {e₁ e₂ : List (Option LS)} {n : Nat} {a : LS} (h : exitAt e₂ n = some a) :
    ∃ c, exitAt (meetX e₁ e₂) n = some c ∧ Sub c a := by
  rw [exitAt_meetX]; exact meetO_right h

theorem exitAt_jump (n : Nat) (L : LS) : exitAt (List.replicate n none ++ [some L]) n = some L := by
  simp [exitAt]

theorem exitAt_drop1 (l : List (Option LS)) (n : Nat) : exitAt (l.drop 1) n = exitAt l (n + 1) := by
  cases l <;> rfl

def RelOk (env : Nat → Option Cmd) (relOf : Nat → List Mutex) : Prop :=
  ∀ f body, env f = some body → ∀ m, m ∈ relSet relOf body → m ∈ relOf f

theorem dfrs_sub_relSet (relOf : Nat → List Mutex) (c : Cmd) : ∀ m, m ∈ dfrs c → m ∈ relSet relOf c := by
  induction c with
  | dfr m => exact fun _ h => h
  | seq a b iha ihb | alt a b iha ihb =>
    intro x hx
    exact List.mem_append.2 ((List.mem_append.1 hx).imp (iha x) (ihb x))
  | loop a iha | block a iha => exact iha
  | _ => exact fun _ h => nomatch h

theorem run_keeps {env : Nat → Option Cmd} {relOf : Nat → List Mutex} (hrel : RelOk env relOf)
    {c : Cmd} {h h' : LS} {obs : List LEv} {t : Out} (hrun : Run env c h obs h' t) :
    ∀ x, x ∈ h → x.m ∉ relSet relOf c → x ∈ h' := by
  induction hrun with
  | skip | dfr | acc | ret | jump | loop0 | spawn => intro x hx _; exact hx
  | acq | asm => intro x hx _; exact List.mem_cons_of_mem _ hx
  | @rel m h =>
    intro x hx hn
    exact mem_dropM.2 ⟨hx, by simpa [relSet] using hn⟩
  | blockN _ ih | blockR _ ih | block0 _ ih | blockS _ ih => exact ih
  | loopX _ _ ih => exact ih
  | seqN _ _ ih₁ ih₂ =>
    intro x hx hn
    simp only [relSet, List.mem_append, not_or] at hn
    exact ih₂ x (ih₁ x hx hn.1) hn.2
  | seqX _ _ ih | altL _ ih =>
    intro x hx hn
    simp only [relSet, List.mem_append, not_or] at hn
    exact ih x hx hn.1
  | altR _ ih =>
    intro x hx hn
    simp only [relSet, List.mem_append, not_or] at hn
    exact ih x hx hn.2
  | loopS _ _ ih₁ ih₂ => intro x hx hn; exact ih₂ x (ih₁ x hx hn) hn
  | icall _ _ hkeep _ => intro x hx _; exact hkeep x hx
  | @call f body h o h₁ t hb _ ih =>
    intro x hx hn
    have hn' : x.m ∉ relOf f := by simpa [relSet] using hn
    have hnb : x.m ∉ relSet relOf body := fun hm => hn' (hrel f body hb x.m hm)
    exact mem_dropAll.2 ⟨ih x hx hnb, fun hm => hnb (dfrs_sub_relSet relOf body x.m hm)⟩

def CallsOk (entry : Nat → LS) (calls : List (Nat × LS)) : Prop :=
  ∀ f Ls, (f, Ls) ∈ calls → Sub (entry f) Ls

def EntryOk (env : Nat → Option Cmd) (relOf : Nat → List Mutex) (entry : Nat → LS) : Prop :=
  ∀ g body, env g = some body → CallsOk entry (an relOf body (entry g)).calls

def InAll (env : Nat → Option Cmd) (relOf : Nat → List Mutex) (entry : Nat → LS) (k : Nat) (L : LS) : Prop :=
  ∃ g body, env g = some body ∧ (k, L) ∈ (an relOf body (entry g)).rows

/-- the access `k` performed with `hk` held is covered by a row whose lockset is held: a row of `rows` (the part being
    analysed) or, for an access inside a callee, a row of the analysis of some body from its entry lockset -/
def Just (env : Nat → Option Cmd) (relOf : Nat → List Mutex) (entry : Nat → LS) (rows : List (Nat × LS)) (k : Nat) (hk : LS) : Prop :=
  ∃ L, ((k, L) ∈ rows ∨ InAll env relOf entry k L) ∧ Sub L hk

/-- what the result `r` of the analysis says about a run that ended holding `h'` with outcome `t`: on the way out
    taken (`r.out` for a normal end, `r.exits[n]` for a jump; nothing is claimed after `return`) it offers a lockset, and
    that lockset is held -/
def OutOk (t : Out) (r : Res) (h' : LS) : Prop :=
  match t with
  | .normal => ∃ L₁, r.out = some L₁ ∧ Sub L₁ h'
  | .returned => True
  | .exit n => ∃ L₁, exitAt r.exits n = some L₁ ∧ Sub L₁ h'

def Res.Le (r R : Res) : Prop := (∀ x, x ∈ r.rows → x ∈ R.rows) ∧ (∀ x, x ∈ r.calls → x ∈ R.calls)

theorem Res.Le.refl (r : Res) : r.Le r := ⟨fun _ h => h, fun _ h => h⟩
theorem Res.Le.trans {a b c : Res} (h₁ : a.Le b) (h₂ : b.Le c) : a.Le c :=
  ⟨fun x h => h₂.1 x (h₁.1 x h), fun x h => h₂.2 x (h₁.2 x h)⟩

theorem an_seq_left (relOf : Nat → List Mutex) (a b : Cmd) (L : LS) : (an relOf a L).Le (an relOf (.seq a b) L) := by
  simp only [an]
  split
  · exact .refl _
  · exact ⟨fun _ h => List.mem_append_left _ h, fun _ h => List.mem_append_left _ h⟩

theorem an_seq_right (relOf : Nat → List Mutex) (a b : Cmd) (L : LS) {L₁ : LS} (h : (an relOf a L).out = some L₁) :
    (an relOf b L₁).Le (an relOf (.seq a b) L) := by
  simp only [an, h]
  exact ⟨fun _ h => List.mem_append_right _ h, fun _ h => List.mem_append_right _ h⟩

theorem an_alt_left (relOf : Nat → List Mutex) (a b : Cmd) (L : LS) : (an relOf a L).Le (an relOf (.alt a b) L) :=
  ⟨fun _ h => List.mem_append_left _ h, fun _ h => List.mem_append_left _ h⟩

theorem an_alt_right (relOf : Nat → List Mutex) (a b : Cmd) (L : LS) : (an relOf b L).Le (an relOf (.alt a b) L) :=
  ⟨fun _ h => List.mem_append_right _ h, fun _ h => List.mem_append_right _ h⟩

theorem OutOk.mono {t : Out} {h' : LS} {r r' : Res} (h : OutOk t r h')
    (ho : t = .normal → ∀ a, r.out = some a → ∃ c, r'.out = some c ∧ Sub c a)
    (hx : ∀ n, t = .exit n → ∀ a, exitAt r.exits n = some a → ∃ c, exitAt r'.exits n = some c ∧ Sub c a) :
    OutOk t r' h' := by
  cases t with
  | returned => trivial
  | normal =>
    obtain ⟨a, e, s⟩ := h
    obtain ⟨c, ec, sc⟩ := ho rfl a e
    exact ⟨c, ec, sc.trans s⟩
  | exit n =>
    obtain ⟨a, e, s⟩ := h
    obtain ⟨c, ec, sc⟩ := hx n rfl a e
    exact ⟨c, ec, sc.trans s⟩

theorem just_of_callee {env : Nat → Option Cmd} {relOf : Nat → List Mutex} {entry : Nat → LS} {f : Nat} {body : Cmd}
    (hb : env f = some body) {o : List LEv} {ms : List Mutex} {rows : List (Nat × LS)}
    (hj : ∀ k hk, LEv.acc k hk ∈ o → Just env relOf entry (an relOf body (entry f)).rows k hk) :
    ∀ k hk, LEv.acc k hk ∈ o ++ ms.map .rel → Just env relOf entry rows k hk := by
  intro k hk hm
  obtain ⟨L', hL', hs'⟩ := hj k hk ((List.mem_append.1 hm).resolve_right (by simp))
  exact ⟨L', Or.inr (hL'.elim (fun h => ⟨f, body, hb, h⟩) id), hs'⟩

/-- Soundness, stated for the analysis of a part `c` of a body whose rows and call sites are collected in `R`. -/
theorem an_sound_in {env : Nat → Option Cmd} {relOf : Nat → List Mutex} {entry : Nat → LS}
    (hrel : RelOk env relOf) (hent : EntryOk env relOf entry)
    {c : Cmd} {h h' : LS} {obs : List LEv} {t : Out} (hrun : Run env c h obs h' t)
    {L : LS} (hs : Sub L h) {R : Res} (hle : (an relOf c L).Le R) (hc : CallsOk entry R.calls) :
    (∀ k hk, LEv.acc k hk ∈ obs → Just env relOf entry R.rows k hk) ∧ OutOk t (an relOf c L) h' := by
  induction hrun generalizing L R with
  | skip | dfr | spawn => exact ⟨(fun _ _ hm => nomatch hm), ⟨L, rfl, hs⟩⟩
  | acq | asm => exact ⟨fun _ _ hm => by simp at hm, ⟨_, rfl, sub_cons _ hs⟩⟩
  | rel => exact ⟨fun _ _ hm => by simp at hm, ⟨_, rfl, sub_dropM _ hs⟩⟩
  | @acc k h =>
    refine ⟨fun k' hk' hm => ?_, ⟨L, rfl, hs⟩⟩
    obtain ⟨rfl, rfl⟩ : k' = k ∧ hk' = h := by simpa using hm
    exact ⟨L, Or.inl (hle.1 _ List.mem_cons_self), hs⟩
  | ret => exact ⟨(fun _ _ hm => nomatch hm), trivial⟩
  | @jump n h => exact ⟨(fun _ _ hm => nomatch hm), ⟨L, exitAt_jump n L, hs⟩⟩
  | @blockN a h o h' _ ih =>
    obtain ⟨hj, ho⟩ := ih hs hle hc
    exact ⟨hj, ho.mono (r' := an relOf (.block a) L) (fun _ _ e => meetO_left e) nofun⟩
  | blockR _ ih => exact ⟨(ih hs hle hc).1, trivial⟩
  | @block0 a h o h' _ ih =>
    obtain ⟨hj, L₁, e, s₁⟩ := ih hs hle hc
    obtain ⟨c, ec, sc⟩ := meetO_right (x := (an relOf a L).out) e
    exact ⟨hj, ⟨c, ec, sc.trans s₁⟩⟩
  | blockS _ ih =>
    obtain ⟨hj, L₁, e, s₁⟩ := ih hs hle hc
    exact ⟨hj, ⟨L₁, (exitAt_drop1 _ _).trans e, s₁⟩⟩
  | @seqN a b h o₁ h₁ o₂ h₂ t _ _ ih₁ ih₂ =>
    obtain ⟨hj₁, L₁, e₁, s₁⟩ := ih₁ hs ((an_seq_left relOf a b L).trans hle) hc
    obtain ⟨hj₂, ho₂⟩ := ih₂ s₁ ((an_seq_right relOf a b L e₁).trans hle) hc
    refine ⟨fun k hk hm => (List.mem_append.1 hm).elim (hj₁ k hk) (hj₂ k hk), ?_⟩
    simp only [an, e₁]
    exact ho₂.mono (fun _ a e => ⟨a, e, .refl a⟩) (fun _ _ _ e => exitAt_meetX_right e)
  | @seqX a b h o₁ h₁ t _ hne ih =>
    obtain ⟨hj, ho⟩ := ih hs ((an_seq_left relOf a b L).trans hle) hc
    refine ⟨hj, ?_⟩
    simp only [an]
    split
    · exact ho
    · exact ho.mono (fun h => absurd h hne) (fun _ _ _ e => exitAt_meetX_left e)
  | @altL a b h o h' t _ ih =>
    obtain ⟨hj, ho⟩ := ih hs ((an_alt_left relOf a b L).trans hle) hc
    exact ⟨hj, ho.mono (r' := an relOf (.alt a b) L) (fun _ _ e => meetO_left e) (fun _ _ _ e => exitAt_meetX_left e)⟩
  | @altR a b h o h' t _ ih =>
    obtain ⟨hj, ho⟩ := ih hs ((an_alt_right relOf a b L).trans hle) hc
    exact ⟨hj, ho.mono (r' := an relOf (.alt a b) L) (fun _ _ e => meetO_right e) (fun _ _ _ e => exitAt_meetX_right e)⟩
  | @loop0 a h => exact ⟨(fun _ _ hm => nomatch hm), ⟨_, rfl, (inv_sub _ L).trans hs⟩⟩
  | @loopS a h o₁ h₁ o₂ h₂ t _ _ ih₁ ih₂ =>
    -- the body runs from the invariant, the rest of the loop again from the invariant
    obtain ⟨hj₁, L₁, e, s₁⟩ := ih₁ ((inv_sub (an relOf a) L).trans hs) hle hc
    have hs₁ : Sub (invOfWith (an relOf a) L) h₁ := (loopOk_iff.1 (inv_ok (an relOf a) L) L₁ e).trans s₁
    obtain ⟨hj₂, ho₂⟩ := ih₂ hs₁ (by rw [an_loop_idem]; exact hle) hc
    rw [an_loop_idem] at ho₂
    exact ⟨fun k hk hm => (List.mem_append.1 hm).elim (hj₁ k hk) (hj₂ k hk), ho₂⟩
  | @loopX a h o₁ h₁ t _ hne ih =>
    obtain ⟨hj, ho⟩ := ih ((inv_sub (an relOf a) L).trans hs) hle hc
    exact ⟨hj, ho.mono (r' := an relOf (.loop a) L) (fun h => absurd h hne) (fun _ _ a e => ⟨a, e, .refl a⟩)⟩
  | @icall f body h o h₁ t hb hr hkeep ih =>
    have hef : Sub (entry f) L := hc f L (hle.2 _ List.mem_cons_self)
    obtain ⟨hj, _⟩ := ih (hef.trans hs) (.refl _) (hent f body hb)
    -- the caller's locks survive the call by the assumption carried by `Run.icall` (`hkeep`)
    exact ⟨just_of_callee hb hj, ⟨L, rfl, fun x hx => hkeep x (hs x hx)⟩⟩
  | @call f body h o h₁ t hb hr ih =>
    have hef : Sub (entry f) L := hc f L (hle.2 _ List.mem_cons_self)
    obtain ⟨hj, _⟩ := ih (hef.trans hs) (.refl _) (hent f body hb)
    refine ⟨just_of_callee hb hj, ⟨_, rfl, fun x hx => ?_⟩⟩
    -- a static call keeps what `relOf f` does not mention: `run_keeps` with `RelOk`
    obtain ⟨hxL, hnot⟩ := mem_dropAll.1 hx
    exact run_keeps hrel (Run.call hb hr) x (hs x hxL) hnot

/-- `an_sound_in` at `R := an relOf c L` itself. -/
theorem an_sound {env : Nat → Option Cmd} {relOf : Nat → List Mutex} {entry : Nat → LS}
    (hrel : RelOk env relOf) (hent : EntryOk env relOf entry)
    {c : Cmd} {h h' : LS} {obs : List LEv} {t : Out} (hrun : Run env c h obs h' t) :
    ∀ L, Sub L h → CallsOk entry (an relOf c L).calls →
      (∀ k hk, LEv.acc k hk ∈ obs → Just env relOf entry (an relOf c L).rows k hk) ∧ OutOk t (an relOf c L) h' :=
  fun _ hs hc => an_sound_in hrel hent hrun hs (.refl _) hc

theorem envOf_mem {fs : List (Nat × Cmd)} {f : Nat} {body : Cmd} (h : envOf fs f = some body) : (f, body) ∈ fs := by
  unfold envOf at h
  cases hf : fs.find? (fun p => p.1 == f) with
  | none => rw [hf] at h; cases h
  | some p =>
    rw [hf] at h
    have hp := List.find?_some hf
    have hm := List.mem_of_find?_eq_some hf
    have e1 : p.1 = f := by simpa using hp
    have e2 : p.2 = body := by simpa using h
    cases p
    simp only at e1 e2
    subst e1; subst e2
    exact hm

theorem relOk_of_B {fs : List (Nat × Cmd)} {rel : Trie (List Mutex)} (h : relOkB fs rel = true) : RelOk (envOf fs) (getL rel) := by
  intro f body hb m hm
  unfold relOkB at h
  rw [List.all_eq_true] at h
  have := h (f, body) (envOf_mem hb)
  simp only [List.all_eq_true] at this
  exact List.contains_iff_mem.1 (this m hm)

theorem entryOk_of_B {fs : List (Nat × Cmd)} {rel : Trie (List Mutex)} {entry : Trie LS}
    (h : entryOkB fs rel entry = true) : EntryOk (envOf fs) (getL rel) (getLS entry) := by
  intro g body hb f Ls hm
  unfold entryOkB at h
  rw [List.all_eq_true] at h
  have := h (g, body) (envOf_mem hb)
  simp only [List.all_eq_true] at this
  exact subB_iff.1 (this (f, Ls) hm)

theorem inAll_allRows {fs : List (Nat × Cmd)} {rel : Trie (List Mutex)} {entry : Trie LS} {k : Nat} {L : LS}
    (h : InAll (envOf fs) (getL rel) (getLS entry) k L) : (k, L) ∈ allRows fs rel entry := by
  obtain ⟨g, body, hb, hm⟩ := h
  unfold allRows
  rw [List.mem_flatMap]
  exact ⟨(g, body), envOf_mem hb, hm⟩

/-- Whole-program soundness.  What a spawned closure does is a run of its own, with no event in this one. -/
theorem prog_sound {fs : List (Nat × Cmd)} {rel : Trie (List Mutex)} {entry : Trie LS}
    (hrel : relOkB fs rel = true) (hent : entryOkB fs rel entry = true)
    {g : Nat} {body : Cmd} (hb : envOf fs g = some body) {h h' : LS} {obs : List LEv} {t : Out}
    (hs : Sub (getLS entry g) h) (hrun : Run (envOf fs) body h obs h' t) :
    ∀ k hk, LEv.acc k hk ∈ obs → ∃ L, (k, L) ∈ allRows fs rel entry ∧ Sub L hk := by
  intro k hk hm
  have hE := entryOk_of_B hent
  obtain ⟨hj, _⟩ := an_sound (relOk_of_B hrel) hE hrun (getLS entry g) hs (hE g body hb)
  obtain ⟨L, hL, hsub⟩ := hj k hk hm
  refine ⟨L, ?_, hsub⟩
  rcases hL with hrow | hall
  · exact inAll_allRows ⟨g, body, hb, hrow⟩
  · exact inAll_allRows hall

theorem sub_of_isEmpty {a : LS} (h : a.isEmpty = true) (b : LS) : Sub a b := by
  rw [List.isEmpty_iff.1 h]; exact sub_nil b

theorem justified_held {rows : List (Nat × LS)} {tokens : List Mutex} {a : Access}
    (hj : justifiedB rows tokens a = true) {L hk : LS} (hrow : (a.site, L) ∈ rows) (hs : Sub L hk) :
    Sub (realLocks tokens a) hk := by
  rcases Bool.or_eq_true_iff.1 hj with he | hrest
  · exact sub_of_isEmpty he hk
  · have := List.all_eq_true.1 (Bool.and_eq_true_iff.1 hrest).2 (a.site, L) hrow
    have hsb : subB (realLocks tokens a) L = true := by simpa using this
    exact (subB_iff.1 hsb).trans hs

theorem checkAll_entry {fs : List (Nat × Cmd)} {rel : Trie (List Mutex)} {entry t : Trie LS}
    (h : checkAllB fs rel entry t = true) : entryOkB fs rel entry = true := by
  unfold checkAllB at h
  unfold entryOkB
  rw [List.all_eq_true] at h ⊢
  intro p hp
  have := h p hp
  simp only [Bool.and_eq_true] at this
  exact this.1

theorem checkAll_rows {fs : List (Nat × Cmd)} {rel : Trie (List Mutex)} {entry t : Trie LS}
    (h : checkAllB fs rel entry t = true) : rowsIndexedB (allRows fs rel entry) t = true := by
  unfold checkAllB at h
  unfold rowsIndexedB allRows
  rw [List.all_eq_true] at h ⊢
  intro r hr
  obtain ⟨p, hp, hrp⟩ := List.mem_flatMap.1 hr
  have := h p hp
  simp only [Bool.and_eq_true, List.all_eq_true] at this
  exact this.2 r hrp

theorem envOf_some_of_indexed {fs : List (Nat × Cmd)} (hidx : indexedB fs = true) {f : Nat} (hf : f < fs.length) :
    ∃ body, envOf fs f = some body := by
  have hmem : (fs[f], f) ∈ fs.zipIdx := List.mem_zipIdx_iff_getElem?.2 (by simp [hf])
  have h1 : (fs[f].1 == f) = true := List.all_eq_true.1 hidx _ hmem
  have : (fs.find? fun p => p.1 == f).isSome := List.find?_isSome.2 ⟨fs[f], List.getElem_mem hf, h1⟩
  obtain ⟨p, hp⟩ := Option.isSome_iff_exists.1 this
  exact ⟨p.2, by simp [envOf, hp]⟩

/-- What the two Booleans of `C10.repo_calls_resolve` mean (no dangling call); nothing else rests on it. -/
theorem targets_resolve {fs : List (Nat × Cmd)} (hidx : indexedB fs = true) (hok : targetsOkB fs = true)
    {g : Nat} {body : Cmd} (hb : envOf fs g = some body) {f : Nat} (hf : f ∈ targets body) :
    ∃ b, envOf fs f = some b := by
  unfold targetsOkB at hok
  rw [List.all_eq_true] at hok
  have := hok (g, body) (envOf_mem hb)
  simp only [List.all_eq_true, decide_eq_true_eq] at this
  exact envOf_some_of_indexed hidx (this f hf)

theorem justT_held {rows : List (Nat × LS)} {t : Trie LS} {tokens : List Mutex} {a : Access}
    (hidx : rowsIndexedB rows t = true) (hj : justT t tokens a = true) {L hk : LS}
    (hrow : (a.site, L) ∈ rows) (hs : Sub L hk) : Sub (realLocks tokens a) hk := by
  rcases Bool.or_eq_true_iff.1 hj with he | hrest
  · exact sub_of_isEmpty he hk
  · have hget : t.get a.site = some L := by simpa using List.all_eq_true.1 hidx (a.site, L) hrow
    rw [hget] at hrest
    exact (subB_iff.1 hrest).trans hs

end KV.LockProg
