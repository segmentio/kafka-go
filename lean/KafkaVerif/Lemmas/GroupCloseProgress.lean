/-
Lemmas/GroupCloseProgress.lean — C09: the `run` goroutine of a closed consumer group can always move until it has exited.

`run_progress_silent` is the table: at every program point but `waiting` an event of `run` itself is enabled, also
against a coordinator that has stopped answering (Lemmas/GroupDeadlines.lean).  `waiting` is `(*Generation).close` blocked on
`<-g.joined` until every accounted function of the generation has run its exit section; there `waiting_progress_silent`
finds a function that can move, from `GenInv`: who is still counted in `routines` can still move (`acc`), and
`r ≤ accounted` for the `r` routines `close()` counted (`closing`; so `routines = 0` implies `joined`).

No termination measure here (`run`'s own events have one, `runMu` of Lemmas/GroupRunMeasure.lean; the generation's functions
have none): in the model (as in Go) a heartbeat loop whose ticker and cancelled context are both
ready may keep choosing the ticker; progress is what can be said without a fairness assumption on `select`.
-/
import KafkaVerif.Lemmas.GroupGenInv
import KafkaVerif.Lemmas.GroupDeadlines
namespace KV.GroupClose
open KV.Group

-- `accounted` is not touched by `setW` and only grows when a function of the generation is started; no theorem outside these four uses them.
theorem acct_setW (g : Gen) (t : Nat) (w : WProc) : (setW g t w).accounted = g.accounted := rfl

theorem acct_start (g : Gen) : g.accounted ≤ g.start.1.accounted := by
  rw [Gen.start_eq]; exact Nat.le_add_right _ _

theorem mono_hbStart (acc : Bool) (a b : Gen) (h : gHbStart acc a = some b) : a.accounted ≤ b.accounted := by
  obtain ⟨-, rfl⟩ := gHbStart_some.mp h
  exact Nat.le_succ _

theorem mono_watchStart (acc : Bool) (a b : Gen) (h : gWatchStart acc a = some b) : a.accounted ≤ b.accounted := by
  obtain ⟨-, rfl⟩ := gWatchStart_some.mp h
  exact acct_start a

theorem run_progress_silent (c : Cfg) (s : St) (hr : Reachable c s) (hc : s.closedCG = true) (hx : s.pc ≠ .exited)
    (hw : ∀ ret r, s.pc ≠ .waiting ret r) :
    ∃ e, (e.runLoop = true ∨ ∃ g acc, e = .gStart g acc) ∧ (stepSilentG true c s e).isSome = true := by
  have hi := inv3_reachable c s hr
  have hcur := @Inv3.isCur_last s hi
  have ok : ∀ e : Ev, e.runLoop = true → e.coordAnswer ≠ some true → (step c s e).isSome = true →
      ∃ e, (e.runLoop = true ∨ ∃ g acc, e = .gStart g acc) ∧ (stepSilentG true c s e).isSome = true :=
    fun e he ha h => ⟨e, .inl he, by rw [stepSilentG_eq ha]; exact h⟩
  cases hpc : s.pc with
  | exited => exact absurd hpc hx
  | waiting ret r => exact absurd hpc (hw ret r)
  | starting k =>
    refine ⟨.gStart (s.gens - 1) s.cur.start.2, .inr ⟨_, _, rfl⟩, ?_⟩
    rw [stepSilentG_eq (e := .gStart (s.gens - 1) s.cur.start.2) nofun]
    simp only [step, hcur (by rw [hpc]; rfl), if_true, hpc]
    cases k with
    | zero => obtain ⟨hcl, _⟩ := hi.fresh hpc; simp [gHbStart, Gen.start_open hcl]
    | succ k => simp [gWatchStart]
  | exiting => exact ok .runExit rfl nofun (by simp [step, hpc])
  | coord k lv =>
    match k with
    | 0 | 2 => exact ok (.connectRes none) rfl nofun (by simp [step, hpc])
    | 1 => exact ok (.findRes (some .net)) rfl nofun (by simp [step, hpc])
    | k + 3 => exact absurd (hi.stage _ _ hpc) (by omega)
  | joining => exact ok (.joinErr s.member .net) rfl nofun (by simp [step, hpc])
  | assigning => exact ok (.partsRes (some .net)) rfl nofun (by simp [step, hpc])
  | syncing => exact ok (.syncRes s.jm s.jg (some .net)) rfl nofun (by simp [step, hpc])
  | fetching => exact ok (.fetchRes (some .net)) rfl nofun (by simp [step, hpc])
  | created => exact ok (.gNew s.gens s.jg s.jm) rfl nofun (by simp [step, hpc])
  | handing =>
    exact ok (.sawClose (s.gens - 1) false) rfl nofun
      (by simp [step, hpc, hc, hcur (by rw [hpc]; rfl)])
  | running =>
    exact ok (.sawClose (s.gens - 1) true) rfl nofun
      (by simp [step, hpc, hc, hcur (by rw [hpc]; rfl)])
  | closing ret =>
    exact ok (.gClose (s.gens - 1) s.cur.closed s.cur.routines) rfl nofun
      (by simp [step, hpc, hcur (by rw [hpc]; rfl)])
  | retp m e =>
    refine ok (.nextGenRet m e) rfl nofun ?_
    have hr : returnsNow s m e = true := by simp [returnsNow, hpc]
    simp only [step, hr, if_true]
    cases e with
    | none => rfl
    | some er => cases er <;> rfl
  | leaveP a =>
    exact ok (.leave s.member) rfl nofun
      (by simp only [step, hpc, beq_self_eq_true, if_true]; split <;> rfl)
  | leaveCall a => exact ok (.leaveRes s.member false) rfl nofun (by simp [step, hpc])
  | delivering e bk =>
    exact ok (.errDeliver e false) rfl nofun (by simp [step, hpc, hc]; split <;> rfl)
  | backoffP b =>
    cases b
    · exact ok (.backoff 0) rfl nofun (by simp [step, hpc])
    · exact ok (.backoff 1) rfl nofun (by simp [step, hpc])

theorem run_progress (c : Cfg) (s : St) (hr : Reachable c s) (hc : s.closedCG = true) (hx : s.pc ≠ .exited)
    (hw : ∀ ret r, s.pc ≠ .waiting ret r) :
    ∃ e, (e.runLoop = true ∨ ∃ g acc, e = .gStart g acc) ∧ (step c s e).isSome = true := by
  obtain ⟨e, he, hen⟩ := run_progress_silent c s hr hc hx hw
  exact ⟨e, he, stepSilentG_isSome hen⟩

/-- the end of `close()` and the steps of the generation's functions towards their exit (coordinator answers
included: every network call returns).  It is the class the progress theorems pick their witness from (`∃ e, genEv e = true ∧ …`):
listing more events here weakens them -/
def genEv : Ev → Bool
  | .gClosed _ => true
  | .fnExit _ _ _ => true
  | .hbRet _ _ => true
  | .hbExit _ => true
  | .watchCall _ _ => true
  | .watchParts _ _ _ => true
  | .watchExit _ _ => true
  | .uRet _ true => true
  | _ => false

theorem exists_live_watcher (ws : List (WProc × Bool)) (h : 0 < wLive ws) :
    ∃ (t : Nat) (w : WProc), ws[t]? = some (w, true) ∧ w ≠ WProc.done := by
  obtain ⟨⟨w, a⟩, hm, hl⟩ := List.countP_pos_iff.mp h
  obtain ⟨t, ht⟩ := List.mem_iff_getElem?.mp hm
  simp only [wIsLive, Bool.and_eq_true, bne_iff_ne, ne_eq] at hl
  obtain ⟨rfl, hw⟩ := hl
  exact ⟨t, w, ht, hw⟩

/-- `genEv` plus the local failure of a watcher's request -/
def genEvS (e : Ev) : Bool := genEv e || (match e with | .watchErr _ _ _ => true | _ => false)

theorem waiting_progress_silent (c : Cfg) (s : St) (hr : Reachable c s) (ret : Option Err) (r : Nat)
    (hp : s.pc = .waiting ret r) : ∃ e, genEvS e = true ∧ (stepSilentG true c s e).isSome = true := by
  have h3 := inv3_reachable c s hr
  have hi := genInv_reachable c s hr
  have hcur := h3.isCur_last (by rw [hp]; rfl)
  obtain ⟨hclosed, -, hwait⟩ := hi.closing ret r hp
  by_cases hcan : s.cur.closeCanReturn r = true
  · exact ⟨.gClosed (s.gens - 1), rfl, by rw [stepSilentG_eq (e := .gClosed _) nofun]; simp [step, hp, hcur, hcan]⟩
  · have hcan' : s.cur.closeCanReturn r = false := by simpa using hcan
    simp only [Gen.closeCanReturn, Bool.or_eq_false_iff, beq_eq_false_iff_ne, ne_eq] at hcan'
    obtain ⟨hr0, hj⟩ := hcan'
    -- some accounted function has not run its exit section
    have hacc : 0 < s.cur.accounted := by omega
    have hrt : 0 < s.cur.routines := by
      rcases Nat.eq_zero_or_pos s.cur.routines with h0 | h0
      · have := hi.inv.joined_iff.mpr ⟨hclosed, h0, hacc⟩
        rw [hj] at this; cases this
      · exact h0
    have hA := hi.acc
    unfold Group.Acc at hA
    have via : ∀ (e : Ev) (f : Gen → Option Gen), genEvS e = true → e.coordAnswer ≠ some true →
        step c s e = onCur s (s.gens - 1) f → (f s.cur).isSome = true →
        ∃ e, genEvS e = true ∧ (stepSilentG true c s e).isSome = true := by
      intro e f he ha hs hf
      obtain ⟨cg, hcg⟩ := Option.isSome_iff_exists.mp hf
      exact ⟨e, he, by rw [stepSilentG_eq ha, hs, onCur_iff.mpr ⟨hcur, cg, hcg, rfl⟩]; rfl⟩
    by_cases hret : 0 < s.cur.returning
    · obtain ⟨cg, hcg⟩ := Option.isSome_iff_exists.mp (Gen.fnExit_no_double_close _ hi.inv hrt hret)
      exact via (.fnExit (s.gens - 1) false (s.cur.routines - 1)) _ rfl nofun rfl
        (Option.isSome_of_eq_some (gFnExit_some.mpr ⟨⟨by rw [hclosed]; rfl, by omega⟩, hcg⟩))
    · by_cases hhb : 0 < hbCount s.cur.hb
      · cases hh : s.cur.hb with
        | none => simp [hh, hbCount] at hhb
        | some p =>
          cases p with
          | idle =>
            exact via (.hbExit _) _ rfl nofun rfl (Option.isSome_of_eq_some (gHbExit_some.mpr ⟨.inr ⟨hh, hclosed⟩, rfl⟩))
          | calling =>
            exact via (.hbRet (s.gens - 1) (some .net)) _ rfl (by simp [Ev.coordAnswer]) rfl
              (Option.isSome_of_eq_some (gHbRet_some.mpr ⟨hh, rfl⟩))
          | failed => exact via (.hbExit _) _ rfl nofun rfl (Option.isSome_of_eq_some (gHbExit_some.mpr ⟨.inl hh, rfl⟩))
          | done => simp [hh, hbCount] at hhb
      · by_cases hwl : 0 < wLive s.cur.watchers
        · obtain ⟨t, w, hw, hnd⟩ := exists_live_watcher s.cur.watchers hwl
          cases w with
          | init => exact via (.watchCall _ t) _ rfl nofun rfl (by simp [gWatchCall, hw])
          | calling0 =>
            exact via (.watchErr (s.gens - 1) t .net) _ rfl (by simp [Ev.coordAnswer]) rfl (by simp [gWatchErr, hw])
          | idle n => exact via (.watchExit _ t) _ rfl nofun rfl (by simp [gWatchExit, hw, hclosed])
          | calling n =>
            exact via (.watchErr (s.gens - 1) t .net) _ rfl (by simp [Ev.coordAnswer]) rfl
              (by simp [gWatchErr, hw, Err.isKafka])
          | failed => exact via (.watchExit _ t) _ rfl nofun rfl (by simp [gWatchExit, hw])
          | done => exact absurd rfl hnd
        · have hu : 0 < s.cur.users := by omega
          exact via (.uRet (s.gens - 1) true) (gURet true) rfl nofun (by simp only [step, hcur, if_true])
            (Option.isSome_of_eq_some (gURet_some.mpr (.inl ⟨rfl, hu, rfl⟩)))

theorem watchParts_of_watchErr {c : Cfg} {s : St} {g t : Nat} {x : Err} (n : Nat)
    (h : (step c s (.watchErr g t x)).isSome = true) : (step c s (.watchParts g t n)).isSome = true := by
  simp only [step, onCur] at h ⊢
  split at h
  · rename_i hc
    rw [if_pos hc]
    simp only [Option.isSome_map] at h ⊢
    unfold gWatchErr at h
    unfold gWatchParts
    split at h
    · rfl
    · rfl
    · cases h
  · cases h

theorem genEvS_of_genEv {e : Ev} (h : genEv e = true) : genEvS e = true := by
  simp [genEvS, h]

theorem genEvS_not_appCall {e : Ev} (h : genEvS e = true) : (e == .nextCall || e == .closeCall) = false := by
  cases e <;> first | rfl | cases h

theorem run_progress_full_silent (c : Cfg) (s : St) (hr : Reachable c s) (hc : s.closedCG = true) (hx : s.pc ≠ .exited) :
    ∃ e, (e.runLoop = true ∨ (∃ g acc, e = .gStart g acc) ∨ genEvS e = true) ∧ (stepSilentG true c s e).isSome = true := by
  by_cases hw : ∃ ret r, s.pc = .waiting ret r
  · obtain ⟨ret, r, hp⟩ := hw
    obtain ⟨e, he, hen⟩ := waiting_progress_silent c s hr ret r hp
    exact ⟨e, Or.inr (Or.inr he), hen⟩
  · obtain ⟨e, he, hen⟩ := run_progress_silent c s hr hc hx (fun ret r h => hw ⟨ret, r, h⟩)
    exact ⟨e, he.imp id Or.inl, hen⟩

/-- up to replacing the local failure of a watcher's request by an answer (`watchParts_of_watchErr`): progress against the
silent coordinator is the stronger statement -/
theorem plain_of_silent {c : Cfg} {s : St} {P : Ev → Prop}
    (h : ∃ e, (P e ∨ genEvS e = true) ∧ (stepSilentG true c s e).isSome = true) :
    ∃ e, (P e ∨ genEv e = true) ∧ (step c s e).isSome = true := by
  obtain ⟨e, he, hen⟩ := h
  have hst := stepSilentG_isSome hen
  rcases he with he | he
  · exact ⟨e, .inl he, hst⟩
  · by_cases hg : genEv e = true
    · exact ⟨e, .inr hg, hst⟩
    · cases e <;> simp [genEvS, hg] at he
      exact ⟨_, .inr rfl, watchParts_of_watchErr 0 hst⟩

theorem waiting_progress (c : Cfg) (s : St) (hr : Reachable c s) (ret : Option Err) (r : Nat)
    (hp : s.pc = .waiting ret r) : ∃ e, genEv e = true ∧ (step c s e).isSome = true := by
  obtain ⟨e, he, hen⟩ := plain_of_silent (P := fun _ => False)
    ((waiting_progress_silent c s hr ret r hp).imp fun _ h => ⟨.inr h.1, h.2⟩)
  exact ⟨e, he.resolve_left id, hen⟩

theorem run_progress_full (c : Cfg) (s : St) (hr : Reachable c s) (hc : s.closedCG = true) (hx : s.pc ≠ .exited) :
    ∃ e, (e.runLoop = true ∨ (∃ g acc, e = .gStart g acc) ∨ genEv e = true) ∧ (step c s e).isSome = true :=
  (plain_of_silent ((run_progress_full_silent c s hr hc hx).imp fun _ h => ⟨or_assoc.mpr h.1, h.2⟩)).imp
    fun _ h => ⟨or_assoc.mp h.1, h.2⟩

end KV.GroupClose
