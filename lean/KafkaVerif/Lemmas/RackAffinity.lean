/-
Lemmas/RackAffinity.lean — `assignTopic` of the rack-affinity balancer, for every pair of map iteration orders: no slice
or index expression is out of range, every partition is handed out once, evenly, only to the given members, and a rack's
partitions stay on the rack's members as far as the per-member target allows.
-/
import KafkaVerif.Lemmas.GroupBalancer

namespace KV.GroupBalancer
open KV.Spec.GroupAssign

theorem giveEach_spec (ppm : Nat) (C : List Nat) : ∀ (L : List Int), ppm * C.length ≤ L.length →
    ∃ es, giveEach ppm C L = some (es, L.drop (ppm * C.length)) ∧ es.map (·.1) = C ∧
      (∀ e ∈ es, e.2.length = ppm) ∧ es.flatMap (·.2) = L.take (ppm * C.length) := by
  induction C with
  | nil => exact fun L _ => ⟨[], by simp [giveEach]⟩
  | cons c cs ih =>
    intro L h
    rw [List.length_cons, Nat.mul_succ, Nat.add_comm] at h ⊢
    have h1 : ppm ≤ L.length := Nat.le_trans (Nat.le_add_right _ _) h
    obtain ⟨es, he, hm, hl, hf⟩ := ih (L.drop ppm) (by rw [List.length_drop]; omega)
    refine ⟨(c, L.take ppm) :: es, ?_, ?_, ?_, ?_⟩
    · rw [giveEach, if_pos h1, he, List.drop_drop]
    · rw [List.map_cons, hm]
    · intro e he'
      rcases List.mem_cons.mp he' with rfl | he'
      · exact (List.length_take ..).trans (Nat.min_eq_left h1)
      · exact hl e he'
    · rw [List.flatMap_cons, hf, List.take_add]

theorem giveOne_spec (C : List Nat) (L : List Int) (n : Nat) : ∀ (i : Nat), i + n ≤ C.length → i + n ≤ L.length →
    ∃ es, giveOne C L n i = some es ∧ es.map (·.1) = (C.drop i).take n ∧
      (∀ e ∈ es, e.2.length = 1) ∧ es.flatMap (·.2) = (L.drop i).take n := by
  induction n with
  | zero => exact fun i _ _ => ⟨[], rfl, rfl, fun _ h => absurd h List.not_mem_nil, rfl⟩
  | succ n ih =>
    intro i h1 h2
    obtain ⟨es, he, hm, hl, hf⟩ := ih (i + 1) (by omega) (by omega)
    have hc : i < C.length := by omega
    have hp : i < L.length := by omega
    refine ⟨(C[i], [L[i]]) :: es, ?_, ?_, ?_, ?_⟩
    · rw [giveOne, List.getElem?_eq_getElem hc, List.getElem?_eq_getElem hp, he]
    · rw [List.map_cons, hm, List.drop_eq_getElem_cons hc, List.take_succ_cons]
    · intro e he'
      rcases List.mem_cons.mp he' with rfl | he'
      · rfl
      · exact hl e he'
    · rw [List.flatMap_cons, hf, List.drop_eq_getElem_cons hp, List.take_succ_cons]; rfl

theorem collect_uniform (n : Nat) : ∀ (es : List (Nat × List Int)), (es.map (·.1)).Nodup → (∀ e ∈ es, e.2.length = n) →
    ∀ c, (collect c es).length = if c ∈ es.map (·.1) then n else 0
  | [], _, _, c => by simp [collect]
  | (c', x) :: es, hn, hl, c => by
    have hn' := List.nodup_cons.mp hn
    have ih := collect_uniform n es hn'.2 (fun e he => hl e (List.mem_cons_of_mem _ he)) c
    have hx : x.length = n := hl (c', x) List.mem_cons_self
    by_cases h : c' = c
    · subst h
      have : ¬ c' ∈ es.map (·.1) := hn'.1
      rw [collect_cons_same, List.length_append, ih]
      simp [this, hx]
    · rw [collect_cons_other _ _ _ _ h, ih]
      have : ¬ c = c' := fun e => h e.symm
      simp only [List.map_cons, List.mem_cons, this, false_or]

theorem countP_mem_take (C : List Nat) (hn : C.Nodup) (lo : Nat) (h : lo ≤ C.length) :
    C.countP (fun c => decide (c ∈ C.take lo)) = lo := by
  have hdis := (List.nodup_append.mp ((List.take_append_drop lo C).symm ▸ hn)).2.2
  conv => lhs; arg 2; rw [← List.take_append_drop lo C]
  rw [List.countP_append, List.countP_eq_length.mpr (fun a ha => decide_eq_true ha),
    List.countP_eq_zero.mpr (fun b hb hm => hdis b (of_decide_eq_true hm) b hb rfl), List.length_take,
    Nat.min_eq_left h, Nat.add_zero]

theorem ite_gt_eq_min (a b : Nat) : (if a > b then b else a) = min a b := by split <;> omega

theorem ite_le_self (p : Prop) [Decidable p] (a : Nat) : (if p then a else 0) ≤ a := by split <;> simp

theorem zoneAlloc_eq (T rem : Nat) (C : List Nat) (L : List Int) (ppm lo : Nat) (es1 es2 : List (Nat × List Int))
    (hppm : ppm = min (L.length / C.length) T)
    (hlo : lo = if ppm = T then min (min (L.length - ppm * C.length) rem) C.length else L.length - ppm * C.length)
    (h1 : giveEach ppm C L = some (es1, L.drop (ppm * C.length)))
    (h2 : giveOne C (L.drop (ppm * C.length)) lo 0 = some es2) (hle : lo ≤ L.length - ppm * C.length) :
    zoneAlloc T rem C L = some (es1 ++ es2, L.drop (ppm * C.length + lo), if ppm = T then rem - lo else rem) := by
  unfold zoneAlloc
  simp only [ite_gt_eq_min, ← hppm, h1, List.length_drop, ← hlo, h2, hle, if_true, List.drop_drop]

/-- the arithmetic of the two caps (`P` partitions led in the zone, `c` consumers in it); the last conjunct is the rack
affinity bound of this zone -/
theorem zoneCaps (P c T rem ppm lo : Nat) (hc : 0 < c) (hppm : ppm = min (P / c) T)
    (hlo : lo = if ppm = T then min (min (P - ppm * c) rem) c else P - ppm * c) :
    ppm ≤ T ∧ ppm * c + lo ≤ P ∧ lo ≤ c ∧ (ppm = T → lo ≤ rem) ∧ min P (c * T) ≤ ppm * c + lo := by
  have hk : ppm * c ≤ P :=
    Nat.le_trans (Nat.mul_le_mul_right c (hppm ▸ Nat.min_le_left _ _)) (Nat.div_mul_le_self P c)
  refine ⟨hppm ▸ Nat.min_le_right _ _, ?_⟩
  by_cases hT : ppm = T
  · rw [if_pos hT] at hlo
    have h1 : lo ≤ P - ppm * c := hlo ▸ Nat.le_trans (Nat.min_le_left _ _) (Nat.min_le_left _ _)
    refine ⟨Nat.add_le_of_le_sub' hk h1, hlo ▸ Nat.min_le_right _ _,
      fun _ => hlo ▸ Nat.le_trans (Nat.min_le_left _ _) (Nat.min_le_right _ _), ?_⟩
    rw [hT, Nat.mul_comm]
    exact Nat.le_trans (Nat.min_le_right _ _) (Nat.le_add_right _ _)
  · -- below the target the consumers share the whole zone: `lo` is the remainder of the division
    have hq : ppm = P / c := by omega
    rw [if_neg hT] at hlo
    have hsum : ppm * c + lo = P := hlo ▸ Nat.add_sub_cancel' hk
    refine ⟨Nat.le_of_eq hsum, ?_, fun h => absurd h hT, hsum ▸ Nat.min_le_left _ _⟩
    rw [hlo, hq, Nat.mul_comm, ← Nat.mod_eq_sub_mul_div]
    exact Nat.le_of_lt (Nat.mod_lt P hc)

/-- one zone with consumers `C` and partitions `L`; the `countP` conjunct: the consumers brought to `T + 1` are paid for out of
`rem`; last: the affinity bound of the zone.  The caps are first written as `min` (`zoneAlloc_eq`), their arithmetic is
`zoneCaps`, and after `generalize` only those facts about `ppm` and `lo` are left. -/
theorem zoneAlloc_spec (T rem : Nat) (C : List Nat) (L : List Int) (hC : 0 < C.length) (hn : C.Nodup) :
    ∃ es left rem', zoneAlloc T rem C L = some (es, left, rem') ∧
      es.flatMap (·.2) ++ left = L ∧
      (∀ e ∈ es, e.1 ∈ C) ∧
      (∀ c, (collect c es).length ≤ T + 1) ∧
      (C.countP (fun c => (collect c es).length == T + 1) + rem' = rem) ∧
      min L.length (C.length * T) ≤ (es.flatMap (·.2)).length := by
  obtain ⟨hpT, hkl, hloC, hlorem, haff⟩ := zoneCaps L.length C.length T rem _ _ hC rfl rfl
  have hk := Nat.le_trans (Nat.le_add_right _ _) hkl
  have hlo := Nat.le_sub_of_add_le' hkl
  obtain ⟨es1, he1, hm1, hl1, hf1⟩ := giveEach_spec _ C L hk
  obtain ⟨es2, he2, hm2, hl2, hf2⟩ := giveOne_spec C (L.drop (min (L.length / C.length) T * C.length)) _ 0
    (by rw [Nat.zero_add]; exact hloC) (by rw [Nat.zero_add, List.length_drop]; exact hlo)
  have hz := zoneAlloc_eq T rem C L _ _ es1 es2 rfl rfl he1 he2 hlo
  generalize min (L.length / C.length) T = ppm at *
  generalize (if ppm = T then min (min (L.length - ppm * C.length) rem) C.length else L.length - ppm * C.length) = lo at *
  rw [List.drop_zero] at hm2 hf2
  have hload : ∀ c, (collect c (es1 ++ es2)).length = (if c ∈ C then ppm else 0) + (if c ∈ C.take lo then 1 else 0) := by
    intro c
    rw [collect_append, List.length_append, collect_uniform ppm es1 (hm1 ▸ hn) hl1 c,
      collect_uniform 1 es2 (hm2 ▸ (List.take_sublist _ _).nodup hn) hl2 c, hm1, hm2]
  refine ⟨_, _, _, hz, ?_, ?_, ?_, ?_, ?_⟩
  · rw [List.flatMap_append, hf1, hf2, ← List.drop_drop, List.append_assoc, List.take_append_drop, List.take_append_drop]
  · intro e he
    rcases List.mem_append.mp he with h | h
    · exact hm1 ▸ List.mem_map_of_mem h
    · exact List.mem_of_mem_take (hm2 ▸ List.mem_map_of_mem h)
  · intro c
    rw [hload c]
    exact Nat.add_le_add (Nat.le_trans (ite_le_self _ _) hpT) (ite_le_self _ _)
  · by_cases hT : ppm = T
    · -- the consumers at `T + 1` are the first `lo`
      have : C.countP (fun c => (collect c (es1 ++ es2)).length == T + 1) = C.countP (fun c => decide (c ∈ C.take lo)) := by
        refine List.countP_congr (fun c hc => ?_)
        rw [hload c]
        by_cases hm : c ∈ C.take lo <;> simp [hc, hm, hT]
      rw [this, countP_mem_take C hn lo hloC, if_pos hT]
      exact Nat.add_sub_cancel' (hlorem hT)
    · have : C.countP (fun c => (collect c (es1 ++ es2)).length == T + 1) = 0 := by
        refine List.countP_eq_zero.mpr (fun c _ => ?_)
        have := Nat.add_le_add (ite_le_self (c ∈ C) ppm) (ite_le_self (c ∈ C.take lo) 1)
        rw [hload c, beq_iff_eq]
        omega
      rw [this, if_neg hT]; exact Nat.zero_add _
  · rw [List.flatMap_append, List.length_append, hf1, hf2, List.length_take, List.length_take, List.length_drop,
      Nat.min_eq_left hk, Nat.min_eq_left hlo]
    exact haff

/-- one step of the last loop: `δ` is what the member is given, `rem'` the remainder afterwards -/
theorem finalStep_arith (T l rem len needRest lowRest δ rem' : Nat)
    (hδ : (if l ≤ T then T - l + (if l ≤ T ∧ rem > 0 then 1 else 0) else 0) = δ)
    (hr : (if l ≤ T ∧ rem > 0 then rem - 1 else rem) = rem')
    (hb : l ≤ T + 1) (hlen : len = T - l + needRest + rem) (hrem : rem ≤ (if l ≤ T then 1 else 0) + lowRest) :
    T ≤ l + δ ∧ l + δ ≤ T + 1 ∧ len = needRest + rem' + δ ∧ rem' ≤ lowRest := by
  by_cases h1 : l ≤ T
  · rw [if_pos h1] at hδ hrem
    by_cases h2 : rem > 0
    · rw [if_pos ⟨h1, h2⟩] at hδ hr; omega
    · rw [if_neg (fun h => h2 h.2)] at hδ hr; omega
  · rw [if_neg h1] at hδ hrem
    rw [if_neg (fun h => h1 h.1)] at hr
    omega

/-- `ℓ`: the loads of the members still to come; the loop appends only for the member it is at, so they stay as they are in
`acc`.  What is left is what these members still need up to `T`, plus the remainder, and the remainder finds enough of them
below `T + 1`. -/
theorem finalLoop_spec (T : Nat) (ℓ : Member → Nat) (rest : List Member) :
    ∀ (acc : List (Nat × List Int)) (rem : Nat) (remaining : List Int),
    IdsDistinct rest → (∀ m ∈ rest, (collect m.id acc).length = ℓ m) → (∀ m ∈ rest, ℓ m ≤ T + 1) →
    remaining.length = (rest.map (fun m => T - ℓ m)).sum + rem → rem ≤ rest.countP (fun m => decide (ℓ m ≤ T)) →
    ∃ new, finalLoop T rest acc rem remaining = some (acc ++ new) ∧
      new.flatMap (·.2) = remaining ∧
      (∀ e ∈ new, ∃ m ∈ rest, m.id = e.1) ∧
      (∀ m ∈ rest, T ≤ (collect m.id (acc ++ new)).length ∧ (collect m.id (acc ++ new)).length ≤ T + 1) := by
  induction rest with
  | nil =>
    intro acc rem remaining _ _ _ hlen hrem
    have : remaining = [] := List.eq_nil_of_length_eq_zero (by rw [hlen, Nat.le_zero.mp hrem]; rfl)
    subst this
    exact ⟨[], by rw [finalLoop, List.append_nil], rfl, fun _ h => absurd h List.not_mem_nil,
      fun _ h => absurd h List.not_mem_nil⟩
  | cons m rest ih =>
    intro acc rem remaining hd hℓ hb hlen hrem
    have hd' := List.pairwise_cons.mp hd
    have hm := hℓ m List.mem_cons_self
    rw [List.map_cons, List.sum_cons] at hlen
    rw [List.countP_cons, Nat.add_comm] at hrem
    unfold finalLoop
    dsimp only
    simp only [Bool.and_eq_true, decide_eq_true_eq, hm] at hrem ⊢
    generalize hδ : (if ℓ m ≤ T then T - ℓ m + (if ℓ m ≤ T ∧ rem > 0 then 1 else 0) else 0) = δ
    generalize hr : (if ℓ m ≤ T ∧ rem > 0 then rem - 1 else rem) = rem'
    obtain ⟨hδ1, hδ2, hlen', hrem'⟩ := finalStep_arith T _ rem _ _ _ δ rem' hδ hr (hb m List.mem_cons_self)
      hlen hrem
    have hδ3 : δ ≤ remaining.length := hlen' ▸ Nat.le_add_left _ _
    have hb' : ∀ x ∈ rest, ℓ x ≤ T + 1 := fun x hx => hb x (List.mem_cons_of_mem _ hx)
    have hfresh : ∀ new' : List (Nat × List Int), (∀ e ∈ new', ∃ x ∈ rest, x.id = e.1) → collect m.id new' = [] :=
      fun _ h => collect_eq_nil_of_ids h (fun x hx e => hd'.1 x hx e.symm)
    by_cases hpos : δ > 0
    · simp only [hpos, hδ3, if_true]
      obtain ⟨new', h, hf, hids, hload⟩ := ih (acc ++ [(m.id, remaining.take δ)]) rem' (remaining.drop δ) hd'.2
        (fun x hx => by
          rw [collect_append, collect_cons_other _ _ _ _ (hd'.1 x hx)]
          exact (congrArg List.length (List.append_nil _)).trans (hℓ x (List.mem_cons_of_mem _ hx)))
        hb' (by rw [List.length_drop]; exact Nat.sub_eq_of_eq_add hlen') hrem'
      rw [List.append_assoc, List.singleton_append] at h hload
      refine ⟨(m.id, remaining.take δ) :: new', h, ?_, ?_, ?_⟩
      · rw [List.flatMap_cons, hf, List.take_append_drop]
      · intro e he
        rcases List.mem_cons.mp he with rfl | he
        · exact ⟨m, List.mem_cons_self, rfl⟩
        · obtain ⟨x, hx, hxe⟩ := hids e he
          exact ⟨x, List.mem_cons_of_mem _ hx, hxe⟩
      · intro x hx
        rcases List.mem_cons.mp hx with rfl | hx
        · rw [collect_append, collect_cons_same, hfresh new' hids, List.append_nil, List.length_append, List.length_take,
            Nat.min_eq_left hδ3, hm]
          exact ⟨hδ1, hδ2⟩
        · exact hload x hx
    · simp only [hpos, if_false]
      rw [Nat.eq_zero_of_not_pos hpos] at hδ1 hδ2 hlen'
      obtain ⟨new', h, hf, hids, hload⟩ := ih acc rem' remaining hd'.2
        (fun x hx => hℓ x (List.mem_cons_of_mem _ hx)) hb' hlen' hrem'
      refine ⟨new', h, hf, fun e he => ?_, fun x hx => ?_⟩
      · obtain ⟨x, hx, hxe⟩ := hids e he
        exact ⟨x, List.mem_cons_of_mem _ hx, hxe⟩
      · rcases List.mem_cons.mp hx with rfl | hx
        · rw [collect_append, hfresh new' hids, List.append_nil, hm]; exact ⟨hδ1, hδ2⟩
        · exact hload x hx

theorem zoneLeft_snoc_other (parts : List Part) (left : List (Nat × List Int)) (z x : Nat) (v : List Int) (h : x ≠ z) :
    zoneLeft parts (left ++ [(z, v)]) x = zoneLeft parts left x := by
  unfold zoneLeft
  rw [List.find?_append]
  have : (z == x) = false := by simpa using (fun e => h e.symm)
  cases hf : left.find? (fun e => e.1 == x) <;> simp [this]

theorem zoneLeft_absent (parts : List Part) (left : List (Nat × List Int)) (z : Nat) (h : ∀ e ∈ left, e.1 ≠ z) :
    zoneLeft parts left z = zoneParts parts z := by
  unfold zoneLeft
  rw [List.find?_eq_none.mpr (fun e he => by simpa using h e he)]

theorem zoneLeft_snoc_same (parts : List Part) (left : List (Nat × List Int)) (z : Nat) (v : List Int) (h : ∀ e ∈ left, e.1 ≠ z) :
    zoneLeft parts (left ++ [(z, v)]) z = v := by
  unfold zoneLeft
  rw [List.find?_append, List.find?_eq_none.mpr (fun e he => by simpa using h e he)]; simp

/-- the members at `T + 1`: what the `countP` conjunct of `zoneAlloc_spec` counts among one zone's consumers, over all members
(`fullCount_step`) -/
def fullCount (T : Nat) (sub : List Member) (E : List (Nat × List Int)) : Nat :=
  sub.countP (fun m => (collect m.id E).length == T + 1)

/-- what the appends `E` give to the members of rack `z` -/
def heldIn (sub : List Member) (z : Nat) (E : List (Nat × List Int)) : List Int :=
  (sub.filter (fun m => m.zone == z)).flatMap (fun m => collect m.id E)

theorem heldIn_append (sub : List Member) (z : Nat) (E E' : List (Nat × List Int)) :
    (heldIn sub z (E ++ E')).Perm (heldIn sub z E ++ heldIn sub z E') := by
  unfold heldIn
  have hfun : (fun m : Member => collect m.id (E ++ E')) = (fun m => collect m.id E ++ collect m.id E') := by
    funext m; exact collect_append _ _ _
  rw [hfun]; exact flatMap_append_perm _ _ _

theorem heldIn_eq_nil_iff (sub : List Member) (z : Nat) (E : List (Nat × List Int)) :
    heldIn sub z E = [] ↔ ∀ m ∈ sub, m.zone = z → collect m.id E = [] := by
  unfold heldIn
  rw [List.flatMap_eq_nil_iff]
  constructor
  · exact fun h m hm hz => h m (List.mem_filter.mpr ⟨hm, by simpa using hz⟩)
  · exact fun h m hm => h m (List.mem_filter.mp hm).1 (by simpa using (List.mem_filter.mp hm).2)

theorem heldIn_zone (sub : List Member) (hd : IdsDistinct sub) (z : Nat) (es : List (Nat × List Int))
    (hids : ∀ e ∈ es, e.1 ∈ zoneConsumers sub z) : (heldIn sub z es).Perm (es.flatMap (·.2)) :=
  collect_perm _ (hd.sublist List.filter_sublist) es (fun e he => by
    obtain ⟨m, hm, hme⟩ := List.mem_map.mp (hids e he)
    exact ⟨m, hm, hme⟩)

/-- partitions led in rack `z` that the appends `E` place on members of rack `z` -/
def placedIn (sub : List Member) (parts : List Part) (z : Nat) (E : List (Nat × List Int)) : Nat :=
  ((heldIn sub z E).filter (fun x => (zoneParts parts z).contains x)).length

theorem placedIn_append (sub : List Member) (parts : List Part) (z : Nat) (E E' : List (Nat × List Int)) :
    placedIn sub parts z (E ++ E') = placedIn sub parts z E + placedIn sub parts z E' := by
  unfold placedIn
  rw [((heldIn_append sub z E E').filter _).length_eq, List.filter_append, List.length_append]

/-- invariant of the zone loop; `zs` = the zones still to visit, `R = P mod M` the initial `remainder`.
`fresh` + `keys`: members and `zonedPartitions` entries of zones to come are untouched (so a step's appends and its
replaced entry are the only ones of their zone); `count`: what left `remainder` sits on members at `T + 1`; `balance`:
rack by rack, what the rack's members hold and what is left in `zonedPartitions[z]` are the rack's partitions — of every
rack, visited or not, so the order in which the second Go loop collects `remaining` plays no part here (it enters in
`pool_perm`); `placed`: the affinity bound of the racks already visited. -/
structure ZInv (sub : List Member) (parts : List Part) (T R : Nat) (zs : List Nat) (st : ZoneState) : Prop where
  fresh : ∀ m ∈ sub, m.zone ∈ zs → collect m.id st.entries = []
  ids : ∀ e ∈ st.entries, ∃ m ∈ sub, m.id = e.1
  bound : ∀ m ∈ sub, (collect m.id st.entries).length ≤ T + 1
  count : fullCount T sub st.entries + st.rem = R
  keys : ∀ e ∈ st.left, e.1 ∉ zs
  balance : ∀ z, (heldIn sub z st.entries ++ zoneLeft parts st.left z).Perm (zoneParts parts z)
  placed : ∀ z, z ∉ zs → min (zoneParts parts z).length ((zoneConsumers sub z).length * T) ≤ (heldIn sub z st.entries).length

theorem zoneConsumers_nodup (sub : List Member) (hd : IdsDistinct sub) (z : Nat) : (zoneConsumers sub z).Nodup := by
  have : IdsDistinct (sub.filter (fun m => m.zone == z)) := hd.sublist List.filter_sublist
  exact (idsDistinct_iff _).mp this

theorem not_mem_zoneConsumers (sub : List Member) (hd : IdsDistinct sub) (z : Nat) (m : Member) (hm : m ∈ sub)
    (hz : m.zone ≠ z) : ¬ m.id ∈ zoneConsumers sub z := by
  intro h
  unfold zoneConsumers at h
  obtain ⟨m', hm', he⟩ := List.mem_map.mp h
  have hm'' := List.mem_filter.mp hm'
  have hz' : m'.zone = z := by simpa using hm''.2
  have : m' = m := eq_of_id_eq sub hd m' hm''.1 m hm he
  rw [this] at hz'; exact hz hz'

theorem zoneParts_nil_of_not_mem (parts : List Part) (σ₂ : List Nat) (hcov : ∀ p ∈ parts, p.zone ∈ σ₂) (z : Nat)
    (hz : ¬ z ∈ σ₂) : zoneParts parts z = [] :=
  zoneParts_eq_nil parts z (fun p hp e => hz (e ▸ hcov p hp))

theorem fullCount_step (sub : List Member) (T z : Nat) (E es : List (Nat × List Int))
    (hfresh : ∀ m ∈ sub, m.zone = z → collect m.id E = [])
    (hother : ∀ m ∈ sub, m.zone ≠ z → collect m.id es = []) :
    fullCount T sub (E ++ es) = fullCount T sub E + (zoneConsumers sub z).countP (fun c => (collect c es).length == T + 1) := by
  unfold fullCount
  rw [List.countP_eq_countP_filter_add sub _ (fun m => m.zone == z),
    List.countP_eq_countP_filter_add sub (fun m => (collect m.id E).length == T + 1) (fun m => m.zone == z)]
  have h1 : (sub.filter (fun m => m.zone == z)).countP (fun m => (collect m.id E).length == T + 1) = 0 := by
    refine List.countP_eq_zero.mpr (fun m hm => ?_)
    have hm' := List.mem_filter.mp hm
    rw [hfresh m hm'.1 (by simpa using hm'.2)]; simp
  have h2 : (sub.filter (fun m => m.zone == z)).countP (fun m => (collect m.id (E ++ es)).length == T + 1)
      = (zoneConsumers sub z).countP (fun c => (collect c es).length == T + 1) := by
    unfold zoneConsumers
    rw [List.countP_map]
    refine List.countP_congr (fun m hm => ?_)
    have hm' := List.mem_filter.mp hm
    simp only [collect_append, hfresh m hm'.1 (by simpa using hm'.2), List.nil_append, Function.comp]
  have h3 : (sub.filter (fun m => !(m.zone == z))).countP (fun m => (collect m.id (E ++ es)).length == T + 1)
      = (sub.filter (fun m => !(m.zone == z))).countP (fun m => (collect m.id E).length == T + 1) := by
    refine List.countP_congr (fun m hm => ?_)
    have hm' := List.mem_filter.mp hm
    simp only [collect_append, hother m hm'.1 (by simpa using hm'.2), List.append_nil]
  rw [h1, h2, h3, Nat.zero_add, Nat.add_comm]

/-- `hcat … haff` are the conjuncts of `zoneAlloc_spec` for the zone `z` -/
theorem zinv_step (sub : List Member) (parts : List Part) (T R : Nat) (hd : IdsDistinct sub)
    (z : Nat) (zs : List Nat) (hzs : (z :: zs).Nodup)
    (st : ZoneState) (inv : ZInv sub parts T R (z :: zs) st)
    (es : List (Nat × List Int)) (lf : List Int) (rem' : Nat)
    (hcat : es.flatMap (·.2) ++ lf = zoneParts parts z)
    (hids : ∀ e ∈ es, e.1 ∈ zoneConsumers sub z)
    (hbound : ∀ c, (collect c es).length ≤ T + 1)
    (hcount : (zoneConsumers sub z).countP (fun c => (collect c es).length == T + 1) + rem' = st.rem)
    (haff : min (zoneParts parts z).length ((zoneConsumers sub z).length * T) ≤ (es.flatMap (·.2)).length) :
    ZInv sub parts T R zs ⟨st.entries ++ es, st.left ++ [(z, lf)], rem'⟩ := by
  have hz : ¬ z ∈ zs := (List.nodup_cons.mp hzs).1
  have hother : ∀ m ∈ sub, m.zone ≠ z → collect m.id es = [] := by
    intro m hm hmz
    refine collect_absent _ _ (fun hmem => ?_)
    obtain ⟨e, he, hee⟩ := List.mem_map.mp hmem
    exact not_mem_zoneConsumers sub hd z m hm hmz (hee ▸ hids e he)
  have hfreshz : ∀ m ∈ sub, m.zone = z → collect m.id st.entries = [] :=
    fun m hm hmz => inv.fresh m hm (by rw [hmz]; exact List.mem_cons_self)
  have hkeys : ∀ e ∈ st.left, e.1 ≠ z := fun e he h => inv.keys e he (h ▸ List.mem_cons_self)
  -- the members of `z` held nothing and now hold the step's appends; the other racks hold what they held
  have hheld : (heldIn sub z (st.entries ++ es)).Perm (es.flatMap (·.2)) := by
    refine (heldIn_append sub z _ _).trans ?_
    rw [(heldIn_eq_nil_iff sub z st.entries).mpr hfreshz]
    exact heldIn_zone sub hd z es hids
  have hheld' : ∀ z', z' ≠ z → heldIn sub z' (st.entries ++ es) = heldIn sub z' st.entries := by
    intro z' hz'
    refine flatMap_congr _ (fun m hm => ?_)
    have hm' := List.mem_filter.mp hm
    have hmz : m.zone = z' := by simpa using hm'.2
    rw [collect_append, hother m hm'.1 (hmz ▸ hz'), List.append_nil]
  refine ⟨?_, ?_, ?_, ?_, ?_, ?_, ?_⟩
  · intro m hm hmz
    have hne : m.zone ≠ z := fun e => hz (e ▸ hmz)
    simp only [collect_append, inv.fresh m hm (List.mem_cons_of_mem _ hmz), hother m hm hne, List.append_nil]
  · intro e he
    rcases List.mem_append.mp he with h | h
    · exact inv.ids e h
    · obtain ⟨m, hm, hme⟩ := List.mem_map.mp (hids e h)
      exact ⟨m, (List.mem_filter.mp hm).1, hme⟩
  · intro m hm
    simp only [collect_append, List.length_append]
    by_cases hmz : m.zone = z
    · rw [hfreshz m hm hmz]; simpa using hbound m.id
    · rw [hother m hm hmz]; simpa using inv.bound m hm
  · show fullCount T sub (st.entries ++ es) + rem' = R
    rw [fullCount_step sub T z st.entries es hfreshz hother, Nat.add_assoc, hcount]
    exact inv.count
  · intro e he
    rcases List.mem_append.mp he with h | h
    · exact fun hmem => inv.keys e h (List.mem_cons_of_mem _ hmem)
    · rw [List.mem_singleton.mp h]; exact hz
  · intro z'
    show (heldIn sub z' (st.entries ++ es) ++ zoneLeft parts (st.left ++ [(z, lf)]) z').Perm _
    by_cases e : z' = z
    · rw [e, zoneLeft_snoc_same parts st.left z lf hkeys, ← hcat]; exact hheld.append_right lf
    · rw [hheld' z' e, zoneLeft_snoc_other parts st.left z z' lf e]; exact inv.balance z'
  · intro z' hz'
    show _ ≤ (heldIn sub z' (st.entries ++ es)).length
    by_cases e : z' = z
    · rw [e, hheld.length_eq]; exact haff
    · rw [hheld' z' e]; exact inv.placed z' (fun hm => (List.mem_cons.mp hm).elim e hz')

theorem zinv_skip (sub : List Member) (parts : List Part) (T R : Nat) (z : Nat) (zs : List Nat)
    (st : ZoneState) (inv : ZInv sub parts T R (z :: zs) st) (hC : (zoneConsumers sub z).length = 0) :
    ZInv sub parts T R zs st :=
  ⟨fun m hm hz => inv.fresh m hm (List.mem_cons_of_mem _ hz), inv.ids, inv.bound, inv.count,
   fun e he hmem => inv.keys e he (List.mem_cons_of_mem _ hmem), inv.balance,
   fun z' hz' => by
    by_cases e : z' = z
    · rw [e, hC, Nat.zero_mul, Nat.min_zero]; exact Nat.zero_le _
    · exact inv.placed z' (fun hm => (List.mem_cons.mp hm).elim e hz')⟩

theorem zoneLoop_spec (sub : List Member) (parts : List Part) (T R : Nat) (hd : IdsDistinct sub) :
    ∀ (zs : List Nat) (st : ZoneState), zs.Nodup →
    ZInv sub parts T R zs st → ∃ st', zoneLoop sub parts T zs st = some st' ∧ ZInv sub parts T R [] st'
  | [], st, _, inv => ⟨st, rfl, inv⟩
  | z :: zs, st, hzs, inv => by
    unfold zoneLoop
    by_cases hC : (zoneConsumers sub z).length = 0
    · simp only [hC, if_true]
      exact zoneLoop_spec sub parts T R hd zs st (List.nodup_cons.mp hzs).2 (zinv_skip sub parts T R z zs st inv hC)
    · simp only [hC, if_false]
      obtain ⟨es, lf, rem', he, hcat, hids, hbound, hcount, haff⟩ :=
        zoneAlloc_spec T st.rem (zoneConsumers sub z) (zoneParts parts z) (by omega) (zoneConsumers_nodup sub hd z)
      simp only [he]
      exact zoneLoop_spec sub parts T R hd zs
        ⟨st.entries ++ es, st.left ++ [(z, lf)], rem'⟩ (List.nodup_cons.mp hzs).2
        (zinv_step sub parts T R hd z zs hzs st inv es lf rem' hcat hids hbound hcount haff)

theorem pool_perm (sub : List Member) (parts : List Part) (T R : Nat) (hd : IdsDistinct sub) (σ₂ : List Nat)
    (hσ₂ : σ₂.Nodup) (hcov : ∀ p ∈ parts, p.zone ∈ σ₂) (st : ZoneState) (inv : ZInv sub parts T R [] st) :
    (st.entries.flatMap (·.2) ++ σ₂.flatMap (zoneLeft parts st.left)).Perm (parts.map (·.id)) := by
  -- the racks of `σ₂` hold everything: a member of another rack holds nothing, its rack leading no partition
  have hheld : (σ₂.flatMap fun z => heldIn sub z st.entries).Perm (st.entries.flatMap (·.2)) := by
    refine (flatMap_group_perm (fun m : Member => m.zone) (fun m : Member => collect m.id st.entries) σ₂ hσ₂ sub
      (fun m hm hz => ?_)).trans (collect_perm sub hd st.entries inv.ids)
    have := inv.balance m.zone
    rw [zoneParts_nil_of_not_mem parts σ₂ hcov m.zone hz] at this
    exact (heldIn_eq_nil_iff sub m.zone st.entries).mp (List.append_eq_nil_iff.mp this.eq_nil).1 m hm rfl
  have hparts : (σ₂.flatMap (zoneParts parts)).Perm (parts.map (·.id)) := by
    have := flatMap_group_perm (fun p : Part => p.zone) (fun p : Part => [p.id]) σ₂ hσ₂ parts (fun p hp hz => absurd (hcov p hp) hz)
    simp only [← List.map_eq_flatMap] at this
    exact this
  have hsplit := flatMap_append_perm (fun z => heldIn sub z st.entries) (zoneLeft parts st.left) σ₂
  exact ((hheld.symm.append_right _).trans hsplit.symm).trans
    ((flatMap_perm_congr σ₂ (fun z _ => inv.balance z)).trans hparts)

/-- loads `ℓ ≤ T + 1`: what is missing up to `T`, plus the loads, is `T` per member plus one per member at `T + 1`; and
every member is either at `T + 1` or can still take one -/
theorem loads_arith (T : Nat) (ℓ : Member → Nat) (sub : List Member) (h : ∀ m ∈ sub, ℓ m ≤ T + 1) :
    (sub.map (fun m => T - ℓ m)).sum + (sub.map ℓ).sum = T * sub.length + sub.countP (fun m => ℓ m == T + 1) ∧
    sub.countP (fun m => decide (ℓ m ≤ T)) + sub.countP (fun m => ℓ m == T + 1) = sub.length := by
  induction sub with
  | nil => exact ⟨rfl, rfl⟩
  | cons x xs ih =>
    obtain ⟨ih1, ih2⟩ := ih (fun m hm => h m (List.mem_cons_of_mem _ hm))
    have hx := h x List.mem_cons_self
    rw [List.map_cons, List.map_cons, List.sum_cons, List.sum_cons, List.length_cons, Nat.mul_succ, List.countP_cons,
      List.countP_cons]
    simp only [beq_iff_eq, decide_eq_true_eq]
    rcases Nat.lt_or_ge T (ℓ x) with h1 | h1
    · rw [if_pos (Nat.le_antisymm hx h1), if_neg (Nat.not_le_of_lt h1), Nat.sub_eq_zero_of_le (Nat.le_of_lt h1)]
      omega
    · rw [if_neg (Nat.ne_of_lt (Nat.lt_succ_of_le h1)), if_pos h1]
      omega

/-- what the last loop needs at its start: `len` partitions are left when the loads `ℓ` are handed out of `P = M·T + R`,
`rem` = `R` minus the members already at `T + 1` (`R < M` is what bounds `rem` by the members below `T + 1`) -/
theorem lastLoop_pre (T R P rem len : Nat) (ℓ : Member → Nat) (sub : List Member) (h : ∀ m ∈ sub, ℓ m ≤ T + 1)
    (hdm : sub.length * T + R = P) (hR : R < sub.length) (hcnt : sub.countP (fun m => ℓ m == T + 1) + rem = R)
    (hlen : (sub.map ℓ).sum + len = P) :
    len = (sub.map (fun m => T - ℓ m)).sum + rem ∧ rem ≤ sub.countP (fun m => decide (ℓ m ≤ T)) := by
  obtain ⟨ha1, ha2⟩ := loads_arith T ℓ sub h
  -- `loads_arith` speaks of `T * M`, `hdm` of `M * T`
  have := Nat.mul_comm T sub.length
  omega

/-- the five claims of the file header, conjunct by conjunct -/
theorem rackTopic_spec (sub : List Member) (parts : List Part) (σ₁ σ₂ : List Nat)
    (hne : sub ≠ []) (hd : IdsDistinct sub) (hσ₁ : σ₁.Nodup) (hσ₂ : σ₂.Nodup)
    (hcov₁ : ∀ p ∈ parts, p.zone ∈ σ₁) (hcov₂ : ∀ p ∈ parts, p.zone ∈ σ₂) :
    ∃ es, rackAssignTopic sub parts σ₁ σ₂ = some es ∧
      (sub.flatMap (fun m => collect m.id es)).Perm (parts.map (·.id)) ∧
      (∀ m ∈ sub, parts.length / sub.length ≤ (collect m.id es).length ∧
        (collect m.id es).length ≤ parts.length / sub.length + 1) ∧
      (∀ id, (∀ m ∈ sub, m.id ≠ id) → collect id es = []) ∧
      (∀ z, min (zoneParts parts z).length ((zoneConsumers sub z).length * (parts.length / sub.length)) ≤
        placedIn sub parts z es) := by
  have hM : 0 < sub.length := List.length_pos_iff.mpr hne
  unfold rackAssignTopic
  simp only [Nat.ne_of_gt hM, if_false]
  generalize hT : parts.length / sub.length = T
  generalize hR : parts.length % sub.length = R
  have hdm : sub.length * T + R = parts.length := by rw [← hT, ← hR]; exact Nat.div_add_mod _ _
  have hRlt : R < sub.length := by rw [← hR]; exact Nat.mod_lt _ hM
  have hheld0 : ∀ z, heldIn sub z [] = [] := fun z => (heldIn_eq_nil_iff sub z []).mpr (fun _ _ _ => rfl)
  have inv0 : ZInv sub parts T R σ₁ ⟨[], [], R⟩ := by
    refine ⟨fun _ _ _ => rfl, fun e he => by simp at he, fun m _ => by simp [collect], ?_, fun e he => by simp at he,
      fun z => ?_, fun z hz => ?_⟩
    · have : fullCount T sub [] = 0 := List.countP_eq_zero.mpr (fun m _ => by simp [collect])
      rw [this]; exact Nat.zero_add R
    · rw [hheld0 z, zoneLeft_absent parts [] z (fun e he => by simp at he)]; exact List.Perm.refl _
    · rw [zoneParts_nil_of_not_mem parts σ₁ hcov₁ z hz]
      exact Nat.zero_le _
  obtain ⟨st, hz, inv⟩ := zoneLoop_spec sub parts T R hd σ₁ ⟨[], [], R⟩ hσ₁ inv0
  simp only [hz]
  have hpool := pool_perm sub parts T R hd σ₂ hσ₂ hcov₂ st inv
  have hback := collect_perm sub hd st.entries inv.ids
  have hlen : (sub.map (fun m => (collect m.id st.entries).length)).sum + (σ₂.flatMap (zoneLeft parts st.left)).length
      = parts.length := by
    rw [← List.length_flatMap, hback.length_eq, ← List.length_append, hpool.length_eq, List.length_map]
  obtain ⟨hneed, hlow⟩ := lastLoop_pre T R parts.length st.rem _ (fun m => (collect m.id st.entries).length) sub
    inv.bound hdm hRlt inv.count hlen
  obtain ⟨new, hf, hflat, hids, hload⟩ := finalLoop_spec T _ sub st.entries st.rem
    (σ₂.flatMap (zoneLeft parts st.left)) hd (fun _ _ => rfl) inv.bound hneed hlow
  have hids' : ∀ e ∈ st.entries ++ new, ∃ m ∈ sub, m.id = e.1 :=
    fun e he => (List.mem_append.mp he).elim (inv.ids e) (hids e)
  refine ⟨_, hf, ?_, hload, ?_, ?_⟩
  · refine (collect_perm sub hd _ hids').trans ?_
    rw [List.flatMap_append, hflat]; exact hpool
  · exact fun id hid => collect_eq_nil_of_ids hids' hid
  · intro z
    -- what the rack's members held after the zone loop was led in the rack, and the last loop only adds
    have hsub : ∀ a ∈ heldIn sub z st.entries, (zoneParts parts z).contains a = true := fun a ha => by
      simpa using (inv.balance z).subset (List.mem_append_left _ ha)
    rw [placedIn_append]
    refine Nat.le_trans (inv.placed z List.not_mem_nil) (Nat.le_trans (Nat.le_of_eq ?_) (Nat.le_add_right _ _))
    unfold placedIn
    rw [List.filter_eq_self.mpr hsub]

theorem rackAssign_eq (ms : List Member) (ps : List Part) (σ₁ σ₂ : Nat → List Nat) (t id : Nat)
    (hs : subscribers ms t ≠ []) :
    rackAssign ms ps σ₁ σ₂ t id =
      (rackAssignTopic (subscribers ms t) (partsOfTopic t ps) (σ₁ t) (σ₂ t)).map (collect id) := by
  unfold rackAssign
  rw [appendByTopic_eq_subscribers t ms, if_neg (fun e => hs (List.length_eq_zero_iff.mp e))]

theorem placedInRack_eq (ms : List Member) (ps : List Part) (a : Asg) (t z : Nat) (es : List (Nat × List Int))
    (h : ∀ id, a t id = collect id es) :
    placedInRack ms ps a t z = placedIn (subscribers ms t) (partsOfTopic t ps) z es := by
  unfold placedInRack placedIn heldIn inRack
  simp only [h, ledIn_eq]

theorem length_partsOf_eq (t : Nat) (ps : List Part) : (partsOf t ps).length = (partsOfTopic t ps).length :=
  List.length_map _

theorem length_inRack_eq (ms : List Member) (t z : Nat) :
    (inRack ms t z).length = (zoneConsumers (subscribers ms t) z).length :=
  (List.length_map _).symm

end KV.GroupBalancer
