/- Lemmas/XerialIO.lean — the reader's behaviour does not depend on how the underlying io.Reader answers (refinement of
Model/Xerial by Model/XerialIO); the writer's `ReadFrom` conserves the bytes of every source. -/
import KafkaVerif.Model.XerialIO
import KafkaVerif.Lemmas.Source
import KafkaVerif.Lemmas.Xerial

namespace KV.Model.Xerial
open KV KV.RW KV.Model.Source

/-! Each phase of `readChunkIO` does what the script-free phase does, for some remaining script `sc'`, which nothing
depends on.  (The header phase also reports `pre ≤ 16`: the unframed phase starts its read-to-EOF loop with these `pre` bytes
in a buffer of `blockCap`, and `readToEOF_spec` wants them to fit.) -/

theorem headerPhaseIO_refines (x : ReaderIO) :
    (headerPhase x.r = none ∧ headerPhaseIO x = none) ∨
    (∃ r' pre sc', pre ≤ 16 ∧ headerPhase x.r = some (r', pre) ∧ headerPhaseIO x = some (⟨r', sc'⟩, pre)) := by
  unfold headerPhase headerPhaseIO
  by_cases hn : x.r.nbytes = 0
  · simp only [hn, if_true]
    obtain ⟨sc', h⟩ := readFull_nil x.src 16
    rw [h]
    simp only [ReaderIO.src]
    by_cases he : x.r.rest.take 16 = []
    · left; simp only [he, if_true, and_self]
    · right
      simp only [he, if_false]
      exact ⟨_, _, sc', List.length_take_le 16 _, rfl, rfl⟩
  · right
    simp only [hn, if_false]
    exact ⟨x.r, 0, x.script, Nat.zero_le _, rfl, rfl⟩

/-- The three outcomes of each of the two `ReadFull`s (`fullStatus_cases`) are the three branches of the corresponding `if`s of
`framedBody`; the states agree as well because a `take n` that comes out shorter than `n` means nothing is left behind it
(`hrel`, `hrel2`). -/
theorem framedBodyIO_refines (c : Codec) (x : ReaderIO) (k : Nat) :
    ∃ sc', framedBodyIO c x k = (⟨(framedBody c x.r k).1, sc'⟩, (framedBody c x.r k).2) := by
  obtain ⟨sc1, h1⟩ := readFull_nil x.src 4
  unfold framedBodyIO framedBody
  rw [h1]
  simp only [ReaderIO.src]
  have hrel : (x.r.rest.take 4).length < 4 → x.r.rest.drop 4 = [] := fun h =>
    List.drop_of_length_le (by rw [List.length_take] at h; omega)
  generalize x.r.rest.take 4 = l at hrel ⊢
  rcases fullStatus_cases 4 l with ⟨h4, hs⟩ | ⟨rfl, _, hs⟩ | ⟨hne, hlt, hs⟩
  · have hne : l ≠ [] := fun e => by rw [e] at h4; cases h4
    obtain ⟨sc2, h2⟩ := readFull_nil ⟨x.r.rest.drop 4, sc1⟩ (deN l)
    have hrel2 : ((x.r.rest.drop 4).take (deN l)).length < deN l → x.r.rest.drop (4 + deN l) = [] := fun h =>
      List.drop_of_length_le (by rw [List.length_take, List.length_drop] at h; omega)
    simp only [hs, if_neg hne, if_neg (Nat.not_lt.mpr h4), h2, List.drop_drop]
    generalize (x.r.rest.drop 4).take (deN l) = input at hrel2 ⊢
    rcases fullStatus_cases (deN l) input with ⟨hn, hs2⟩ | ⟨rfl, hn, hs2⟩ | ⟨hne2, hlt2, hs2⟩
    · simp only [hs2, if_neg (Nat.not_lt.mpr hn)]; exact ⟨sc2, rfl⟩
    · simp only [hs2, List.length_nil, if_pos hn, hrel2 hn, if_true]; exact ⟨sc2, rfl⟩
    · simp only [hs2, if_pos hlt2, if_neg hne2, hrel2 hlt2]; exact ⟨sc2, rfl⟩
  · simp only [hs, if_true]; exact ⟨sc1, rfl⟩
  · simp only [hs, if_neg hne, if_pos hlt, hrel hlt]; exact ⟨sc1, rfl⟩

theorem unframedBodyIO_refines (c : Codec) (x : ReaderIO) (pre k : Nat) (hpre : pre ≤ 16) :
    ∃ sc', unframedBodyIO c x pre k = (⟨(unframedBody c x.r pre k).1, sc'⟩, (unframedBody c x.r pre k).2) := by
  unfold unframedBodyIO unframedBody
  have hlen : (x.r.header.take pre).length ≤ blockCap := by
    rw [List.length_take]; simp only [blockCap]; omega
  have hs := readToEOF_spec (fuelFor x.src) x.src blockCap (x.r.header.take pre) (Nat.le_refl _) (by decide) hlen
  cases hr : readToEOF (fuelFor x.src) x.src blockCap (x.r.header.take pre) with
  | mk res s' =>
    rw [hr] at hs
    simp only [ReaderIO.src] at hs
    by_cases hin : x.r.header.take pre ++ x.r.rest = []
    · simp only [hin, if_true] at hs ⊢
      rw [hs.1]
      exact ⟨s'.script, rfl⟩
    · simp only [hin, if_false] at hs ⊢
      rw [hs.1]
      simp only [hs.2]
      exact ⟨s'.script, rfl⟩

theorem readChunkIO_refines (c : Codec) (x : ReaderIO) (k : Nat) :
    ∃ sc', readChunkIO c x k = (⟨(readChunk c x.r k).1, sc'⟩, (readChunk c x.r k).2) := by
  unfold readChunkIO readChunk
  rcases headerPhaseIO_refines ⟨{ x.r with output := [], offset := 0 }, x.script⟩ with ⟨h1, h2⟩ | ⟨r', pre, sc', hpre, h1, h2⟩
  · simp only at h1
    simp only [h1, h2]
    exact ⟨x.script, rfl⟩
  · simp only at h1
    simp only [h1, h2]
    by_cases hm : r'.header.take 8 = Spec.Xerial.magic
    · simp only [hm, if_true]
      exact framedBodyIO_refines c ⟨r', sc'⟩ k
    · simp only [hm, if_false]
      exact unframedBodyIO_refines c ⟨r', sc'⟩ pre k hpre

theorem readIO_refines (c : Codec) (fuel : Nat) (x : ReaderIO) (k : Nat) :
    ∃ sc', readIO c fuel x k = (⟨(read c fuel x.r k).1, sc'⟩, (read c fuel x.r k).2) := by
  induction fuel generalizing x with
  | zero => exact ⟨x.script, rfl⟩
  | succ fuel ih =>
    simp only [readIO, read]
    by_cases ho : x.r.offset < x.r.output.length
    · simp only [ho, if_true]
      exact ⟨x.script, rfl⟩
    · simp only [ho, if_false]
      obtain ⟨sc', h⟩ := readChunkIO_refines c x k
      rw [h]
      cases hch : readChunk c x.r k with
      | mk r' ch =>
        simp only
        cases ch with
        | direct b =>
          simp only
          by_cases hb : b.length > 0
          · simp only [hb, if_true]; exact ⟨sc', rfl⟩
          · simp only [hb, if_false]; exact ih ⟨r', sc'⟩
        | buffered => exact ih ⟨r', sc'⟩
        | eof => exact ⟨sc', rfl⟩
        | err => exact ⟨sc', rfl⟩

theorem readAllWithIO_refines (c : Codec) (ks : List Nat) (x : ReaderIO) :
    readAllWithIO c x ks = readAllWith c x.r ks := by
  induction ks generalizing x with
  | nil => rfl
  | cons k ks ih =>
    simp only [readAllWithIO, readAllWith]
    obtain ⟨sc', h⟩ := readIO_refines c (x.r.rest.length + 2) x k
    rw [h]
    cases hrd : read c (x.r.rest.length + 2) x.r k with
    | mk r' res =>
      cases res with
      | data b => simp only; rw [ih ⟨r', sc'⟩]
      | eof => rfl
      | err => rfl

/-- `readAllOut` on the reader whose source is a parameter (Model/XerialIO: any script of short reads, (0, nil)
answers, data together with EOF) -/
def readAllOutIO (c : Codec) : ReaderIO → List Nat → Bytes
  | _, [] => []
  | x, k :: ks =>
    match readIO c (x.r.rest.length + 2) x k with
    | (x', .data b) => b ++ readAllOutIO c x' ks
    | _ => []

theorem readAllOutIO_refines (c : Codec) (ks : List Nat) (x : ReaderIO) :
    readAllOutIO c x ks = readAllOut c x.r ks := by
  induction ks generalizing x with
  | nil => rfl
  | cons k ks ih =>
    simp only [readAllOutIO, readAllOut]
    obtain ⟨sc', h⟩ := readIO_refines c (x.r.rest.length + 2) x k
    rw [h]
    cases hrd : read c (x.r.rest.length + 2) x.r k with
    | mk r' res =>
      cases res with
      | data b => simp only; rw [ih ⟨r', sc'⟩]
      | eof => rfl
      | err => rfl

theorem readFromLoop_spec (c : Codec) (fuel : Nat) (w : Writer) (s : Src) (h : Ready c w) (hf : fuelFor s ≤ fuel) :
    Ready c (readFromLoop c fuel w s).1 ∧ content (readFromLoop c fuel w s).1 = content w ++ s.data := by
  induction fuel generalizing w s with
  | zero => simp [fuelFor] at hf
  | succ fuel ih =>
    have hroom := h.room
    have hsl : slack = 1024 := rfl  -- `omega` needs `0 < slack`: the buffer has room for at least one byte
    obtain ⟨k, e, sc', hk, hr, he, hlt⟩ := s.read_spec (blockCap - w.input.length) (by omega)
    obtain ⟨h1, hc1⟩ := h.absorb (s.data.take k) (Nat.le_trans (List.length_take_le k _) hk)
    simp only [readFromLoop, hr]
    cases e with
    | true =>
      rw [List.take_of_length_le (he rfl)] at h1 hc1 ⊢
      exact ⟨h1, hc1⟩
    | false =>
      obtain ⟨h2, hc2⟩ := ih _ ⟨s.data.drop k, sc'⟩ h1 (Nat.le_of_lt_succ (Nat.lt_of_lt_of_le (hlt rfl) hf))
      exact ⟨h2, hc2.trans (by rw [hc1, List.append_assoc, List.take_append_drop])⟩

theorem readFromUnframed_spec (w : Writer) (s : Src) (hi : w.input.length ≤ blockCap) :
    (readFromUnframed w s).input = w.input ++ s.data := by
  unfold readFromUnframed
  have := (readToEOF_spec (fuelFor s) s blockCap w.input (Nat.le_refl _) (by decide) hi).1
  rw [this]
  by_cases he : w.input ++ s.data = []
  · simp only [he, if_true]
    have := List.append_eq_nil_iff.mp he
    simp [this.1]
  · simp only [he, if_false]

end KV.Model.Xerial
