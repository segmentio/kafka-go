/-
Lemmas/CommitTwo.lean — the two commit loops of a state over one queue and one history.  A step of the late loop (`cstep2`) is a
step of the main loop of the swapped state and `Loops` is symmetric under `swap` by construction, so `loops_main` serves both; a
single loop is the two with the late one never moving (`CReachable.two`).  At the end the same facts arranged by state (`Inv2`),
the form Props/C03.lean quotes.  No theorem uses `Frame` (as a structure, what the docstring of `loops_main` says a step of the main
loop leaves of the late loop's data), `cov_stash_empty` or `swap_swap`.
-/
import KafkaVerif.Lemmas.CommitSync
namespace KV.Commit

/-- both loops of a state (`stash`/`pc` and `lstash`/`lpc`) over the histories they share -/
structure Loops (s : CState) : Prop where
  main : Loop s.passed s.sent s.stash s.pc
  late : Loop s.passed s.sent s.lstash s.lpc
  shared : Shared s.passed s.sent s.queue s.replied s.rets

theorem loops_settle {s : CState} (h : Loops s) : Loops (settle s) := by
  rw [settle_eq]; exact ⟨h.main.after_settle, h.late, h.shared⟩

/-- The late loop does not move: a step leaves `lstash`/`lpc` alone and at most extends `sent` (attempt) or `passed` (call). -/
theorem loops_main {s s' : CState} {e : CEv} (hi : Loops s) (h : cstep s e = some s') : Loops s' := by
  -- most events first take the hook-free steps: there the state `t` the event is looked at in is `settle s`
  have hst := loops_settle hi
  -- a request taken off the queue joins the loop: merged into the stash it is dominated
  have taken : ∀ {t : CState}, Loops t → ∀ {commits r q'}, takeReq t.queue commits = some (r, q') →
      Loop t.passed t.sent (t.stash.merge commits) t.pc ∧
      (r.sentAtCall ≤ t.sent.length ∧ Dom (t.stash.merge commits) r) ∧ Shared t.passed t.sent q' t.replied t.rets := by
    intro t ht commits r q' htk
    obtain ⟨hr, hrc, hq⟩ := takeReq_spec _ _ _ _ htk
    exact ⟨ht.main.merge fun c hc => (ht.shared.queued r hr).2 c (hrc ▸ hc),
      ⟨(ht.shared.queued r hr).1, fun c hc => has_merge_self commits t.stash ht.main.uniq c (hrc ▸ hc)⟩,
      ⟨fun x hx => ht.shared.queued x (hq x hx), ht.shared.issued, ht.shared.answered, ht.shared.returned⟩⟩
  -- a request carries a copy of the stash
  have issue : ∀ {t : CState}, Loops t → ∀ {offs : Stash} (ok : Bool), sameMap offs t.stash = true →
      Shared t.passed (t.sent ++ [(offs, ok)]) t.queue t.replied t.rets := by
    intro t ht offs ok hsame
    refine ⟨fun r hr => ⟨?_, (ht.shared.queued r hr).2⟩, ?_, fun x hx hx2 => (ht.shared.answered x hx hx2).mono _,
      ht.shared.returned⟩
    · rw [List.length_append]; exact Nat.le_trans (ht.shared.queued r hr).1 (Nat.le_add_right _ _)
    · intro x hx e he
      rcases List.mem_append.mp hx with hx | hx
      · exact ht.shared.issued x hx e he
      · cases List.mem_singleton.mp hx; exact ht.main.cov e ((sameMap_mem hsame e).mp he)
  -- an answer is positive only for a recorded request
  have answer : ∀ {t : CState}, Loops t → ∀ (r : Req) (ok : Bool), (ok = true → Rec t.sent r) →
      Shared t.passed t.sent t.queue (t.replied ++ [(r, ok)]) t.rets := by
    intro t ht r ok hrec
    refine ⟨ht.shared.queued, ht.shared.issued, ?_,
      fun x hx => let ⟨y, h1, h2⟩ := ht.shared.returned x hx; ⟨y, h1, List.mem_append_left _ h2⟩⟩
    intro x hx hx2
    rcases List.mem_append.mp hx with hx | hx
    · exact ht.shared.answered x hx hx2
    · cases List.mem_singleton.mp hx; exact hrec hx2
  cases e <;> rw [cstep] at h
  case call id msgs =>
    cases h
    refine ⟨hi.main.more_passed msgs, hi.late.more_passed msgs, ?_, fun x hx e he => (hi.shared.issued x hx e he).mono _,
      hi.shared.answered, hi.shared.returned⟩
    intro r hr
    rcases List.mem_append.mp hr with hr | hr
    · exact ⟨(hi.shared.queued r hr).1, fun c hc => ((hi.shared.queued r hr).2 c hc).mono _⟩
    · cases List.mem_singleton.mp hr
      refine ⟨Nat.le_refl _, fun c hc => ?_⟩
      obtain ⟨m, hm, rfl⟩ := List.mem_map.mp hc
      exact ⟨m.2, List.mem_append_right _ hm, Int.le_refl _⟩
  case begin sync =>
    obtain ⟨_, h⟩ := Option.ite_none_right_eq_some.mp h
    cases h
    exact ⟨Loop.empty rfl, hi.late, hi.shared⟩
  case deq commits drain =>
    cases drain <;> simp only [Bool.false_eq_true, ↓reduceIte] at h
    · -- in the select
      generalize settle s = t at h hst
      split at h
      · cases h
      · rename_i r q' htk
        split at h
        · obtain ⟨hl, hr, hq⟩ := taken hst htk
          by_cases hs : t.sync = true
          · rw [if_pos hs, enterCommit_eq] at h
            cases h
            exact ⟨Loop.enter _ false hl (fun x hx => List.mem_singleton.mp hx ▸ hr.2)
              (fun x hx => List.mem_singleton.mp hx ▸ hr.1), hst.late, hq⟩
          · rw [if_neg hs] at h
            cases h
            exact ⟨hl, hst.late, hq⟩
        · rename_i hd; cases hd
        · cases h
    · -- draining
      split at h
      · cases h
      · rename_i r q' htk
        split at h
        · rename_i hd; cases hd
        · rename_i rs hp _
          cases h
          obtain ⟨hl, hr, hq⟩ := taken hi htk
          rw [hp] at hl
          -- the drained request joins those to be answered only in sync mode
          have key : ∀ {P : Req → Prop}, (∀ x ∈ rs, P x) → P r → ∀ x ∈ (if s.sync = true then rs ++ [r] else rs), P x := by
            intro P h1 h2
            split
            · intro x hx
              rcases List.mem_append.mp hx with hx | hx
              · exact h1 x hx
              · exact List.mem_singleton.mp hx ▸ h2
            · exact h1
          exact ⟨⟨hl.cov, hl.uniq, key hl.dom hr.2, trivial, key hl.bp hr.1⟩, hi.late, hq⟩
        · cases h
  case attempt offs ok =>
    obtain ⟨rs, att, final, hp, hsame, rfl⟩ := cstep_attempt h
    have hm := hi.main.after_settle
    have hl := hm.more_sent [(offs, ok)]
    rw [hp] at hm hl
    refine ⟨?_, hi.late.more_sent _, issue hi ok hsame⟩
    show Loop _ _ _ (if ok = true then _ else _)
    split
    · -- acknowledged: this request records everything the stash dominates
      rename_i hk
      refine ⟨hl.cov, hl.uniq, trivial, fun r hr c hcc => ?_, hl.bp⟩
      obtain ⟨o, hmem, hle⟩ := hm.dom r hr c hcc
      exact ⟨s.sent.length, offs, by simp [hk], hm.bp r hr, o, (sameMap_mem hsame _).mpr hmem, hle⟩
    · split
      · exact ⟨hl.cov, hl.uniq, hl.dom, trivial, hl.bp⟩
      · exact ⟨hl.cov, hl.uniq, trivial, trivial, hl.bp⟩
  case abort =>
    generalize settle s = t at h hst
    split at h
    · rename_i hp
      obtain ⟨_, h⟩ := Option.ite_none_right_eq_some.mp h
      cases h
      have hm := hst.main
      rw [hp] at hm
      exact ⟨⟨hm.cov, hm.uniq, trivial, trivial, hm.bp⟩, hst.late, hst.shared⟩
    · cases h
  case replied =>
    split at h
    · rename_i r ok hp
      obtain ⟨_, h⟩ := Option.ite_none_right_eq_some.mp h
      cases h
      have hm := hi.main
      rw [hp] at hm
      exact ⟨Loop.empty rfl, hi.late, answer hi r ok fun hk => by subst hk; exact hm.recp r List.mem_cons_self⟩
    · cases h
  case reply ok' =>
    generalize settle s = t at h hst
    split at h
    · rename_i r rs ok hp
      obtain ⟨_, h⟩ := Option.ite_none_right_eq_some.mp h
      cases h
      have hm := hst.main
      rw [hp] at hm
      refine ⟨⟨hm.cov, hm.uniq, trivial, ?_, fun x hx => hm.bp x (List.mem_cons_of_mem _ hx)⟩, hst.late,
        answer hst r ok fun hk => by subst hk; exact hm.recp r List.mem_cons_self⟩
      cases ok with
      | false => trivial
      | true => exact fun x hx => hm.recp x (List.mem_cons_of_mem _ hx)
    · cases h
  case reset =>
    generalize settle s = t at h hst
    split at h
    · rename_i final hp
      obtain ⟨_, h⟩ := Option.ite_none_right_eq_some.mp h
      cases h
      exact ⟨Loop.empty (by cases final <;> rfl), hst.late, hst.shared⟩
    · cases h
  case tick =>
    generalize settle s = t at h hst
    obtain ⟨_, h⟩ := Option.ite_none_right_eq_some.mp h
    rw [enterCommit_eq] at h
    cases h
    exact ⟨Loop.enter t false hst.main (by intro r hr; cases hr) (by intro r hr; cases hr), hst.late, hst.shared⟩
  case genEnd =>
    generalize settle s = t at h hst
    obtain ⟨_, h⟩ := Option.ite_none_right_eq_some.mp h
    cases h
    exact ⟨hst.main.release rfl, hst.late, hst.shared⟩
  case endLoop =>
    generalize settle s = t at h hst
    split at h
    · cases h
      exact ⟨hst.main.release rfl, hst.late, hst.shared⟩
    · cases h
  case ret id ok =>
    obtain ⟨hany, h⟩ := Option.ite_none_right_eq_some.mp h
    cases h
    refine ⟨hi.main, hi.late, hi.shared.queued, hi.shared.issued, hi.shared.answered, fun x hx => ?_⟩
    rcases List.mem_append.mp hx with hx | hx
    · exact hi.shared.returned x hx
    · cases List.mem_singleton.mp hx
      simp only [List.any_eq_true, Bool.and_eq_true, beq_iff_eq] at hany
      obtain ⟨y, hy, h1, h2⟩ := hany
      exact ⟨y.1, h1, by rw [← h2]; exact hy⟩

theorem cstep2_late {s s' : CState} {e : CEv} (h : cstep2 s (.late e) = some s') :
    ∃ t, cstep (swap s) e = some t ∧ swap t = s' := by
  cases e <;> first | cases h | exact Option.map_eq_some_iff.mp h

theorem loops_init : Loops {} :=
  ⟨Loop.empty rfl, Loop.empty rfl, (by intro r h; cases h), (by intro x h; cases h), (by intro x h; cases h), (by intro x h; cases h)⟩

theorem loops_swap {s : CState} (h : Loops s) : Loops (swap s) := ⟨h.late, h.main, h.shared⟩

theorem loops_step (s s' : CState) (e : CEv2) (hi : Loops s) (h : cstep2 s e = some s') : Loops s' := by
  cases e with
  | main e => exact loops_main hi h
  | late e =>
    obtain ⟨t, ht, rfl⟩ := cstep2_late h
    exact loops_swap (loops_main (loops_swap hi) ht)

theorem loops_reachable (s : CState) (h : CReachable2 s) : Loops s := by
  induction h with
  | init => exact loops_init
  | step e _ hs ih => exact loops_step _ _ e ih hs

theorem CReachable.two {s : CState} (h : CReachable s) : CReachable2 s := by
  induction h with
  | init => exact .init
  | step e _ hs ih => exact .step (.main e) ih hs

/-- Everything on its way to the coordinator is covered, as a statement about a state: the stash (`Loop.cov` of the main loop),
the commits of the queued requests (`Shared.queued`; they are merged into the stash), the requests already sent
(`Shared.issued`; they were copies of the stash). -/
structure Cov (s : CState) : Prop where
  stash : ∀ e ∈ s.stash, Covered s.passed e
  queue : ∀ r ∈ s.queue, ∀ c ∈ r.commits, Covered s.passed (c.tp, c.offset)
  sent : ∀ x ∈ s.sent, ∀ e ∈ x.1, Covered s.passed e

theorem cov_stash_empty {s : CState} (h : Cov s) (pc : LPC) (rp : List (Req × Bool)) :
    Cov { s with stash := [], pc := pc, replied := rp } :=
  ⟨(by intro e he; cases he), h.queue, h.sent⟩

/-- the other clauses of the main loop's `Loop`, `Shared.answered` (`recr`) and the bound in `Shared.queued` (`bq`), as a statement
about a state -/
structure SInv (s : CState) : Prop where
  uniq : Uniq s.stash
  dom : domPc s.stash s.pc
  recp : recPc s.sent s.pc
  recr : ∀ x ∈ s.replied, x.2 = true → Rec s.sent x.1
  bq : ∀ r ∈ s.queue, r.sentAtCall ≤ s.sent.length
  bp : ∀ r ∈ pcReqs s.pc, r.sentAtCall ≤ s.sent.length

/-- `Shared.returned` as a statement about a state -/
def RetOK (s : CState) : Prop := ∀ x ∈ s.rets, ∃ r, r.id = x.1 ∧ (r, x.2) ∈ s.replied

structure Frame (s s' : CState) : Prop where
  lstash : s'.lstash = s.lstash
  lpc : s'.lpc = s.lpc
  sent : ∃ l, s'.sent = s.sent ++ l
  passed : ∃ l, s'.passed = s.passed ++ l

/-- `Loop` of the late loop (`lstash`/`lpc`), field by field, as a statement about a state -/
structure LateInv (s : CState) : Prop where
  cov : ∀ e ∈ s.lstash, Covered s.passed e
  uniq : Uniq s.lstash
  dom : domPc s.lstash s.lpc
  recp : recPc s.sent s.lpc
  bp : ∀ r ∈ pcReqs s.lpc, r.sentAtCall ≤ s.sent.length

theorem lateInv_of_swapped (s : CState) (hc : Cov (swap s)) (hs : SInv (swap s)) : LateInv s :=
  ⟨hc.stash, hs.uniq, hs.dom, hs.recp, hs.bp⟩

theorem swap_swap (s : CState) : swap (swap s) = s := rfl

/-- What `Loops s` says, arranged as statements about the state.  Props/C03.lean reads `cov.sent`, `cov.stash`, `sinv.recr`,
`sinv.uniq` and `ret`; the other clauses are the rest of the two loops' `Loop` and of `Shared`. -/
structure Inv2 (s : CState) : Prop where
  cov : Cov s
  sinv : SInv s
  ret : RetOK s
  late : LateInv s

theorem Loops.toCov {s : CState} (h : Loops s) : Cov s :=
  ⟨h.main.cov, fun r hr => (h.shared.queued r hr).2, h.shared.issued⟩

theorem Loops.toSInv {s : CState} (h : Loops s) : SInv s :=
  ⟨h.main.uniq, h.main.dom, h.main.recp, h.shared.answered, fun r hr => (h.shared.queued r hr).1, h.main.bp⟩

theorem Loops.toInv2 {s : CState} (h : Loops s) : Inv2 s :=
  ⟨h.toCov, h.toSInv, h.shared.returned, lateInv_of_swapped s (loops_swap h).toCov (loops_swap h).toSInv⟩

theorem inv2_reachable (s : CState) (h : CReachable2 s) : Inv2 s := (loops_reachable s h).toInv2

end KV.Commit
