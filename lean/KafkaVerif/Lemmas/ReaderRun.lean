/-
Lemmas/ReaderRun.lean — the invariant `RInv` of the per-generation unsubscribe model (Model/ReaderRun.lean).
-/
import KafkaVerif.Model.ReaderRun
namespace KV.ReaderRun

theorem getD_setAt (l : List Bool) (i j : Nat) (v d : Bool) :
    (setAt l i v).getD j d = if i = j ∧ j < l.length then v else l.getD j d := by
  simp only [setAt, List.getD_eq_getElem?_getD, List.getElem?_set]
  by_cases h : i = j
  · subst h
    by_cases hl : i < l.length
    · simp [hl]
    · simp [hl]
  · simp [h]

theorem getD_concat (l : List Bool) (x d : Bool) (j : Nat) :
    (l ++ [x]).getD j d = if j < l.length then l.getD j d else if j = l.length then x else d := by
  simp only [List.getD_eq_getElem?_getD, List.getElem?_append]
  split
  · rfl
  · rename_i h
    by_cases hj : j = l.length
    · simp [hj]
    · have : j - l.length ≠ 0 := by omega
      simp [hj, this]

theorem older_or_prev {g n : Nat} (h : g < n) : g + 1 < n ∨ (n ≠ 0 ∧ n - 1 = g) := by omega

/-- `old` (both code variants): `r.start` stops the previous generation's fetchers before it starts the new ones, so at
most the current generation's fetchers of a Reader are running.  `cur` (repaired code, `cap = true`): the current
generation's fetchers run unless its OWN unsubscribe function has run. -/
structure RInv (cap : Bool) (s : RR) : Prop where
  alen : s.alive.length = s.gens
  ulen : s.unsubRan.length = s.gens
  old : ∀ g, g + 1 < s.gens → s.alive.getD g false = false
  cur : cap = true → 0 < s.gens → s.unsubRan.getD (s.gens - 1) true = false → s.alive.getD (s.gens - 1) false = true

theorem rinv_step (cap : Bool) (s s' : RR) (e : REv) (hi : RInv cap s) (h : rstep cap s e = some s') : RInv cap s' := by
  obtain ⟨l1, l2, hold, hcur⟩ := hi
  cases e <;> rw [rstep] at h
  case subscribe =>
    cases h
    have hl : (if s.gens = 0 then s.alive else setAt s.alive (s.gens - 1) false).length = s.gens := by
      split <;> simp [setAt, l1]
    refine ⟨by simp [hl], by simp [l2], ?_, ?_⟩
    · intro g hg
      have hg' : g < s.gens := Nat.lt_of_succ_lt_succ hg
      simp only [getD_concat, hl, hg', ↓reduceIte]
      -- the previous generation is stopped now, the older ones were before
      rcases older_or_prev hg' with hlt | ⟨h0, hp⟩
      · split
        · exact hold g hlt
        · rw [getD_setAt]; split
          · rfl
          · exact hold g hlt
      · rw [if_neg h0, getD_setAt, if_pos ⟨hp, l1 ▸ hg'⟩]
    · intro _ _ _
      simp [hl]
  case unsub g =>
    split at h
    · rename_i hc
      cases h
      refine ⟨by simp [setAt, l1], by simp [setAt, l2], ?_, ?_⟩
      · intro x hx
        show (setAt s.alive _ false).getD x false = false
        rw [getD_setAt]
        generalize (if cap = true then g else s.gens - 1) = target
        split
        · rfl
        · exact hold x hx
      · intro hcap hpos hnot
        subst hcap
        simp only [getD_setAt, ↓reduceIte] at hnot ⊢
        -- the function that ran is not the current generation's own
        have hg : ¬ (g = s.gens - 1 ∧ s.gens - 1 < s.unsubRan.length) := by
          intro hg; rw [if_pos hg] at hnot; cases hnot
        rw [if_neg hg] at hnot
        rw [if_neg fun hh => hg ⟨hh.1, (l2.trans l1.symm) ▸ hh.2⟩]
        exact hcur rfl hpos hnot
    · cases h

theorem rinv_reachable (cap : Bool) (s : RR) (h : RReachable cap s) : RInv cap s := by
  induction h with
  | init => exact ⟨rfl, rfl, nofun, fun _ h => absurd h (by decide)⟩
  | step e _ hs ih => exact rinv_step cap _ _ e ih hs

end KV.ReaderRun
