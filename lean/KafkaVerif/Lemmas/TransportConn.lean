/-
Lemmas/TransportConn.lean — the invariant of the pooled connections of Model/TransportConn.lean: per conn record what its
state says of its counters (`ConnOk`), per pool `PoolOk`.
-/
import KafkaVerif.Model.TransportConn
import KafkaVerif.Base.Run

namespace KV.TransportConn
open KV.ConnMux (Frame wire)

/-- what the state of one conn record says of its counters: the first three clauses of `C06.TInv` (Props/C06.lean, where
each is explained) for one record -/
structure ConnOk (c : PConn) : Prop where
  absentPristine : c.st = .absent → c = absent
  balanced : c.st = .idle ∨ c.st = .grabbed ∨ c.st = .finished true → c.written = c.consumed
  oneOutstanding : c.st = .busy → c.written = c.consumed + 1

/-- `C06.TInv` with its per-conn clauses as `ConnOk` -/
structure PoolOk (s : State) : Prop where
  conn : ∀ i, ConnOk (s.conns i)
  deliveries : ∀ d, d ∈ s.delivered →
      d.frame.id = wire d.id ∧ d.reqPos = d.framePos ∧ d.framePos < (s.conns d.cid).consumed

theorem poolOk_init : PoolOk init :=
  ⟨fun _ => ⟨fun _ => rfl, fun _ => rfl, nofun⟩, nofun⟩

theorem PoolOk.step {s s' : State} {e : Event} (hi : PoolOk s) (h : step s e = some s') : PoolOk s' := by
  -- old deliveries stay good as long as no conn's `consumed` shrinks
  have old : ∀ {conns : Nat → PConn}, (∀ i, (s.conns i).consumed ≤ (conns i).consumed) → ∀ d, d ∈ s.delivered →
      d.frame.id = wire d.id ∧ d.reqPos = d.framePos ∧ d.framePos < (conns d.cid).consumed :=
    fun hle d hd =>
      ⟨(hi.deliveries d hd).1, (hi.deliveries d hd).2.1, Nat.lt_of_lt_of_le (hi.deliveries d hd).2.2 (hle d.cid)⟩
  have updOk : ∀ (k : Nat) (v : PConn), ConnOk v → ∀ i, ConnOk (upd s.conns k v i) := by
    intro k v hv i; unfold upd; split
    · exact hv
    · exact hi.conn i
  have updLe : ∀ (k : Nat) (v : PConn), (s.conns k).consumed ≤ v.consumed →
      ∀ i, (s.conns i).consumed ≤ (upd s.conns k v i).consumed := by
    intro k v hv i; unfold upd; split
    · next hik => rw [hik]; exact hv
    · exact Nat.le_refl _
  have keep : ∀ (k : Nat) (v : PConn) {ab cg}, ConnOk v → v.consumed = (s.conns k).consumed →
      PoolOk { conns := upd s.conns k v, delivered := s.delivered, abandoned := ab, closedGroups := cg } :=
    fun k v _ _ hv hc => ⟨updOk k v hv, old (updLe k v (Nat.le_of_eq hc.symm))⟩
  -- per event: the guard of `step` (a refused event dies in `cases h`), then the record it writes
  cases e <;> dsimp only [TransportConn.step] at h
  case new cid g n0 stream =>
    split at h <;> cases h
    next habs => exact keep cid _ ⟨nofun, fun _ => rfl, nofun⟩ (by rw [(hi.conn cid).absentPristine habs]; rfl)
  case grab cid =>
    split at h <;> cases h
    next hidle => exact keep cid _ ⟨nofun, fun _ => (hi.conn cid).balanced (.inl hidle), nofun⟩ rfl
  case recv cid tag =>
    split at h <;> cases h
    next hg =>
    exact keep cid _ ⟨nofun, by simp, fun _ => congrArg (· + 1) ((hi.conn cid).balanced (.inr (.inl hg)))⟩ rfl
  case done cid o =>
    split at h
    · next hbusy =>
      have hone := (hi.conn cid).oneOutstanding hbusy
      split at h
      · next f rest _ =>   -- ok: the head frame is delivered
        split at h <;> cases h
        next hid =>
        refine ⟨updOk cid _ ⟨nofun, fun _ => hone, nofun⟩, fun d hd => ?_⟩
        have hold := old (updLe cid
          { s.conns cid with st := .finished true, stream := rest, consumed := (s.conns cid).consumed + 1 } (Nat.le_succ _))
        split at hd
        · exact hold d hd
        · rcases List.mem_append.mp hd with hd | hd
          · exact hold d hd
          · cases List.mem_singleton.mp hd
            exact ⟨hid, by show (s.conns cid).written - 1 = (s.conns cid).consumed; rw [hone]; rfl, by simp [upd]⟩
      · cases h   -- errKeep
        exact keep cid _
          ⟨nofun, fun _ => by show (s.conns cid).written - 1 = (s.conns cid).consumed; rw [hone]; rfl, nofun⟩ rfl
      · cases h   -- err
        exact keep cid _ ⟨nofun, by simp, nofun⟩ rfl
      · cases h
    · cases h
  case release cid a =>
    split at h <;> cases h
    next hc =>
    have hb : (s.conns cid).written = (s.conns cid).consumed :=
      hc.1.elim (fun h1 => (hi.conn cid).balanced (.inr (.inr h1))) fun h1 => (hi.conn cid).balanced (.inr (.inl h1))
    exact keep cid _ ⟨by cases a <;> nofun, fun _ => hb, by cases a <;> nofun⟩ rfl
  case exit cid =>
    split at h <;> cases h
    exact keep cid _ ⟨nofun, by simp, nofun⟩ rfl
  case remove cid =>
    split at h <;> cases h
    exact keep cid _ ⟨nofun, by simp, nofun⟩ rfl
  case closeIdle g =>   -- an idle conn of the group becomes `closing`, of which no clause speaks
    cases h
    refine ⟨fun i => ?_, fun d hd => ?_⟩
    · dsimp only; split
      · exact ⟨nofun, by simp, nofun⟩
      · exact hi.conn i
    · refine ⟨(hi.deliveries d hd).1, (hi.deliveries d hd).2.1, ?_⟩
      dsimp only; split <;> exact (hi.deliveries d hd).2.2
  case abandon tag => cases h; exact ⟨hi.conn, hi.deliveries⟩

theorem runFrom_eq (s : State) (es : List Event) : runFrom s es = es.foldlM step s :=
  Run.eq_foldlM (fun _ => rfl) (fun s e es => by rw [runFrom]; cases step s e <;> rfl) es s

theorem poolOk_run {es : List Event} {s : State} (h : run es = some s) : PoolOk s :=
  Run.invariant (fun _ _ _ hi hs => hi.step hs) ((runFrom_eq init es).symm.trans h) poolOk_init

end KV.TransportConn
