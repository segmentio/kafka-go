/-
Lemmas/WriterStep.lean — the Writer LTS (Model/Writer.lean) as a relation: `Step cfg s e s'` has one constructor per branch
of `step` that returns a state, carrying the records looked up in `s`, the guard that held and the new state written out
(one exception: `ret` covers the five results of `stepRet`, its guard `retOk` a `match` on the result).
`Step.of_step` / `Step.to_step`: it is exactly the graph of `step`; these two are the only proofs that unfold `step`.
Invariants are theorems about `Step`, proved by rule induction (`induction h with | add hP hB hC hg => … | _ => …`; a new
constructor lands in every `| _ =>`), and reach the reachable states through `Reachable.step_induction`; that an event is
enabled is shown by building its constructor (`Step.enabled`).
-/
import KafkaVerif.Model.Writer

namespace KV.Writer

variable {cfg : Cfg} {s s' : State}

theorem upd_some_elim {β : Type} {f : Nat → Option β} {a x : Nat} {v w : β} (h : upd f a (some v) x = some w) :
    (x = a ∧ w = v) ∨ (x ≠ a ∧ f x = some w) := by
  by_cases hx : x = a
  · subst hx; simp at h; exact Or.inl ⟨rfl, h.symm⟩
  · rw [upd_other _ _ _ _ hx] at h; exact Or.inr ⟨hx, h⟩

theorem forall_upd {β : Type} {P : β → Prop} (f : Nat → Option β) (b0 : Nat) (B0 : β)
    (h : ∀ b B, f b = some B → P B) (h0 : P B0) : ∀ b B, upd f b0 (some B0) b = some B → P B := by
  intro b B hb
  by_cases hbb : b = b0
  · subst hbb; simp at hb; exact hb ▸ h0
  · rw [upd_other _ _ _ _ hbb] at hb; exact h b B hb

theorem forall_upd_key {β : Type} {Q : Nat → β → Prop} (f : Nat → Option β) (b0 : Nat) (B0 : β)
    (h : ∀ b B, b ≠ b0 → f b = some B → Q b B) (h0 : Q b0 B0) : ∀ b B, upd f b0 (some B0) b = some B → Q b B := by
  intro b B hb
  rcases upd_some_elim hb with ⟨rfl, rfl⟩ | ⟨hne, hb⟩
  · exact h0
  · exact h b B hne hb

/-- `MapRel.back` of `MapRel.upd` -/
theorem upd_back {β : Type} {R : β → β → Prop} (hrefl : ∀ v, R v v) {f : Nat → Option β} {a : Nat} {v v' : β}
    (hv : f a = some v) (h : R v v') : ∀ x w', upd f a (some v') x = some w' → ∃ w, f x = some w ∧ R w w' := by
  intro x w' hx
  rcases upd_some_elim hx with ⟨rfl, rfl⟩ | ⟨-, hx⟩
  · exact ⟨v, hv, h⟩
  · exact ⟨w', hx, hrefl _⟩

/-- `MapRel.fwd` of `MapRel.upd` -/
theorem upd_fwd {β : Type} {R : β → β → Prop} (hrefl : ∀ v, R v v) {f : Nat → Option β} {a : Nat} {v v' : β}
    (hv : f a = some v) (h : R v v') : ∀ x w, f x = some w → ∃ w', upd f a (some v') x = some w' ∧ R w w' := by
  intro x w hx
  by_cases hxa : x = a
  · subst hxa; cases hv.symm.trans hx; exact ⟨v', upd_same .., h⟩
  · exact ⟨w, by rw [upd_other _ _ _ _ hxa]; exact hx, hrefl _⟩

/-- `MapRel.back` of `MapRel.new` -/
theorem upd_new_back {β : Type} {R : β → β → Prop} (hrefl : ∀ v, R v v) {f : Nat → Option β} {a x : Nat} {v' w' : β}
    (hx : upd f a (some v') x = some w') : (x = a ∧ w' = v') ∨ ∃ w, f x = some w ∧ R w w' :=
  (upd_some_elim hx).imp id fun h => ⟨w', h.2, hrefl _⟩

/-- `MapRel.fwd` of `MapRel.new` -/
theorem upd_new_fwd {β : Type} {R : β → β → Prop} (hrefl : ∀ v, R v v) {f : Nat → Option β} {a : Nat} {v' : β}
    (hnone : f a = none) : ∀ x w, f x = some w → ∃ w', upd f a (some v') x = some w' ∧ R w w' := by
  intro x w hx
  have hxa : x ≠ a := by rintro rfl; rw [hnone] at hx; cases hx
  exact ⟨w, by rw [upd_other _ _ _ _ hxa]; exact hx, hrefl _⟩

/-- `m'` comes from `m` record by record: every entry of `m'` is new (then `N` holds of it) or the successor by `R` of the
entry of `m` under the same key, and no entry of `m` is lost.  The premise of the frame lemmas (`InvX.of_frame`): a step
supplies it by `.refl` (map untouched), `.upd` (one record rewritten: the record fact) or `.new` (one record created) -/
structure MapRel {β : Type} (N : β → Prop) (R : β → β → Prop) (m m' : Nat → Option β) : Prop where
  back : ∀ k v', m' k = some v' → (m k = none ∧ N v') ∨ ∃ v, m k = some v ∧ R v v'
  fwd : ∀ k v, m k = some v → ∃ v', m' k = some v' ∧ R v v'

namespace MapRel

variable {β : Type} {N : β → Prop} {R : β → β → Prop} {m : Nat → Option β}

theorem refl (hR : ∀ v, R v v) : MapRel N R m m :=
  ⟨fun _ v' h => .inr ⟨v', h, hR _⟩, fun _ v h => ⟨v, h, hR _⟩⟩

theorem upd (hR : ∀ v, R v v) {k : Nat} {v v' : β} (hv : m k = some v) (h : R v v') :
    MapRel N R m (Writer.upd m k (some v')) :=
  ⟨fun x w' hx => .inr (upd_back hR hv h x w' hx), upd_fwd hR hv h⟩

theorem new (hR : ∀ v, R v v) {k : Nat} {v' : β} (hk : m k = none) (h : N v') :
    MapRel N R m (Writer.upd m k (some v')) :=
  ⟨fun _ _ hx => (upd_new_back hR hx).imp (fun ⟨e1, e2⟩ => ⟨e1 ▸ hk, e2 ▸ h⟩) id, upd_new_fwd hR hk⟩

theorem mono {N' : β → Prop} {R' : β → β → Prop} {m' : Nat → Option β} (h : MapRel N R m m')
    (hN : ∀ v, N v → N' v) (hR : ∀ v v', R v v' → R' v v') : MapRel N' R' m m' :=
  ⟨fun k v' hk => (h.back k v' hk).imp (fun ⟨a, b⟩ => ⟨a, hN _ b⟩) fun ⟨v, a, b⟩ => ⟨v, a, hR _ _ b⟩,
   fun k v hk => (h.fwd k v hk).imp fun _ ⟨a, b⟩ => ⟨a, hR _ _ b⟩⟩

theorem old {m' : Nat → Option β} (h : MapRel (fun _ => False) R m m') :
    ∀ k v', m' k = some v' → ∃ v, m k = some v ∧ R v v' :=
  fun k v' hk => (h.back k v' hk).elim (fun h => h.2.elim) id

end MapRel

theorem getElem?_concat {α : Type} {l : List α} {x y : α} {j : Nat} :
    (l ++ [x])[j]? = some y ↔ l[j]? = some y ∨ (j = l.length ∧ x = y) := by
  by_cases h : j < l.length
  · rw [List.getElem?_append_left h]
    exact ⟨.inl, fun h' => h'.elim id fun ⟨e, _⟩ => absurd e (Nat.ne_of_lt h)⟩
  · have hge := Nat.le_of_not_lt h
    rw [List.getElem?_append_right hge, List.getElem?_eq_none hge]
    by_cases hj : j = l.length
    · subst hj; simp
    · have : j - l.length ≠ 0 := by omega
      cases hk : j - l.length with
      | zero => exact absurd hk this
      | succ n => simp [hj]

theorem msgAt_elim {msgs : List MsgSpec} {i : Nat} {p : MsgSpec → Bool} (h : msgAt msgs i p = true) :
    ∃ m, msgs[i]? = some m ∧ p m = true := by
  unfold msgAt at h
  split at h
  · exact ⟨_, by assumption, h⟩
  · cases h

theorem allFit_elim {cfg : Cfg} {msgs : List MsgSpec} {i : Nat} {m : MsgSpec} (h : allFit cfg msgs = true)
    (hm : msgs[i]? = some m) : m.size ≤ cfg.batchBytes := by
  unfold allFit at h
  rw [List.all_eq_true] at h
  have := h m (List.mem_of_getElem? hm)
  simpa using this

theorem placedAll_elim {C : Call} (h : C.placedAll = true) (i : Nat) (hi : i < C.msgs.length) : ∃ b, C.place i = some b := by
  unfold Call.placedAll at h
  rw [List.all_eq_true] at h
  have := h i (List.mem_range.mpr hi)
  cases hp : C.place i with
  | none => rw [hp] at this; cases this
  | some b => exact ⟨b, rfl⟩

theorem batchDone_eq_some {o : Option Nat} {code : Code} :
    batchDone s o = some code ↔ ∃ b B, o = some b ∧ s.batches b = some B ∧ B.done = some code := by
  unfold batchDone
  constructor
  · intro h
    split at h
    · cases h
    · split at h
      · cases h
      · exact ⟨_, _, rfl, ‹_›, h⟩
  · rintro ⟨b, B, rfl, hB, hd⟩
    simp only [hB, hd]

theorem pipe_sender (P : PW) {σ : Sender} (h : σ.batch? = P.sender.batch?) :
    ({ P with sender := σ } : PW).pipe = P.pipe := by
  simp only [PW.pipe, h]

theorem pipe_detach {P : PW} {b : Nat} (hc : P.curr = some b) (hp : P.pending = none) :
    ({ P with curr := none, pending := some b } : PW).pipe = P.pipe := by
  simp [PW.pipe, hc, hp]

theorem pipe_qput {P : PW} {b : Nat} {acc : Bool} (hp : P.pending = some b) (hc : P.curr = none) :
    ({ P with pending := none, queue := enq P.queue b acc } : PW).pipe.Sublist P.pipe := by
  cases acc <;> simp [PW.pipe, hc, hp, enq]

theorem pipe_qget {P : PW} {b : Nat} (hs : P.sender = .idle) (hh : P.queue.head? = some b) :
    ({ P with queue := P.queue.tail, sender := .ready b 0 } : PW).pipe = P.pipe := by
  simp only [PW.pipe, hs, Sender.batch?]
  obtain ⟨t, ht⟩ := List.head?_eq_some_iff.mp hh
  rw [ht]; simp

theorem pipe_complete {P : PW} {b : Nat} {code : Code} {cb : Bool} (hs : P.sender = .finishing b code cb) :
    P.pipe = b :: ({ P with sender := .idle } : PW).pipe := by
  simp [PW.pipe, hs, Sender.batch?]

theorem pipe_newBatch {P : PW} {b n : Nat} (hc : P.curr = none) (hp : P.pending = none) :
    ({ P with curr := some b, nbatches := n } : PW).pipe = P.pipe ++ [b] := by
  simp [PW.pipe, hc, hp]

theorem afterAttempt_cases (cfg : Cfg) (b k : Nat) (code : Code) :
    (code = 0 ∧ afterAttempt cfg b k code = .finishing b 0 false) ∨
    (code ≠ 0 ∧ cfg.retriable code = true ∧ k + 1 < cfg.maxAttempts ∧ afterAttempt cfg b k code = .ready b (k + 1)) ∨
    (code ≠ 0 ∧ afterAttempt cfg b k code = .finishing b code false) := by
  unfold afterAttempt
  split
  · exact .inl ⟨‹_›, rfl⟩
  · split
    · exact .inr (.inl ⟨‹_›, (‹_ ∧ _›).1, (‹_ ∧ _›).2, rfl⟩)
    · exact .inr (.inr ⟨‹_›, rfl⟩)

theorem afterAttempt_ok (cfg : Cfg) (b k : Nat) : afterAttempt cfg b k 0 = .finishing b 0 false := if_pos rfl

theorem afterAttempt_retry {b k : Nat} {code : Code} (h0 : code ≠ 0) (hr : cfg.retriable code = true)
    (hk : k + 1 < cfg.maxAttempts) : afterAttempt cfg b k code = .ready b (k + 1) := by
  rw [afterAttempt, if_neg h0, if_pos ⟨hr, hk⟩]

theorem afterAttempt_batch (cfg : Cfg) (b k : Nat) (code : Code) : (afterAttempt cfg b k code).batch? = some b := by
  rcases afterAttempt_cases cfg b k code with ⟨-, e⟩ | ⟨-, -, -, e⟩ | ⟨-, e⟩ <;> rw [e] <;> rfl

theorem mem_log_upd {l : TP → List LogEntry} {es : List LogEntry} {tp t : TP} {a : Bool} {x : LogEntry} :
    x ∈ (if a then upd l tp (l tp ++ es) else l) t ↔ x ∈ l t ∨ (a = true ∧ t = tp ∧ x ∈ es) := by
  cases a
  · simp
  · by_cases ht : t = tp
    · subst ht; simp
    · simp [upd_other _ _ _ _ ht, ht]

theorem mem_produced_log {pw b k : Nat} {P : PW} {B : Batch} {tp t : TP} {out : BrOut} {x : LogEntry} :
    x ∈ (produced s pw b k P B tp out).log t ↔ x ∈ s.log t ∨ (out.applied = true ∧ t = tp ∧ x ∈ mkEntries pw b B) := by
  rw [produced_log]; exact mem_log_upd

theorem log_after_append {s s' : State} {tp : TP} {l : List LogEntry} (elog : s'.log = upd s.log tp (s.log tp ++ l)) :
    s'.log tp = s.log tp ++ l ∧ ∀ t, t ≠ tp → s'.log t = s.log t :=
  ⟨by rw [elog]; exact upd_same .., fun t ht => by rw [elog]; exact upd_other _ _ _ _ ht⟩

theorem produced_log_applied {pw b k : Nat} {P : PW} {B : Batch} {tp : TP} {out : BrOut} (h : out.applied = true) :
    (produced s pw b k P B tp out).log = upd s.log tp (s.log tp ++ mkEntries pw b B) := by rw [produced_log, if_pos h]

theorem produced_log_unapplied {pw b k : Nat} {P : PW} {B : Batch} {tp : TP} {out : BrOut}
    (h : ¬ out.applied = true) : (produced s pw b k P B tp out).log = s.log := by rw [produced_log, if_neg h]

/-! `Batch.noteProduce` writes the three ghost counters of the batch record; every other field is the old one by `rfl`. -/

theorem Batch.noteProduce_acked (B : Batch) (out : BrOut) : (B.noteProduce out).acked = (B.acked || out == .acked) := rfl

theorem Batch.noteProduce_napplied (B : Batch) (out : BrOut) :
    (B.noteProduce out).napplied = if out.applied then B.napplied + 1 else B.napplied := rfl

theorem Batch.noteProduce_nlost (B : Batch) (out : BrOut) :
    (B.noteProduce out).nlost = if out == .lost true then B.nlost + 1 else B.nlost := rfl

theorem Reachable.init (cfg : Cfg) : Reachable cfg State.init := ⟨[], rfl⟩

theorem Reachable.run {es : List Event} (hr : Reachable cfg s) (h : run cfg s es = some s') : Reachable cfg s' := by
  obtain ⟨es0, h0⟩ := hr
  exact ⟨es0 ++ es, by rw [run_append, h0]; exact h⟩

theorem Reachable.step {e : Event} (hr : Reachable cfg s) (h : step cfg s e = some s') : Reachable cfg s' :=
  hr.run (es := [e]) (by simp [KV.Writer.run, h])

/-! The guards of the events, clause by clause as `step` checks them. -/

namespace Guard

structure Tick (cfg : Cfg) (s : State) (t : Nat) : Prop where
  now : s.now ≤ t
  due : notOverdue cfg s t = true

structure Enter (s : State) (ok : Bool) : Prop where
  lock : s.wlock = .free
  flag : ok = !s.closed

structure Begin (s : State) (c : Nat) (msgs : List MsgSpec) : Prop where
  entered : 0 < s.entered
  free : (s.calls c).isNone
  nonempty : msgs ≠ []

structure RejectToolarge (cfg : Cfg) (C : Call) (i : Nat) : Prop where
  phase : C.phase = .begun
  before : (C.msgs.take i).all (fun m => decide (m.size ≤ cfg.batchBytes))
  big : msgAt C.msgs i (fun m => decide (cfg.batchBytes < m.size)) = true

/-- the assign loop at index `i`, where message `i` satisfies `p` (its topic is chosen / in conflict / has no metadata) -/
structure Assigning (cfg : Cfg) (C : Call) (i : Nat) (p : MsgSpec → Bool) : Prop where
  phase : C.phase = .begun ∨ C.phase = .assigning
  len : C.assign.length = i
  fit : allFit cfg C.msgs
  msg : msgAt C.msgs i p = true

structure RejectClosed (s : State) (C : Call) : Prop where
  lock : s.wlock = .free
  closed : s.closed
  phase : C.phase = .assigning
  len : C.assign.length = C.msgs.length

structure Batch (cfg : Cfg) (s : State) (C : Call) : Prop where
  lock : s.wlock = .free
  notClosed : s.closed = false
  phase : C.phase = .assigning
  len : C.assign.length = C.msgs.length
  fit : allFit cfg C.msgs = true

structure NewPW (s : State) (pw q : Nat) (tp : TP) : Prop where
  lock : s.wlock.isCall = true
  notClosed : s.closed = false
  tpFree : (s.pwOf tp).isNone
  pwFree : (s.pws pw).isNone
  qFree : (s.qOf q).isNone

structure NewBatch (s : State) (P : PW) (b : Nat) : Prop where
  lock : s.wlock.isCall = true
  curr : P.curr = none
  pending : P.pending = none
  free : (s.batches b).isNone
  fresh : s.fresh = none

structure Add (cfg : Cfg) (s : State) (pw b c i size : Nat) (P : PW) (B : Writer.Batch) (C : Call) : Prop where
  lock : s.wlock = .call c
  curr : P.curr = some b
  pending : P.pending = none
  owner : B.pw = pw
  sameTp : B.tp = P.tp
  detached : B.detached = none
  full : B.full cfg = false
  nofit : B.nofit cfg size = false
  phase : C.phase = .batching
  assign : C.assign[i]? = some P.tp
  place : C.place i = none
  msgSize : (C.msgs[i]?).map (·.size) = some size
  before : (List.range i).all (fun j => C.assign[j]? != some P.tp || (C.place j).isSome)
  fresh : s.fresh = none ∨ s.fresh = some b

structure Detach (cfg : Cfg) (s : State) (b : Nat) (why : Why) (size : Nat) (P : PW) (B : Writer.Batch) : Prop where
  curr : P.curr = some b
  pending : P.pending = none
  detached : B.detached = none
  reason : whyOk cfg s B why size = true
  fresh : s.fresh ≠ some b

structure Qput (P : PW) (b : Nat) (acc : Bool) : Prop where
  pending : P.pending = some b
  curr : P.curr = none
  accepted : acc = !P.qclosed

structure QgetSome (P : PW) (b : Nat) : Prop where
  idle : P.sender = .idle
  head : P.queue.head? = some b

structure QgetNone (P : PW) : Prop where
  idle : P.sender = .idle
  empty : P.queue = []
  qclosed : P.qclosed = true

structure Qclose (s : State) (P : PW) : Prop where
  closed : s.closed = true
  lock : s.wlock = .closer
  curr : P.curr = none
  pending : P.pending = none

structure TimerFire (pw b : Nat) (att : Bool) (P : PW) (B : Writer.Batch) : Prop where
  pending : P.pending = none
  owner : B.pw = pw
  attached : att = decide (P.curr = some b)

structure Attempt (cfg : Cfg) (P : PW) (b k : Nat) : Prop where
  ready : P.sender = .ready b k
  bound : k < cfg.maxAttempts

structure Produce (pw : Nat) (tp : TP) (msgs : List Msg) (out : BrOut) (P : PW) (B : Writer.Batch) : Prop where
  owner : B.pw = pw
  batchTp : B.tp = tp
  pwTp : P.tp = tp
  carries : B.msgs.map (·.msg) = msgs
  decided : out ≠ .rejected 0

structure Completion (cfg : Cfg) (P : PW) (b : Nat) (code : Code) : Prop where
  on : cfg.completion = true
  sender : P.sender = .finishing b code false

structure Batched (cfg : Cfg) (s : State) (c : Nat) (C : Call) : Prop where
  lock : s.wlock = .call c
  phase : C.phase = .batching
  placed : C.placedAll = true
  noFull : noFullAttached cfg s = true
  fresh : s.fresh = none

structure CloseMarked (s : State) : Prop where
  lock : s.wlock = .closer
  marked : s.pwIds.all (fun pw => match s.pws pw with | some P => P.qclosed | none => false)

structure CloseReturn (s : State) : Prop where
  closed : s.closed = true
  inflight : s.inflight = 0
  entered : s.entered = 0
  exited : s.pwIds.all (fun pw => match s.pws pw with | some P => P.sender == .exited | none => false)

/-- WriteMessages returns without waiting for its batches: `nil` of an Async writer (`a = true`), ctx.Err() of a
synchronous one (`a = false`) -/
structure RetPlain (cfg : Cfg) (C : Call) (a : Bool) : Prop where
  async : cfg.async = a
  phase : C.phase = .batched

/-- a synchronous WriteMessages returns `nil`: every message's batch is done, without error -/
structure RetNil (cfg : Cfg) (s : State) (C : Call) : Prop where
  sync : cfg.async = false
  phase : C.phase = .batched
  allNil : (List.range C.msgs.length).all (fun i => batchDone s (C.place i) == some 0)

/-- a synchronous WriteMessages returns WriteErrors `codes`: message by message the result of its batch, not all `nil` -/
structure RetWerr (cfg : Cfg) (s : State) (C : Call) (codes : List Code) : Prop where
  sync : cfg.async = false
  phase : C.phase = .batched
  len : codes.length = C.msgs.length
  results : (List.range C.msgs.length).all (fun i => batchDone s (C.place i) == codes[i]?)
  someErr : codes.any (· != 0)

end Guard

/-- when WriteMessages may return `r` to a call that went through batchMessages (or was refused by it): the guard of
`stepRet`, one named guard per result.  For a given `r` it is that guard by `rfl`; a proof that looks inside says which
(`have hg : Guard.RetNil cfg s C := hg`), and `retOk_phase` is what all results share -/
def retOk (cfg : Cfg) (s : State) (C : Call) : Result → Prop
  | .closed => C.phase = .rejectedClosed
  | .async => Guard.RetPlain cfg C true
  | .ctx => Guard.RetPlain cfg C false
  | .ok => Guard.RetNil cfg s C
  | .werr codes => Guard.RetWerr cfg s C codes
  | .rejected _ _ => False

theorem retOk_phase {C : Call} {r : Result} (h : retOk cfg s C r) : C.phase = .batched ∨ C.phase = .rejectedClosed := by
  cases r with
  | closed => exact .inr h
  | rejected => exact h.elim
  | async | ctx => exact .inl (Guard.RetPlain.phase h)
  | ok => exact .inl (Guard.RetNil.phase h)
  | werr => exact .inl (Guard.RetWerr.phase h)

/-- `Step cfg s e s'`: `step cfg s e` returns `s'`, one constructor per branch of `step` (`stepReject`, `stepAdd`,
`stepDetach`, `stepProduce`) that returns a state; `hg` is the guard, with its clauses by name.  `ret` stands for the five
branches of `stepRet`, which write the same record and differ in the guard alone: `retOk` -/
inductive Step (cfg : Cfg) (s : State) : Event → State → Prop
  | tick {t : Nat} (hg : Guard.Tick cfg s t) : Step cfg s (.tick t) { s with now := t }
  | enterTrue (hg : Guard.Enter s true) :
      Step cfg s (.enter true) { s with entered := s.entered + 1, inflight := s.inflight + 1 }
  | enterFalse (hg : Guard.Enter s false) :
      Step cfg s (.enter false) { s with enterFalse := s.enterFalse + 1 }
  | empty (hg : 0 < s.entered) : Step cfg s .empty { s with entered := s.entered - 1, inflight := s.inflight - 1 }
  | begin_ {c : Nat} {msgs : List MsgSpec} (hg : Guard.Begin s c msgs) :
      Step cfg s (.begin_ c msgs)
        { s with entered := s.entered - 1, callIds := s.callIds ++ [c],
                 calls := upd s.calls c (some { msgs := msgs, phase := .begun, assign := [], place := fun _ => none,
                                                result := none, beginSeq := s.seq, endSeq := none }) }
  | rejectToolarge {c i : Nat} {C : Call} (hC : s.calls c = some C) (hg : Guard.RejectToolarge cfg C i) :
      Step cfg s (.reject c .toolarge i)
        { s with calls := upd s.calls c (some { C with phase := .returned, result := some (.rejected .toolarge i), endSeq := some s.seq }),
                 inflight := s.inflight - 1 }
  | rejectTopic {c i : Nat} {C : Call} (hC : s.calls c = some C)
      (hg : Guard.Assigning cfg C i (fun m => (chooseTopic cfg m).isNone)) :
      Step cfg s (.reject c .topic i)
        { s with calls := upd s.calls c (some { C with phase := .returned, result := some (.rejected .topic i), endSeq := some s.seq }),
                 inflight := s.inflight - 1 }
  | rejectMetadata {c i : Nat} {C : Call} (hC : s.calls c = some C)
      (hg : Guard.Assigning cfg C i (fun m => (chooseTopic cfg m).isSome)) :
      Step cfg s (.reject c .metadata i)
        { s with calls := upd s.calls c (some { C with phase := .returned, result := some (.rejected .metadata i), endSeq := some s.seq }),
                 inflight := s.inflight - 1 }
  | rejectClosed {c i : Nat} {C : Call} (hC : s.calls c = some C) (hg : Guard.RejectClosed s C) :
      Step cfg s (.reject c .closed i) { s with calls := upd s.calls c (some { C with phase := .rejectedClosed }) }
  | assign {c i : Nat} {tp : TP} {C : Call} (hC : s.calls c = some C)
      (hg : Guard.Assigning cfg C i (fun m => chooseTopic cfg m == some tp.1)) :
      Step cfg s (.assign c i tp)
        { s with calls := upd s.calls c (some { C with phase := .assigning, assign := C.assign ++ [tp] }) }
  | batch {c : Nat} {C : Call} (hC : s.calls c = some C) (hg : Guard.Batch cfg s C) :
      Step cfg s (.batch c) { s with wlock := .call c, calls := upd s.calls c (some { C with phase := .batching }) }
  | newPW {pw q : Nat} {tp : TP} (hg : Guard.NewPW s pw q tp) :
      Step cfg s (.newPW pw q tp)
        { s with pwOf := upd s.pwOf tp (some pw), qOf := upd s.qOf q (some pw), pwIds := s.pwIds ++ [pw],
                 tps := s.tps ++ [tp], pws := upd s.pws pw (some (PW.new tp q)) }
  | newBatch {pw b : Nat} {P : PW} (hP : s.pws pw = some P) (hg : Guard.NewBatch s P b) :
      Step cfg s (.newBatch pw b)
        { s with batchIds := s.batchIds ++ [b], fresh := some b, openedAt := upd s.openedAt b s.now,
                 pws := upd s.pws pw (some { P with curr := some b, nbatches := P.nbatches + 1 }),
                 batches := upd s.batches b (some (Batch.new pw P.tp P.nbatches)) }
  | add {pw b c i size : Nat} {P : PW} {B : Batch} {C : Call}
      (hP : s.pws pw = some P) (hB : s.batches b = some B) (hC : s.calls c = some C)
      (hg : Guard.Add cfg s pw b c i size P B C) :
      Step cfg s (.add pw b c i size)
        { s with fresh := none,
                 batches := upd s.batches b (some (B.push { msg := (c, i), size := size, seq := s.seq })),
                 calls := upd s.calls c (some { C with place := upd C.place i (some b) }),
                 seq := s.seq + 1 }
  | detach {pw b size : Nat} {why : Why} {P : PW} {B : Batch} (hP : s.pws pw = some P) (hB : s.batches b = some B)
      (hg : Guard.Detach cfg s b why size P B) :
      Step cfg s (.detach pw b why size)
        { s with pws := upd s.pws pw (some { P with curr := none, pending := some b }),
                 batches := upd s.batches b (some { B with detached := some why }) }
  | qput {q b pw : Nat} {acc : Bool} {P : PW} (hq : s.qOf q = some pw) (hP : s.pws pw = some P)
      (hg : Guard.Qput P b acc) :
      Step cfg s (.qput q b acc)
        { s with pws := upd s.pws pw (some { P with pending := none, queue := enq P.queue b acc }) }
  | qgetSome {q b pw : Nat} {P : PW} (hq : s.qOf q = some pw) (hP : s.pws pw = some P) (hg : Guard.QgetSome P b) :
      Step cfg s (.qget q (some b))
        { s with pws := upd s.pws pw (some { P with queue := P.queue.tail, sender := .ready b 0 }) }
  | qgetNone {q pw : Nat} {P : PW} (hq : s.qOf q = some pw) (hP : s.pws pw = some P) (hg : Guard.QgetNone P) :
      Step cfg s (.qget q none) { s with pws := upd s.pws pw (some { P with sender := .exited }) }
  | qclose {q pw : Nat} {P : PW} (hq : s.qOf q = some pw) (hP : s.pws pw = some P) (hg : Guard.Qclose s P) :
      Step cfg s (.qclose q) { s with pws := upd s.pws pw (some { P with qclosed := true }) }
  | timerFire {pw b : Nat} {att : Bool} {P : PW} {B : Batch} (hP : s.pws pw = some P) (hB : s.batches b = some B)
      (hg : Guard.TimerFire pw b att P B) :
      Step cfg s (.timerFire pw b att) { s with batches := upd s.batches b (some { B with timerFired := true }) }
  | attempt {pw b k : Nat} {P : PW} (hP : s.pws pw = some P) (hg : Guard.Attempt cfg P b k) :
      Step cfg s (.attempt pw b k) { s with pws := upd s.pws pw (some { P with sender := .attempting b k none }) }
  | produce {pw b k : Nat} {tp : TP} {msgs : List Msg} {out : BrOut} {P : PW} {B : Batch}
      (hP : s.pws pw = some P) (hsend : P.sender = .attempting b k none) (hB : s.batches b = some B)
      (hg : Guard.Produce pw tp msgs out P B) :
      Step cfg s (.produce pw tp msgs out) (produced s pw b k P B tp out)
  | attemptDone {pw b k : Nat} {code : Code} {br : Option BrOut} {P : PW}
      (hP : s.pws pw = some P) (hsend : P.sender = .attempting b k br) (hg : consistent br code = true) :
      Step cfg s (.attemptDone pw b k code)
        { s with pws := upd s.pws pw (some { P with sender := afterAttempt cfg b k code }) }
  | completion {pw b : Nat} {code : Code} {P : PW} {B : Batch} (hP : s.pws pw = some P) (hB : s.batches b = some B)
      (hg : Guard.Completion cfg P b code) :
      Step cfg s (.completion pw b code)
        { s with pws := upd s.pws pw (some { P with sender := .finishing b code true }),
                 batches := upd s.batches b (some { B with ncompl := B.ncompl + 1, cbCode := some code }) }
  | complete {pw b : Nat} {code : Code} {P : PW} {B : Batch} (hP : s.pws pw = some P) (hB : s.batches b = some B)
      (hg : P.sender = .finishing b code cfg.completion) :
      Step cfg s (.complete pw b code)
        { s with pws := upd s.pws pw (some { P with sender := .idle }),
                 batches := upd s.batches b (some { B with done := some code }) }
  | batched {c : Nat} {C : Call} (hC : s.calls c = some C) (hg : Guard.Batched cfg s c C) :
      Step cfg s (.batched c) { s with wlock := .free, calls := upd s.calls c (some { C with phase := .batched }) }
  | ret {c : Nat} {r : Result} {C : Call} (hC : s.calls c = some C) (hg : retOk cfg s C r) :
      Step cfg s (.ret c r)
        { s with calls := upd s.calls c (some { C with phase := .returned, result := some r, endSeq := some s.seq }),
                 inflight := s.inflight - 1 }
  | closeBegin (hg : s.wlock = .free) : Step cfg s .closeBegin { s with closed := true, wlock := .closer }
  | closeMarked {n : Nat} (hg : Guard.CloseMarked s) : Step cfg s (.closeMarked n) { s with wlock := .free }
  | closeReturn (hg : Guard.CloseReturn s) : Step cfg s .closeReturn { s with closeReturned := s.closeReturned + 1 }

namespace Step

theorem of_step {e : Event} (h : step cfg s e = some s') : Step cfg s e s' := by
  cases e with
  -- these branches are a bare `if`: `step cfg s e` unfolds to it by definition, the others look records up first
  | tick => obtain ⟨⟨h1, h2⟩, rfl⟩ := Option.ite_some_none_eq_some.mp h; exact .tick ⟨h1, h2⟩
  | empty | closeBegin => obtain ⟨hg, rfl⟩ := Option.ite_some_none_eq_some.mp h; constructor; exact hg
  | begin_ => obtain ⟨⟨h1, h2, h3⟩, rfl⟩ := Option.ite_some_none_eq_some.mp h; exact .begin_ ⟨h1, h2, h3⟩
  | newPW => obtain ⟨⟨h1, h2, h3, h4, h5⟩, rfl⟩ := Option.ite_some_none_eq_some.mp h; exact .newPW ⟨h1, h2, h3, h4, h5⟩
  | closeMarked => obtain ⟨⟨h1, h2⟩, rfl⟩ := Option.ite_some_none_eq_some.mp h; exact .closeMarked ⟨h1, h2⟩
  | closeReturn => obtain ⟨⟨h1, h2, h3, h4⟩, rfl⟩ := Option.ite_some_none_eq_some.mp h; exact .closeReturn ⟨h1, h2, h3, h4⟩
  | enter ok =>
    dsimp only [step] at h
    split at h
    · rename_i hg
      cases ok
      · cases h; exact .enterFalse ⟨hg.1, hg.2⟩
      · cases h; exact .enterTrue ⟨hg.1, hg.2⟩
    · cases h
  | reject c why i =>
    dsimp only [step, stepReject] at h
    split at h
    · cases h
    · cases why <;> (obtain ⟨hg, rfl⟩ := Option.ite_some_none_eq_some.mp h)
      · exact .rejectToolarge ‹_› ⟨hg.1, hg.2.1, hg.2.2⟩
      · exact .rejectTopic ‹_› ⟨hg.1, hg.2.1, hg.2.2.1, hg.2.2.2⟩
      · exact .rejectMetadata ‹_› ⟨hg.1, hg.2.1, hg.2.2.1, hg.2.2.2⟩
      · exact .rejectClosed ‹_› ⟨hg.1, hg.2.1, hg.2.2.1, hg.2.2.2⟩
  | assign =>
    dsimp only [step] at h
    split at h
    · cases h
    · obtain ⟨⟨h1, h2, h3, h4⟩, rfl⟩ := Option.ite_some_none_eq_some.mp h; exact .assign ‹_› ⟨h1, h2, h3, h4⟩
  | batch | newBatch | batched =>
    dsimp only [step] at h
    split at h
    · cases h
    · obtain ⟨⟨h1, h2, h3, h4, h5⟩, rfl⟩ := Option.ite_some_none_eq_some.mp h; constructor
      · assumption
      · exact ⟨h1, h2, h3, h4, h5⟩
  | attempt =>
    dsimp only [step] at h
    split at h
    · cases h
    · obtain ⟨⟨h1, h2⟩, rfl⟩ := Option.ite_some_none_eq_some.mp h; exact .attempt ‹_› ⟨h1, h2⟩
  | add pw b c i size =>
    dsimp only [step, stepAdd] at h
    split at h
    · cases h
    split at h
    · cases h
    split at h
    · cases h
    · obtain ⟨⟨h1, h2, h3, h4, h5, h6, h7, h8, h9, h10, h11, h12, h13, h14⟩, rfl⟩ := Option.ite_some_none_eq_some.mp h
      exact .add ‹_› ‹_› ‹_› ⟨h1, h2, h3, h4, h5, h6, h7, h8, h9, h10, h11, h12, h13, h14⟩
  | detach pw b why size =>
    dsimp only [step, stepDetach] at h
    split at h
    · cases h
    split at h
    · cases h
    · obtain ⟨⟨h1, h2, h3, h4, h5⟩, rfl⟩ := Option.ite_some_none_eq_some.mp h; exact .detach ‹_› ‹_› ⟨h1, h2, h3, h4, h5⟩
  | qput | timerFire =>
    dsimp only [step] at h
    split at h
    · cases h
    split at h
    · cases h
    · obtain ⟨⟨h1, h2, h3⟩, rfl⟩ := Option.ite_some_none_eq_some.mp h; constructor
      · assumption
      · assumption
      · exact ⟨h1, h2, h3⟩
  | qclose =>
    dsimp only [step] at h
    split at h
    · cases h
    split at h
    · cases h
    · obtain ⟨⟨h1, h2, h3, h4⟩, rfl⟩ := Option.ite_some_none_eq_some.mp h; exact .qclose ‹_› ‹_› ⟨h1, h2, h3, h4⟩
  | completion =>
    dsimp only [step] at h
    split at h
    · cases h
    split at h
    · cases h
    · obtain ⟨⟨h1, h2⟩, rfl⟩ := Option.ite_some_none_eq_some.mp h; exact .completion ‹_› ‹_› ⟨h1, h2⟩
  | complete =>
    dsimp only [step] at h
    split at h
    · cases h
    split at h
    · cases h
    · obtain ⟨hg, rfl⟩ := Option.ite_some_none_eq_some.mp h; exact .complete ‹_› ‹_› hg
  | qget q ob =>
    dsimp only [step] at h
    split at h
    · cases h
    split at h
    · cases h
    · cases ob <;> (obtain ⟨hg, rfl⟩ := Option.ite_some_none_eq_some.mp h)
      · exact .qgetNone ‹_› ‹_› ⟨hg.1, hg.2.1, hg.2.2⟩
      · exact .qgetSome ‹_› ‹_› ⟨hg.1, hg.2⟩
  | produce pw tp msgs out =>
    dsimp only [step, stepProduce] at h
    split at h
    · split at h
      · split at h
        · obtain ⟨⟨h1, h2, h3, h4, h5⟩, rfl⟩ := Option.ite_some_none_eq_some.mp h; exact .produce ‹_› ‹_› ‹_› ⟨h1, h2, h3, h4, h5⟩
        · cases h
      · cases h
    · cases h
  | attemptDone pw b k code =>
    dsimp only [step] at h
    split at h
    · cases h
    · split at h
      · obtain ⟨⟨rfl, rfl, hg⟩, rfl⟩ := Option.ite_some_none_eq_some.mp h; exact .attemptDone ‹_› ‹_› hg
      · cases h
  | ret c r =>
    dsimp only [step, stepRet] at h
    split at h
    · cases h
    · cases r with
      | rejected => cases h
      | closed => obtain ⟨hg, rfl⟩ := Option.ite_some_none_eq_some.mp h; exact .ret ‹_› hg
      | async | ctx => obtain ⟨⟨h1, h2⟩, rfl⟩ := Option.ite_some_none_eq_some.mp h; exact .ret ‹_› ⟨h1, h2⟩
      | ok => obtain ⟨⟨h1, h2, h3⟩, rfl⟩ := Option.ite_some_none_eq_some.mp h; exact .ret ‹_› ⟨h1, h2, h3⟩
      | werr => obtain ⟨⟨h1, h2, h3, h4, h5⟩, rfl⟩ := Option.ite_some_none_eq_some.mp h; exact .ret ‹_› ⟨h1, h2, h3, h4, h5⟩

theorem to_step {e : Event} (h : Step cfg s e s') : step cfg s e = some s' := by
  -- `cases`, where the invariants use rule induction: the goal mentions `e` and `s'`, and unfolding `step` under the
  -- motive of the recursor is slow to check
  cases h with
  | tick hg => exact if_pos ⟨hg.now, hg.due⟩
  | empty hg | closeBegin hg => exact if_pos hg
  | begin_ hg => exact if_pos ⟨hg.entered, hg.free, hg.nonempty⟩
  | newPW hg => exact if_pos ⟨hg.lock, hg.notClosed, hg.tpFree, hg.pwFree, hg.qFree⟩
  | closeMarked hg => exact if_pos ⟨hg.lock, hg.marked⟩
  | closeReturn hg => exact if_pos ⟨hg.closed, hg.inflight, hg.entered, hg.exited⟩
  | enterTrue hg | enterFalse hg => dsimp only [step]; rw [if_pos ⟨hg.lock, hg.flag⟩]; rfl
  | rejectToolarge hC hg => dsimp only [step, stepReject]; rw [hC]; exact if_pos ⟨hg.phase, hg.before, hg.big⟩
  | rejectTopic hC hg | rejectMetadata hC hg =>
    dsimp only [step, stepReject]; rw [hC]; exact if_pos ⟨hg.phase, hg.len, hg.fit, hg.msg⟩
  | rejectClosed hC hg => dsimp only [step, stepReject]; rw [hC]; exact if_pos ⟨hg.lock, hg.closed, hg.phase, hg.len⟩
  | assign hC hg => dsimp only [step]; rw [hC]; exact if_pos ⟨hg.phase, hg.len, hg.fit, hg.msg⟩
  | batch hC hg => dsimp only [step]; rw [hC]; exact if_pos ⟨hg.lock, hg.notClosed, hg.phase, hg.len, hg.fit⟩
  | batched hC hg => dsimp only [step]; rw [hC]; exact if_pos ⟨hg.lock, hg.phase, hg.placed, hg.noFull, hg.fresh⟩
  | newBatch hP hg => dsimp only [step]; rw [hP]; exact if_pos ⟨hg.lock, hg.curr, hg.pending, hg.free, hg.fresh⟩
  | attempt hP hg => dsimp only [step]; rw [hP]; exact if_pos ⟨hg.ready, hg.bound⟩
  | add hP hB hC hg =>
    dsimp only [step, stepAdd]; rw [hP, hB, hC]
    exact if_pos ⟨hg.lock, hg.curr, hg.pending, hg.owner, hg.sameTp, hg.detached, hg.full, hg.nofit, hg.phase, hg.assign,
      hg.place, hg.msgSize, hg.before, hg.fresh⟩
  | detach hP hB hg =>
    dsimp only [step, stepDetach]; rw [hP, hB]; exact if_pos ⟨hg.curr, hg.pending, hg.detached, hg.reason, hg.fresh⟩
  | qput hq hP hg => dsimp only [step]; rw [hq]; dsimp only; rw [hP]; exact if_pos ⟨hg.pending, hg.curr, hg.accepted⟩
  | qgetSome hq hP hg => dsimp only [step]; rw [hq]; dsimp only; rw [hP]; exact if_pos ⟨hg.idle, hg.head⟩
  | qgetNone hq hP hg => dsimp only [step]; rw [hq]; dsimp only; rw [hP]; exact if_pos ⟨hg.idle, hg.empty, hg.qclosed⟩
  | qclose hq hP hg =>
    dsimp only [step]; rw [hq]; dsimp only; rw [hP]; exact if_pos ⟨hg.closed, hg.lock, hg.curr, hg.pending⟩
  | timerFire hP hB hg => dsimp only [step]; rw [hP, hB]; exact if_pos ⟨hg.pending, hg.owner, hg.attached⟩
  | completion hP hB hg => dsimp only [step]; rw [hP, hB]; exact if_pos ⟨hg.on, hg.sender⟩
  | complete hP hB hg => dsimp only [step]; rw [hP, hB]; exact if_pos hg
  | produce hP hsend hB hg =>
    dsimp only [step, stepProduce]; rw [hP]; dsimp only; rw [hsend]; dsimp only; rw [hB]
    exact if_pos ⟨hg.owner, hg.batchTp, hg.pwTp, hg.carries, hg.decided⟩
  | attemptDone hP hsend hg => dsimp only [step]; rw [hP]; dsimp only; rw [hsend]; exact if_pos ⟨rfl, rfl, hg⟩
  | @ret c r C hC hg =>
    dsimp only [step, stepRet]; rw [hC]
    cases r with
    | rejected => exact hg.elim
    | closed => exact if_pos hg
    | async | ctx => obtain ⟨h1, h2⟩ : Guard.RetPlain cfg C _ := hg; exact if_pos ⟨h1, h2⟩
    | ok => obtain ⟨h1, h2, h3⟩ : Guard.RetNil cfg s C := hg; exact if_pos ⟨h1, h2, h3⟩
    | werr => obtain ⟨h1, h2, h3, h4, h5⟩ : Guard.RetWerr cfg s C _ := hg; exact if_pos ⟨h1, h2, h3, h4, h5⟩

theorem enabled {e : Event} (h : Step cfg s e s') : (step cfg s e).isSome = true := by rw [h.to_step]; rfl

end Step

theorem ret_enabled_of_done {c : Nat} {C : Call} (hC : s.calls c = some C) (hph : C.phase = .batched)
    (hsync : cfg.async = false) (hdone : ∀ i, i < C.msgs.length → ∃ code, batchDone s (C.place i) = some code) :
    ∃ r, (step cfg s (.ret c r)).isSome = true ∧ (r = .ok ∨ ∃ codes, r = .werr codes ∧ codes.length = C.msgs.length) := by
  by_cases hall : (List.range C.msgs.length).all (fun i => batchDone s (C.place i) == some 0) = true
  · exact ⟨.ok, (Step.ret (r := .ok) hC ⟨hsync, hph, hall⟩).enabled, .inl rfl⟩
  · let codes : List Code := (List.range C.msgs.length).map (fun i => (batchDone s (C.place i)).getD 0)
    have hlen : codes.length = C.msgs.length := by simp only [codes, List.length_map, List.length_range]
    have hget : ∀ i, i < C.msgs.length → codes[i]? = batchDone s (C.place i) := by
      intro i hi
      obtain ⟨code, hc⟩ := hdone i hi
      simp only [codes, List.getElem?_map, List.getElem?_range hi, Option.map_some, hc, Option.getD_some]
    have h1 : (List.range C.msgs.length).all (fun i => batchDone s (C.place i) == codes[i]?) = true :=
      List.all_eq_true.mpr fun i hi => by rw [hget i (List.mem_range.mp hi)]; exact beq_self_eq_true _
    -- some result is not nil, and it is an entry of `codes`
    have h2 : codes.any (· != 0) = true := by
      obtain ⟨i, hmem, hne⟩ := List.all_eq_false.mp (Bool.eq_false_iff.mpr hall)
      have hi' := List.mem_range.mp hmem
      obtain ⟨code, hc⟩ := hdone i hi'
      rw [List.any_eq_true]
      refine ⟨code, List.mem_of_getElem? ((hget i hi').trans hc), ?_⟩
      rw [hc] at hne
      show (!(code == 0)) = true
      cases h : code == 0 with
      | false => rfl
      | true => exact absurd (by rw [eq_of_beq h]; exact beq_self_eq_true _) hne
    exact ⟨.werr codes, (Step.ret (r := .werr codes) hC ⟨hsync, hph, hlen, h1, h2⟩).enabled, .inr ⟨codes, rfl, hlen⟩⟩

/-- induction over reachable states along `Step`; the step case may use that the state before the step is reachable,
hence every invariant established earlier -/
theorem Reachable.step_induction {I : State → Prop} (h0 : I State.init)
    (hstep : ∀ s e s', Reachable cfg s → I s → Step cfg s e s' → I s') : ∀ s, Reachable cfg s → I s := fun s hr =>
  (invariant_of_step cfg (fun s => Reachable cfg s ∧ I s) ⟨.init cfg, h0⟩
    (fun s e s' h hs => ⟨h.1.step hs, hstep s e s' h.1 h.2 (.of_step hs)⟩) s hr).2

end KV.Writer
