/-
Lemmas/CodecRT.lean — the round-trip statement `RT` (the decoder `Reads` the encoding and returns the normalised value).
`flexStruct_reads` says what the decoder does with a tag buffer of ANY count whose loop is known to read what follows; `rt_struct`
needs count 0 only, Props/C04 the general form.
-/
import KafkaVerif.Lemmas.CodecPrim

namespace KV.Codec
open KV KV.Wire

/-- decoding what was encoded returns the normalised value, consumes exactly the encoding and leaves the
rest of the stream and of the frame untouched — for either decoder configuration.  `cfg.recs = none`: a plugged-in record-set
reader need not invert the encoder (used by `rt_records` only); `t.wf`: used by `rt_array` and `rt_struct` -/
def RT (cfg : Cfg) (t : Ty) : Prop :=
  cfg.recs = none → t.wf = true → ∀ v, wt t v = true → ∀ (r : Bytes) (rem : Nat), (encode t v).length ≤ rem →
    decode cfg t ⟨encode t v ++ r, rem⟩ = .ok (norm t v) ⟨r, rem - (encode t v).length⟩

theorem RT.reads {cfg : Cfg} {t : Ty} (h : RT cfg t) (hrec : cfg.recs = none) (hwf : t.wf = true) {v : Val} (hv : wt t v = true) :
    Reads (decode cfg t) (encode t v) (norm t v) := h hrec hwf v hv

theorem rt_bool (cfg : Cfg) : RT cfg .bool := by
  intro _ _ v hv r rem hr
  obtain ⟨b, rfl⟩ := wt_bool hv
  simp only [encode, decode, norm] at hr ⊢
  rw [readN_reads 1 _ (by simp [encBool]) r rem hr]
  cases b <;> simp [Res.bind, encBool, fromBE]

section
variable {t : Ty} {k : Nat} (h : IntTy t k)
include h

theorem rt_int (cfg : Cfg) : RT cfg t := by
  intro _ _ v hv
  obtain ⟨i, rfl, hi⟩ := wt_int h hv
  have hnorm : norm t (.int i) = .int i := by cases h <;> simp only [norm]
  show Reads _ _ _
  rw [h.encode, hnorm, show decode cfg t = _ from funext (h.decode cfg)]
  exact (readInt_reads k h.pos i hi).map Val.int

end

theorem rt_float64 (cfg : Cfg) : RT cfg .float64 := by
  -- float64 is carried as its bit pattern, an UNSIGNED 64-bit number: `readInt`'s signed read-back does not apply
  intro _ _ v hv r rem hr
  obtain ⟨i, rfl, hi⟩ := wt_float64 hv
  simp only [encode, decode, norm] at hr ⊢
  rw [readN_reads 8 _ (encInt_length 8 i) r rem hr, Res.bind_ok]
  have h1 : toU (8 * 8) i = i.toNat := by
    unfold toU
    have : i % ((2 ^ (8 * 8) : Nat) : Int) = i := Int.emod_eq_of_lt hi.1 hi.2
    rw [this]
  have h2 : i.toNat < 256 ^ 8 := by
    have : (256 : Nat) ^ 8 = 2 ^ 64 := by decide
    omega
  have h3 : ((i.toNat : Nat) : Int) = i := by omega
  rw [encInt, fromBE_be, h1, Nat.mod_eq_of_lt h2, h3]

theorem rt_string (cfg : Cfg) (c n : Bool) : RT cfg (.string c n) := by
  intro _ _ v hv
  obtain ⟨s, rfl, hs, hsc⟩ := wt_string hv
  show Reads _ _ _
  simp only [encode, norm, encString_eq, decode_string]
  by_cases hnull : (n && s.isEmpty) = true
  · obtain rfl := List.isEmpty_iff.1 (Bool.and_eq_true_iff.1 hnull).2
    rw [if_pos hnull, List.append_nil]
    exact decLen_null_reads cfg c 2 (by decide) _
  · rw [if_neg hnull]
    exact decLen_some_reads cfg c 2 (by decide) _ (by omega) hsc ((readLen_reads cfg s).map Val.str)

/-- what is written for a byte sequence / array `o`: the null marker (`o` is nil and the field nullable), or else the length of
`o.getD []` — a nil value of a non-nullable field is written, and read back, as empty -/
theorem null_or_length {α : Type} (n : Bool) (o : Option (List α)) :
    (o = none ∧ n = true) ∨ (if n then o.map List.length else some (o.getD []).length) = some (o.getD []).length := by
  cases o <;> cases n <;> simp

theorem rt_bytes (cfg : Cfg) (c n : Bool) : RT cfg (.bytes c n) := by
  intro _ _ v hv
  obtain ⟨b, rfl, hb⟩ := wt_bytes hv
  show Reads _ _ _
  rw [encode, encBytes_eq, decode_bytes]
  rcases null_or_length n b with ⟨rfl, rfl⟩ | hlen
  · simp only [if_true, Option.map_none, Option.getD_none, List.append_nil, norm]
    exact decLen_null_reads cfg c 4 (by decide) _
  · have hnorm : norm (.bytes c n) (.bytes b) = .bytes (some (b.getD [])) := by
      cases b <;> cases n <;> simp_all [norm]
    rw [hlen, hnorm]
    exact decLen_some_reads cfg c 4 (by decide) _ (by omega) (fun _ => by omega)
      ((readLen_reads cfg _).map fun bs => Val.bytes (some bs))

theorem rt_records (cfg : Cfg) : RT cfg .records := by
  intro hrec _ v hv
  obtain ⟨s, rfl, hs⟩ := wt_records hv
  have hin := inRange_natCast 4 _ hs.2
  have hd : decode cfg .records = fun d => (readInt 4 d).bind fun n d =>
      if n ≤ 0 then .ok (.records none) d else (readLen cfg n d).bind fun bs d => .ok (.records (some bs)) d := by
    funext d; simp only [decode, hrec]
  have h0 : ¬ ((s.length : Int) ≤ 0) := by omega
  show Reads _ _ _
  simp only [encode, norm, hd]
  refine (readInt_reads 4 (by decide) _ hin).bind ?_
  simp only [h0, if_false]
  exact (readLen_reads cfg s).map fun bs => Val.records (some bs)

def PW (t : Ty) : Prop := posWidth t = true → ∀ v, wt t v = true → 0 < (encode t v).length

theorem pw_bool : PW .bool := fun _ v hv => by
  obtain ⟨b, rfl⟩ := wt_bool hv; simp [encode, encBool]

theorem pw_int {t : Ty} {k : Nat} (h : IntTy t k) : PW t := fun _ v hv => by
  obtain ⟨i, rfl, _⟩ := wt_int h hv
  rw [h.encode, encInt_length]; exact h.pos

theorem pw_float64 : PW .float64 := fun _ v hv => by
  obtain ⟨i, rfl, _⟩ := wt_float64 hv; simp [encode, encInt_length]

theorem pw_string (c n : Bool) : PW (.string c n) := fun _ v hv => by
  obtain ⟨s, rfl, _⟩ := wt_string hv
  have := encLen_pos c 2 (by decide)
  simp only [encode, encString_eq, List.length_append]
  exact Nat.lt_of_lt_of_le (this _) (Nat.le_add_right ..)

theorem pw_bytes (c n : Bool) : PW (.bytes c n) := fun _ v hv => by
  obtain ⟨b, rfl, _⟩ := wt_bytes hv
  have := encLen_pos c 4 (by decide)
  simp only [encode, encBytes_eq, List.length_append]
  exact Nat.lt_of_lt_of_le (this _) (Nat.le_add_right ..)

theorem pw_array (c n : Bool) (t : Ty) : PW (.array c n t) := fun _ v hv => by
  obtain ⟨a, rfl, _⟩ := wt_array hv
  have := encLen_pos c 4 (by decide)
  simp only [encode, encArrayLen_eq, List.length_append]
  exact Nat.lt_of_lt_of_le (this _) (Nat.le_add_right ..)

theorem pw_records : PW .records := fun _ v hv => by
  obtain ⟨s, rfl, _⟩ := wt_records hv
  simp only [encode, List.length_append, encInt_length]
  exact Nat.lt_of_lt_of_le (by decide) (Nat.le_add_right ..)

theorem pw_unit (flex : Bool) : PW (.unit flex) := fun hp v _ => by
  simp only [posWidth] at hp
  subst hp
  simp only [encode, if_true]
  exact uvarint_length_pos 0

theorem encodeFields_pos : ∀ (fs : List Ty), (∀ t ∈ fs, PW t) → posWidthAny fs = true →
    ∀ vs, wtFields fs vs = true → 0 < (encodeFields fs vs).length
  | [], _, hp, _, _ => by simp [posWidthAny] at hp
  | t :: ts, hpw, hp, vs, hv => by
    cases vs with
    | nil => simp [wtFields] at hv
    | cons v vs =>
      simp only [wtFields, Bool.and_eq_true] at hv
      simp only [posWidthAny, Bool.or_eq_true, Bool.and_eq_true, Bool.not_eq_true'] at hp
      simp only [encodeFields, List.length_append]
      rcases hp with ⟨hz, hp⟩ | hp
      · have := hpw t (by simp) hp v hv.1
        simp [hz]; omega
      · have := encodeFields_pos ts (fun t' h => hpw t' (by simp [h])) hp vs hv.2
        omega

theorem pw_struct (flex : Bool) (fs : List Ty) (ids : List Int) (ts : List Ty) (hfs : ∀ t ∈ fs, PW t) :
    PW (.struct flex fs ids ts) := fun hp v hv => by
  obtain ⟨vs, tvs, rfl, hvs, _⟩ := wt_struct hv
  simp only [posWidth, Bool.or_eq_true] at hp
  simp only [encode, List.length_append]
  rcases hp with hf | hp
  · subst hf
    have := uvarint_length_pos (countTagged ts)
    simp; omega
  · have := encodeFields_pos fs hfs hp vs hvs
    omega

theorem elems_length_le (t : Ty) (hpw : PW t) (hp : posWidth t = true) :
    ∀ vs, wtElems t vs = true → vs.length ≤ (encodeElems t vs).length
  | [], _ => by simp
  | v :: vs, hv => by
    simp only [wtElems, Bool.and_eq_true] at hv
    have := hpw hp v hv.1
    have := elems_length_le t hpw hp vs hv.2
    simp only [encodeElems, List.length_append, List.length_cons]
    omega

/-- one more element, of at least one byte (so the frame is not exhausted) -/
theorem decodeElems_reads_succ {f : Dec → Res Val} {z : Val} {n : Nat} {bs cs : Bytes} {v : Val} {vs : List Val}
    (hpos : 0 < bs.length) (hf : Reads f bs v) (hrest : Reads (decodeElems f z n) cs vs) :
    Reads (decodeElems f z (n + 1)) (bs ++ cs) (v :: vs) := by
  refine (Reads.bind (g := fun v d => (decodeElems f z n d).bind fun vs d => .ok (v :: vs) d) hf (hrest.map _)).pass
    fun r rem hr => ?_
  rw [List.length_append] at hr
  rw [decodeElems, if_neg (by simp only []; omega)]

theorem elems_reads (cfg : Cfg) (hrec : cfg.recs = none) (t : Ty) (ht : RT cfg t) (hpw : PW t) (hwf : t.wf = true)
    (hp : posWidth t = true) :
    ∀ vs, wtElems t vs = true → Reads (decodeElems (decode cfg t) (zero t) vs.length) (encodeElems t vs) (normElems t vs)
  | [], _ => fun r rem _ => by simp [decodeElems, encodeElems, normElems]
  | v :: vs, hv => by
    simp only [wtElems, Bool.and_eq_true] at hv
    rw [encodeElems, normElems]
    exact decodeElems_reads_succ (hpw hp v hv.1) (ht.reads hrec hwf hv.1) (elems_reads cfg hrec t ht hpw hwf hp vs hv.2)

theorem rt_array (cfg : Cfg) (c n : Bool) (t : Ty) (ht : RT cfg t) (hpw : PW t) : RT cfg (.array c n t) := by
  intro hrec hwf v hv
  obtain ⟨hp, hwft⟩ := wf_array hwf
  obtain ⟨a, rfl, ha⟩ := wt_array hv
  show Reads _ _ _
  rw [encode, encArrayLen_eq, decode_array]
  rcases null_or_length n a with ⟨rfl, rfl⟩ | hlen
  · simp only [if_true, Option.map_none, Option.getD_none, encodeElems, List.append_nil, norm]
    exact decLen_null_reads cfg c 4 (by decide) _
  · have hnorm : norm (.array c n t) (.arr a) = .arr (some (normElems t (a.getD []))) := by
      cases a <;> cases n <;> simp_all [norm]
    rw [hlen, hnorm]
    generalize a.getD [] = vs at ha
    -- the count is at most the bytes that follow: the allocation is granted
    exact decLen_some_reads cfg c 4 (by decide) _ (by omega) (fun _ => by omega)
      (allocElems_reads cfg (elems_length_le t hpw hp vs ha.2) ((elems_reads cfg hrec t ht hpw hwft hp vs ha.2).map _))

theorem rt_unit (cfg : Cfg) (flex : Bool) : RT cfg (.unit flex) := by
  intro _ _ v hv r rem hr
  obtain rfl := wt_unit hv
  cases flex
  · simp [encode, decode, norm]
  · simp only [encode, if_true, norm] at hr ⊢
    simp only [decode, if_true]
    rw [readUvarint_reads 0 (by decide) r rem hr]
    have hl : lenOfU cfg 0 = 0 := lenOfU_small cfg 0 (by decide)
    simp [Res.bind, tagCount, hl, taggedLoop]

theorem marker_zeroSize (t : Ty) (h : isMarker t = true) : t.zeroSize = true := by
  cases t <;> simp [isMarker] at h; simp [Ty.zeroSize]

theorem countTagged_markers : ∀ ts : List Ty, ts.all isMarker = true → countTagged ts = 0
  | [], _ => rfl
  | t :: ts, h => by
    simp only [List.all_cons, Bool.and_eq_true] at h
    simp [countTagged, marker_zeroSize t h.1, countTagged_markers ts h.2]

theorem encodeTagged_markers : ∀ (ids : List Int) (ts : List Ty) (tvs : List Val), ts.all isMarker = true →
    encodeTagged ids ts tvs = []
  | [], _, _, _ => by simp [encodeTagged]
  | _ :: _, [], _, _ => by simp [encodeTagged]
  | _ :: _, _ :: _, [], _ => by simp [encodeTagged]
  | i :: is, t :: ts, v :: vs, h => by
    simp only [List.all_cons, Bool.and_eq_true] at h
    simp [encodeTagged, marker_zeroSize t h.1, encodeTagged_markers is ts vs h.2]

theorem normFields_markers : ∀ (ts : List Ty) (tvs : List Val), ts.all isMarker = true → wtFields ts tvs = true →
    normFields ts tvs = zeros ts
  | [], [], _, _ => by simp [normFields, zeros]
  | [], _ :: _, _, h => by simp [wtFields] at h
  | _ :: _, [], _, h => by simp [wtFields] at h
  | t :: ts, v :: vs, hm, h => by
    simp only [List.all_cons, Bool.and_eq_true] at hm
    simp only [wtFields, Bool.and_eq_true] at h
    obtain ⟨hm1, hm2⟩ := hm
    have ih := normFields_markers ts vs hm2 h.2
    cases t <;> simp [isMarker] at hm1
    obtain rfl := wt_unit h.1
    simp [normFields, zeros, zero, norm, ih]

/-- a zero-size regular field is `unit false` (`regularOk`), which encodes to nothing: skipping it is encoding it -/
theorem regular_encode (t : Ty) (v : Val) (h : regularOk t = true) :
    (if t.zeroSize then [] else encode t v) = encode t v := by
  cases t <;> simp [Ty.zeroSize]
  simp only [regularOk, Bool.not_eq_true'] at h
  subst h
  simp [encode]

theorem decodeFields_cons (cfg : Cfg) (t : Ty) (ts : List Ty) : decodeFields cfg (t :: ts) = fun d =>
    (decode cfg t d).bind fun v d => (decodeFields cfg ts d).bind fun vs d => .ok (v :: vs) d := by
  funext d; rw [decodeFields]

theorem fields_reads (cfg : Cfg) (hrec : cfg.recs = none) : ∀ (fs : List Ty), (∀ t ∈ fs, RT cfg t) → wfList fs = true →
    fs.all regularOk = true → ∀ vs, wtFields fs vs = true → Reads (decodeFields cfg fs) (encodeFields fs vs) (normFields fs vs)
  | [], _, _, _, [], _ => fun r rem _ => by simp [decodeFields, encodeFields, normFields]
  | [], _, _, _, _ :: _, hv => by simp [wtFields] at hv
  | _ :: _, _, _, _, [], hv => by simp [wtFields] at hv
  | t :: ts, hrt, hwf, hreg, v :: vs, hv => by
    simp only [wtFields, Bool.and_eq_true] at hv
    simp only [wfList, Bool.and_eq_true] at hwf
    simp only [List.all_cons, Bool.and_eq_true] at hreg
    rw [encodeFields, regular_encode t v hreg.1, normFields, decodeFields_cons]
    exact ((hrt t (List.mem_cons_self ..)).reads hrec hwf.1 hv.1).bind
      ((fields_reads cfg hrec ts (fun t' h => hrt t' (List.mem_cons_of_mem _ h)) hwf.2 hreg.2 vs hv.2).map _)

/-- the bounded decoder wants the announced count of tagged fields covered by the bytes left -/
theorem tagCount_reads (cfg : Cfg) {body : Nat → Dec → Res Val} {n : Nat} {bs : Bytes} {v : Val} (hn : n < 2 ^ 31)
    (hle : n ≤ bs.length) (h : Reads (body n) bs v) : Reads (fun d => (tagCount cfg n d).bind body) bs v :=
  h.pass fun r rem hr => by
    have h0 : ¬ ((n : Int) < 0) := by omega
    have h1 : ¬ (cfg.bounded = true ∧ n > rem) := fun h => by omega
    simp only [tagCount, lenOfU_small cfg n hn, h0, if_false, Int.toNat_natCast, h1, Res.bind_ok]

theorem decode_struct_flex (cfg : Cfg) (fs : List Ty) (ids : List Int) (ts : List Ty) :
    decode cfg (.struct true fs ids ts) = fun d =>
      (decodeFields cfg fs d).bind fun vs d => (readUvarint d).bind fun n d => (tagCount cfg n d).bind fun k d =>
        (taggedLoop cfg (tagLookup cfg ids ts 0) k (zeros ts) d).bind fun tvs d => .ok (.struct vs tvs) d := by
  funext d; simp only [decode, if_true]

theorem flexStruct_reads (cfg : Cfg) (hrec : cfg.recs = none) (fs : List Ty) (ids : List Int) (ts : List Ty)
    (hfs : ∀ t ∈ fs, RT cfg t) (hwfl : wfList fs = true) (hreg : fs.all regularOk = true) (vs : List Val)
    (hv : wtFields fs vs = true) (n : Nat) (hn : n < 2 ^ 31) (tail : Bytes) (tvs : List Val) (hle : n ≤ tail.length)
    (hloop : Reads (taggedLoop cfg (tagLookup cfg ids ts 0) n (zeros ts)) tail tvs) :
    Reads (decode cfg (.struct true fs ids ts)) (encodeFields fs vs ++ (uvarint n ++ tail)) (.struct (normFields fs vs) tvs) := by
  rw [decode_struct_flex]
  exact (fields_reads cfg hrec fs hfs hwfl hreg vs hv).bind
    ((readUvarint_reads n (by omega)).bind (tagCount_reads cfg hn hle (hloop.map _)))

theorem rt_struct (cfg : Cfg) (flex : Bool) (fs : List Ty) (ids : List Int) (ts : List Ty)
    (hfs : ∀ t ∈ fs, RT cfg t) : RT cfg (.struct flex fs ids ts) := by
  intro hrec hwf v hv
  obtain ⟨hwfl, hreg, hmark⟩ := wf_struct hwf
  obtain ⟨vs, tvs, rfl, hw⟩ := wt_struct hv
  show Reads _ _ _
  simp only [encode, norm, countTagged_markers ts hmark, encodeTagged_markers ids ts tvs hmark, List.append_nil,
    normFields_markers ts tvs hmark hw.2]
  cases flex
  · have : decode cfg (.struct false fs ids ts) = fun d => (decodeFields cfg fs d).bind fun vs d => .ok (.struct vs (zeros ts)) d := by
      funext d; simp only [decode, Bool.false_eq_true, if_false]
    rw [this, if_neg Bool.false_ne_true, List.append_nil]
    exact (fields_reads cfg hrec fs hfs hwfl hreg vs hw.1).map _
  · simpa only [if_true, List.append_nil] using
      flexStruct_reads cfg hrec fs ids ts hfs hwfl hreg vs hw.1 0 (by decide) [] _ (Nat.zero_le _) (Reads.nil _)

theorem tagLookup_none (cfg : Cfg) : ∀ (ids : List Int) (ts : List Ty) (k : Nat) (id : Int),
    (∀ i ∈ ids, i ≠ id) → tagLookup cfg ids ts k id = none
  | [], _, _, _, _ => by simp [tagLookup]
  | _ :: _, [], _, _, _ => by simp [tagLookup]
  | i :: is, t :: ts, k, id, h => by
    have h1 : i ≠ id := h i (by simp)
    have h2 := tagLookup_none cfg is ts (k + 1) id (fun j hj => h j (by simp [hj]))
    simp [tagLookup, h2, h1]

theorem set_append_mid {α : Type} : ∀ (a : List α) (z v : α) (b : List α), (a ++ z :: b).set a.length v = a ++ v :: b
  | [], _, _, _ => rfl
  | x :: a, z, v, b => by simp [set_append_mid a z v b]

theorem taggedLoop_succ (cfg : Cfg) (lookup : Int → Option (Nat × (Dec → Res Val))) (n : Nat) (slots : List Val) :
    taggedLoop cfg lookup (n + 1) slots = fun d =>
      (readUvarint d).bind fun tagID d => (readUvarint d).bind fun size d =>
      match lookup (toI64 tagID) with
      | some (idx, dec) => (dec d).bind fun v d => taggedLoop cfg lookup n (slots.set idx v) d
      | none => (readLen cfg (lenOfU cfg size) d).bind fun _ d => taggedLoop cfg lookup n slots d := by
  funext d; rw [taggedLoop]; rfl

theorem pw_all : ∀ t, PW t :=
  Ty.ind (bool := pw_bool) (int := pw_int) (float64 := pw_float64) (string := pw_string) (bytes := pw_bytes)
    (array := fun c n t _ => pw_array c n t) (struct := fun flex fs ids ts hfs _ => pw_struct flex fs ids ts hfs)
    (unit := pw_unit) (records := pw_records)

theorem rt_all (cfg : Cfg) : ∀ t, RT cfg t :=
  Ty.ind (bool := rt_bool cfg) (int := fun h => rt_int h cfg) (float64 := rt_float64 cfg) (string := rt_string cfg)
    (bytes := rt_bytes cfg) (array := fun c n t ht => rt_array cfg c n t ht (pw_all t))
    (struct := fun flex fs ids ts hfs _ => rt_struct cfg flex fs ids ts hfs) (unit := rt_unit cfg) (records := rt_records cfg)

theorem sizePrefix_fromBE (body : Bytes) (h : (be 4 body.length ++ body).length - 4 < 2 ^ 31) :
    fromBE ((be 4 body.length ++ body).take 4) = (be 4 body.length ++ body).length - 4 := by
  rw [List.take_left' (be_length 4 _), fromBE_be]
  simp only [List.length_append, be_length] at h ⊢
  omega

theorem sizePrefix_read {α : Type} (body rest : Bytes) (hb : body.length < 2 ^ 31) (k : Int → Dec → Res α) :
    (readInt 4 ⟨(be 4 body.length ++ body) ++ rest, 4⟩).bind k = k body.length ⟨body ++ rest, 0⟩ := by
  have hin := inRange_natCast 4 _ hb
  rw [List.append_assoc, be_eq_encInt 4 _ (by omega)]
  exact (readInt_reads 4 (by decide) _ hin).run_add _ 0 k

theorem headerTags_empty (cfg : Cfg) (flex : Bool) (r : Bytes) (rem : Nat)
    (hr : (if flex then uvarint 0 else []).length ≤ rem) :
    (if flex then
        (readUvarint ⟨(if flex then uvarint 0 else []) ++ r, rem⟩).bind fun n d =>
          (tagCount cfg n d).bind fun k d => skipHeaderTags cfg k d
      else .ok () ⟨(if flex then uvarint 0 else []) ++ r, rem⟩) =
      .ok () ⟨r, rem - (if flex then uvarint 0 else []).length⟩ := by
  cases flex
  · rfl
  · simp only [if_true] at hr ⊢
    rw [readUvarint_reads 0 (by decide) r rem hr]
    simp only [Res.bind, tagCount, lenOfU_small cfg 0 (by decide)]
    simp [skipHeaderTags]

/-- what `ReadResponse` / `ReadRequest` do once the fixed header is read: tag buffer, body, `discardAll` — on a frame that
holds exactly the encoding -/
theorem frameBody_decode {β : Type} (cfg : Cfg) (hrec : cfg.recs = none) (flex : Bool) (t : Ty) (v : Val)
    (hwf : t.wf = true) (hwt : wt t v = true) (rest : Bytes) (k : Val → Dec → Res β) (d : Dec)
    (hd : d = ⟨(if flex then uvarint 0 else []) ++ (encode t v ++ rest),
      (if flex then uvarint 0 else []).length + (encode t v).length⟩) :
    ((if flex then (readUvarint d).bind fun n d => (tagCount cfg n d).bind fun k d => skipHeaderTags cfg k d
        else .ok () d).bind fun _ d =>
      (decode cfg t d).bind fun v d => (discardAll d).bind fun _ d => k v d) = k (norm t v) ⟨rest, 0⟩ := by
  subst hd
  rw [headerTags_empty cfg flex _ _ (Nat.le_add_right ..), Nat.add_sub_cancel_left, Res.bind_ok,
    rt_all cfg t hrec hwf v hwt rest _ (Nat.le_refl _), Res.bind_ok]
  simp [discardAll, Res.bind_ok]

end KV.Codec
