/-
Lemmas/WriterLife.lean — the life cycle of a batch (C01 `completion_once`, `copies_bounded`, `no_copy_before_sending`, the
"nil iff acknowledged" half of `batch_outcome_exact`; C08 `no_batch_dropped`, `queued_when_full_or_timer`, `produce_nonempty`).

A batch is attached to its partition writer (`curr`), then detached (`pending`), queued, held by the sender goroutine
at some position of writeBatch's retry loop, and finally completed.  `PW.stage P b` reads that stage off the partition
writer's record; `Life cfg st B` says what the stage means for the batch's own record (`detached`, `done`, the ghost
`acked` / `napplied`, the Completion account).  `InvLife`: every batch record agrees with its stage.  Each event moves at
most one batch to its next stage and rewrites its record accordingly (`InvLife.of_move`); the readings are by cases on
the stage.
-/
import KafkaVerif.Lemmas.WriterOrder
import KafkaVerif.Lemmas.WriterPW

namespace KV.Writer

variable {cfg : Cfg} {s s' : State}

/-- where a batch is in the pipeline of its partition writer -/
inductive Stage
  | attached | pending | queued | held (σ : Sender) | gone

def PW.stage (P : PW) (b : Nat) : Stage :=
  if P.sender.batch? = some b then .held P.sender
  else if b ∈ P.queue then .queued
  else if P.pending = some b then .pending
  else if P.curr = some b then .attached
  else .gone

/-- inside the retry loop of writeBatch: `attempt` is what the sender's position says of the attempt number, the broker's
answer so far is `a`, at most `n` attempts were applied, Completion was not called -/
structure InLoop (bound : Prop) (a : Bool) (n : Nat) (B : Batch) : Prop where
  attempt : bound
  acked : B.acked = a
  napplied : B.napplied ≤ n
  ncompl : B.ncompl = 0

/-- the retry loop was left with `code`: nil iff acknowledged, at most MaxAttempts attempts were applied, Completion was
called (`cb`) once, with `code`, or not at all -/
structure Finished (cfg : Cfg) (code : Code) (cb : Bool) (B : Batch) : Prop where
  acked : B.acked = true ↔ code = 0
  napplied : B.napplied ≤ cfg.maxAttempts
  compl : if cb then B.ncompl = 1 ∧ B.cbCode = some code else B.ncompl = 0

/-- not yet with the sender: not completed, nothing attempted -/
structure Untried (B : Batch) : Prop where
  done : B.done = none
  acked : B.acked = false
  napplied : B.napplied = 0
  ncompl : B.ncompl = 0

/-- what the sender's position says about the record of the batch it holds: attempt numbers stay within MaxAttempts
(`≤` at `ready`; the strict bound there, given `1 ≤ MaxAttempts`, is `SenderOK`, Lemmas/WriterPW.lean), `acked` is what the broker answered, at most
one attempt per started attempt was applied -/
def SenderLife (cfg : Cfg) : Sender → Batch → Prop
  | .ready _ k, B => InLoop (k ≤ cfg.maxAttempts) false k B
  | .attempting _ k none, B => InLoop (k < cfg.maxAttempts) false k B
  | .attempting _ k (some out), B => InLoop (k < cfg.maxAttempts) (out == .acked) (k + 1) B
  | .finishing _ code cb, B => Finished cfg code cb B
  | _, _ => False

/-- the record of a batch agrees with its stage: `detached` first, then the rest — nothing tried yet (`Untried`); for a held
batch `done` and what the sender's position says; for a completed one its final error, `detached`, and how the retry loop
was left -/
def Life (cfg : Cfg) : Stage → Batch → Prop
  | .attached, B => B.detached = none ∧ Untried B
  | .pending, B | .queued, B => B.detached.isSome = true ∧ Untried B
  | .held σ, B => B.detached.isSome = true ∧ B.done = none ∧ SenderLife cfg σ B
  | .gone, B => ∃ code, B.done = some code ∧ B.detached.isSome = true ∧ Finished cfg code cfg.completion B

/-- every batch belongs to a partition writer, for that writer's topic-partition, and its record agrees with where it is
in that writer's pipeline -/
def InvLife (cfg : Cfg) (s : State) : Prop :=
  ∀ b B, s.batches b = some B → ∃ P, s.pws B.pw = some P ∧ B.tp = P.tp ∧ Life cfg (P.stage b) B

/-- the part of the pipeline that is no longer attached to the partition writer: with the sender, queued, or detached
and about to be put -/
def PW.sent (P : PW) : List Nat := P.sender.batch?.toList ++ P.queue ++ P.pending.toList

theorem PW.pipe_eq_sent (P : PW) : P.pipe = P.sent ++ P.curr.toList := rfl

theorem sender_mem_pipe {P : PW} {b : Nat} (h : P.sender.batch? = some b) : b ∈ P.pipe := by
  simp [PW.pipe, h]

theorem sender_mem_sent {P : PW} {b : Nat} (h : P.sender.batch? = some b) : b ∈ P.sent := by
  simp [PW.sent, h]

theorem curr_not_sent {P : PW} {b : Nat} (hnd : P.pipe.Nodup) (hc : P.curr = some b) : b ∉ P.sent := by
  rw [P.pipe_eq_sent, hc] at hnd
  exact fun hb => (List.nodup_append.mp hnd).2.2 b hb b (List.mem_singleton.mpr rfl) rfl

theorem stage_cases (P : PW) (b : Nat) :
    (P.sender.batch? = some b ∧ P.stage b = .held P.sender) ∨ (b ∈ P.queue ∧ P.stage b = .queued) ∨
    (P.pending = some b ∧ P.stage b = .pending) ∨ (P.curr = some b ∧ P.stage b = .attached) ∨
    (b ∉ P.pipe ∧ P.stage b = .gone) := by
  unfold PW.stage
  by_cases h1 : P.sender.batch? = some b
  · exact .inl ⟨h1, if_pos h1⟩
  rw [if_neg h1]
  by_cases h2 : b ∈ P.queue
  · exact .inr (.inl ⟨h2, if_pos h2⟩)
  rw [if_neg h2]
  by_cases h3 : P.pending = some b
  · exact .inr (.inr (.inl ⟨h3, if_pos h3⟩))
  rw [if_neg h3]
  by_cases h4 : P.curr = some b
  · exact .inr (.inr (.inr (.inl ⟨h4, if_pos h4⟩)))
  rw [if_neg h4]
  refine .inr (.inr (.inr (.inr ⟨fun hm => ?_, rfl⟩)))
  simp only [PW.pipe, List.mem_append, Option.mem_toList] at hm
  rcases hm with ((hm | hm) | hm) | hm <;> contradiction

theorem stage_held {P : PW} {b : Nat} (h : P.sender.batch? = some b) : P.stage b = .held P.sender := by
  simp only [PW.stage, h, if_true]

theorem stage_queued {P : PW} {b : Nat} (h1 : P.sender.batch? ≠ some b) (h2 : b ∈ P.queue) : P.stage b = .queued := by
  simp only [PW.stage, if_neg h1, if_pos h2]

theorem stage_pending {P : PW} {b : Nat} (h1 : P.sender.batch? ≠ some b) (h2 : b ∉ P.queue) (h3 : P.pending = some b) :
    P.stage b = .pending := by
  simp only [PW.stage, if_neg h1, if_neg h2, if_pos h3]

theorem stage_attached {P : PW} {b : Nat} (h1 : P.sender.batch? ≠ some b) (h2 : b ∉ P.queue) (h3 : P.pending ≠ some b)
    (h4 : P.curr = some b) : P.stage b = .attached := by
  simp only [PW.stage, if_neg h1, if_neg h2, if_neg h3, if_pos h4]

theorem stage_gone {P : PW} {b : Nat} (h : b ∉ P.pipe) : P.stage b = .gone := by
  rcases stage_cases P b with ⟨h1, -⟩ | ⟨h1, -⟩ | ⟨h1, -⟩ | ⟨h1, -⟩ | ⟨-, e⟩
  · exact absurd (by simp [PW.pipe, h1]) h
  · exact absurd (by simp [PW.pipe, h1]) h
  · exact absurd (by simp [PW.pipe, h1]) h
  · exact absurd (by simp [PW.pipe, h1]) h
  · exact e

theorem stage_ne_gone {P : PW} {b : Nat} (h : b ∈ P.pipe) : P.stage b ≠ .gone := by
  rcases stage_cases P b with ⟨-, e⟩ | ⟨-, e⟩ | ⟨-, e⟩ | ⟨-, e⟩ | ⟨hn, -⟩
  · rw [e]; nofun
  · rw [e]; nofun
  · rw [e]; nofun
  · rw [e]; nofun
  · exact absurd h hn

theorem mem_pipe_of_stage {P : PW} {b : Nat} (h : P.stage b ≠ .gone) : b ∈ P.pipe :=
  Decidable.byContradiction fun hn => h (stage_gone hn)

theorem stage_congr {P P' : PW} {y : Nat}
    (hs : P'.sender = P.sender ∨ (P'.sender.batch? ≠ some y ∧ P.sender.batch? ≠ some y))
    (hq : y ∈ P'.queue ↔ y ∈ P.queue) (hp : P'.pending = some y ↔ P.pending = some y)
    (hc : P'.curr = some y ↔ P.curr = some y) : P'.stage y = P.stage y := by
  unfold PW.stage
  simp only [hq, hp, hc]
  rcases hs with e | ⟨h1, h2⟩
  · rw [e]
  · rw [if_neg h1, if_neg h2]

theorem not_front_of_last {P : PW} {b : Nat} (hn : P.pipe.Nodup)
    (hp : P.pipe = P.sender.batch?.toList ++ P.queue ++ [b]) : P.sender.batch? ≠ some b ∧ b ∉ P.queue := by
  rw [hp] at hn
  have h := (List.nodup_append.mp hn).2.2
  exact ⟨fun e => h b (List.mem_append_left _ (by rw [e]; exact List.mem_singleton.mpr rfl)) b (List.mem_singleton.mpr rfl) rfl,
    fun e => h b (List.mem_append_right _ e) b (List.mem_singleton.mpr rfl) rfl⟩

/-- the update `P ↦ P'` of a partition writer moves batch `b` from stage `st` to stage `st'` and no other batch -/
structure Moves (P P' : PW) (b : Nat) (st st' : Stage) : Prop where
  old : P.stage b = st
  new : P'.stage b = st'
  rest : ∀ y, y ≠ b → P'.stage y = P.stage y

theorem moves_sender (P : PW) {σ : Sender} {b : Nat} (hP : P.sender.batch? = some b) (hσ : σ.batch? = some b) :
    Moves P { P with sender := σ } b (.held P.sender) (.held σ) :=
  have h1 : ∀ y, y ≠ b → some b ≠ some y := fun _ hy e => hy (Option.some.inj e).symm
  ⟨stage_held hP, stage_held hσ, fun y hy => stage_congr (.inr ⟨hσ ▸ h1 y hy, hP ▸ h1 y hy⟩) .rfl .rfl .rfl⟩

theorem moves_complete {P : PW} {b : Nat} {code : Code} {cb : Bool} (hs : P.sender = .finishing b code cb)
    (hnd : P.pipe.Nodup) : Moves P { P with sender := .idle } b (.held (.finishing b code cb)) .gone := by
  have hh : P.sender.batch? = some b := by rw [hs]; rfl
  rw [pipe_complete hs] at hnd
  exact ⟨hs ▸ stage_held hh, stage_gone (List.nodup_cons.mp hnd).1, fun y hy =>
    stage_congr (.inr ⟨(fun e => by cases e), by rw [hh]; exact fun e => hy (Option.some.inj e).symm⟩) .rfl .rfl .rfl⟩

theorem moves_qget {P : PW} {b : Nat} (hs : P.sender = .idle) (hh : P.queue.head? = some b) :
    Moves P { P with queue := P.queue.tail, sender := .ready b 0 } b .queued (.held (.ready b 0)) := by
  obtain ⟨t, hqu⟩ := List.head?_eq_some_iff.mp hh
  have hidle : ∀ y, P.sender.batch? ≠ some y := fun y => by rw [hs]; exact fun e => by cases e
  refine ⟨stage_queued (hidle b) (by rw [hqu]; exact List.mem_cons_self ..), stage_held (by rfl), fun y hy => ?_⟩
  refine stage_congr (.inr ⟨fun e => hy (Option.some.inj e).symm, hidle y⟩) ?_ .rfl .rfl
  show y ∈ P.queue.tail ↔ y ∈ P.queue
  rw [hqu]; simp [hy]

theorem moves_qput {P : PW} {b : Nat} (hp : P.pending = some b) (hc : P.curr = none) (hnd : P.pipe.Nodup) :
    Moves P { P with pending := none, queue := enq P.queue b true } b .pending .queued := by
  obtain ⟨hns, hnq⟩ := not_front_of_last (b := b) hnd (by simp [PW.pipe, hp, hc])
  refine ⟨stage_pending hns hnq hp, stage_queued (P := { P with pending := none, queue := enq P.queue b true }) hns
    (List.mem_append_right _ (List.mem_singleton.mpr rfl)), fun y hy => stage_congr (.inl rfl) ?_ ?_ .rfl⟩
  · show y ∈ P.queue ++ [b] ↔ y ∈ P.queue
    simp [hy]
  · show none = some y ↔ P.pending = some y
    rw [hp]; exact ⟨nofun, fun e => absurd (Option.some.inj e).symm hy⟩

theorem moves_detach {P : PW} {b : Nat} (hc : P.curr = some b) (hp : P.pending = none) (hnd : P.pipe.Nodup) :
    Moves P { P with curr := none, pending := some b } b .attached .pending := by
  obtain ⟨hns, hnq⟩ := not_front_of_last (b := b) hnd (by simp [PW.pipe, hp, hc])
  refine ⟨stage_attached hns hnq (by rw [hp]; nofun) hc,
    stage_pending (P := { P with curr := none, pending := some b }) hns hnq rfl, fun y hy => ?_⟩
  have hby : some b ≠ some y := fun e => hy (Option.some.inj e).symm
  refine stage_congr (.inl rfl) .rfl ?_ ?_
  · show some b = some y ↔ P.pending = some y
    rw [hp]; exact ⟨fun e => absurd e hby, nofun⟩
  · show none = some y ↔ P.curr = some y
    rw [hc]; exact ⟨nofun, fun e => absurd e hby⟩

theorem moves_newBatch {P : PW} {b n : Nat} (hc : P.curr = none) (hp : P.pending = none) (hnp : b ∉ P.pipe) :
    Moves P { P with curr := some b, nbatches := n } b .gone .attached := by
  refine ⟨stage_gone hnp, ?_, fun y hy => stage_congr (.inl rfl) .rfl .rfl ?_⟩
  · simp only [PW.pipe, hp, hc, Option.toList, List.append_nil, List.mem_append, not_or] at hnp
    exact stage_attached (P := { P with curr := some b, nbatches := n })
      (fun e => hnp.1 (by rw [show P.sender.batch? = some b from e]; exact List.mem_singleton.mpr rfl)) hnp.2
      (by rw [show _ = P.pending from rfl, hp]; nofun) rfl
  · show some b = some y ↔ P.curr = some y
    rw [hc]; exact ⟨fun e => absurd (Option.some.inj e).symm hy, nofun⟩

/-- the end of an attempt: what the client learns is consistent with what the broker did, so the sender leaves the
retry loop without error iff the attempt was acknowledged, and retries only below MaxAttempts -/
theorem SenderLife.afterAttempt {b k : Nat} {br : Option BrOut} {code : Code} {B : Batch}
    (hl : SenderLife cfg (.attempting b k br) B) (hg : consistent br code = true) :
    SenderLife cfg (afterAttempt cfg b k code) B := by
  have hak : (B.acked = true ↔ code = 0) ∧ B.napplied ≤ k + 1 ∧ k < cfg.maxAttempts ∧ B.ncompl = 0 := by
    cases br with
    | none => exact ⟨by simp [hl.acked]; simpa [consistent] using hg, Nat.le_succ_of_le hl.napplied, hl.attempt, hl.ncompl⟩
    | some o =>
      refine ⟨?_, hl.napplied, hl.attempt, hl.ncompl⟩
      rw [hl.acked]
      cases o <;> simp [consistent] at hg ⊢
      · exact hg
      · exact hg
      · exact fun h => hg.2 (hg.1 ▸ h)
  obtain ⟨h1, h2, h3, h4⟩ := hak
  unfold Writer.afterAttempt
  split
  · exact ⟨by simp [*], by omega, h4⟩
  · rename_i hc
    have hna : B.acked = false := by
      cases ha : B.acked with
      | false => rfl
      | true => exact absurd (h1.mp ha) hc
    split
    · exact ⟨Nat.le_of_lt (‹_ ∧ _›).2, hna, h2, h4⟩
    · exact ⟨by simp [hna, hc], by omega, h4⟩

theorem InLoop.congr {p : Prop} {a : Bool} {n : Nat} {B B' : Batch} (h : InLoop p a n B) (ha : B'.acked = B.acked)
    (hn : B'.napplied = B.napplied) (hc : B'.ncompl = B.ncompl) : InLoop p a n B' :=
  ⟨h.attempt, ha.trans h.acked, Nat.le_trans (Nat.le_of_eq hn) h.napplied, hc.trans h.ncompl⟩

theorem Finished.congr {code : Code} {cb : Bool} {B B' : Batch} (h : Finished cfg code cb B) (ha : B'.acked = B.acked)
    (hn : B'.napplied = B.napplied) (hc : B'.ncompl = B.ncompl) (hcb : B'.cbCode = B.cbCode) : Finished cfg code cb B' :=
  ⟨by rw [ha]; exact h.acked, Nat.le_trans (Nat.le_of_eq hn) h.napplied, by rw [hc, hcb]; exact h.compl⟩

theorem Untried.congr {B B' : Batch} (h : Untried B) (hdn : B'.done = B.done) (ha : B'.acked = B.acked)
    (hn : B'.napplied = B.napplied) (hc : B'.ncompl = B.ncompl) : Untried B' :=
  ⟨hdn.trans h.done, ha.trans h.acked, hn.trans h.napplied, hc.trans h.ncompl⟩

theorem Life.congr {B B' : Batch} (hd : B'.detached = B.detached) (hdn : B'.done = B.done) (ha : B'.acked = B.acked)
    (hn : B'.napplied = B.napplied) (hc : B'.ncompl = B.ncompl) (hcb : B'.cbCode = B.cbCode) :
    ∀ {st}, Life cfg st B → Life cfg st B' := by
  intro st h
  cases st with
  | held σ =>
    refine ⟨hd ▸ h.1, hdn ▸ h.2.1, ?_⟩
    have := h.2.2
    cases σ with
    | attempting b k br => cases br <;> exact InLoop.congr this ha hn hc
    | ready b k => exact InLoop.congr this ha hn hc
    | finishing b c cb => exact Finished.congr this ha hn hc hcb
    | idle | exited => exact False.elim this
  | gone =>
    obtain ⟨code, h1, h2, hf⟩ := h
    exact ⟨code, hdn.trans h1, hd ▸ h2, hf.congr ha hn hc hcb⟩
  | attached => exact ⟨hd.trans h.1, h.2.congr hdn ha hn hc⟩
  | pending | queued => exact ⟨hd ▸ h.1, h.2.congr hdn ha hn hc⟩

theorem Life.done_none {st : Stage} {B : Batch} (h : Life cfg st B) (hst : st ≠ .gone) : B.done = none := by
  cases st with
  | gone => exact absurd rfl hst
  | attached | pending | queued => exact h.2.done
  | held => exact h.2.1

theorem Life.gone {st : Stage} {B : Batch} {code : Code} (h : Life cfg st B) (hd : B.done = some code) :
    Life cfg .gone B := by
  cases st with
  | gone => exact h
  | _ => have := h.done_none nofun; rw [hd] at this; cases this

theorem notFin_of {σ : Sender} (h : ∀ b c cb, σ ≠ .finishing b c cb) : ∀ b code, σ ≠ .finishing b code true :=
  fun b c => h b c true

theorem Finished.le {code : Code} {cb : Bool} {B : Batch} (h : Finished cfg code cb B) :
    B.ncompl ≤ 1 ∧ B.napplied ≤ cfg.maxAttempts := by
  refine ⟨?_, h.napplied⟩
  have hc := h.compl
  split at hc
  · rw [hc.1]; exact Nat.le_refl _
  · rw [hc]; exact Nat.zero_le _

theorem InLoop.le {p : Prop} {a : Bool} {n : Nat} {B : Batch} (h : InLoop p a n B) (hp : p → n ≤ cfg.maxAttempts) :
    B.ncompl ≤ 1 ∧ B.napplied ≤ cfg.maxAttempts :=
  ⟨by rw [h.ncompl]; exact Nat.zero_le _, Nat.le_trans h.napplied (hp h.attempt)⟩

/-- Completion was called at most once and at most MaxAttempts attempts were applied, at every stage -/
theorem Life.le {st : Stage} {B : Batch} (h : Life cfg st B) : B.ncompl ≤ 1 ∧ B.napplied ≤ cfg.maxAttempts := by
  cases st with
  | gone => obtain ⟨c, -, -, hf⟩ := h; exact hf.le
  | held σ =>
    have := h.2.2
    cases σ with
    | ready b k => exact InLoop.le this id
    | attempting b k br =>
      cases br with
      | none => exact InLoop.le this Nat.le_of_lt
      | some out => exact InLoop.le this id
    | finishing b c cb => exact Finished.le this
    | idle | exited => exact this.elim
  | attached | pending | queued => rw [h.2.ncompl, h.2.napplied]; exact ⟨Nat.zero_le _, Nat.zero_le _⟩

theorem invLife_init (cfg : Cfg) : InvLife cfg State.init := fun _ _ h => by cases h

namespace InvLife

/-- `moved y`: the step changes the stage or the record of batch `y` — `(· = b)` for the one batch that moves,
`fun _ => False` when none does (`of_still`) -/
theorem of_move (h : InvLife cfg s) (pw : Nat) (moved : Nat → Prop) [DecidablePred moved]
    (hpws : ∀ x, x ≠ pw → s'.pws x = s.pws x)
    (hpw : ∀ P, s.pws pw = some P → ∃ P', s'.pws pw = some P' ∧ P'.tp = P.tp ∧ ∀ y, ¬ moved y → P'.stage y = P.stage y)
    (hbat : ∀ y, ¬ moved y → s'.batches y = s.batches y)
    (hb : ∀ y, moved y → ∀ B', s'.batches y = some B' →
      ∃ P', s'.pws B'.pw = some P' ∧ B'.tp = P'.tp ∧ Life cfg (P'.stage y) B') :
    InvLife cfg s' := by
  intro y Y' hY'
  by_cases hm : moved y
  · exact hb y hm Y' hY'
  · rw [hbat y hm] at hY'
    obtain ⟨P, hP, htp, hl⟩ := h y Y' hY'
    by_cases hx : Y'.pw = pw
    · rw [hx] at hP ⊢
      obtain ⟨P', hP', htp', hst⟩ := hpw P hP
      exact ⟨P', hP', htp.trans htp'.symm, by rw [hst y hm]; exact hl⟩
    · exact ⟨P, by rw [hpws _ hx]; exact hP, htp, hl⟩

/-- a batch of `pw`'s pipeline is found through its own record -/
theorem at_pipe (h : InvLife cfg s) (hO : InvOrd s) {pw b : Nat} {P : PW} {B : Batch} (hP : s.pws pw = some P)
    (hb : b ∈ P.pipe) (hB : s.batches b = some B) : B.pw = pw ∧ B.tp = P.tp ∧ Life cfg (P.stage b) B := by
  have hpw := hO.pipe_pw hP hb hB
  obtain ⟨P0, hP0, htp, hl⟩ := h b B hB
  rw [hpw, hP] at hP0; cases hP0
  exact ⟨hpw, htp, hl⟩

/-- `bt` is the new batch map: the old one, or the old one with the new record `B'` at `b` -/
theorem of_move_one (h : InvLife cfg s) (hO : InvOrd s) {pw b : Nat} {P P' : PW} {B B' : Batch} {st st' : Stage}
    {bt : Nat → Option Batch} (hP : s.pws pw = some P) (hB : s.batches b = some B)
    (e1 : s'.pws = upd s.pws pw (some P')) (e2 : s'.batches = bt)
    (hbt : bt = s.batches ∧ B' = B ∨ bt = upd s.batches b (some B')) (hm : Moves P P' b st st') (hst : st ≠ .gone)
    (hpw' : B'.pw = B.pw ∧ B'.tp = B.tp ∧ P'.tp = P.tp) (hl : Life cfg st B → Life cfg st' B') : InvLife cfg s' := by
  obtain ⟨hBpw, hBtp, hlb⟩ := h.at_pipe hO hP (mem_pipe_of_stage (hm.old ▸ hst)) hB
  refine h.of_move pw (· = b) (fun x hx => by rw [e1]; exact upd_other _ _ _ _ hx)
    (fun P0 hP0 => ?_) (fun y hy => ?_) ?_
  · cases hP.symm.trans hP0
    exact ⟨_, by rw [e1]; exact upd_same .., hpw'.2.2, hm.rest⟩
  · rw [e2]; rcases hbt with ⟨rfl, -⟩ | rfl
    · rfl
    · exact upd_other _ _ _ _ hy
  · rintro y rfl Y' hY'
    have : Y' = B' := by
      rw [e2] at hY'
      rcases hbt with ⟨rfl, rfl⟩ | rfl
      · exact (Option.some.inj (hB.symm.trans hY')).symm
      · exact (Option.some.inj ((upd_same ..).symm.trans hY')).symm
    subst this
    exact ⟨_, by rw [hpw'.1, hBpw, e1]; exact upd_same .., by rw [hpw'.2.1, hBtp, hpw'.2.2],
      by rw [hm.new]; exact hl (hm.old ▸ hlb)⟩

theorem of_move_pos (h : InvLife cfg s) (hO : InvOrd s) {pw b : Nat} {P P' : PW} {st st' : Stage}
    (hP : s.pws pw = some P) (e1 : s'.pws = upd s.pws pw (some P')) (e2 : s'.batches = s.batches)
    (hm : Moves P P' b st st') (hst : st ≠ .gone) (htp : P'.tp = P.tp) (hl : ∀ B, Life cfg st B → Life cfg st' B) :
    InvLife cfg s' := by
  obtain ⟨B, hB, -⟩ := hO.pipeEx _ _ hP b (mem_pipe_of_stage (hm.old ▸ hst))
  exact h.of_move_one hO hP hB e1 e2 (.inl ⟨rfl, rfl⟩) hm hst ⟨rfl, rfl, htp⟩ (hl B)

theorem of_still (h : InvLife cfg s) (pw : Nat) (hpws : ∀ x, x ≠ pw → s'.pws x = s.pws x)
    (hpw : ∀ P, s.pws pw = some P → ∃ P', s'.pws pw = some P' ∧ P'.tp = P.tp ∧ ∀ y, P'.stage y = P.stage y)
    (hbat : s'.batches = s.batches) : InvLife cfg s' :=
  h.of_move pw (fun _ => False) hpws (fun P hP => (hpw P hP).imp fun _ ⟨a, t, b⟩ => ⟨a, t, fun y _ => b y⟩)
    (fun _ _ => by rw [hbat]) (fun _ hm => hm.elim)

theorem of_record (h : InvLife cfg s) {b : Nat} {B B' : Batch} (hB : s.batches b = some B) (e1 : s'.pws = s.pws)
    (e2 : s'.batches = upd s.batches b (some B')) (hpw : B'.pw = B.pw) (htp : B'.tp = B.tp)
    (hd : B'.detached = B.detached) (hdn : B'.done = B.done) (ha : B'.acked = B.acked) (hn : B'.napplied = B.napplied)
    (hc : B'.ncompl = B.ncompl) (hcb : B'.cbCode = B.cbCode) : InvLife cfg s' := by
  rw [InvLife, e1, e2]
  refine forall_upd_key _ _ _ (fun y Y _ hY => h y Y hY) ?_
  obtain ⟨P, hP, ht, hlb⟩ := h b B hB
  exact ⟨P, hpw ▸ hP, htp ▸ ht, hlb.congr hd hdn ha hn hc hcb⟩

end InvLife

theorem invLife_step {e : Event} (hO : InvOrd s) (hQ : InvClosedQ s) (hI : InvLife cfg s) (h : Step cfg s e s') :
    InvLife cfg s' := by
  induction h with
  | @attempt pw b k P hP hg =>
    refine hI.of_move_pos hO hP rfl rfl (moves_sender P (by rw [hg.ready]; rfl) rfl) nofun rfl fun B hl => ?_
    rw [hg.ready] at hl
    exact ⟨hl.1, hl.2.1, hg.bound, hl.2.2.acked, hl.2.2.napplied, hl.2.2.ncompl⟩
  | @produce pw b k tp msgs out P B hP hsend hB hg =>
    refine hI.of_move_one (B' := B.noteProduce out) hO hP hB rfl rfl (.inr rfl) (moves_sender P (by rw [hsend]; rfl) rfl)
      nofun ⟨rfl, rfl, rfl⟩ fun hl => ?_
    rw [hsend] at hl
    obtain ⟨hd, hdn, hl⟩ := hl
    refine ⟨hd, hdn, hl.attempt, by rw [Batch.noteProduce_acked, hl.acked, Bool.false_or], ?_, hl.ncompl⟩
    rw [Batch.noteProduce_napplied]
    split
    · exact Nat.succ_le_succ hl.napplied
    · exact Nat.le_succ_of_le hl.napplied
  | @attemptDone pw b k code br P hP hsend hg =>
    refine hI.of_move_pos hO hP rfl rfl (moves_sender P (by rw [hsend]; rfl) (afterAttempt_batch ..)) nofun rfl
      fun B hl => ?_
    rw [hsend] at hl
    exact ⟨hl.1, hl.2.1, hl.2.2.afterAttempt hg⟩
  | @completion pw b code P B hP hB hg =>
    refine hI.of_move_one (B' := { B with ncompl := B.ncompl + 1, cbCode := some code }) hO hP hB rfl rfl (.inr rfl)
      (moves_sender P (by rw [hg.sender]; rfl) rfl) nofun ⟨rfl, rfl, rfl⟩ fun hl => ?_
    rw [hg.sender] at hl
    obtain ⟨hd, hdn, hf⟩ := hl
    have h0 : B.ncompl = 0 := by have hc := hf.compl; rw [if_neg Bool.false_ne_true] at hc; exact hc
    exact ⟨hd, hdn, hf.acked, hf.napplied, by rw [if_pos rfl]; exact ⟨by show B.ncompl + 1 = 1; rw [h0], rfl⟩⟩
  | @complete pw b code P B hP hB hg =>
    refine hI.of_move_one (B' := { B with done := some code }) hO hP hB rfl rfl (.inr rfl)
      (moves_complete hg (hO.pipeNodup pw P hP)) nofun ⟨rfl, rfl, rfl⟩ fun hl => ?_
    obtain ⟨hd, -, hf⟩ := hl
    exact ⟨code, rfl, hd, hf.acked, hf.napplied, hf.compl⟩
  | @qgetSome q b pw P hq hP hg =>
    refine hI.of_move_pos hO hP rfl rfl (moves_qget hg.idle hg.head) nofun rfl fun B hl => ?_
    exact ⟨hl.1, hl.2.done, Nat.zero_le _, hl.2.acked, Nat.le_of_eq hl.2.napplied, hl.2.ncompl⟩
  | @qput q b pw acc P hq hP hg =>
    have hpend := hg.pending
    -- the queue is not closed while a detached batch waits to be put
    have hopen : P.qclosed = false := by
      cases hqc : P.qclosed with
      | false => rfl
      | true => have := (hQ.closedQ pw P hP hqc).2.2; rw [hpend] at this; cases this
    have hacc : acc = true := by rw [hg.accepted, hopen]; rfl
    subst hacc
    exact hI.of_move_pos hO hP rfl rfl (moves_qput hpend hg.curr (hO.pipeNodup pw P hP)) nofun rfl fun _ hl => hl
  | @detach pw b size why P B hP hB hg =>
    refine hI.of_move_one (B' := { B with detached := some why }) hO hP hB rfl rfl (.inr rfl)
      (moves_detach hg.curr hg.pending (hO.pipeNodup pw P hP)) nofun ⟨rfl, rfl, rfl⟩ fun hl => ?_
    exact ⟨rfl, hl.2.done, hl.2.acked, hl.2.napplied, hl.2.ncompl⟩
  | @newBatch pw b P hP hg =>
    have hnone : s.batches b = none := Option.isNone_iff_eq_none.mp hg.free
    have hm := moves_newBatch (n := P.nbatches + 1) hg.curr hg.pending fun hm => hO.pipe_ne hP hm hnone rfl
    refine hI.of_move pw (· = b) (fun x hx => upd_other _ _ _ _ hx) (fun P0 hP0 => ?_) (fun y hy => upd_other _ _ _ _ hy) ?_
    · cases hP.symm.trans hP0
      exact ⟨_, upd_same .., rfl, hm.rest⟩
    · rintro y rfl Y' hY'
      cases (upd_same ..).symm.trans hY'
      exact ⟨_, upd_same .., rfl, by rw [hm.new]; exact ⟨rfl, rfl, rfl, rfl, rfl⟩⟩
  | @newPW pw q tp hg =>
    have hnone : s.pws pw = none := Option.isNone_iff_eq_none.mp hg.pwFree
    exact hI.of_still pw (fun x hx => upd_other _ _ _ _ hx) (fun P0 hP0 => by rw [hnone] at hP0; cases hP0) rfl
  | qgetNone hq hP hg =>
    refine hI.of_still _ (fun x hx => upd_other _ _ _ _ hx) (fun P0 hP0 => ?_) rfl
    cases hP.symm.trans hP0
    exact ⟨_, upd_same .., rfl,
      fun y => stage_congr (.inr ⟨(fun e => by cases e), by rw [hg.idle]; exact fun e => by cases e⟩) .rfl .rfl .rfl⟩
  | qclose hq hP hg =>
    refine hI.of_still _ (fun x hx => upd_other _ _ _ _ hx) (fun P0 hP0 => ?_) rfl
    cases hP.symm.trans hP0
    exact ⟨_, upd_same .., rfl, fun y => rfl⟩
  | timerFire hP hB hg | add hP hB hC hg => exact hI.of_record hB rfl rfl rfl rfl rfl rfl rfl rfl rfl rfl
  | _ => exact hI

theorem invLife (cfg : Cfg) : ∀ s, Reachable cfg s → InvLife cfg s :=
  Reachable.step_induction (invLife_init cfg) fun s _ _ hr hI h =>
    invLife_step (invOrd cfg s hr) (invClosedQ cfg s hr) hI h

/-- no batch is dropped (C08 `no_batch_dropped`): what is not completed is in the pipeline of its partition writer.  The
reading `InvLife.live` of `InvLife`, under a name of its own for the Close proofs -/
def InvLive (s : State) : Prop :=
  ∀ b B, s.batches b = some B → B.done = none → ∃ P, s.pws B.pw = some P ∧ b ∈ P.pipe

namespace InvLife

theorem owner (h : InvLife cfg s) {b : Nat} {B : Batch} (hB : s.batches b = some B) :
    ∃ P, s.pws B.pw = some P ∧ B.tp = P.tp :=
  have ⟨P, hP, htp, _⟩ := h b B hB
  ⟨P, hP, htp⟩

theorem live (h : InvLife cfg s) : InvLive s := by
  intro b B hB hd
  obtain ⟨P, hP, -, hl⟩ := h b B hB
  refine ⟨P, hP, mem_pipe_of_stage fun hg => ?_⟩
  rw [hg] at hl
  obtain ⟨c, hc, -⟩ := hl
  rw [hd] at hc; cases hc

theorem pipeLive (h : InvLife cfg s) (hO : InvOrd s) {pw b : Nat} {P : PW} {B : Batch} (hP : s.pws pw = some P)
    (hb : b ∈ P.pipe) (hB : s.batches b = some B) : B.done = none :=
  (h.at_pipe hO hP hb hB).2.2.done_none (stage_ne_gone hb)

theorem sentDet (h : InvLife cfg s) (hO : InvOrd s) : ∀ pw P, s.pws pw = some P →
    ∀ b ∈ P.sent, ∀ B, s.batches b = some B → B.detached.isSome = true := by
  intro pw P hP b hb B hB
  have hbp : b ∈ P.pipe := P.pipe_eq_sent ▸ List.mem_append_left _ hb
  have hl := (h.at_pipe hO hP hbp hB).2.2
  rcases stage_cases P b with ⟨-, e⟩ | ⟨-, e⟩ | ⟨-, e⟩ | ⟨hc, -⟩ | ⟨hn, -⟩
  · rw [e] at hl; exact hl.1
  · rw [e] at hl; exact hl.1
  · rw [e] at hl; exact hl.1
  · exact absurd hb (curr_not_sent (hO.pipeNodup pw P hP) hc)
  · exact absurd hbp hn

theorem attached_of_open (h : InvLife cfg s) {b : Nat} {B : Batch} (hB : s.batches b = some B) (hd : B.detached = none) :
    ∃ P, s.pws B.pw = some P ∧ P.curr = some b ∧ Life cfg .attached B := by
  obtain ⟨P, hP, -, hl⟩ := h b B hB
  refine ⟨P, hP, ?_⟩
  -- at every other stage `detached` is set
  have hdet : ∀ {p : Prop}, B.detached.isSome = true → p := fun hs => by rw [hd] at hs; cases hs
  rcases stage_cases P b with ⟨-, e⟩ | ⟨-, e⟩ | ⟨-, e⟩ | ⟨hc, e⟩ | ⟨-, e⟩ <;> rw [e] at hl
  · exact hdet hl.1
  · exact hdet hl.1
  · exact hdet hl.1
  · exact ⟨hc, hl⟩
  · obtain ⟨_, -, hs, -⟩ := hl; exact hdet hs

theorem currOpen (h : InvLife cfg s) (hO : InvOrd s) : ∀ pw P, s.pws pw = some P → ∀ b, P.curr = some b →
    ∃ B, s.batches b = some B ∧ B.pw = pw ∧ B.detached = none := by
  intro pw P hP b hc
  have hb : b ∈ P.pipe := by rw [P.pipe_eq_sent, hc]; exact List.mem_append_right _ (List.mem_singleton.mpr rfl)
  obtain ⟨B, hB, hpw⟩ := hO.pipeEx pw P hP b hb
  have hl := (h.at_pipe hO hP hb hB).2.2
  have hns := curr_not_sent (hO.pipeNodup pw P hP) hc
  refine ⟨B, hB, hpw, ?_⟩
  rcases stage_cases P b with ⟨h1, -⟩ | ⟨h1, -⟩ | ⟨h1, -⟩ | ⟨-, e⟩ | ⟨hn, -⟩
  · exact absurd (sender_mem_sent h1) hns
  · exact absurd (by simp [PW.sent, h1]) hns
  · exact absurd (by simp [PW.sent, h1]) hns
  · rw [e] at hl; exact hl.1
  · exact absurd hb hn

theorem done_acked (h : InvLife cfg s) {b : Nat} {B : Batch} {code : Code} (hB : s.batches b = some B)
    (hd : B.done = some code) : code = 0 ↔ B.acked = true := by
  obtain ⟨P, -, -, hl⟩ := h b B hB
  obtain ⟨c, hc, -, hf⟩ := hl.gone hd
  cases hd.symm.trans hc
  exact hf.acked.symm

theorem complDone (h : InvLife cfg s) {b : Nat} {B : Batch} {code : Code} (hB : s.batches b = some B)
    (hd : B.done = some code) :
    (cfg.completion = true → B.ncompl = 1 ∧ B.cbCode = some code) ∧ (cfg.completion = false → B.ncompl = 0) := by
  obtain ⟨P, -, -, hl⟩ := h b B hB
  obtain ⟨c, hc, -, hf⟩ := hl.gone hd
  cases hd.symm.trans hc
  have hcc := hf.compl
  constructor <;> (intro hcp; simpa [hcp] using hcc)

theorem ncompl_le (h : InvLife cfg s) {b : Nat} {B : Batch} (hB : s.batches b = some B) : B.ncompl ≤ 1 :=
  have ⟨_, _, _, hl⟩ := h b B hB
  hl.le.1

theorem bound (h : InvLife cfg s) {b : Nat} {B : Batch} (hB : s.batches b = some B) : B.napplied ≤ cfg.maxAttempts :=
  have ⟨_, _, _, hl⟩ := h b B hB
  hl.le.2

theorem unheld (h : InvLife cfg s) {b : Nat} {B : Batch} (hB : s.batches b = some B)
    (hun : ∀ P, s.pws B.pw = some P → P.sender.batch? ≠ some b) (hd : B.done = none) : B.napplied = 0 := by
  obtain ⟨P, hP, -, hl⟩ := h b B hB
  rcases stage_cases P b with ⟨h1, -⟩ | ⟨-, e⟩ | ⟨-, e⟩ | ⟨-, e⟩ | ⟨-, e⟩
  · exact absurd h1 (hun P hP)
  · rw [e] at hl; exact hl.2.napplied
  · rw [e] at hl; exact hl.2.napplied
  · rw [e] at hl; exact hl.2.napplied
  · rw [e] at hl; obtain ⟨c, hc, -⟩ := hl; rw [hd] at hc; cases hc

theorem not_acked_in_flight (h : InvLife cfg s) (hO : InvOrd s) {pw b k : Nat} {P : PW} {B : Batch}
    (hP : s.pws pw = some P) (hB : s.batches b = some B) (hsend : P.sender = .attempting b k none) : B.acked = false := by
  have hh : P.sender.batch? = some b := by rw [hsend]; rfl
  have := (h.at_pipe hO hP (sender_mem_pipe hh) hB).2.2
  rw [stage_held hh, hsend] at this
  exact this.2.2.acked

end InvLife

theorem invLive (cfg : Cfg) : ∀ s, Reachable cfg s → InvLive s := fun s hr => (invLife cfg s hr).live

/-- no produce request is empty: the batch being sent was detached, and a batch is detached only with a message in it
(newWriteBatch and the first add happen in one partition-mutex section, `InvFresh`) -/
theorem produce_nonempty {pw : Nat} {tp : TP} {msgs : List Msg} {out : BrOut} (hr : Reachable cfg s)
    (h : Step cfg s (.produce pw tp msgs out) s') : msgs ≠ [] := by
  cases h with
  | produce hP hsend hB hg =>
    have hdet := (invLife cfg s hr).sentDet (invOrd cfg s hr) pw _ hP _ (sender_mem_sent (by rw [hsend]; rfl)) _ hB
    intro he
    rw [← hg.carries] at he
    exact (invFresh cfg s hr).detNonempty _ _ hB hdet (List.map_eq_nil_iff.mp he)

end KV.Writer
