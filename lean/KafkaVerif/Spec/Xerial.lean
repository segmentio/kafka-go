/-
Spec/Xerial.lean — the xerial snappy framing FORMAT (reference side, core Lean only), as written by
snappy-java's SnappyOutputStream and read by every Kafka client:

    magic  : 0x82 'S' 'N' 'A' 'P' 'P' 'Y' 0x00           (8 bytes)
    version: int32 BE = 1, compatible version: int32 BE = 1
    then   : [ length:int32 BE ][ raw snappy block of that length ]*

`frame`/`parse` work on still-compressed blocks; the block codec is not part of the framing.
-/
import KafkaVerif.Base.RecWire

namespace KV.Spec.Xerial
open KV KV.RW

def magic : Bytes := [0x82, 0x53, 0x4e, 0x41, 0x50, 0x50, 0x59, 0]
def header : Bytes := magic ++ [0, 0, 0, 1, 0, 0, 0, 1]

def frameBlocks : List Bytes → Bytes
  | [] => []
  | b :: bs => beN 4 b.length ++ (b ++ frameBlocks bs)

def frame (blocks : List Bytes) : Bytes := header ++ frameBlocks blocks

def parseBlocks : Nat → Bytes → Option (List Bytes)
  | _, [] => some []
  | 0, _ :: _ => none
  | fuel + 1, s =>
    match readN 4 s with
    | none => none
    | some (n, r) =>
      match takeN n r with
      | none => none
      | some (b, r') =>
        match parseBlocks fuel r' with
        | none => none
        | some bs => some (b :: bs)

/-- the whole stream must be header + well-delimited blocks -/
def parse (s : Bytes) : Option (List Bytes) :=
  if s.take 16 = header then parseBlocks s.length (s.drop 16) else none

theorem parseBlocks_frameBlocks (bs : List Bytes) (h : ∀ b ∈ bs, b.length < 256 ^ 4) (fuel : Nat)
    (hf : bs.length ≤ fuel) : parseBlocks fuel (frameBlocks bs) = some bs := by
  induction bs generalizing fuel with
  | nil => cases fuel <;> rfl
  | cons b bs ih =>
    cases fuel with
    | zero => cases hf
    | succ fuel =>
      -- `frameBlocks (b :: bs)` starts with the 4 length bytes, so `parseBlocks` takes its third clause; its clauses match
      -- on the shape of the list, hence the variable `t` to case on
      have hcons : ∀ t, frameBlocks (b :: bs) = t → parseBlocks (fuel + 1) t = some (b :: bs) := by
        intro t ht
        cases t with
        | nil => have := congrArg List.length ht; simp [frameBlocks] at this
        | cons x xs =>
          simp only [parseBlocks]
          rw [← ht, frameBlocks, readN_beN 4 b.length _ (h b List.mem_cons_self)]
          simp only [takeN_append, ih (fun b' hb' => h b' (List.mem_cons_of_mem _ hb')) fuel (Nat.le_of_succ_le_succ hf)]
      exact hcons _ rfl

theorem frameBlocks_length_ge (bs : List Bytes) : bs.length ≤ (frameBlocks bs).length := by
  induction bs with
  | nil => simp [frameBlocks]
  | cons b bs ih => simp [frameBlocks]; omega

theorem parse_frame (bs : List Bytes) (h : ∀ b ∈ bs, b.length < 256 ^ 4) : parse (frame bs) = some bs := by
  have h16 : header.length = 16 := by decide
  have ht : (frame bs).take 16 = header := by
    simp only [frame]; rw [← h16]; simp
  have hd : (frame bs).drop 16 = frameBlocks bs := by
    simp only [frame]; rw [← h16]; simp
  simp only [parse, ht, if_true, hd]
  apply parseBlocks_frameBlocks bs h
  have := frameBlocks_length_ge bs
  simp [frame]; omega

end KV.Spec.Xerial
