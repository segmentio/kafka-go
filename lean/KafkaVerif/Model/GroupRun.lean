/-
Model/GroupRun.lean — `consumergroup.go` `(*ConsumerGroup).run / nextGeneration / Next / Close / leaveGroup`
as a labelled transition system (core Lean only).  The coordinator's answers, timer ticks and the application's
calls are environment events; every event is one hook point of Appendix A (or one mock-coordinator journal line).

Go ↔ Lean
* the `run` goroutine (`run`, `nextGeneration`, `coordinator`, `joinGroup`, `syncGroup`, `fetchOffsets`,
  `leaveGroup`)                                  ↔ `PC` (program counter) + `St.member/jm/jg`, events `Ev.connectRes … runExit`
* `cg.done` closed                                ↔ `St.closedCG`
* unbuffered `cg.next` / `cg.errs` hand-over      ↔ `St.inbox` (value handed to a waiting `Next`), `St.nextWaiting`
* the current `Generation`                        ↔ `St.cur : Gen` (`St.gens` = number created so far; generation `g` is
  current iff `g + 1 = gens`); older generations only keep the count of late functions (`oldLate`)
* ghost fields: `needBackoff`, `left` (member ids for which a LeaveGroup request was sent), `leaveFail`, `exitWith`

`Cfg.fixD9 = true` is the code after the `fix:` commit for D9 (leave the group when `run` exits from the
error-delivery select because the group was closed); `false` is the original code, kept for the counterexample.
-/
import KafkaVerif.Model.Generation

namespace KV.Group

/-- what `run` does after `leaveGroup` returns -/
inductive After
  | exit               -- `return`
  | deliver (e : Err)  -- default case: clear the member id, deliver `e`, back off
  deriving DecidableEq, Repr

inductive PC
  /-- inside `cg.coordinator()`: stage 0 = connect(brokers), 1 = findCoordinator, 2 = connect(coordinator);
  `lv = none`: called from `nextGeneration` (stage 0 = top of the `run` loop); `some a`: called from `leaveGroup` -/
  | coord (stage : Nat) (lv : Option After)
  | joining | assigning | syncing | fetching | created
  | starting (k : Nat)            -- generation created, `k` internal functions started
  | handing | running             -- the two selects of nextGeneration
  | closing (ret : Option Err)    -- about to call gen.close()
  | waiting (ret : Option Err) (r : Nat)  -- inside gen.close() after its critical section
  | retp (m : String) (e : Option Err)    -- nextGeneration returns (m, e)
  | leaveP (a : After)            -- about to call leaveGroup(member)
  | leaveCall (a : After)         -- LeaveGroup request outstanding
  | delivering (e : Err) (bk : Bool)
  | backoffP (begun : Bool)
  | exiting | exited
  deriving DecidableEq, Repr

inductive Msg | gen (g : Nat) | err (e : Err)
  deriving DecidableEq, Repr

structure Cfg where
  nWatch : Nat     -- number of partition watchers per generation (0 unless WatchPartitionChanges)
  fixD9 : Bool
  deriving Repr

/-- placeholder for "no generation yet": closed, nothing accounted -/
def noGen : Gen := { gid := 0, member := "", closed := true }

structure St where
  pc : PC := .coord 0 none
  member : String := ""
  jm : String := ""
  jg : Int := 0
  closedCG : Bool := false
  gens : Nat := 0
  cur : Gen := noGen
  oldLate : Nat := 0
  inbox : Option Msg := none
  nextWaiting : Nat := 0
  needBackoff : Bool := false
  left : List String := []
  leaveFail : Bool := false
  exitWith : Option (String × Bool) := none
  deriving Repr

inductive Ev
  -- run goroutine
  | connectRes (e : Option Err)
  | findRes (e : Option Err)
  | joinOk (memberIn : String) (m : String) (gid : Int) (leader : Bool)
  | joinErr (memberIn : String) (e : Err)
  | partsRes (e : Option Err)
  | syncRes (memberIn : String) (gidIn : Int) (e : Option Err)
  | fetchRes (e : Option Err)
  | gNew (g : Nat) (gid : Int) (m : String)
  | gStart (g : Nat) (acc : Bool)
  | sawClose (g : Nat) (running : Bool)
  | handed (g : Nat)
  | sawGenDone (g : Nat)
  | gClose (g : Nat) (was : Bool) (r : Nat)
  | gClosed (g : Nat)
  | nextGenRet (m : String) (e : Option Err)
  | leave (m : String)
  | leaveRes (memberIn : String) (ok : Bool)
  | errDeliver (e : Err) (delivered : Bool)
  | backoff (what : Nat)     -- 0 begin, 1 end (timer fired), 2 closed
  | runExit
  -- generation functions
  | hbCall (g : Nat) (gid : Int) (m : String)
  | hbRet (g : Nat) (e : Option Err)
  | hbExit (g : Nat)
  | watchCall (g : Nat) (t : Nat)
  | watchParts (g : Nat) (t : Nat) (n : Nat)
  | watchErr (g : Nat) (t : Nat) (e : Err)
  | watchExit (g : Nat) (t : Nat)
  | fnExit (g : Nat) (closedByMe : Bool) (left : Nat)
  | uRet (g : Nat) (acc : Bool)
  | uCtx (g : Nat)
  -- API calls of the application
  | closeCall | closeRet | nextCall
  | nextRet (r : Msg)
  deriving DecidableEq, Repr

def isCur (s : St) (g : Nat) : Bool := g + 1 == s.gens

/-- apply a generation-function step to the current generation -/
def onCur (s : St) (g : Nat) (f : Gen → Option Gen) : Option St :=
  if isCur s g then (f s.cur).map (fun c => { s with cur := c }) else none

/-- `run` after `leaveGroup` returned -/
def afterLeave (s : St) : After → St
  | .exit => { s with pc := .exiting, exitWith := some (s.member, true) }
  | .deliver e => { s with pc := .delivering e true, member := "" }

/-- `cg.coordinator()` failed with `e` -/
def coordFail (s : St) (lv : Option After) (e : Err) : St :=
  match lv with
  | none => { s with pc := .retp s.member (some e) }
  | some a => afterLeave { s with leaveFail := true } a

def guard (b : Bool) (s : St) : Option St := if b then some s else none

/-! generation-function steps (`Gen → Option Gen`) -/

def gUserStart (acc : Bool) (g : Gen) : Option Gen :=
  let (g', a) := g.start
  if a == acc then some (if a then { g' with users := g'.users + 1 } else { g' with late := g'.late + 1 }) else none

def gHbStart (acc : Bool) (g : Gen) : Option Gen :=
  let (g', a) := g.start
  if a == acc && a then some { g' with hb := some .idle } else none

def gWatchStart (acc : Bool) (g : Gen) : Option Gen :=
  let (g', a) := g.start
  if a == acc then some { g' with watchers := g'.watchers ++ [(.init, a)] } else none

def gHbCall (gid : Int) (m : String) (g : Gen) : Option Gen :=
  if g.hb == some .idle && gid == g.gid && m == g.member then some { g with hb := some .calling } else none

def gHbRet (e : Option Err) (g : Gen) : Option Gen :=
  if g.hb == some .calling then some { g with hb := some (if e.isNone then .idle else .failed) } else none

def gHbExit (g : Gen) : Option Gen :=
  if g.hb == some .failed || (g.hb == some .idle && g.closed) then
    some { g.bodyReturned true with hb := some .done }
  else none

def setW (g : Gen) (t : Nat) (w : WProc) : Gen :=
  { g with watchers := g.watchers.set t (w, (g.watchers.getD t (w, true)).2) }

def gWatchCall (t : Nat) (g : Gen) : Option Gen :=
  match g.watchers[t]? with
  | some (.init, _) => some (setW g t .calling0)
  | some (.idle n, _) => some (setW g t (.calling n))
  | _ => none

/-- `readPartitions` answered with `n` partitions, or with an error the watcher treats as an answer -/
def gWatchParts (t : Nat) (n : Nat) (g : Gen) : Option Gen :=
  match g.watchers[t]? with
  | some (.calling0, _) => some (setW g t (.idle n))
  | some (.calling n0, _) => some (setW g t (if n == n0 then .idle n0 else .failed))
  | _ => none

def gWatchErr (t : Nat) (e : Err) (g : Gen) : Option Gen :=
  match g.watchers[t]? with
  | some (.calling0, _) => some (setW g t .failed)
  | some (.calling n0, _) =>
    if e == .unknownTopic then some (setW g t (if n0 == 0 then .idle 0 else .failed))   -- len(nil) ≠ oParts
    else if e.isKafka then some (setW g t (.idle n0))                                    -- `continue`
    else some (setW g t .failed)
  | _ => none

def gWatchExit (t : Nat) (g : Gen) : Option Gen :=
  match g.watchers[t]? with
  | some (.failed, a) => some (setW (g.bodyReturned a) t .done)
  | some (.idle _, a) => if g.closed then some (setW (g.bodyReturned a) t .done) else none
  | _ => none

def gFnExit (cbm : Bool) (left : Nat) (g : Gen) : Option Gen :=
  if cbm == !g.closed && left + 1 == g.routines then g.fnExit else none

def gURet (acc : Bool) (g : Gen) : Option Gen :=
  if acc then (if g.users > 0 then some { g.bodyReturned true with users := g.users - 1 } else none)
  else (if g.late > 0 then some { g with late := g.late - 1 } else none)

def gUCtx (g : Gen) : Option Gen := if g.closed then some g else none

/-- `nextGeneration` is returning `(m, e)` now -/
def returnsNow (s : St) (m : String) (e : Option Err) : Bool :=
  s.pc == .retp m e || ((s.pc == .assigning || s.pc == .fetching) && m == s.jm && e == some .net)

def step (c : Cfg) (s : St) : Ev → Option St
  | .connectRes e =>
    match s.pc with
    | .coord 0 lv => (match e with
        | none => some { s with pc := .coord 1 lv }
        | some er => some (coordFail s lv er))
    | .coord 2 lv => (match e with
        | none => some { s with pc := (match lv with | none => .joining | some a => .leaveCall a) }
        | some er => some (coordFail s lv er))
    | _ => none
  | .findRes e =>
    match s.pc with
    | .coord 1 lv => (match e with
        | none => some { s with pc := .coord 2 lv }
        | some er => some (coordFail s lv er))
    | _ => none
  | .joinOk mi m gid leader =>
    if s.pc == .joining && mi == s.member then
      some { s with jm := m, jg := gid, pc := if leader then .assigning else .syncing }
    else none
  | .joinErr mi e =>
    if s.pc == .joining && mi == s.member then some { s with pc := .retp "" (some e) } else none
  | .partsRes e =>
    if s.pc == .assigning then
      match e with
      | none => some { s with pc := .syncing }
      | some .unknownTopic => some { s with pc := .syncing }
      | some er => some { s with pc := .retp s.jm (some er) }
    else none
  | .syncRes mi gi e =>
    if s.pc == .syncing && mi == s.jm && gi == s.jg then
      match e with
      | none => some { s with pc := .fetching }
      | some er => some { s with pc := .retp s.jm (some er) }
    else none
  | .fetchRes e =>
    if s.pc == .fetching then
      match e with
      | none => some { s with pc := .created }
      | some er => some { s with pc := .retp s.jm (some er) }
    else none
  | .gNew g gid m =>
    if s.pc == .created && g == s.gens && gid == s.jg && m == s.jm then
      some { s with pc := .starting 0, gens := s.gens + 1, oldLate := s.oldLate + s.cur.late,
                    cur := { gid := gid, member := m } }
    else none
  | .gStart g acc =>
    if isCur s g then
      match s.pc with
      | .starting k =>
        (if k == 0 then gHbStart acc s.cur else gWatchStart acc s.cur).map fun cg =>
          { s with cur := cg, pc := if k + 1 == 1 + c.nWatch then .handing else .starting (k + 1) }
      | _ => (gUserStart acc s.cur).map fun cg => { s with cur := cg }
    else if g + 1 < s.gens && !acc then some { s with oldLate := s.oldLate + 1 }
    else none
  | .sawClose g running =>
    if isCur s g && s.closedCG && s.pc == (if running then .running else .handing) then
      some { s with pc := .closing (some .closed) }
    else none
  | .handed g =>
    if isCur s g && s.pc == .handing && s.inbox.isNone && s.nextWaiting > 0 then
      some { s with pc := .running, inbox := some (.gen g), nextWaiting := s.nextWaiting - 1 }
    else none
  | .sawGenDone g =>
    if isCur s g && s.pc == .running && s.cur.closed then some { s with pc := .closing none } else none
  | .gClose g was r =>
    match s.pc with
    | .closing ret =>
      if isCur s g && was == s.cur.closed && r == s.cur.routines then
        some { s with cur := s.cur.closeBegin.1, pc := .waiting ret r }
      else none
    | _ => none
  | .gClosed g =>
    match s.pc with
    | .waiting ret r =>
      if isCur s g && s.cur.closeCanReturn r then some { s with pc := .retp s.jm ret } else none
    | _ => none
  | .nextGenRet m e =>
    -- besides the returns prepared by a coordinator answer (`retp`): the leader's assignment step can fail locally
    -- (selected balancer unknown, member metadata undecodable: `assigning`), and so can decoding the SyncGroup
    -- assignment (`fetching`, before the OffsetFetch is sent); both return (jm, a non-kafka error)
    if returnsNow s m e then
      match e with
      | none => some { s with member := m, pc := .coord 0 none }
      | some .closed => some { s with member := m, pc := .leaveP .exit }
      | some .rebalance => some { s with member := m, pc := .delivering .rebalance false }
      | some er => some { s with member := m, pc := .leaveP (.deliver er), needBackoff := true }
    else none
  | .leave m =>
    match s.pc with
    | .leaveP a =>
      if m == s.member then
        (if m == "" then some (afterLeave { s with leaveFail := false } a)
         else some { s with pc := .coord 0 (some a), leaveFail := false })
      else none
    | _ => none
  | .leaveRes mi _ =>
    match s.pc with
    | .leaveCall a => if mi == s.member then some (afterLeave { s with left := mi :: s.left } a) else none
    | _ => none
  | .errDeliver e delivered =>
    match s.pc with
    | .delivering e' bk =>
      if e == e' then
        if delivered then
          (if s.inbox.isNone && s.nextWaiting > 0 then
            some { s with inbox := some (.err e), nextWaiting := s.nextWaiting - 1,
                          pc := if bk then .backoffP false else .coord 0 none }
           else none)
        else if s.closedCG then
          (if c.fixD9 then some { s with pc := .leaveP .exit }
           else some { s with pc := .exiting, exitWith := some (s.member, false) })
        else none
      else none
    | _ => none
  | .backoff what =>
    match s.pc with
    | .backoffP false => if what == 0 then some { s with pc := .backoffP true } else none
    | .backoffP true =>
      if what == 1 then some { s with pc := .coord 0 none, needBackoff := false }
      else if what == 2 && s.closedCG then some { s with pc := .exiting, exitWith := some (s.member, false) }
      else none
    | _ => none
  | .runExit => if s.pc == .exiting then some { s with pc := .exited } else none
  | .hbCall g gid m => onCur s g (gHbCall gid m)
  | .hbRet g e => onCur s g (gHbRet e)
  | .hbExit g => onCur s g gHbExit
  | .watchCall g t => onCur s g (gWatchCall t)
  | .watchParts g t n => onCur s g (gWatchParts t n)
  | .watchErr g t e => onCur s g (gWatchErr t e)
  | .watchExit g t => onCur s g (gWatchExit t)
  | .fnExit g cbm left => onCur s g (gFnExit cbm left)
  | .uRet g acc =>
    if isCur s g then onCur s g (gURet acc)
    else if g + 1 < s.gens && !acc && s.oldLate > 0 then some { s with oldLate := s.oldLate - 1 }
    else none
  | .uCtx g => if isCur s g then onCur s g gUCtx else if g + 1 < s.gens then some s else none
  | .closeCall => some { s with closedCG := true }
  | .closeRet => if s.pc == .exited && s.closedCG then some s else none
  | .nextCall => some { s with nextWaiting := s.nextWaiting + 1 }
  | .nextRet r =>
    match r with
    | .err .closed => if s.closedCG && s.nextWaiting > 0 then some { s with nextWaiting := s.nextWaiting - 1 } else none
    | _ => if s.inbox == some r then some { s with inbox := none } else none

/-- run a whole trace; `none` when some event is not accepted -/
def run (c : Cfg) : St → List Ev → Option St
  | s, [] => some s
  | s, e :: es => match step c s e with
    | some s' => run c s' es
    | none => none

/-- index of the first rejected event and the state before it -/
def firstReject (c : Cfg) : St → List Ev → Nat → Option (Nat × St)
  | _, [], _ => none
  | s, e :: es, i => match step c s e with
    | some s' => firstReject c s' es (i + 1)
    | none => some (i, s)

/-- states reachable from the initial state -/
inductive Reachable (c : Cfg) : St → Prop
  | init : Reachable c {}
  | step {s s' : St} (e : Ev) : Reachable c s → step c s e = some s' → Reachable c s'

/-- what `coordinator()` dials after a successful FindCoordinator: host and port of the answer, joined the way
`net.JoinHostPort` does (a host with a colon — an IPv6 literal — goes in brackets) -/
def coordinatorAddress (host : String) (port : Int) : String :=
  if host.contains ':' then "[" ++ host ++ "]:" ++ toString port else host ++ ":" ++ toString port

/-- The documented defaults of `ConsumerGroupConfig` (field comments "Default: …"; durations in milliseconds): what
"the configured interval / back-off" means when the program configures nothing. -/
def documentedGroupDefaults : List (String × String) :=
  [("GroupBalancers", "RangeGroupBalancer,RoundRobinGroupBalancer"), ("HeartbeatInterval", "3000"),
   ("PartitionWatchInterval", "5000"), ("SessionTimeout", "30000"), ("RebalanceTimeout", "30000"),
   ("JoinGroupBackoff", "5000"), ("RetentionTime", "-1"), ("StartOffset", "FirstOffset"), ("Timeout", "5000")]

/-- the `defaults` observation of the driver, as the documentation wants it: the config `Validate` leaves behind, and what
a Reader that sets only Brokers/GroupID/Topic puts into JoinGroup / OffsetCommit and where it starts -/
def expectedDefaultsObservation : String :=
  "validate=true hb=3000 session=30000 rebalance=30000 backoff=5000 watchiv=5000 retention=-1 start=-2 timeout=5000 " ++
  "balancers=range,roundrobin watch=false r.protocols=range,roundrobin r.session=30000 r.rebalance=30000 " ++
  "r.retention=-1 r.start=t/0@-2 r.watchpolled=no"

end KV.Group
