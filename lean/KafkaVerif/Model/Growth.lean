/-
Model/Growth.lean — how protocol/decode.go allocates a value whose size comes from the wire: `decodeElems` (arrays) and
`(*decoder).read` (strings, bytes) allocate `init n` slots before any data of the value has arrived and replace the buffer by
one of `grow len n` slots whenever all `len` slots are full and more is announced.  `init` / `grow` are regenerated from the
source (Gen/DecoderCfg.lean `arrayInit`, `arrayGrow`, `readInit`, `readGrow`, a symbolic execution of the Go statements).

Two facts are wanted of such a policy (Props/C04, Props/C20):
  * when the whole value arrives, the final buffer has EXACTLY the announced number of slots (a decoded array has the elements
    the broker encoded, no more);
  * every single allocation is at most `chunk` or twice what has ARRIVED so far — never the announced size.
Core Lean only.
-/
namespace KV.Growth

structure Policy where
  init : Nat → Nat
  grow : Nat → Nat → Nat

/-- what the theorems need of a policy: `init_chunk`, `grow_double` bound each allocation (`allocs_follow_data`); `init_pos`,
`grow_gt` make the capacity grow strictly, so the loop ends at `n` (`finalCap_complete`); `init_le`, `grow_le` serve both -/
structure Policy.Ok (p : Policy) (chunk : Nat) : Prop where
  init_le : ∀ n, p.init n ≤ n
  init_chunk : ∀ n, p.init n ≤ chunk
  init_pos : ∀ n, 0 < n → 0 < p.init n
  grow_gt : ∀ len n, 0 < len → len < n → len < p.grow len n
  grow_le : ∀ len n, len < n → p.grow len n ≤ n
  grow_double : ∀ len n, p.grow len n ≤ 2 * len

/-- the buffers allocated AFTER the first one while `k` of the `n` announced units arrive (then the data stops, or k = n): a
buffer of `cap` slots is replaced when its slots are full (`cap ≤ k`) and more is announced (`cap < n`) -/
def grows (p : Policy) (n k : Nat) : Nat → Nat → List Nat
  | 0, _ => []
  | fuel + 1, cap => if cap ≤ k ∧ cap < n then p.grow cap n :: grows p n k fuel (p.grow cap n) else []

/-- every allocation made for the value (fuel `n + 1`: the capacity grows strictly and never exceeds `n`) -/
def allocs (p : Policy) (n k : Nat) : List Nat := p.init n :: grows p n k (n + 1) (p.init n)

/-- the capacity of the buffer in use at the end -/
def finalFrom (p : Policy) (n k : Nat) : Nat → Nat → Nat
  | 0, cap => cap
  | fuel + 1, cap => if cap ≤ k ∧ cap < n then finalFrom p n k fuel (p.grow cap n) else cap
def finalCap (p : Policy) (n k : Nat) : Nat := finalFrom p n k (n + 1) (p.init n)

theorem grows_bounded (p : Policy) (chunk : Nat) (h : p.Ok chunk) (n k : Nat) :
    ∀ (fuel cap : Nat), ∀ c ∈ grows p n k fuel cap, c ≤ 2 * k ∧ c ≤ n := by
  intro fuel
  induction fuel with
  | zero => intro cap c hc; simp [grows] at hc
  | succ fuel ih =>
    intro cap c hc
    simp only [grows] at hc
    split at hc
    · rename_i hcond
      rcases List.mem_cons.1 hc with rfl | hc'
      · have := h.grow_double cap n
        have := h.grow_le cap n hcond.2
        omega
      · exact ih _ c hc'
    · simp at hc

/-- **allocation follows the data**: every buffer allocated while `k` units of a value announced as `n` arrive holds at most
`chunk` slots (the first one) or at most twice what has arrived — and never more than announced -/
theorem allocs_follow_data (p : Policy) (chunk : Nat) (h : p.Ok chunk) (n k : Nat) :
    ∀ c ∈ allocs p n k, (c ≤ chunk ∨ c ≤ 2 * k) ∧ c ≤ n := by
  intro c hc
  rcases List.mem_cons.1 hc with rfl | hc'
  · exact ⟨Or.inl (h.init_chunk n), h.init_le n⟩
  · have := grows_bounded p chunk h n k _ _ c hc'
    exact ⟨Or.inr this.1, this.2⟩

theorem finalFrom_complete (p : Policy) (chunk : Nat) (h : p.Ok chunk) (n : Nat) :
    ∀ (fuel cap : Nat), 0 < cap → cap ≤ n → n - cap < fuel → finalFrom p n n fuel cap = n := by
  intro fuel
  induction fuel with
  | zero => intro cap _ _ hf; omega
  | succ fuel ih =>
    intro cap hpos hle hf
    simp only [finalFrom]
    by_cases hlt : cap < n
    · have h1 := h.grow_gt cap n hpos hlt
      have h2 := h.grow_le cap n hlt
      rw [if_pos ⟨hle, hlt⟩]
      exact ih _ (by omega) h2 (by omega)
    · have : ¬ (cap ≤ n ∧ cap < n) := fun hh => hlt hh.2
      rw [if_neg this]; omega

/-- **a completely received value ends in a buffer of exactly the announced size** -/
theorem finalCap_complete (p : Policy) (chunk : Nat) (h : p.Ok chunk) (n : Nat) : finalCap p n n = n := by
  unfold finalCap
  by_cases h0 : n = 0
  · subst h0
    have := h.init_le 0
    simp [finalFrom]; omega
  · exact finalFrom_complete p chunk h n _ _ (h.init_pos n (by omega)) (h.init_le n) (by have := h.init_pos n (by omega); omega)

end KV.Growth
