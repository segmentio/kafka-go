/-
Model/ReaderStack.lean — frame accounting of message_reader.go's reader stack (messageSetReader / readerStack), core
Lean only.  Only the ROOT of the stack reads from the Conn (`reader` = the Conn's bufio.Reader, `remain` = bytes of the
fetch response not consumed yet); every reader pushed for a compressed batch / wrapper message reads from a buffer of
decompressed bytes.  What C11/C17 need from this file of the Go code is that the root's `remain` and the bytes taken from
the Conn move together, and that `discard()` empties the root whatever is on the stack:

  every readX / discardX method       `r.remain, err = readX(r.reader, r.remain, …)` on the TOP of the stack      Op.read
  readMessageV2, compressed batch     codec reads through io.LimitedReader{R: r.reader, N: batchRemain};
                                      `r.remain -= batchRemain - int(limitReader.N)`; push                           Op.pushV2
  readMessageV1, compressed wrapper   inside readBytesWith: `remain = sz - (n - int(limitReader.N))`; push           Op.pushV1
  markRead / unwindStack / readMessageV1 loop   pop an exhausted reader                                             Op.pop
  discard()                           `for r.parent != nil { r.readerStack = r.parent }`; `r.discardN(r.remain)`     Op.discard

The three accounting statements are regenerated facts (`Gen.ConnLegacy.readerStackFacts`, go/extract/connlegacy).
What the readers of the stack parse is not modelled here: Model/PullReader.lean has the same stack with tokens in place of byte
counts (`KV.C02.Pull.MSR`, for C02).
-/
import KafkaVerif.Base.Reader

namespace KV.ReaderStack
open KV KV.Reader

structure Facts where
  discardRewinds : Bool      -- discard() goes back to the I/O-backed root before discarding
  v2AccountsConsumed : Bool  -- compressed v2 batch: remain decreases by what the codec consumed (batchRemain − N)
  v1AccountsConsumed : Bool  -- compressed v1 wrapper: likewise (n − N)
  deriving Repr, DecidableEq

def Facts.all (f : Facts) : Bool := f.discardRewinds && f.v2AccountsConsumed && f.v1AccountsConsumed

/-- root = ⟨bytes still to come on the Conn, root.remain⟩; `children` = remaining sizes of the pushed buffers, top first -/
structure MSR where
  root : RS
  children : List Nat
  deriving Repr, DecidableEq

inductive Op where
  | read (n : Int)                    -- a read.go primitive asking for n bytes on the top reader
  | pushV2 (batchRemain used dlen : Nat)  -- the codec consumed `used ≤ batchRemain` bytes, produced `dlen`
  | pushV1 (n used dlen : Nat)
  | pop
  | discard
  deriving Repr, DecidableEq

/-- take `k` bytes from the Conn through the root, `remain` decreasing by `acct` (the Go code's bookkeeping) -/
def rootTake (r : RS) (k acct : Nat) : RS := ⟨r.inp.drop k, r.sz - acct⟩

def step (f : Facts) (m : MSR) : Op → MSR
  | .read n =>
    match m.children with
    | [] => { m with root := (discardN n m.root).2 }          -- on the root: any read.go primitive conserves; discardN stands for it
    | c :: cs => { m with children := (c - n.toNat) :: cs }     -- on a buffer: the Conn is not touched
  | .pushV2 batchRemain used dlen =>
    match m.children with
    | [] =>
      let used := min used (min batchRemain (min m.root.sz m.root.inp.length))
      { root := rootTake m.root used (if f.v2AccountsConsumed then used else batchRemain), children := [dlen] }
    | _ => m                                                     -- compressed batches are not nested
  | .pushV1 n used dlen =>
    match m.children with
    | [] =>
      let used := min used (min n (min m.root.sz m.root.inp.length))
      { root := rootTake m.root used (if f.v1AccountsConsumed then used else n), children := [dlen] }
    | c :: cs => { m with children := dlen :: (c - min n c) :: cs }   -- a wrapper inside a decompressed buffer
  | .pop => { m with children := m.children.drop 1 }
  | .discard =>
    if f.discardRewinds then { root := (discardN m.root.sz m.root).2, children := [] }
    else
      -- unwindStack only pops EXHAUSTED readers; then `discardN(remain)` hits whatever is on top
      match m.children.dropWhile (· == 0) with
      | [] => { root := (discardN m.root.sz m.root).2, children := [] }
      | _ :: cs => { m with children := 0 :: cs }

def run (f : Facts) (m : MSR) : List Op → MSR
  | [] => m
  | o :: os => run f (step f m o) os

end KV.ReaderStack
