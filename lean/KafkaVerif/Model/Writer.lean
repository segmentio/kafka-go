/-
Model/Writer.lean — the Writer of writer.go as one labelled transition system (core Lean only).

State  = what the Go objects hold (Writer.closed / w.mutex / w.writers, partitionWriter.currBatch /
         queue / the sender goroutine's position in writeBatches→writeBatch, writeBatch fields, the
         WriteMessages calls in flight) + the environment (the broker's per-partition logs and the
         journal of produce attempts).
Events = the critical sections and channel operations of writer.go; one constructor per hook event
         (`W.* PW.* Q.* B.*`, placed inside the critical section they name) plus `produce`, the fake
         broker's decision for one produce attempt (environment).
`step : Cfg → State → Event → Option State` is deterministic; `run` folds it (trace acceptance).

Go ↔ model
  (*Writer).enter                    enter          (under w.mutex)
  (*Writer).WriteMessages            begin_, reject toolarge/topic/meta, assign, ret
  (*Writer).batchMessages            reject closed, batch … newPW … batched   (under w.mutex)
  (*partitionWriter).writeMessages   newBatch, add, detach full/nofit (+ qput)  (under ptw.mutex)
  (*writeBatch).add / full           guards of add / detach full
  (*partitionWriter).awaitBatch      timerFire, detach timer (+ qput)           (under ptw.mutex)
  (*partitionWriter).close           detach close (+ qput), qclose              (under ptw.mutex)
  batchQueue.Put / Get / Close       qput, qget, qclose                         (under queue mutex)
  (*partitionWriter).writeBatches    qget (some b) → writeBatch; qget none → goroutine exits
  (*partitionWriter).writeBatch      attempt, attemptDone (retry decision), completion, complete
  (*Writer).Close                    closeBegin … closeMarked (under w.mutex), closeReturn (after group.Wait)
-/
import KafkaVerif.Base.Run

namespace KV.Writer

/-- error class of an attempt / batch: 0 = nil; Kafka error codes as they are; transport errors ≥ 1000 -/
abbrev Code := Int
/-- (topic, partition) -/
abbrev TP := String × Int
/-- a message = (call id, index in the call's slice) -/
abbrev Msg := Nat × Nat

def upd {α : Type} {β : Type} [DecidableEq α] (f : α → β) (a : α) (b : β) : α → β :=
  fun x => if x = a then b else f x

@[simp] theorem upd_same {α β : Type} [DecidableEq α] (f : α → β) (a : α) (b : β) : upd f a b a = b := by
  simp [upd]

theorem upd_other {α β : Type} [DecidableEq α] (f : α → β) (a x : α) (b : β) (h : x ≠ a) : upd f a b x = f x := by
  simp [upd, h]

/-- Writer configuration (writer.go: batchSize(), batchBytes(), maxAttempts(), Async, Completion, Topic) and
the retry classification `isTemporary(err) || isTransientNetworkError(err)` as a parameter. -/
structure Cfg where
  batchSize : Nat
  batchBytes : Nat
  maxAttempts : Nat
  async : Bool
  completion : Bool
  topic : String
  retriable : Code → Bool
  /-- BatchTimeout plus the scheduling slack granted to the timer goroutine, in µs of the trace clock;
  0 = the run carries no clock (no `tick` events) -/
  linger : Nat := 0

/-- the accessors `(*Writer).batchSize / batchBytes / maxAttempts`: an option left at 0 means its default -/
def effBatchSize (n : Nat) : Nat := if n = 0 then 100 else n
def effBatchBytes (n : Nat) : Nat := if n = 0 then 1048576 else n
def effMaxAttempts (n : Nat) : Nat := if n = 0 then 10 else n

inductive Why | full | nofit | timer | close
  deriving DecidableEq, Repr

/-- the broker's decision for one produce attempt: applied∧acked, (applied?)∧response lost, rejected with a code -/
inductive BrOut
  | acked
  | lost (applied : Bool)
  | rejected (code : Code)
  deriving DecidableEq, Repr

def BrOut.applied : BrOut → Bool
  | .acked => true
  | .lost a => a
  | .rejected _ => false

/-- position of the partition writer's goroutine (writeBatches / writeBatch) -/
inductive Sender
  | idle                                          -- in queue.Get
  | ready (b k : Nat)                             -- has batch b, about to make attempt k (k > 0: backing off)
  | attempting (b k : Nat) (br : Option BrOut)    -- inside produce; br = the broker's decision once made
  | finishing (b : Nat) (err : Code) (cb : Bool)  -- retry loop left with err; cb = Completion already called
  | exited
  deriving DecidableEq, Repr

structure BMsg where
  msg : Msg
  size : Nat
  seq : Nat          -- ghost: global submission (add) sequence number
  deriving DecidableEq, Repr

structure Batch where
  pw : Nat
  tp : TP
  ord : Nat                  -- ghost: creation index within its partition writer
  msgs : List BMsg
  bytes : Nat
  detached : Option Why
  timerFired : Bool
  done : Option Code         -- batch.err once batch.done is closed
  ncompl : Nat               -- Completion callback invocations
  cbCode : Option Code
  acked : Bool               -- ghost: some attempt was applied and acknowledged
  napplied : Nat             -- ghost: attempts the broker applied
  nlost : Nat                -- ghost: applied attempts whose acknowledgement was lost

structure PW where
  tp : TP
  q : Nat
  curr : Option Nat
  pending : Option Nat       -- detached under ptw.mutex, queue.Put not yet executed
  queue : List Nat
  qclosed : Bool
  sender : Sender
  nbatches : Nat
  deriving Repr

inductive Phase | begun | assigning | batching | batched | rejectedClosed | returned
  deriving DecidableEq, Repr

inductive RejWhy | toolarge | topic | metadata | closed
  deriving DecidableEq, Repr

inductive Result
  | ok | async | ctx | closed
  | werr (codes : List Code)
  | rejected (why : RejWhy) (i : Nat)
  deriving DecidableEq, Repr

structure MsgSpec where
  size : Nat
  topic : String
  deriving DecidableEq, Repr

structure Call where
  msgs : List MsgSpec
  phase : Phase
  assign : List TP               -- assign[i] for the indexes balanced so far
  place : Nat → Option Nat       -- index → batch it was added to
  result : Option Result
  beginSeq : Nat                 -- ghost: value of the submission counter when the call began
  endSeq : Option Nat            -- ghost: value of the submission counter when the call returned

structure LogEntry where
  msg : Msg
  seq : Nat
  batch : Nat
  ord : Nat
  pw : Nat
  deriving DecidableEq, Repr

structure JEntry where
  tp : TP
  pw : Nat
  batch : Nat
  attempt : Nat
  out : BrOut
  deriving Repr

inductive Lock | free | call (c : Nat) | closer
  deriving DecidableEq, Repr

def Lock.isCall : Lock → Bool
  | .call _ => true
  | _ => false

structure State where
  closed : Bool
  wlock : Lock                    -- holder of w.mutex across batchMessages / Close's first part
  entered : Nat                   -- enter() succeeded, call not yet identified (Begin / Empty)
  inflight : Nat                  -- WriteMessages calls between enter() and their return
  enterFalse : Nat
  pwOf : TP → Option Nat          -- every partition writer ever created, by topic-partition
  pws : Nat → Option PW
  qOf : Nat → Option Nat
  pwIds : List Nat
  batches : Nat → Option Batch
  batchIds : List Nat
  calls : Nat → Option Call
  callIds : List Nat
  log : TP → List LogEntry
  tps : List TP
  journal : List JEntry
  seq : Nat
  closeReturned : Nat
  fresh : Option Nat              -- batch just created by newWriteBatch inside writeMessages, its first `add` still to come
  now : Nat                       -- the trace clock (µs), advanced by `tick`
  openedAt : Nat → Nat            -- when each batch was created (its linger timer was armed)

def State.init : State :=
  { closed := false, wlock := .free, entered := 0, inflight := 0, enterFalse := 0,
    pwOf := fun _ => none, pws := fun _ => none, qOf := fun _ => none, pwIds := [],
    batches := fun _ => none, batchIds := [], calls := fun _ => none, callIds := [],
    log := fun _ => [], tps := [], journal := [], seq := 0, closeReturned := 0, fresh := none,
    now := 0, openedAt := fun _ => 0 }

inductive Event
  | enter (ok : Bool)
  | tick (t : Nat)                -- the clock reaches t
  | empty
  | begin_ (c : Nat) (msgs : List MsgSpec)
  | reject (c : Nat) (why : RejWhy) (i : Nat)
  | assign (c i : Nat) (tp : TP)
  | batch (c : Nat)
  | newPW (pw q : Nat) (tp : TP)
  | newBatch (pw b : Nat)
  | add (pw b c i size : Nat)
  | detach (pw b : Nat) (why : Why) (size : Nat)
  | qput (q b : Nat) (acc : Bool)
  | qget (q : Nat) (b : Option Nat)
  | qclose (q : Nat)
  | timerFire (pw b : Nat) (attached : Bool)
  | attempt (pw b k : Nat)
  | produce (pw : Nat) (tp : TP) (msgs : List Msg) (out : BrOut)
  | attemptDone (pw b k : Nat) (code : Code)
  | completion (pw b : Nat) (code : Code)
  | complete (pw b : Nat) (code : Code)
  | batched (c : Nat)
  | ret (c : Nat) (r : Result)
  | closeBegin
  | closeMarked (n : Nat)
  | closeReturn
  deriving Repr

/-! ### helpers mirroring small Go functions -/

/-- the batch the sender goroutine currently holds -/
def Sender.batch? : Sender → Option Nat
  | .idle => none
  | .exited => none
  | .ready b _ => some b
  | .attempting b _ _ => some b
  | .finishing b _ _ => some b

/-- the batches of a partition writer that are not completed yet, in processing order: the one being sent, the
queue, the one detached but not yet put, the one still attached (currBatch) -/
def PW.pipe (P : PW) : List Nat := P.sender.batch?.toList ++ P.queue ++ P.pending.toList ++ P.curr.toList

/-- batchQueue.Put: append unless the queue is closed -/
def enq (q : List Nat) (b : Nat) (acc : Bool) : List Nat := if acc then q ++ [b] else q

/-- (*writeBatch).full -/
def Batch.full (cfg : Cfg) (B : Batch) : Bool :=
  decide (cfg.batchSize ≤ B.msgs.length) || decide (cfg.batchBytes ≤ B.bytes)

/-- (*writeBatch).add refuses: `b.size > 0 && b.bytes+bytes > maxBytes` -/
def Batch.nofit (cfg : Cfg) (B : Batch) (size : Nat) : Bool :=
  decide (0 < B.msgs.length) && decide (cfg.batchBytes < B.bytes + size)

/-- the up-front loop of WriteMessages: every message fits BatchBytes -/
def allFit (cfg : Cfg) (msgs : List MsgSpec) : Bool := msgs.all (fun m => decide (m.size ≤ cfg.batchBytes))

/-- (*Writer).chooseTopic: exactly one of Writer.Topic / Message.Topic must be set -/
def chooseTopic (cfg : Cfg) (m : MsgSpec) : Option String :=
  if cfg.topic ≠ "" ∧ m.topic ≠ "" then none
  else if cfg.topic = "" ∧ m.topic = "" then none
  else if m.topic ≠ "" then some m.topic else some cfg.topic

/-- the client-side result of an attempt is consistent with what the broker did -/
def consistent (br : Option BrOut) (code : Code) : Bool :=
  match br with
  | none => code != 0                      -- never reached the broker: some transport error
  | some .acked => code == 0
  | some (.lost _) => code != 0
  | some (.rejected c) => code == c && c != 0

/-- writeBatch's loop: what follows attempt k that ended with `code` -/
def afterAttempt (cfg : Cfg) (b k : Nat) (code : Code) : Sender :=
  if code = 0 then .finishing b 0 false
  else if cfg.retriable code ∧ k + 1 < cfg.maxAttempts then .ready b (k + 1)
  else .finishing b code false

/-- predicate on the i-th message of a call (false when out of range) -/
def msgAt (msgs : List MsgSpec) (i : Nat) (p : MsgSpec → Bool) : Bool :=
  match msgs[i]? with
  | some m => p m
  | none => false

def Batch.new (pw : Nat) (tp : TP) (ord : Nat) : Batch :=
  { pw := pw, tp := tp, ord := ord, msgs := [], bytes := 0, detached := none, timerFired := false, done := none, ncompl := 0, cbCode := none, acked := false, napplied := 0, nlost := 0 }

def PW.new (tp : TP) (q : Nat) : PW :=
  { tp := tp, q := q, curr := none, pending := none, queue := [], qclosed := false, sender := .idle, nbatches := 0 }

/-- (*writeBatch).add: append the message -/
def Batch.push (B : Batch) (m : BMsg) : Batch := { B with msgs := B.msgs ++ [m], bytes := B.bytes + m.size }

/-- ghost bookkeeping of the broker's decision on the batch -/
def Batch.noteProduce (B : Batch) (out : BrOut) : Batch :=
  { B with acked := B.acked || (out == .acked), napplied := (if out.applied then B.napplied + 1 else B.napplied), nlost := (if out == .lost true then B.nlost + 1 else B.nlost) }

def Call.placedAll (C : Call) : Bool := (List.range C.msgs.length).all (fun i => (C.place i).isSome)

def batchDone (s : State) (ob : Option Nat) : Option Code :=
  match ob with
  | none => none
  | some b => match s.batches b with
    | none => none
    | some B => B.done

def mkEntries (pw b : Nat) (B : Batch) : List LogEntry :=
  B.msgs.map (fun m => { msg := m.msg, seq := m.seq, batch := b, ord := B.ord, pw := pw })

/-- writeMessages has queued every batch that became full: no partition writer still has a full currBatch
(checked when batchMessages releases w.mutex) -/
def noFullAttached (cfg : Cfg) (s : State) : Bool :=
  s.pwIds.all (fun pw =>
    match s.pws pw with
    | none => true
    | some P =>
      match P.curr with
      | none => true
      | some b =>
        match s.batches b with
        | none => true
        | some B => !B.full cfg)

/-- urgency of the linger timer: the clock cannot pass `openedAt + linger` of a batch that is still attached and whose
timer has not fired — BatchTimeout is measured from the creation of the batch, whatever is appended meanwhile -/
def notOverdue (cfg : Cfg) (s : State) (t : Nat) : Bool :=
  cfg.linger == 0 || s.pwIds.all (fun pw =>
    match s.pws pw with
    | none => true
    | some P =>
      match P.curr with
      | none => true
      | some b =>
        match s.batches b with
        | none => true
        | some B => B.timerFired || decide (t ≤ s.openedAt b + cfg.linger))

/-! ### the transition function -/

def stepReject (cfg : Cfg) (s : State) (c : Nat) (why : RejWhy) (i : Nat) : Option State :=
  match s.calls c with
  | none => none
  | some C =>
    match why with
    | .toolarge =>
      if C.phase = .begun ∧ (C.msgs.take i).all (fun m => decide (m.size ≤ cfg.batchBytes)) ∧
         msgAt C.msgs i (fun m => decide (cfg.batchBytes < m.size)) = true then
        some { s with calls := upd s.calls c (some { C with phase := .returned, result := some (.rejected .toolarge i), endSeq := some s.seq }),
                      inflight := s.inflight - 1 }
      else none
    | .topic =>
      if (C.phase = .begun ∨ C.phase = .assigning) ∧ C.assign.length = i ∧ allFit cfg C.msgs ∧
         msgAt C.msgs i (fun m => (chooseTopic cfg m).isNone) = true then
        some { s with calls := upd s.calls c (some { C with phase := .returned, result := some (.rejected .topic i), endSeq := some s.seq }),
                      inflight := s.inflight - 1 }
      else none
    | .metadata =>
      if (C.phase = .begun ∨ C.phase = .assigning) ∧ C.assign.length = i ∧ allFit cfg C.msgs ∧
         msgAt C.msgs i (fun m => (chooseTopic cfg m).isSome) = true then
        some { s with calls := upd s.calls c (some { C with phase := .returned, result := some (.rejected .metadata i), endSeq := some s.seq }),
                      inflight := s.inflight - 1 }
      else none
    | .closed =>
      if s.wlock = .free ∧ s.closed ∧ C.phase = .assigning ∧ C.assign.length = C.msgs.length then
        some { s with calls := upd s.calls c (some { C with phase := .rejectedClosed }) }
      else none

def stepAdd (cfg : Cfg) (s : State) (pw b c i size : Nat) : Option State :=
  match s.pws pw with
  | none => none
  | some P =>
  match s.batches b with
  | none => none
  | some B =>
  match s.calls c with
  | none => none
  | some C =>
    if s.wlock = .call c ∧ P.curr = some b ∧ P.pending = none ∧ B.pw = pw ∧ B.tp = P.tp ∧ B.detached = none ∧
       B.full cfg = false ∧ B.nofit cfg size = false ∧
       C.phase = .batching ∧ C.assign[i]? = some P.tp ∧ C.place i = none ∧
       (C.msgs[i]?).map (·.size) = some size ∧
       (List.range i).all (fun j => C.assign[j]? != some P.tp || (C.place j).isSome) ∧
       (s.fresh = none ∨ s.fresh = some b) then
      some { s with
        fresh := none,
        batches := upd s.batches b (some (B.push { msg := (c, i), size := size, seq := s.seq })),
        calls := upd s.calls c (some { C with place := upd C.place i (some b) }),
        seq := s.seq + 1 }
    else none

/-- why a batch may be detached from its partition writer and queued -/
def whyOk (cfg : Cfg) (s : State) (B : Batch) (why : Why) (size : Nat) : Bool :=
  match why with
  | .full => B.full cfg && s.wlock.isCall
  | .nofit => B.nofit cfg size && s.wlock.isCall
  | .timer => B.timerFired
  | .close => s.closed && decide (s.wlock = .closer)

def stepDetach (cfg : Cfg) (s : State) (pw b : Nat) (why : Why) (size : Nat) : Option State :=
  match s.pws pw with
  | none => none
  | some P =>
  match s.batches b with
  | none => none
  | some B =>
    if P.curr = some b ∧ P.pending = none ∧ B.detached = none ∧
       whyOk cfg s B why size = true ∧ s.fresh ≠ some b then
      some { s with
        pws := upd s.pws pw (some { P with curr := none, pending := some b }),
        batches := upd s.batches b (some { B with detached := some why }) }
    else none

/-- the broker decided `out` for the in-flight attempt k of batch b (sent by partition writer pw) -/
def produced (s : State) (pw b k : Nat) (P : PW) (B : Batch) (tp : TP) (out : BrOut) : State :=
  { s with
    pws := upd s.pws pw (some { P with sender := .attempting b k (some out) }),
    batches := upd s.batches b (some (B.noteProduce out)),
    log := upd s.log tp (if out.applied then s.log tp ++ mkEntries pw b B else s.log tp),
    journal := s.journal ++ [{ tp := tp, pw := pw, batch := b, attempt := k, out := out }] }

/-- the logs after a broker decision: the batch is appended to its partition's log iff the attempt was applied
(the model updates the map with a precomputed value so that the compiled oracle does not re-evaluate old logs) -/
theorem produced_log (s : State) (pw b k : Nat) (P : PW) (B : Batch) (tp : TP) (out : BrOut) :
    (produced s pw b k P B tp out).log =
      if out.applied then upd s.log tp (s.log tp ++ mkEntries pw b B) else s.log := by
  funext t
  simp only [produced]
  cases out.applied
  · by_cases h : t = tp
    · subst h; simp
    · simp [upd_other _ _ _ _ h]
  · simp

def stepProduce (s : State) (pw : Nat) (tp : TP) (msgs : List Msg) (out : BrOut) : Option State :=
  match s.pws pw with
  | some P =>
    match P.sender with
    | .attempting b k none =>
      match s.batches b with
      | some B =>
        if B.pw = pw ∧ B.tp = tp ∧ P.tp = tp ∧ B.msgs.map (·.msg) = msgs ∧ out ≠ .rejected 0 then some (produced s pw b k P B tp out) else none
      | none => none
    | _ => none
  | none => none

def stepRet (cfg : Cfg) (s : State) (c : Nat) (r : Result) : Option State :=
  match s.calls c with
  | none => none
  | some C =>
    let n := C.msgs.length
    let fin : Option State := some { s with calls := upd s.calls c (some { C with phase := .returned, result := some r, endSeq := some s.seq }),
                                            inflight := s.inflight - 1 }
    match r with
    | .closed => if C.phase = .rejectedClosed then fin else none
    | .async => if cfg.async = true ∧ C.phase = .batched then fin else none
    | .ctx => if cfg.async = false ∧ C.phase = .batched then fin else none
    | .ok =>
      if cfg.async = false ∧ C.phase = .batched ∧
         (List.range n).all (fun i => batchDone s (C.place i) == some 0) then fin else none
    | .werr codes =>
      if cfg.async = false ∧ C.phase = .batched ∧ codes.length = n ∧
         (List.range n).all (fun i => batchDone s (C.place i) == codes[i]?) ∧ codes.any (· != 0) then fin else none
    | .rejected _ _ => none

def step (cfg : Cfg) (s : State) (e : Event) : Option State :=
  match e with
  | .tick t =>
    if s.now ≤ t ∧ notOverdue cfg s t = true then some { s with now := t } else none
  | .enter ok =>
    if s.wlock = .free ∧ ok = !s.closed then
      if ok then some { s with entered := s.entered + 1, inflight := s.inflight + 1 }
      else some { s with enterFalse := s.enterFalse + 1 }
    else none
  | .empty =>
    if 0 < s.entered then some { s with entered := s.entered - 1, inflight := s.inflight - 1 } else none
  | .begin_ c msgs =>
    if 0 < s.entered ∧ (s.calls c).isNone ∧ msgs ≠ [] then
      some { s with entered := s.entered - 1, callIds := s.callIds ++ [c],
                    calls := upd s.calls c (some { msgs := msgs, phase := .begun, assign := [], place := fun _ => none, result := none, beginSeq := s.seq, endSeq := none }) }
    else none
  | .reject c why i => stepReject cfg s c why i
  | .assign c i tp =>
    match s.calls c with
    | none => none
    | some C =>
      if (C.phase = .begun ∨ C.phase = .assigning) ∧ C.assign.length = i ∧ allFit cfg C.msgs ∧
         msgAt C.msgs i (fun m => chooseTopic cfg m == some tp.1) = true then
        some { s with calls := upd s.calls c (some { C with phase := .assigning, assign := C.assign ++ [tp] }) }
      else none
  | .batch c =>
    match s.calls c with
    | none => none
    | some C =>
      if s.wlock = .free ∧ s.closed = false ∧ C.phase = .assigning ∧ C.assign.length = C.msgs.length ∧ allFit cfg C.msgs = true then
        some { s with wlock := .call c, calls := upd s.calls c (some { C with phase := .batching }) }
      else none
  | .newPW pw q tp =>
    if s.wlock.isCall = true ∧ s.closed = false ∧ (s.pwOf tp).isNone ∧ (s.pws pw).isNone ∧ (s.qOf q).isNone then
      some { s with pwOf := upd s.pwOf tp (some pw), qOf := upd s.qOf q (some pw), pwIds := s.pwIds ++ [pw],
                    tps := s.tps ++ [tp],
                    pws := upd s.pws pw (some (PW.new tp q)) }
    else none
  | .newBatch pw b =>
    match s.pws pw with
    | none => none
    | some P =>
      if s.wlock.isCall = true ∧ P.curr = none ∧ P.pending = none ∧ (s.batches b).isNone ∧ s.fresh = none then
        some { s with batchIds := s.batchIds ++ [b], fresh := some b, openedAt := upd s.openedAt b s.now,
                      pws := upd s.pws pw (some { P with curr := some b, nbatches := P.nbatches + 1 }),
                      batches := upd s.batches b (some (Batch.new pw P.tp P.nbatches)) }
      else none
  | .add pw b c i size => stepAdd cfg s pw b c i size
  | .detach pw b why size => stepDetach cfg s pw b why size
  | .qput q b acc =>
    match s.qOf q with
    | none => none
    | some pw =>
      match s.pws pw with
      | none => none
      | some P =>
        if P.pending = some b ∧ P.curr = none ∧ acc = !P.qclosed then
          some { s with pws := upd s.pws pw (some { P with pending := none, queue := enq P.queue b acc }) }
        else none
  | .qget q ob =>
    match s.qOf q with
    | none => none
    | some pw =>
      match s.pws pw with
      | none => none
      | some P =>
        match ob with
        | some b =>
          if P.sender = .idle ∧ P.queue.head? = some b then
            some { s with pws := upd s.pws pw (some { P with queue := P.queue.tail, sender := .ready b 0 }) }
          else none
        | none =>
          if P.sender = .idle ∧ P.queue = [] ∧ P.qclosed = true then
            some { s with pws := upd s.pws pw (some { P with sender := .exited }) }
          else none
  | .qclose q =>
    match s.qOf q with
    | none => none
    | some pw =>
      match s.pws pw with
      | none => none
      | some P =>
        if s.closed = true ∧ s.wlock = .closer ∧ P.curr = none ∧ P.pending = none then
          some { s with pws := upd s.pws pw (some { P with qclosed := true }) }
        else none
  | .timerFire pw b att =>
    match s.pws pw with
    | none => none
    | some P =>
    match s.batches b with
    | none => none
    | some B =>
      if P.pending = none ∧ B.pw = pw ∧ att = decide (P.curr = some b) then
        some { s with batches := upd s.batches b (some { B with timerFired := true }) }
      else none
  | .attempt pw b k =>
    match s.pws pw with
    | none => none
    | some P =>
      if P.sender = .ready b k ∧ k < cfg.maxAttempts then
        some { s with pws := upd s.pws pw (some { P with sender := .attempting b k none }) }
      else none
  | .produce pw tp msgs out => stepProduce s pw tp msgs out
  | .attemptDone pw b k code =>
    match s.pws pw with
    | none => none
    | some P =>
      match P.sender with
      | .attempting b' k' br =>
        if b' = b ∧ k' = k ∧ consistent br code = true then
          some { s with pws := upd s.pws pw (some { P with sender := afterAttempt cfg b k code }) }
        else none
      | _ => none
  | .completion pw b code =>
    match s.pws pw with
    | none => none
    | some P =>
    match s.batches b with
    | none => none
    | some B =>
      if cfg.completion = true ∧ P.sender = .finishing b code false then
        some { s with pws := upd s.pws pw (some { P with sender := .finishing b code true }),
                      batches := upd s.batches b (some { B with ncompl := B.ncompl + 1, cbCode := some code }) }
      else none
  | .complete pw b code =>
    match s.pws pw with
    | none => none
    | some P =>
    match s.batches b with
    | none => none
    | some B =>
      if P.sender = .finishing b code cfg.completion then
        some { s with pws := upd s.pws pw (some { P with sender := .idle }),
                      batches := upd s.batches b (some { B with done := some code }) }
      else none
  | .batched c =>
    match s.calls c with
    | none => none
    | some C =>
      if s.wlock = .call c ∧ C.phase = .batching ∧ C.placedAll = true ∧ noFullAttached cfg s = true ∧ s.fresh = none then
        some { s with wlock := .free, calls := upd s.calls c (some { C with phase := .batched }) }
      else none
  | .ret c r => stepRet cfg s c r
  | .closeBegin =>
    if s.wlock = .free then some { s with closed := true, wlock := .closer } else none
  | .closeMarked _ =>
    if s.wlock = .closer ∧ s.pwIds.all (fun pw => match s.pws pw with | some P => P.qclosed | none => false) then
      some { s with wlock := .free }
    else none
  | .closeReturn =>
    if s.closed = true ∧ s.inflight = 0 ∧ s.entered = 0 ∧
       s.pwIds.all (fun pw => match s.pws pw with | some P => P.sender == .exited | none => false) then
      some { s with closeReturned := s.closeReturned + 1 }
    else none

/-- run a trace; `none` = the model cannot take some event -/
def run (cfg : Cfg) (s : State) : List Event → Option State
  | [] => some s
  | e :: es => match step cfg s e with
    | none => none
    | some s' => run cfg s' es

def accepts (cfg : Cfg) (es : List Event) : Bool := (run cfg State.init es).isSome

/-- index of the first event the model cannot take, with the state before it -/
def firstReject (cfg : Cfg) (s : State) (n : Nat) : List Event → Option (Nat × State)
  | [] => none
  | e :: es => match step cfg s e with
    | none => some (n, s)
    | some s' => firstReject cfg s' (n + 1) es

/-- a state is reachable if some trace leads to it from the initial state -/
def Reachable (cfg : Cfg) (s : State) : Prop := ∃ es, run cfg State.init es = some s

/-- `run` is the monadic fold of `step` (the bridge to Base/Run.lean) -/
theorem run_eq (cfg : Cfg) (s : State) (es : List Event) : run cfg s es = es.foldlM (step cfg) s :=
  Run.eq_foldlM (fun _ => rfl) (fun s e es => by rw [run]; cases step cfg s e <;> rfl) es s

theorem run_append (cfg : Cfg) (s : State) (es fs : List Event) :
    run cfg s (es ++ fs) = (run cfg s es).bind (fun s' => run cfg s' fs) := by
  simp only [run_eq, List.foldlM_append]; rfl

/-- induction principle: a predicate that holds initially and is preserved by every step holds in every
reachable state -/
theorem invariant_of_step (cfg : Cfg) (I : State → Prop) (h0 : I State.init)
    (hstep : ∀ s e s', I s → step cfg s e = some s' → I s') : ∀ s, Reachable cfg s → I s :=
  fun _ ⟨es, hes⟩ => Run.invariant hstep (run_eq cfg _ es ▸ hes) h0

end KV.Writer
