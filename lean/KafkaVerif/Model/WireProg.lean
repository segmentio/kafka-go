/-
Model/WireProg.lean — ANY reader that touches the connection only through the size-threading primitives
conserves bytes (core Lean only).

message_reader.go and the callbacks of batch.go are long and stateful (reader stack, counts, offsets, varints,
decompression), but they touch the wire in one discipline only:

      r.remain, err = prim(r.reader, r.remain, …)          -- read.go / discard.go primitives
      io.LimitedReader{R: r.reader, N: n} …; r.remain -= n - int(limitReader.N)     -- the two decompression sites
      io.ReadFull(r, b[:m]); return size - m …             -- Batch.Read's value callback

(that this is so is a structural fact re-read from the source on every run: `Gen/MuxFacts.lean`,
`wireSitesThreaded`, `remainOnlyFromPrims`).  A program in that discipline is a tree: call a primitive, look at its
result — value or error — and at anything else (the program's own state is in the closure), decide what to do next.
`Prog` is that tree, `Prog.run` executes it over Base/Reader's state `⟨inp, sz⟩`, and `prog_conserves` says the bytes
consumed and the counter move together — for EVERY such program, whatever it computes, however it handles errors,
whatever the bytes are.  Model/BatchBytes.lean follows the same discipline for the magic-0/1 path (it is written
directly over Base/Reader, not as a `Prog`); the theorem here is for the parts of the real code that model does not
spell out (record batches, varints, headers, compression).
-/
import KafkaVerif.Base.Reader

namespace KV.WireProg
open KV KV.Reader

/-- the ways the code consumes bytes from the connection -/
inductive Prim
  | peekRead (n : Nat)          -- readInt8/16/32/64 (peekRead)
  | discardN (n : Int)          -- discardN, bufio.Discard under a size
  | readNewBytes (n : Int)      -- readNewBytes / readNewString
  | readUpTo (n k : Nat)        -- a LimitedReader of n bytes drained by a codec that takes k of them; io.ReadFull of n = k
  | varint (k : Nat)            -- readVarInt: consumes the k bytes of the encoding (or what is there)
  deriving Repr

/-- `takeUpTo n k`: at most `n`, at most what the frame and the stream hold, `k` as the consumer pleases -/
def takeUpTo (n k : Nat) : R Bytes := fun s =>
  let m := min (min n k) (min s.sz s.inp.length)
  (if m < min n k then .error .unexpectedEOF else .ok (s.inp.take m), ⟨s.inp.drop m, s.sz - m⟩)

def Prim.run : Prim → R Bytes
  | .peekRead n => Reader.peekRead n
  | .discardN n => fun s => match Reader.discardN n s with | (.ok _, s') => (.ok [], s') | (.error e, s') => (.error e, s')
  | .readNewBytes n => Reader.readNewBytes n
  | .readUpTo n k => takeUpTo n k
  | .varint k => takeUpTo k k

theorem conserves_takeUpTo (n k : Nat) : Conserves (takeUpTo n k) := fun s =>
  Adv.drop s _ (Nat.le_trans (Nat.min_le_right _ _) (Nat.min_le_left _ _))
    (Nat.le_trans (Nat.min_le_right _ _) (Nat.min_le_right _ _))

theorem Prim.conserves (p : Prim) : Conserves p.run := by
  cases p with
  | peekRead n => exact conserves_peekRead n
  | discardN n =>
    intro s
    have h := conserves_discardN n s
    simp only [Prim.run]
    cases hd : Reader.discardN n s with
    | mk r s' => rw [hd] at h; cases r <;> exact h
  | readNewBytes n => exact conserves_readNewBytes n
  | readUpTo n k => exact conserves_takeUpTo n k
  | varint k => exact conserves_takeUpTo k k

/-- a program over the primitives: it sees the outcome (value or error) of each call and continues as it likes -/
inductive Prog (α : Type)
  | ret (a : α)
  | call (p : Prim) (k : Except Err Bytes → Prog α)

def Prog.run {α : Type} : Prog α → RS → α × RS
  | .ret a, s => (a, s)
  | .call p k, s => let r := p.run s; (k r.1).run r.2

/-- **every program in the discipline conserves bytes** -/
theorem prog_conserves {α : Type} (prog : Prog α) : ∀ s, Adv s (prog.run s).2 := by
  induction prog with
  | ret a => intro s; exact Adv.refl s
  | call p k ih =>
    intro s
    simp only [Prog.run]
    exact Adv.trans (p.conserves s) (ih (p.run s).1 (p.run s).2)

/-- … and so, whatever it did, discarding what its counter says is left finishes the frame exactly (or the stream
has ended): the next byte of the stream is the first byte after the frame. -/
theorem prog_then_discard_finishes {α : Type} (prog : Prog α) (s : RS) :
    let s1 := (prog.run s).2
    let s2 := (Reader.discardN (↑s1.sz) s1).2
    Adv s s2 ∧ (s2.sz = 0 ∨ s2.inp = []) ∧ (s2.sz = 0 → s2.inp = s.inp.drop s.sz) :=
  (prog_conserves prog s).finish

end KV.WireProg
