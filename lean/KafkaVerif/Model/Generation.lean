/-
Model/Generation.lean — the Start/close accounting of `consumergroup.go` `Generation` (core Lean only).

Go ↔ Lean
* `Generation{done, closed, routines, joined}`            ↔ `Gen.closed` (= `done` is closed: both are written in
  the same critical sections), `Gen.routines`, `Gen.joined` (= the `joined` channel is closed)
* `(*Generation).Start`, critical section under `g.lock`   ↔ `Gen.start`   (returns whether the function was accounted)
* the epilogue of the goroutine launched by `Start`        ↔ `Gen.fnExit`  (`none` = Go would panic: close of closed channel /
  negative counter)
* `(*Generation).close`, critical section                  ↔ `Gen.closeBegin` (returns `r`), `Gen.closeCanReturn`
* `genCtx.Done()/Err()`                                    ↔ `Gen.closed` (ctx is cancelled iff `done` is closed)
* `heartbeatLoop`, `partitionWatcher` bodies               ↔ `Proc`, `WProc` little state machines driven by the
  coordinator's answers (environment events)

Ghost fields (`accounted`, `exited`, `returning`, `users`, `late`) only count; no Go statement reads them.
-/
namespace KV.Group

/-- error classes of a coordinator answer as far as `consumergroup.go` distinguishes them -/
inductive Err
  | closed        -- ErrGroupClosed (never a coordinator answer; produced by nextGeneration itself)
  | rebalance     -- kafka.Error RebalanceInProgress (27)
  | unknownTopic  -- kafka.Error UnknownTopicOrPartition (3)
  | kafka         -- any other kafka.Error code
  | net           -- anything else (dropped connection, timeout)
  deriving DecidableEq, Repr, Inhabited

/-- `errors.As(err, &kafkaError)` -/
def Err.isKafka : Err → Bool
  | .rebalance | .unknownTopic | .kafka => true
  | _ => false

/-- heartbeat function: `idle` = blocked in the select, `calling` = inside `conn.heartbeat`, `failed` = got an error
and is returning, `done` = returned from the function body -/
inductive Proc | idle | calling | failed | done
  deriving DecidableEq, Repr

/-- partition watcher: `init` before the start-up `readPartitions`, `calling0` inside it, `idle n` in the select with
`oParts = n`, `calling n` inside the periodic `readPartitions`, `failed` returning, `done` returned -/
inductive WProc | init | calling0 | idle (n : Nat) | calling (n : Nat) | failed | done
  deriving DecidableEq, Repr

structure Gen where
  gid : Int
  member : String
  closed : Bool := false
  routines : Nat := 0
  joined : Bool := false
  accounted : Nat := 0   -- ghost: number of accounted Start calls
  exited : Nat := 0      -- ghost: number of exit sections executed
  returning : Nat := 0   -- ghost: accounted functions whose body returned, exit section still pending
  users : Nat := 0       -- ghost: accounted application functions still inside their body
  late : Nat := 0        -- ghost: unaccounted (started after the end) application functions still running
  hb : Option Proc := none
  watchers : List (WProc × Bool) := []   -- state, accounted; index = position of the topic in config.Topics
  deriving Repr

namespace Gen

/-- `Start`, accounting part.  Returns the new state and whether the function was accounted. -/
def start (g : Gen) : Gen × Bool :=
  if g.closed then (g, false)
  else ({ g with routines := g.routines + 1, accounted := g.accounted + 1 }, true)

/-- the body of an accounted function returned (no Go state changes; the exit section becomes pending) -/
def bodyReturned (g : Gen) (acc : Bool) : Gen :=
  if acc then { g with returning := g.returning + 1 } else g

/-- exit section of the goroutine launched by `Start` -/
def fnExit (g : Gen) : Option Gen :=
  if g.routines = 0 ∨ g.returning = 0 then none
  else if g.routines = 1 ∧ g.joined then none      -- close of a closed channel
  else some { g with closed := true, routines := g.routines - 1, exited := g.exited + 1,
                     returning := g.returning - 1,
                     joined := g.joined || (g.routines == 1) }

/-- critical section of `close()`: returns the new state, whether it was already closed, and `r` -/
def closeBegin (g : Gen) : Gen × Bool × Nat :=
  ({ g with closed := true }, g.closed, g.routines)

/-- `close()` may return: `r = 0` or `<-g.joined` succeeds -/
def closeCanReturn (g : Gen) (r : Nat) : Bool := r == 0 || g.joined

/-- the accounting invariant -/
structure Inv (g : Gen) : Prop where
  count : g.routines + g.exited = g.accounted
  joined_iff : g.joined = true ↔ (g.closed = true ∧ g.routines = 0 ∧ 0 < g.accounted)
  exited_closed : 0 < g.exited → g.closed = true

theorem inv_fresh (gid : Int) (m : String) : Inv { gid := gid, member := m } :=
  ⟨rfl, by simp, by simp⟩

theorem start_open {g : Gen} (hc : g.closed = false) :
    g.start = ({ g with routines := g.routines + 1, accounted := g.accounted + 1 }, true) := by
  simp [start, hc]

theorem start_closed {g : Gen} (hc : g.closed = true) : g.start = (g, false) := by
  simp [start, hc]

theorem start_eq (g : Gen) :
    g.start = ({ g with routines := g.routines + (if !g.closed then 1 else 0),
                        accounted := g.accounted + (if !g.closed then 1 else 0) }, !g.closed) := by
  rcases g with ⟨_, _, _ | _⟩ <;> rfl

theorem bodyReturned_eq (g : Gen) (a : Bool) :
    g.bodyReturned a = { g with returning := g.returning + (if a then 1 else 0) } := by
  cases a <;> rfl

theorem fnExit_some {g g' : Gen} :
    g.fnExit = some g' ↔ (0 < g.routines ∧ 0 < g.returning ∧ ¬(g.routines = 1 ∧ g.joined = true)) ∧
      { g with closed := true, routines := g.routines - 1, exited := g.exited + 1, returning := g.returning - 1,
               joined := g.joined || (g.routines == 1) } = g' := by
  unfold fnExit
  split
  · simp; omega
  · split
    · simp [*]
    · simp only [Option.some.injEq]
      exact ⟨fun h => ⟨⟨by omega, by omega, ‹_›⟩, h⟩, And.right⟩

theorem inv_start (g : Gen) (h : Inv g) : Inv g.start.1 := by
  cases hc : g.closed
  · rw [start_open hc]
    have hn : g.closed ≠ true := by simp [hc]
    exact ⟨by have := h.count; show g.routines + 1 + g.exited = g.accounted + 1; omega,
      ⟨fun hj => absurd (h.joined_iff.mp hj).1 hn, fun hx => absurd hx.1 hn⟩, fun he => absurd (h.exited_closed he) hn⟩
  · rw [start_closed hc]; exact h

theorem inv_bodyReturned (g : Gen) (acc : Bool) (h : Inv g) : Inv (g.bodyReturned acc) := by
  rw [bodyReturned_eq]
  exact ⟨h.count, h.joined_iff, h.exited_closed⟩

namespace Inv

theorem joined_false {g : Gen} (h : Inv g) (hr : 0 < g.routines) : g.joined = false := by
  cases hj : g.joined with
  | false => rfl
  | true => have := (h.joined_iff.mp hj).2.1; omega

end Inv

theorem inv_fnExit (g g' : Gen) (h : Inv g) (he : g.fnExit = some g') : Inv g' := by
  obtain ⟨⟨hr, -, -⟩, rfl⟩ := fnExit_some.mp he
  have := h.count
  refine ⟨by show g.routines - 1 + (g.exited + 1) = g.accounted; omega, ?_, fun _ => rfl⟩
  show (g.joined || g.routines == 1) = true ↔ true = true ∧ g.routines - 1 = 0 ∧ 0 < g.accounted
  simp [h.joined_false hr]
  omega

theorem inv_closeBegin (g : Gen) (h : Inv g) : Inv g.closeBegin.1 := by
  unfold closeBegin
  refine ⟨h.count, ?_, fun _ => rfl⟩
  simp
  constructor
  · intro hj; exact (h.joined_iff.mp hj).2
  · intro ⟨h0, ha⟩
    have hc : g.closed = true := h.exited_closed (by have := h.count; omega)
    exact h.joined_iff.mpr ⟨hc, h0, ha⟩

/-- from an invariant state the exit section never panics on a double close of `joined` -/
theorem fnExit_no_double_close (g : Gen) (h : Inv g) (hr : 0 < g.routines) (hp : 0 < g.returning) :
    (g.fnExit).isSome = true := by
  unfold fnExit
  simp [h.joined_false hr]; omega

theorem start_closed_mono (g : Gen) (h : g.closed = true) : g.start.1 = g :=
  congrArg Prod.fst (start_closed h)

theorem fnExit_closed (g g' : Gen) (he : g.fnExit = some g') : g'.closed = true := by
  obtain ⟨-, rfl⟩ := fnExit_some.mp he
  rfl

end Gen

end KV.Group
