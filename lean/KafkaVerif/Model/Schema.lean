/-
Model/Schema.lean — the data types of the wire-codec model (core Lean only).

* `GoTy`, `RawField`, `RawStruct`, `RawMsg`: what the translator `go/extract/schemas.go` emits for every
  type passed to `protocol.Register` / `RegisterOverride` — the Go struct tree with field order, Go kind
  and the RAW `kafka:"…"` tag strings.  Nothing is resolved on the Go side.
* `Ty`: a schema *resolved for one version* (what `encodeFuncOf` / `decodeFuncOf` of protocol/encode.go,
  protocol/decode.go compile a Go type + version + flexible flag + struct tag into).
* `Val`: the values of a resolved schema (Go values restricted to the fields live in that version).
* `Ty.ind`: induction over the nested type `Ty` (the four integer widths are one case, `IntTy`).
-/
import KafkaVerif.Base.Bytes

namespace KV.Codec

/-- Go type of a struct field, as written in the source. -/
inductive GoTy where
  | bool | int8 | int16 | int32 | int64 | float64 | string
  | bytes                       -- []byte
  | slice (elem : GoTy)         -- []T
  | named (name : String)       -- a struct type declared in the same (or an imported protocol) package
  | unit                        -- struct{}
  | recordSet                   -- protocol.RecordSet     (io.WriterTo / io.ReaderFrom)
  | rawRecordSet                -- protocol.RawRecordSet  (io.WriterTo / io.ReaderFrom)
  | unsupported (src : String)
  deriving Repr, BEq, Inhabited

structure RawField where
  name : String
  ty : GoTy
  /-- the raw text of the `kafka:"…"` struct tag; `hasTag = false` when the field has no kafka tag -/
  tag : String
  hasTag : Bool := true
  deriving Repr, BEq, Inhabited

structure RawStruct where
  name : String
  fields : List RawField
  deriving Repr, BEq, Inhabited

structure RawMsg where
  pkg : String
  apiKey : Nat
  apiName : String
  isRequest : Bool
  /-- registered through `RegisterOverride` (rawproduce) rather than `Register` -/
  override : Bool := false
  root : String
  structs : List RawStruct
  deriving Repr, BEq, Inhabited

/-- A schema resolved for one API version.  `compact` is the flexible flag of the message (in the Go code
all strings/bytes/arrays of a flexible message are compact; the `compact` tag option is never read). -/
inductive Ty where
  | bool | int8 | int16 | int32 | int64
  | float64                                     -- carried as its IEEE-754 bit pattern
  | string (compact nullable : Bool)
  | bytes (compact nullable : Bool)
  | array (compact nullable : Bool) (elem : Ty)
  /-- `fields`: the regular fields in declaration order; `tagIds`/`tagTys`: the tagged fields (parallel
  lists, declaration order). -/
  | struct (flex : Bool) (fields : List Ty) (tagIds : List Int) (tagTys : List Ty)
  /-- Go `struct{}` (the `_ struct{}` marker fields): decoded like a struct without fields, but skipped by
  `structEncodeFuncOf` because `typ.Size() == 0`. -/
  | unit (flex : Bool)
  /-- `protocol.RecordSet` / `RawRecordSet`: an int32-size-prefixed blob whose inside is property C05's -/
  | records
  deriving Repr, Inhabited

inductive Val where
  | bool (b : Bool)
  | int (i : Int)                               -- int8/16/32/64 and the float64 bit pattern
  | str (s : Bytes)                             -- Go string (no nil)
  | bytes (b : Option Bytes)                    -- nil / non-nil []byte
  | arr (a : Option (List Val))                 -- nil / non-nil slice
  | struct (fields : List Val) (tagged : List Val)
  | records (payload : Option Bytes)            -- none: RecordSet{} (no records)
  deriving Repr, Inhabited

mutual
def Ty.beq : Ty → Ty → Bool
  | .bool, .bool | .int8, .int8 | .int16, .int16 | .int32, .int32 | .int64, .int64
  | .float64, .float64 | .records, .records => true
  | .unit f, .unit f' => f == f'
  | .string c n, .string c' n' => c == c' && n == n'
  | .bytes c n, .bytes c' n' => c == c' && n == n'
  | .array c n e, .array c' n' e' => c == c' && n == n' && Ty.beq e e'
  | .struct f fs is ts, .struct f' fs' is' ts' => f == f' && Ty.beqList fs fs' && is == is' && Ty.beqList ts ts'
  | _, _ => false
def Ty.beqList : List Ty → List Ty → Bool
  | [], [] => true
  | a :: as, b :: bs => Ty.beq a b && Ty.beqList as bs
  | _, _ => false
end
instance : BEq Ty := ⟨Ty.beq⟩

mutual
def Val.beq : Val → Val → Bool
  | .bool a, .bool b => a == b
  | .int a, .int b => a == b
  | .str a, .str b => a == b
  | .bytes a, .bytes b => a == b
  | .arr none, .arr none => true
  | .arr (some a), .arr (some b) => Val.beqList a b
  | .struct a t, .struct b u => Val.beqList a b && Val.beqList t u
  | .records a, .records b => a == b
  | _, _ => false
def Val.beqList : List Val → List Val → Bool
  | [], [] => true
  | a :: as, b :: bs => Val.beq a b && Val.beqList as bs
  | _, _ => false
end
instance : BEq Val := ⟨Val.beq⟩

/-- `typ.Size() == 0` in `structEncodeFuncOf`: the only zero-size Go type in the tree is `struct{}`. -/
def Ty.zeroSize : Ty → Bool
  | .unit _ => true
  | _ => false

/-- the fixed-width integer types with their width in bytes -/
inductive IntTy : Ty → Nat → Prop
  | i8 : IntTy .int8 1
  | i16 : IntTy .int16 2
  | i32 : IntTy .int32 4
  | i64 : IntTy .int64 8

section
variable {P : Ty → Prop} (bool : P .bool) (int : ∀ {t k}, IntTy t k → P t) (float64 : P .float64)
  (string : ∀ c n, P (.string c n)) (bytes : ∀ c n, P (.bytes c n)) (array : ∀ c n t, P t → P (.array c n t))
  (struct : ∀ flex fs ids ts, (∀ t ∈ fs, P t) → (∀ t ∈ ts, P t) → P (.struct flex fs ids ts))
  (unit : ∀ flex, P (.unit flex)) (records : P .records)
include bool int float64 string bytes array struct unit records

mutual
/-- induction over the nested type `Ty`: a struct gets the hypothesis for each of its regular and tagged fields -/
theorem Ty.ind (t : Ty) : P t :=
  match t with
  | .bool => bool | .int8 => int .i8 | .int16 => int .i16 | .int32 => int .i32 | .int64 => int .i64
  | .float64 => float64
  | .string c n => string c n
  | .bytes c n => bytes c n
  | .array c n t => array c n t (Ty.ind t)
  | .struct flex fs ids ts => struct flex fs ids ts (Ty.ind_list fs) (Ty.ind_list ts)
  | .unit flex => unit flex
  | .records => records
termination_by structural t
theorem Ty.ind_list (ts : List Ty) : ∀ t ∈ ts, P t :=
  match ts with
  | [] => fun _ h => nomatch h
  | t :: ts => fun t' h => by
    rcases List.mem_cons.1 h with h | h
    · exact h ▸ Ty.ind t
    · exact Ty.ind_list ts t' h
termination_by structural ts
end

end

mutual
theorem Ty.eq_of_beq : ∀ (a b : Ty), Ty.beq a b = true → a = b
  | .bool, b, h | .int8, b, h | .int16, b, h | .int32, b, h | .int64, b, h | .float64, b, h | .records, b, h => by
    cases b <;> simp [Ty.beq] at h <;> rfl
  | .unit f, b, h => by cases b <;> simp [Ty.beq] at h; simp [h]
  | .string c n, b, h => by cases b <;> simp [Ty.beq] at h; simp [h]
  | .bytes c n, b, h => by cases b <;> simp [Ty.beq] at h; simp [h]
  | .array c n e, b, h => by
    cases b <;> simp [Ty.beq] at h
    rename_i c' n' e'
    have := Ty.eq_of_beq e e' h.2
    simp [h.1, this]
  | .struct f fs is ts, b, h => by
    cases b <;> simp [Ty.beq] at h
    rename_i f' fs' is' ts'
    have h1 := Ty.eqList_of_beq fs fs' h.1.1.2
    have h2 := Ty.eqList_of_beq ts ts' h.2
    simp [h.1.1.1, h.1.2, h1, h2]
theorem Ty.eqList_of_beq : ∀ (a b : List Ty), Ty.beqList a b = true → a = b
  | [], b, h => by cases b <;> simp [Ty.beqList] at h; rfl
  | x :: xs, b, h => by
    cases b with
    | nil => simp [Ty.beqList] at h
    | cons y ys =>
      simp only [Ty.beqList, Bool.and_eq_true] at h
      rw [Ty.eq_of_beq x y h.1, Ty.eqList_of_beq xs ys h.2]
end

end KV.Codec
