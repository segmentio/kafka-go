/-
Model/PullReader.lean — message_reader.go and batch.go once more, this time **as the Go code is written**: a pull
parser over a stack of readers (`readerStack`), with `readHeader`, `readMessage` (the loop over empty batches),
`readMessageV1` (its `for r.readerStack != nil` loop with pop / wrapper push / skip below `min`), `readMessageV2`
(payload push, record, `batchEnd`), `markRead` / `unwindStack`, `discard`, and `(*Batch).readMessage` /
`(*Batch).ReadMessage` / `(*Batch).close`.  Core Lean only.  Only the code as it is now (`Variant.fixed`).

The byte stream at every level is the token stream of Model/MessageSetReader.lean (`r.remain == 0` ⇔ no token left;
a `read*` on `cut` or on nothing fails with errShortRead; a read that meets a token of another kind is the
desynchronisation the Go code would turn into garbage or a panic).  A pushed level holds the decompressed payload:
the records of a v2 batch as `r2` tokens, the inner messages of a wrapper as `h1`/`kv` tokens.

Model/MessageSetReader.lean is the same machine turned inside out (token driven); `Props/C02` `pull_eq_run` relates the
two, the oracle evaluates both on every case.  Model/ReaderStack.lean models the same `messageSetReader` stack once more, with
byte counts in place of tokens (`KV.ReaderStack.MSR`: the frame accounting C11/C17 need).
-/
import KafkaVerif.Model.MessageSetReader

namespace KV.C02.Pull

/-- one `readerStack` node: what is left to read at this level, `base`, `count`, and the header fields in use -/
structure Lvl where
  toks : List Tok
  base : Int := 0
  count : Nat := 0
  magic : Nat := 0
  first : Int := 0
  lastD : Int := 0
  hcount : Nat := 0
  codec : Bool := false
  deriving Repr

/-- `messageSetReader` -/
structure MSR where
  stack : List Lvl            -- head = r.readerStack; [] = nil
  empty : Bool := false
  lengthRemain : Int := 0
  batchEnd : Int := 0
  deriving Repr

inductive Err
  | shortRead      -- errShortRead
  | timedOut       -- RequestTimedOut (the `empty` reader)
  | desync         -- bytes of one kind parsed as another / nil dereference / `panic: markRead: negative count`
  deriving DecidableEq, Repr

def setTop (r : MSR) (f : Lvl → Lvl) : MSR :=
  match r.stack with
  | [] => r
  | l :: ls => { r with stack := f l :: ls }

/-- `unwindStack`: `for r.count == 0 { if r.remain == 0 && r.parent != nil { pop; continue }; break }` -/
def unwind : List Lvl → List Lvl
  | [] => []
  | [l] => [l]
  | l :: p :: ls => if l.count = 0 ∧ l.toks.isEmpty then unwind (p :: ls) else l :: p :: ls

/-- a failed call: the error and the reader as the call left it (`Batch.readMessage` still looks at
`lengthRemain` and `batchEnd`) -/
abbrev Fail := Err × MSR

/-- `markRead` -/
def markRead (r : MSR) : Except Fail MSR :=
  match r.stack with
  | [] => .error (.desync, r)
  | l :: ls => if l.count = 0 then .error (.desync, r) else .ok { r with stack := unwind ({ l with count := l.count - 1 } :: ls) }

/-- `readHeader` -/
def readHeader (r : MSR) : Except Fail MSR :=
  match r.stack with
  | [] => .error (.desync, r)
  | l :: ls =>
    if l.count > 0 then .ok r
    else match l.toks with
      | [] => .error (.shortRead, r)
      | .cut :: _ => .error (.shortRead, r)
      | .h2 b ld c z pl :: ts =>
        .ok { r with stack := { l with toks := ts, count := c, magic := 2, first := b, lastD := ld, hcount := c, codec := z } :: ls,
                     lengthRemain := pl, batchEnd := if c = 0 then b + ld + 1 else r.batchEnd }
      | .h1 m f z :: ts =>
        .ok { r with stack := { l with toks := ts, count := 1, magic := m, first := f, codec := z } :: ls, lengthRemain := 1 }
      | _ :: _ => .error (.desync, r)

def top? (r : MSR) : Option Lvl := r.stack.head?

/-- the `for { readHeader; if magic != 2 || count != 0 { break } }` of `readMessage` -/
def headerLoop : Nat → MSR → Except Fail MSR
  | 0, r => .error (.desync, r)
  | fuel + 1, r => do
    let r ← readHeader r
    match top? r with
    | none => .error (.desync, r)
    | some l => if l.magic ≠ 2 ∨ l.count ≠ 0 then pure r else headerLoop fuel r

/-- a returned message: offset, lastOffset, digest -/
abbrev Msg := Int × Int × Nat

/-- the inner messages of a wrapper value, as the bytes the pushed reader will see -/
def innerToks (magic : Nat) (inner : List (Int × Nat)) : List Tok :=
  inner.flatMap fun (f, t) => [Tok.h1 magic f false, Tok.kv t 0]

/-- the body of `readMessageV1`'s loop after its `readHeader`; `k` is `continue` -/
def v1Body (min : Int) (k : MSR → Except Fail (MSR × Msg)) (r : MSR) : Except Fail (MSR × Msg) :=
  match r.stack with
  | [] => .error (.desync, r)
  | l :: ls =>
    if l.codec then
      -- discardBytes() (the wrapper's key), readBytesWith(decompress), extractOffset, markRead, push, continue
      match l.toks with
      | .zv _ inner :: ts =>
        let r1 := { r with stack := { l with toks := ts } :: ls }
        do
          let r2 ← markRead r1
          let child : Lvl := { toks := innerToks l.magic inner, base := wrapperBase l.first inner }
          k { r2 with stack := child :: r2.stack }
      | [] => .error (.shortRead, r)
      | .cut :: _ => .error (.shortRead, r)
      | _ :: _ => .error (.desync, r)
    else
      let offset := l.first + l.base
      match l.toks with
      | .kv t _ :: ts =>
        let r1 := { r with stack := { l with toks := ts } :: ls }
        if offset < min then do
          let r2 ← markRead r1                            -- discardBytes ×2, markRead, continue
          k r2
        else do
          let r2 ← markRead r1                            -- readBytesWith(key), readBytesWith(val), markRead, return
          pure (r2, (offset, -1, t))
      | [] => .error (.shortRead, r)
      | .cut :: _ => .error (.shortRead, r)
      | _ :: _ => .error (.desync, r)

/-- `readMessageV1(min, …)`: `for r.readerStack != nil { if r.remain == 0 { pop; continue }; readHeader; … }` -/
def readMessageV1 (min : Int) : Nat → MSR → Except Fail (MSR × Msg)
  | 0, r => .error (.desync, r)
  | fuel + 1, r =>
    match r.stack with
    | [] => .error (.shortRead, r)                              -- loop condition false: `err = errShortRead`
    | l :: ls =>
      if l.toks.isEmpty then readMessageV1 min fuel { r with stack := ls }     -- r.remain == 0: pop, continue
      else do
        let r ← readHeader r
        v1Body min (readMessageV1 min fuel) r

/-- `readMessageV2` -/
def readMessageV2 (r : MSR) : Except Fail (MSR × Msg) := do
  let r ← readHeader r
  match r.stack with
  | [] => .error (.desync, r)
  | l :: ls =>
    -- first record of the set and a codec: decompress and push
    let pushed : Except Fail MSR :=
      if l.count = l.hcount ∧ l.codec then
        match l.toks with
        | .z2 _ recs :: ts =>
          let child : Lvl := { toks := recs.map (fun (d, t, z) => Tok.r2 d t z), base := -1, count := l.count, magic := l.magic,
                               first := l.first, lastD := l.lastD, hcount := l.hcount, codec := l.codec }
          .ok { r with stack := child :: { l with toks := ts, count := 0 } :: ls }
        | [] => .error (.shortRead, r)                          -- batchRemain > r.remain
        | .cut :: _ => .error (.shortRead, r)
        | _ :: _ => .error (.desync, r)
      else .ok r
    let r ← pushed
    match r.stack with
    | [] => .error (.desync, r)
    | l :: ls =>
      match l.toks with
      | .r2 d t z :: ts =>
        let offset := l.first + d
        let lastOffset := l.first + l.lastD
        let r1 := { r with stack := { l with toks := ts } :: ls, lengthRemain := r.lengthRemain - z,
                           batchEnd := if l.count = 1 then lastOffset + 1 else r.batchEnd }
        let r2 ← markRead r1
        pure (r2, (offset, lastOffset, t))
      | [] => .error (.shortRead, r)
      | .cut :: _ => .error (.shortRead, r)
      | _ :: _ => .error (.desync, r)

/-- `(*messageSetReader).readMessage` -/
def readMessage (fuel : Nat) (r : MSR) (min : Int) : Except Fail (MSR × Msg) :=
  if r.empty then .error (.timedOut, r)
  else do
    let r ← headerLoop fuel r
    match top? r with
    | none => .error (.desync, r)
    | some l => if l.magic = 2 then readMessageV2 r else readMessageV1 min fuel r

/-- `Batch` -/
structure Batch where
  msgs : MSR
  offset : Int
  lastOffset : Int := 0
  err : Option Outcome := none       -- batch.err
  started : Bool                     -- newMessageSetReader succeeded (else the Batch carries io.ErrUnexpectedEOF)
  deriving Repr

/-- `(*Batch).readMessage`: one message, or the error that ends the batch -/
def batchReadMessage (fuel : Nat) (expired : Bool) (b : Batch) : Batch × Option Msg :=
  match b.err with
  | some _ => (b, none)
  | none =>
    match readMessage fuel b.msgs b.offset with
    | .ok (m, (offset, lastOffset, tag)) =>
      let off1 := offset + 1
      let off2 := if m.batchEnd > off1 then m.batchEnd else off1
      ({ b with msgs := m, offset := off2, lastOffset := lastOffset }, some (offset, lastOffset, tag))
    | .error (.shortRead, m) =>
      -- discard(); remaining() == 0; checkTimeoutErr; the compaction jump; batchEnd
      if expired then
        let off2 := if m.batchEnd > b.offset then m.batchEnd else b.offset
        ({ b with msgs := m, offset := off2, err := some .timedOut }, none)
      else
        let off1 := if m.lengthRemain = 0 ∧ b.lastOffset ≥ b.offset then b.lastOffset + 1 else b.offset
        let off2 := if m.batchEnd > off1 then m.batchEnd else off1
        ({ b with msgs := m, offset := off2, err := some .eof }, none)
    | .error (.timedOut, m) => ({ b with msgs := m, err := some .timedOut }, none)
    | .error (.desync, m) => ({ b with msgs := m, err := some .desync }, none)

/-- `(*Batch).ReadMessage`: skip what lies below the conn offset `o` -/
def batchReadMessageSkip (o : Int) (expired : Bool) : Nat → Batch → Batch × Option Msg
  | 0, b => (b, none)
  | fuel + 1, b =>
    match batchReadMessage (fuel + 1) expired b with
    | (b', some (offset, lo, tag)) => if offset < o then batchReadMessageSkip o expired fuel b' else (b', some (offset, lo, tag))
    | (b', none) => (b', none)

/-- read a batch to its end -/
def drain (o : Int) (expired : Bool) : Nat → Batch → List (Int × Nat) → Batch × List (Int × Nat)
  | 0, b, acc => (b, acc)
  | fuel + 1, b, acc =>
    match batchReadMessageSkip o expired (fuel + 1) b with
    | (b', some (offset, _, tag)) => drain o expired fuel b' (acc ++ [(offset, tag)])
    | (b', none) => (b', acc)

def size : List Tok → Nat
  | [] => 0
  | .z2 _ recs :: ts => recs.length + 2 + size ts
  | .zv _ inner :: ts => 2 * inner.length + 2 + size ts
  | _ :: ts => 1 + size ts

/-- `Conn.ReadBatchWith` + `ReadMessage`* + `Close` on a Conn positioned at `o`, as `readAll` of the token machine -/
def readAll (expired : Bool) (o hwm : Int) (toks : List Tok) : List (Int × Nat) × Int × Outcome :=
  if hwm = o then ([], o, .timedOut)
  else
    let fuel := 2 * size toks + 8
    -- newMessageSetReader: one readHeader
    match readHeader { stack := [{ toks := toks }] } with
    | .error (.desync, _) => ([], o, .desync)
    | .error _ => ([], o, .unexpectedEOF)
    | .ok m =>
      let (b, out) := drain o expired fuel { msgs := m, offset := o, started := true } []
      (out, b.offset, b.err.getD .desync)

end KV.C02.Pull
