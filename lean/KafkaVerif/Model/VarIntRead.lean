/-
Model/VarIntRead.lean — read.go `readVarInt` with the buffer refills spelled out (core Lean only).

`readVarInt(r, sz, &v)` decodes a zig-zag varint from a bufio.Reader under the byte budget `sz`.  It works on what
happens to be BUFFERED (`r.Peek(r.Buffered())`), cut to `sz`:
  * a byte < 0x80 among them ends the number: `r.Discard(i+1)`, return `sz − n`;
  * otherwise every byte seen is a continuation byte: `r.Discard(len(input))`, `sz −= n`, `errShortRead` if the budget is
    used up; then `r.Peek(1)` blocks until more bytes arrive (EOF → errShortRead, remain `sz`) and the loop goes on with
    the new window, the partial value kept in `x`, `s`.
How many bytes are buffered at each turn is up to the network (TCP segmentation, the 4 KiB bufio buffer): the model
takes the window sizes as an arbitrary list `ws` (a missing or zero entry after a refill counts as 1: `Peek(1)`
returned, so at least one byte is there).

`Model/WireProg.lean` has the varint reader as a primitive that conserves bytes by definition (`Prim.varint`). Here
conservation is proved for the algorithm itself, refill branch included, for every window schedule (without `sz −= n`
in that branch the budget stays 1–2 bytes too high and `Batch.close` later discards them out of the next response).
The two stand side by side: no lemma derives `Prim.varint` from this model, and only `Adv` — not the value, `accum` /
`zigzag` — is proved here. `Model/BufVarInt.lean` (with `Lemmas/BufVarInt.lean`) is a second model of the same loop,
over an explicit bufio buffer and with the value; this one keeps to Base/Reader's `⟨inp, sz⟩` so that its result is an
`Adv`.
-/
import KafkaVerif.Base.Reader

namespace KV.VarIntRead
open KV KV.Reader

/-- index of the first byte < 0x80 in the window, if any -/
def findEnd : Bytes → Option Nat
  | [] => none
  | b :: rest => if b < 0x80 then some 0 else (findEnd rest).map (· + 1)

/-- accumulate continuation / final bytes into the unsigned value (`x |= uint64(b&0x7f) << s`) -/
def accum (x : Nat) (s : Nat) : Bytes → Nat × Nat
  | [] => (x, s)
  | b :: rest => accum (x ||| (((b.toNat &&& 0x7f) <<< s) % 18446744073709551616)) (s + 7) rest

/-- zig-zag decoding of the 64-bit pattern: `int64(x>>1) ^ -(int64(x)&1)` -/
def zigzag (x : Nat) : Int :=
  if x % 2 = 0 then Int.ofNat (x / 2) else -(Int.ofNat (x / 2)) - 1

/-- one run of `readVarInt`: `ws` = how many bytes are buffered at each turn of the loop -/
def readVarIntW : (fuel : Nat) → (ws : List Nat) → (first : Bool) → (x s : Nat) → RS → Except Err Int × RS
  | 0, _, _, _, _, st => (.error (.other "readVarInt: fuel"), st)
  | fuel + 1, ws, first, x, s, st =>
    -- the window: what is buffered, cut to the budget; on entry (`first`) the buffer may be empty, after a refill
    -- `Peek(1)` has returned, so at least one byte is there
    let w := match ws with | [] => (if first then 0 else 1) | w :: _ => (if first then w else max w 1)
    let input := st.inp.take (min (min w st.inp.length) st.sz)
    match findEnd input with
    | some i =>
      -- `n, err := r.Discard(i + 1); return sz - n, err`
      let (x', _) := accum x s (input.take (i + 1))
      (.ok (zigzag x'), ⟨st.inp.drop (i + 1), st.sz - (i + 1)⟩)
    | none =>
      let (x', s') := accum x s input
      -- `n, _ := r.Discard(len(input)); sz -= n`
      let st1 : RS := ⟨st.inp.drop input.length, st.sz - input.length⟩
      if st1.sz = 0 then (.error .shortRead, st1)
      -- `r.Peek(1)`: EOF → errShortRead, the budget as it stands
      else if st1.inp = [] then (.error .shortRead, st1)
      else readVarIntW fuel ws.tail false x' s' st1

def readVarInt (fuel : Nat) (ws : List Nat) : R Int := readVarIntW fuel ws true 0 0

theorem findEnd_lt {l : Bytes} {i : Nat} (h : findEnd l = some i) : i < l.length := by
  induction l generalizing i with
  | nil => simp [findEnd] at h
  | cons b rest ih =>
    simp only [findEnd] at h
    split at h
    · simp at h; subst h; simp
    · cases hr : findEnd rest with
      | none => simp [hr] at h
      | some j => simp [hr] at h; subst h; have := ih hr; simp; omega

/-- **whatever the network does to the chunk boundaries, `readVarInt` charges to the budget exactly the bytes it takes
off the stream** — on success, on `errShortRead`, in the refill branch -/
theorem readVarIntW_adv : ∀ (fuel : Nat) (ws : List Nat) (first : Bool) (x s : Nat) (st : RS),
    Adv st (readVarIntW fuel ws first x s st).2 := by
  intro fuel
  induction fuel with
  | zero => intro ws first x s st; exact Adv.refl st
  | succ fuel ih =>
    intro ws first x s st
    simp only [readVarIntW]
    generalize (match ws with | [] => (if first then 0 else 1) | w :: _ => (if first then w else max w 1)) = w
    -- the window is cut to the budget and to what the stream holds
    have hsz : min (min w st.inp.length) st.sz ≤ st.sz := Nat.min_le_right _ _
    have hin : min (min w st.inp.length) st.sz ≤ st.inp.length :=
      Nat.le_trans (Nat.min_le_left _ _) (Nat.min_le_right _ _)
    have hlen : (st.inp.take (min (min w st.inp.length) st.sz)).length = min (min w st.inp.length) st.sz := by
      rw [List.length_take, Nat.min_eq_left hin]
    cases hf : findEnd (st.inp.take (min (min w st.inp.length) st.sz)) with
    | some i =>
      have hi := findEnd_lt hf
      rw [hlen] at hi
      exact Adv.drop st _ (Nat.le_trans hi hsz) (Nat.le_trans hi hin)
    | none =>
      have hstep := Adv.drop st (st.inp.take (min (min w st.inp.length) st.sz)).length (by rw [hlen]; exact hsz)
        (by rw [hlen]; exact hin)
      simp only
      split
      · exact hstep
      · split
        · exact hstep
        · exact Adv.trans hstep (ih _ _ _ _ _)

theorem readVarInt_conserves (fuel : Nat) (ws : List Nat) : Conserves (readVarInt fuel ws) :=
  fun st => readVarIntW_adv fuel ws true 0 0 st

end KV.VarIntRead
