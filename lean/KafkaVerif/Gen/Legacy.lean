-- GENERATED by /verif/go/extract (legacy) from /repo/*.go — do not edit
import KafkaVerif.Base.LegacyWire
import KafkaVerif.Base.LegacyRead
import KafkaVerif.Lemmas.LegacyModel
import KafkaVerif.Lemmas.LegacyFlat
namespace KV.Gen.Legacy
open KV KV.Legacy KV.Codec

/-!
Per translated type `T` of the root package: the structure; `T.size` / `T.writeTo` (the sizeof.go / write.go calls of the two
methods, `if t.v >= vN` as `if decide …`) and `T.legacy_size`; the Kafka schema `T.writeTo` realises (`T.tyFs`, `T.valFs`,
`T.tyC`, `T.ty`, `T.val`) with `T.legacy_modelC`, stated at the constant `T.tyC` (the form that rewrites array elements), and
`T.legacy_model`, the same at `T.ty t` (the only form for a type with a version field); for the types Conn reads, `T.zero`,
`T.readFrom`, `T.Ok`, `T.read_write`.  Then the message-set writer, the `write*RequestV*` functions of write.go, and the
lists the check reports.

`T.tyFs` / `T.valFs` describe `T` as data, field by field, and the model's `encodeFields` is the interpreter of that description:
`T.legacy_modelC` evaluates it (simp set `legacy_enc`) and arrives at `T.writeTo`.  `T.readFrom` is the same description as a term over
`rdSeq` / `rdField` / `rdIf`, and `T.read_write` applies the rule of each (`rdSeq_rdField_eq`, `rdSeq_rdIf_eq`, Base/LegacyRead.lean) once
per statement.  `T.size` is separate Go code sharing no description with `T.writeTo`: `T.legacy_size` brings the length of what is written
into the form of a `size()` expression (simp set `legacy_len`) and leaves the regrouping of the sum to `omega`.
-/

structure brokerMetadataV1 where
  NodeID : Int
  Host : Bytes
  Port : Int
  Rack : Bytes
def brokerMetadataV1.size (t : brokerMetadataV1) : Int :=
  ((((4 : Int) + (4 : Int)) + (sizeofString t.Host)) + (sizeofString t.Rack))
def brokerMetadataV1.writeTo (t : brokerMetadataV1) : Bytes :=
  ((writeInt32 t.NodeID) ++ (writeString t.Host) ++ (writeInt32 t.Port) ++ (writeString t.Rack))
@[simp, legacy_len] theorem brokerMetadataV1.legacy_size (t : brokerMetadataV1) : ((brokerMetadataV1.writeTo t).length : Int) = brokerMetadataV1.size t := by
  simp only [brokerMetadataV1.size, brokerMetadataV1.writeTo, legacy_len] <;> omega

/-- the fields brokerMetadataV1.writeTo writes, as Kafka types and as values: lists, which a type that writes a brokerMetadataV1 through
this `writeTo` splices into its own; `tyC` / `val` are the struct type and value made of them -/
def brokerMetadataV1.tyFs : List Ty := ([.int32] ++ [(.string false false)] ++ [.int32] ++ [(.string false false)])
def brokerMetadataV1.valFs (t : brokerMetadataV1) : List Val := ([(.int t.NodeID)] ++ [(.str t.Host)] ++ [(.int t.Port)] ++ [(.str t.Rack)])
def brokerMetadataV1.tyC : Ty := .struct false brokerMetadataV1.tyFs [] []
@[simp, legacy_enc] theorem brokerMetadataV1.tyC_zeroSize : brokerMetadataV1.tyC.zeroSize = false := rfl
def brokerMetadataV1.ty (_ : brokerMetadataV1) : Ty := brokerMetadataV1.tyC
def brokerMetadataV1.val (t : brokerMetadataV1) : Val := .struct (brokerMetadataV1.valFs t) []
@[simp, legacy_enc] theorem brokerMetadataV1.legacy_modelC (t : brokerMetadataV1) : encode brokerMetadataV1.tyC (brokerMetadataV1.val t) = brokerMetadataV1.writeTo t := by
  simp only [brokerMetadataV1.tyC, brokerMetadataV1.val, brokerMetadataV1.writeTo, brokerMetadataV1.tyFs, brokerMetadataV1.valFs, legacy_enc]
theorem brokerMetadataV1.legacy_model (t : brokerMetadataV1) : encode (brokerMetadataV1.ty t) (brokerMetadataV1.val t) = brokerMetadataV1.writeTo t := brokerMetadataV1.legacy_modelC t

def brokerMetadataV1.zero : brokerMetadataV1 := { NodeID := 0, Host := [], Port := 0, Rack := [] }
/-- the reflective read() (struct fields in declaration order) of brokerMetadataV1, statement by statement -/
def brokerMetadataV1.readFrom : brokerMetadataV1 → Rd brokerMetadataV1 :=
  (rdSeq (rdField (fun _ => readInt32) (fun t x => { t with NodeID := x }))
    (rdSeq (rdField (fun _ => readString) (fun t x => { t with Host := x }))
    (rdSeq (rdField (fun _ => readInt32) (fun t x => { t with Port := x }))
    (rdSeq (rdField (fun _ => readString) (fun t x => { t with Rack := x }))
    rdDone))))
/-- values the wire format can carry: field ranges -/
structure brokerMetadataV1.Ok (t : brokerMetadataV1) : Prop where
  NodeID_ok : inRng 32 t.NodeID
  Host_ok : t.Host.length < 2 ^ 15
  Port_ok : inRng 32 t.Port
  Rack_ok : t.Rack.length < 2 ^ 15
theorem brokerMetadataV1.read_write (t : brokerMetadataV1) (h : brokerMetadataV1.Ok t) (rest : Bytes) :
    brokerMetadataV1.readFrom brokerMetadataV1.zero (brokerMetadataV1.writeTo t ++ rest) = some (t, rest) := by
  simp only [brokerMetadataV1.writeTo, List.append_assoc]
  exact rdSeq_rdField_eq (readInt32_write _ · h.NodeID_ok) <|
    rdSeq_rdField_eq (readString_write _ · h.Host_ok) <|
    rdSeq_rdField_eq (readInt32_write _ · h.Port_ok) <|
    rdSeq_rdField_eq (readString_write _ · h.Rack_ok) rfl

structure createTopicsRequestV0ReplicaAssignment where
  Partition : Int
  Replicas : (List Int)
def createTopicsRequestV0ReplicaAssignment.size (t : createTopicsRequestV0ReplicaAssignment) : Int :=
  ((sizeofInt32 t.Partition) + ((((Int.ofNat t.Replicas.length) + (1 : Int)) * (sizeofInt32 (0 : Int)))))
def createTopicsRequestV0ReplicaAssignment.writeTo (t : createTopicsRequestV0ReplicaAssignment) : Bytes :=
  ((writeInt32 t.Partition) ++ (writeInt32 (Int.ofNat t.Replicas.length)) ++ (writeEach t.Replicas (fun y => ((writeInt32 y)))))
@[simp, legacy_len] theorem createTopicsRequestV0ReplicaAssignment.legacy_size (t : createTopicsRequestV0ReplicaAssignment) : ((createTopicsRequestV0ReplicaAssignment.writeTo t).length : Int) = createTopicsRequestV0ReplicaAssignment.size t := by
  simp only [createTopicsRequestV0ReplicaAssignment.size, createTopicsRequestV0ReplicaAssignment.writeTo, legacy_len] <;> omega

/-- the fields createTopicsRequestV0ReplicaAssignment.writeTo writes, as Kafka types and as values: lists, which a type that writes a createTopicsRequestV0ReplicaAssignment through
this `writeTo` splices into its own; `tyC` / `val` are the struct type and value made of them -/
def createTopicsRequestV0ReplicaAssignment.tyFs : List Ty := ([.int32] ++ [(.array false false .int32)])
def createTopicsRequestV0ReplicaAssignment.valFs (t : createTopicsRequestV0ReplicaAssignment) : List Val := ([(.int t.Partition)] ++ [(.arr (some (t.Replicas.map fun y => (.int y))))])
def createTopicsRequestV0ReplicaAssignment.tyC : Ty := .struct false createTopicsRequestV0ReplicaAssignment.tyFs [] []
@[simp, legacy_enc] theorem createTopicsRequestV0ReplicaAssignment.tyC_zeroSize : createTopicsRequestV0ReplicaAssignment.tyC.zeroSize = false := rfl
def createTopicsRequestV0ReplicaAssignment.ty (_ : createTopicsRequestV0ReplicaAssignment) : Ty := createTopicsRequestV0ReplicaAssignment.tyC
def createTopicsRequestV0ReplicaAssignment.val (t : createTopicsRequestV0ReplicaAssignment) : Val := .struct (createTopicsRequestV0ReplicaAssignment.valFs t) []
@[simp, legacy_enc] theorem createTopicsRequestV0ReplicaAssignment.legacy_modelC (t : createTopicsRequestV0ReplicaAssignment) : encode createTopicsRequestV0ReplicaAssignment.tyC (createTopicsRequestV0ReplicaAssignment.val t) = createTopicsRequestV0ReplicaAssignment.writeTo t := by
  simp only [createTopicsRequestV0ReplicaAssignment.tyC, createTopicsRequestV0ReplicaAssignment.val, createTopicsRequestV0ReplicaAssignment.writeTo, createTopicsRequestV0ReplicaAssignment.tyFs, createTopicsRequestV0ReplicaAssignment.valFs, legacy_enc]
theorem createTopicsRequestV0ReplicaAssignment.legacy_model (t : createTopicsRequestV0ReplicaAssignment) : encode (createTopicsRequestV0ReplicaAssignment.ty t) (createTopicsRequestV0ReplicaAssignment.val t) = createTopicsRequestV0ReplicaAssignment.writeTo t := createTopicsRequestV0ReplicaAssignment.legacy_modelC t

structure createTopicsRequestV0ConfigEntry where
  ConfigName : Bytes
  ConfigValue : Bytes
def createTopicsRequestV0ConfigEntry.size (t : createTopicsRequestV0ConfigEntry) : Int :=
  ((sizeofString t.ConfigName) + (sizeofString t.ConfigValue))
def createTopicsRequestV0ConfigEntry.writeTo (t : createTopicsRequestV0ConfigEntry) : Bytes :=
  ((writeString t.ConfigName) ++ (writeString t.ConfigValue))
@[simp, legacy_len] theorem createTopicsRequestV0ConfigEntry.legacy_size (t : createTopicsRequestV0ConfigEntry) : ((createTopicsRequestV0ConfigEntry.writeTo t).length : Int) = createTopicsRequestV0ConfigEntry.size t := by
  simp only [createTopicsRequestV0ConfigEntry.size, createTopicsRequestV0ConfigEntry.writeTo, legacy_len] <;> omega

/-- the fields createTopicsRequestV0ConfigEntry.writeTo writes, as Kafka types and as values: lists, which a type that writes a createTopicsRequestV0ConfigEntry through
this `writeTo` splices into its own; `tyC` / `val` are the struct type and value made of them -/
def createTopicsRequestV0ConfigEntry.tyFs : List Ty := ([(.string false false)] ++ [(.string false false)])
def createTopicsRequestV0ConfigEntry.valFs (t : createTopicsRequestV0ConfigEntry) : List Val := ([(.str t.ConfigName)] ++ [(.str t.ConfigValue)])
def createTopicsRequestV0ConfigEntry.tyC : Ty := .struct false createTopicsRequestV0ConfigEntry.tyFs [] []
@[simp, legacy_enc] theorem createTopicsRequestV0ConfigEntry.tyC_zeroSize : createTopicsRequestV0ConfigEntry.tyC.zeroSize = false := rfl
def createTopicsRequestV0ConfigEntry.ty (_ : createTopicsRequestV0ConfigEntry) : Ty := createTopicsRequestV0ConfigEntry.tyC
def createTopicsRequestV0ConfigEntry.val (t : createTopicsRequestV0ConfigEntry) : Val := .struct (createTopicsRequestV0ConfigEntry.valFs t) []
@[simp, legacy_enc] theorem createTopicsRequestV0ConfigEntry.legacy_modelC (t : createTopicsRequestV0ConfigEntry) : encode createTopicsRequestV0ConfigEntry.tyC (createTopicsRequestV0ConfigEntry.val t) = createTopicsRequestV0ConfigEntry.writeTo t := by
  simp only [createTopicsRequestV0ConfigEntry.tyC, createTopicsRequestV0ConfigEntry.val, createTopicsRequestV0ConfigEntry.writeTo, createTopicsRequestV0ConfigEntry.tyFs, createTopicsRequestV0ConfigEntry.valFs, legacy_enc]
theorem createTopicsRequestV0ConfigEntry.legacy_model (t : createTopicsRequestV0ConfigEntry) : encode (createTopicsRequestV0ConfigEntry.ty t) (createTopicsRequestV0ConfigEntry.val t) = createTopicsRequestV0ConfigEntry.writeTo t := createTopicsRequestV0ConfigEntry.legacy_modelC t

structure createTopicsRequestV0Topic where
  Topic : Bytes
  NumPartitions : Int
  ReplicationFactor : Int
  ReplicaAssignments : (List createTopicsRequestV0ReplicaAssignment)
  ConfigEntries : (List createTopicsRequestV0ConfigEntry)
def createTopicsRequestV0Topic.size (t : createTopicsRequestV0Topic) : Int :=
  (((((sizeofString t.Topic) + (sizeofInt32 t.NumPartitions)) + (sizeofInt16 t.ReplicationFactor)) + (sizeofArray t.ReplicaAssignments (fun x => (createTopicsRequestV0ReplicaAssignment.size x)))) + (sizeofArray t.ConfigEntries (fun x => (createTopicsRequestV0ConfigEntry.size x))))
def createTopicsRequestV0Topic.writeTo (t : createTopicsRequestV0Topic) : Bytes :=
  ((writeString t.Topic) ++ (writeInt32 t.NumPartitions) ++ (writeInt16 t.ReplicationFactor) ++ (writeArray t.ReplicaAssignments (fun x => ((createTopicsRequestV0ReplicaAssignment.writeTo x)))) ++ (writeArray t.ConfigEntries (fun x => ((createTopicsRequestV0ConfigEntry.writeTo x)))))
@[simp, legacy_len] theorem createTopicsRequestV0Topic.legacy_size (t : createTopicsRequestV0Topic) : ((createTopicsRequestV0Topic.writeTo t).length : Int) = createTopicsRequestV0Topic.size t := by
  simp only [createTopicsRequestV0Topic.size, createTopicsRequestV0Topic.writeTo, legacy_len] <;> omega

/-- the fields createTopicsRequestV0Topic.writeTo writes, as Kafka types and as values: lists, which a type that writes a createTopicsRequestV0Topic through
this `writeTo` splices into its own; `tyC` / `val` are the struct type and value made of them -/
def createTopicsRequestV0Topic.tyFs : List Ty := ([(.string false false)] ++ [.int32] ++ [.int16] ++ [(.array false false createTopicsRequestV0ReplicaAssignment.tyC)] ++ [(.array false false createTopicsRequestV0ConfigEntry.tyC)])
def createTopicsRequestV0Topic.valFs (t : createTopicsRequestV0Topic) : List Val := ([(.str t.Topic)] ++ [(.int t.NumPartitions)] ++ [(.int t.ReplicationFactor)] ++ [(.arr (some (t.ReplicaAssignments.map fun x => (createTopicsRequestV0ReplicaAssignment.val x))))] ++ [(.arr (some (t.ConfigEntries.map fun x => (createTopicsRequestV0ConfigEntry.val x))))])
def createTopicsRequestV0Topic.tyC : Ty := .struct false createTopicsRequestV0Topic.tyFs [] []
@[simp, legacy_enc] theorem createTopicsRequestV0Topic.tyC_zeroSize : createTopicsRequestV0Topic.tyC.zeroSize = false := rfl
def createTopicsRequestV0Topic.ty (_ : createTopicsRequestV0Topic) : Ty := createTopicsRequestV0Topic.tyC
def createTopicsRequestV0Topic.val (t : createTopicsRequestV0Topic) : Val := .struct (createTopicsRequestV0Topic.valFs t) []
@[simp, legacy_enc] theorem createTopicsRequestV0Topic.legacy_modelC (t : createTopicsRequestV0Topic) : encode createTopicsRequestV0Topic.tyC (createTopicsRequestV0Topic.val t) = createTopicsRequestV0Topic.writeTo t := by
  simp only [createTopicsRequestV0Topic.tyC, createTopicsRequestV0Topic.val, createTopicsRequestV0Topic.writeTo, createTopicsRequestV0Topic.tyFs, createTopicsRequestV0Topic.valFs, legacy_enc]
theorem createTopicsRequestV0Topic.legacy_model (t : createTopicsRequestV0Topic) : encode (createTopicsRequestV0Topic.ty t) (createTopicsRequestV0Topic.val t) = createTopicsRequestV0Topic.writeTo t := createTopicsRequestV0Topic.legacy_modelC t

structure createTopicsRequest where
  v : Int
  Topics : (List createTopicsRequestV0Topic)
  Timeout : Int
  ValidateOnly : Bool
def createTopicsRequest.size (t : createTopicsRequest) : Int :=
  (((sizeofArray t.Topics (fun x => (createTopicsRequestV0Topic.size x))) + (sizeofInt32 t.Timeout)) + (if decide (t.v ≥ (1 : Int)) then (1 : Int) else 0))
def createTopicsRequest.writeTo (t : createTopicsRequest) : Bytes :=
  ((writeArray t.Topics (fun x => ((createTopicsRequestV0Topic.writeTo x)))) ++ (writeInt32 t.Timeout) ++ (if decide (t.v ≥ (1 : Int)) then ((writeBool t.ValidateOnly)) else []))
@[simp, legacy_len] theorem createTopicsRequest.legacy_size (t : createTopicsRequest) : ((createTopicsRequest.writeTo t).length : Int) = createTopicsRequest.size t := by
  simp only [createTopicsRequest.size, createTopicsRequest.writeTo, legacy_len] <;> omega

/-- the Kafka type createTopicsRequest.writeTo emits for the version in `t.v`, and the value it carries -/
def createTopicsRequest.ty (t : createTopicsRequest) : Ty := .struct false ([(.array false false createTopicsRequestV0Topic.tyC)] ++ [.int32] ++ (if decide (t.v ≥ (1 : Int)) then ([.bool]) else [])) [] []
def createTopicsRequest.val (t : createTopicsRequest) : Val := .struct ([(.arr (some (t.Topics.map fun x => (createTopicsRequestV0Topic.val x))))] ++ [(.int t.Timeout)] ++ (if decide (t.v ≥ (1 : Int)) then ([(.bool t.ValidateOnly)]) else [])) []
@[simp, legacy_enc] theorem createTopicsRequest.legacy_model (t : createTopicsRequest) : encode (createTopicsRequest.ty t) (createTopicsRequest.val t) = createTopicsRequest.writeTo t := by
  simp only [createTopicsRequest.ty, createTopicsRequest.val, createTopicsRequest.writeTo, legacy_enc]

structure createTopicsResponseTopicError where
  v : Int
  Topic : Bytes
  ErrorCode : Int
  ErrorMessage : Bytes
def createTopicsResponseTopicError.size (t : createTopicsResponseTopicError) : Int :=
  (((sizeofString t.Topic) + (sizeofInt16 t.ErrorCode)) + (if decide (t.v ≥ (1 : Int)) then (sizeofString t.ErrorMessage) else 0))
def createTopicsResponseTopicError.writeTo (t : createTopicsResponseTopicError) : Bytes :=
  ((writeString t.Topic) ++ (writeInt16 t.ErrorCode) ++ (if decide (t.v ≥ (1 : Int)) then ((writeString t.ErrorMessage)) else []))
@[simp, legacy_len] theorem createTopicsResponseTopicError.legacy_size (t : createTopicsResponseTopicError) : ((createTopicsResponseTopicError.writeTo t).length : Int) = createTopicsResponseTopicError.size t := by
  simp only [createTopicsResponseTopicError.size, createTopicsResponseTopicError.writeTo, legacy_len] <;> omega

/-- the Kafka type createTopicsResponseTopicError.writeTo emits for the version in `t.v`, and the value it carries -/
def createTopicsResponseTopicError.ty (t : createTopicsResponseTopicError) : Ty := .struct false ([(.string false false)] ++ [.int16] ++ (if decide (t.v ≥ (1 : Int)) then ([(.string false false)]) else [])) [] []
def createTopicsResponseTopicError.val (t : createTopicsResponseTopicError) : Val := .struct ([(.str t.Topic)] ++ [(.int t.ErrorCode)] ++ (if decide (t.v ≥ (1 : Int)) then ([(.str t.ErrorMessage)]) else [])) []
@[simp, legacy_enc] theorem createTopicsResponseTopicError.legacy_model (t : createTopicsResponseTopicError) : encode (createTopicsResponseTopicError.ty t) (createTopicsResponseTopicError.val t) = createTopicsResponseTopicError.writeTo t := by
  simp only [createTopicsResponseTopicError.ty, createTopicsResponseTopicError.val, createTopicsResponseTopicError.writeTo, legacy_enc]

def createTopicsResponseTopicError.zero (v : Int) : createTopicsResponseTopicError := { v := v, Topic := [], ErrorCode := 0, ErrorMessage := [] }
/-- readFrom of createTopicsResponseTopicError, statement by statement -/
def createTopicsResponseTopicError.readFrom : createTopicsResponseTopicError → Rd createTopicsResponseTopicError :=
  (rdSeq (rdField (fun _ => readString) (fun t x => { t with Topic := x }))
    (rdSeq (rdField (fun _ => readInt16) (fun t x => { t with ErrorCode := x }))
    (rdSeq (rdIf (fun t => decide (t.v ≥ (1 : Int))) (rdSeq (rdField (fun _ => readString) (fun t x => { t with ErrorMessage := x }))
    rdDone))
    rdDone)))
/-- values the wire format can carry: field ranges; fields absent at the version are zero -/
structure createTopicsResponseTopicError.Ok (t : createTopicsResponseTopicError) : Prop where
  Topic_ok : t.Topic.length < 2 ^ 15
  ErrorCode_ok : inRng 16 t.ErrorCode
  ErrorMessage_ok : t.ErrorMessage.length < 2 ^ 15
  ErrorMessage_off : ¬ (t.v ≥ (1 : Int)) → t.ErrorMessage = []
theorem createTopicsResponseTopicError.read_write (t : createTopicsResponseTopicError) (h : createTopicsResponseTopicError.Ok t) (rest : Bytes) :
    createTopicsResponseTopicError.readFrom (createTopicsResponseTopicError.zero t.v) (createTopicsResponseTopicError.writeTo t ++ rest) = some (t, rest) := by
  simp only [createTopicsResponseTopicError.writeTo, List.append_assoc]
  exact rdSeq_rdField_eq (readString_write _ · h.Topic_ok) <|
    rdSeq_rdField_eq (readInt16_write _ · h.ErrorCode_ok) <|
    rdSeq_rdIf_eq (fun _ _ => rdSeq_rdField_eq (readString_write _ · h.ErrorMessage_ok) rfl)
      (fun hc => by rw [h.ErrorMessage_off (of_decide_eq_false hc)]; rfl) rfl

structure createTopicsResponse where
  v : Int
  ThrottleTime : Int
  TopicErrors : (List createTopicsResponseTopicError)
def createTopicsResponse.size (t : createTopicsResponse) : Int :=
  ((sizeofArray t.TopicErrors (fun x => (createTopicsResponseTopicError.size x))) + (if decide (t.v ≥ (2 : Int)) then (sizeofInt32 t.ThrottleTime) else 0))
def createTopicsResponse.writeTo (t : createTopicsResponse) : Bytes :=
  ((if decide (t.v ≥ (2 : Int)) then ((writeInt32 t.ThrottleTime)) else []) ++ (writeArray t.TopicErrors (fun x => ((createTopicsResponseTopicError.writeTo x)))))
@[simp, legacy_len] theorem createTopicsResponse.legacy_size (t : createTopicsResponse) : ((createTopicsResponse.writeTo t).length : Int) = createTopicsResponse.size t := by
  simp only [createTopicsResponse.size, createTopicsResponse.writeTo, legacy_len] <;> omega

def createTopicsResponse.zero (v : Int) : createTopicsResponse := { v := v, ThrottleTime := 0, TopicErrors := [] }
/-- readFrom of createTopicsResponse, statement by statement (`t.F ++ x`: the element callback appends to the field) -/
def createTopicsResponse.readFrom : createTopicsResponse → Rd createTopicsResponse :=
  (rdSeq (rdIf (fun t => decide (t.v ≥ (2 : Int))) (rdSeq (rdField (fun _ => readInt32) (fun t x => { t with ThrottleTime := x }))
    rdDone))
    (rdSeq (rdField (fun t => readArrayWith (createTopicsResponseTopicError.readFrom (createTopicsResponseTopicError.zero t.v))) (fun t x => { t with TopicErrors := t.TopicErrors ++ x }))
    rdDone))
/-- values the wire format can carry: field ranges; fields absent at the version are zero -/
structure createTopicsResponse.Ok (t : createTopicsResponse) : Prop where
  ThrottleTime_ok : inRng 32 t.ThrottleTime
  ThrottleTime_off : ¬ (t.v ≥ (2 : Int)) → t.ThrottleTime = 0
  TopicErrors_len : t.TopicErrors.length < 2 ^ 31
  TopicErrors_ok : ∀ x ∈ t.TopicErrors, createTopicsResponseTopicError.Ok x
  TopicErrors_v : ∀ x ∈ t.TopicErrors, x.v = t.v
theorem createTopicsResponse.read_write (t : createTopicsResponse) (h : createTopicsResponse.Ok t) (rest : Bytes) :
    createTopicsResponse.readFrom (createTopicsResponse.zero t.v) (createTopicsResponse.writeTo t ++ rest) = some (t, rest) := by
  simp only [createTopicsResponse.writeTo, List.append_assoc]
  exact rdSeq_rdIf_eq (fun _ _ => rdSeq_rdField_eq (readInt32_write _ · h.ThrottleTime_ok) rfl)
      (fun hc => by rw [h.ThrottleTime_off (of_decide_eq_false hc)]; rfl) <|
    rdSeq_rdField_eq (readArrayWith_writeArray _ _ _ · (fun x hx => h.TopicErrors_v x hx ▸ createTopicsResponseTopicError.read_write x (h.TopicErrors_ok x hx)) h.TopicErrors_len) rfl

structure deleteTopicsRequest where
  Topics : (List Bytes)
  Timeout : Int
def deleteTopicsRequest.size (t : deleteTopicsRequest) : Int :=
  ((sizeofStringArray t.Topics) + (sizeofInt32 t.Timeout))
def deleteTopicsRequest.writeTo (t : deleteTopicsRequest) : Bytes :=
  ((writeStringArray t.Topics) ++ (writeInt32 t.Timeout))
@[simp, legacy_len] theorem deleteTopicsRequest.legacy_size (t : deleteTopicsRequest) : ((deleteTopicsRequest.writeTo t).length : Int) = deleteTopicsRequest.size t := by
  simp only [deleteTopicsRequest.size, deleteTopicsRequest.writeTo, legacy_len] <;> omega

/-- the fields deleteTopicsRequest.writeTo writes, as Kafka types and as values: lists, which a type that writes a deleteTopicsRequest through
this `writeTo` splices into its own; `tyC` / `val` are the struct type and value made of them -/
def deleteTopicsRequest.tyFs : List Ty := ([(.array false false (.string false false))] ++ [.int32])
def deleteTopicsRequest.valFs (t : deleteTopicsRequest) : List Val := ([(.arr (some (t.Topics.map .str)))] ++ [(.int t.Timeout)])
def deleteTopicsRequest.tyC : Ty := .struct false deleteTopicsRequest.tyFs [] []
@[simp, legacy_enc] theorem deleteTopicsRequest.tyC_zeroSize : deleteTopicsRequest.tyC.zeroSize = false := rfl
def deleteTopicsRequest.ty (_ : deleteTopicsRequest) : Ty := deleteTopicsRequest.tyC
def deleteTopicsRequest.val (t : deleteTopicsRequest) : Val := .struct (deleteTopicsRequest.valFs t) []
@[simp, legacy_enc] theorem deleteTopicsRequest.legacy_modelC (t : deleteTopicsRequest) : encode deleteTopicsRequest.tyC (deleteTopicsRequest.val t) = deleteTopicsRequest.writeTo t := by
  simp only [deleteTopicsRequest.tyC, deleteTopicsRequest.val, deleteTopicsRequest.writeTo, deleteTopicsRequest.tyFs, deleteTopicsRequest.valFs, legacy_enc]
theorem deleteTopicsRequest.legacy_model (t : deleteTopicsRequest) : encode (deleteTopicsRequest.ty t) (deleteTopicsRequest.val t) = deleteTopicsRequest.writeTo t := deleteTopicsRequest.legacy_modelC t

structure deleteTopicsResponseV0TopicErrorCode where
  Topic : Bytes
  ErrorCode : Int
def deleteTopicsResponseV0TopicErrorCode.size (t : deleteTopicsResponseV0TopicErrorCode) : Int :=
  ((sizeofString t.Topic) + (sizeofInt16 t.ErrorCode))
def deleteTopicsResponseV0TopicErrorCode.writeTo (t : deleteTopicsResponseV0TopicErrorCode) : Bytes :=
  ((writeString t.Topic) ++ (writeInt16 t.ErrorCode))
@[simp, legacy_len] theorem deleteTopicsResponseV0TopicErrorCode.legacy_size (t : deleteTopicsResponseV0TopicErrorCode) : ((deleteTopicsResponseV0TopicErrorCode.writeTo t).length : Int) = deleteTopicsResponseV0TopicErrorCode.size t := by
  simp only [deleteTopicsResponseV0TopicErrorCode.size, deleteTopicsResponseV0TopicErrorCode.writeTo, legacy_len] <;> omega

/-- the fields deleteTopicsResponseV0TopicErrorCode.writeTo writes, as Kafka types and as values: lists, which a type that writes a deleteTopicsResponseV0TopicErrorCode through
this `writeTo` splices into its own; `tyC` / `val` are the struct type and value made of them -/
def deleteTopicsResponseV0TopicErrorCode.tyFs : List Ty := ([(.string false false)] ++ [.int16])
def deleteTopicsResponseV0TopicErrorCode.valFs (t : deleteTopicsResponseV0TopicErrorCode) : List Val := ([(.str t.Topic)] ++ [(.int t.ErrorCode)])
def deleteTopicsResponseV0TopicErrorCode.tyC : Ty := .struct false deleteTopicsResponseV0TopicErrorCode.tyFs [] []
@[simp, legacy_enc] theorem deleteTopicsResponseV0TopicErrorCode.tyC_zeroSize : deleteTopicsResponseV0TopicErrorCode.tyC.zeroSize = false := rfl
def deleteTopicsResponseV0TopicErrorCode.ty (_ : deleteTopicsResponseV0TopicErrorCode) : Ty := deleteTopicsResponseV0TopicErrorCode.tyC
def deleteTopicsResponseV0TopicErrorCode.val (t : deleteTopicsResponseV0TopicErrorCode) : Val := .struct (deleteTopicsResponseV0TopicErrorCode.valFs t) []
@[simp, legacy_enc] theorem deleteTopicsResponseV0TopicErrorCode.legacy_modelC (t : deleteTopicsResponseV0TopicErrorCode) : encode deleteTopicsResponseV0TopicErrorCode.tyC (deleteTopicsResponseV0TopicErrorCode.val t) = deleteTopicsResponseV0TopicErrorCode.writeTo t := by
  simp only [deleteTopicsResponseV0TopicErrorCode.tyC, deleteTopicsResponseV0TopicErrorCode.val, deleteTopicsResponseV0TopicErrorCode.writeTo, deleteTopicsResponseV0TopicErrorCode.tyFs, deleteTopicsResponseV0TopicErrorCode.valFs, legacy_enc]
theorem deleteTopicsResponseV0TopicErrorCode.legacy_model (t : deleteTopicsResponseV0TopicErrorCode) : encode (deleteTopicsResponseV0TopicErrorCode.ty t) (deleteTopicsResponseV0TopicErrorCode.val t) = deleteTopicsResponseV0TopicErrorCode.writeTo t := deleteTopicsResponseV0TopicErrorCode.legacy_modelC t

def deleteTopicsResponseV0TopicErrorCode.zero : deleteTopicsResponseV0TopicErrorCode := { Topic := [], ErrorCode := 0 }
/-- readFrom of deleteTopicsResponseV0TopicErrorCode, statement by statement -/
def deleteTopicsResponseV0TopicErrorCode.readFrom : deleteTopicsResponseV0TopicErrorCode → Rd deleteTopicsResponseV0TopicErrorCode :=
  (rdSeq (rdField (fun _ => readString) (fun t x => { t with Topic := x }))
    (rdSeq (rdField (fun _ => readInt16) (fun t x => { t with ErrorCode := x }))
    rdDone))
/-- values the wire format can carry: field ranges -/
structure deleteTopicsResponseV0TopicErrorCode.Ok (t : deleteTopicsResponseV0TopicErrorCode) : Prop where
  Topic_ok : t.Topic.length < 2 ^ 15
  ErrorCode_ok : inRng 16 t.ErrorCode
theorem deleteTopicsResponseV0TopicErrorCode.read_write (t : deleteTopicsResponseV0TopicErrorCode) (h : deleteTopicsResponseV0TopicErrorCode.Ok t) (rest : Bytes) :
    deleteTopicsResponseV0TopicErrorCode.readFrom deleteTopicsResponseV0TopicErrorCode.zero (deleteTopicsResponseV0TopicErrorCode.writeTo t ++ rest) = some (t, rest) := by
  simp only [deleteTopicsResponseV0TopicErrorCode.writeTo, List.append_assoc]
  exact rdSeq_rdField_eq (readString_write _ · h.Topic_ok) <|
    rdSeq_rdField_eq (readInt16_write _ · h.ErrorCode_ok) rfl

structure deleteTopicsResponse where
  v : Int
  ThrottleTime : Int
  TopicErrorCodes : (List deleteTopicsResponseV0TopicErrorCode)
def deleteTopicsResponse.size (t : deleteTopicsResponse) : Int :=
  ((sizeofArray t.TopicErrorCodes (fun x => (deleteTopicsResponseV0TopicErrorCode.size x))) + (if decide (t.v ≥ (1 : Int)) then (sizeofInt32 t.ThrottleTime) else 0))
def deleteTopicsResponse.writeTo (t : deleteTopicsResponse) : Bytes :=
  ((if decide (t.v ≥ (1 : Int)) then ((writeInt32 t.ThrottleTime)) else []) ++ (writeArray t.TopicErrorCodes (fun x => ((deleteTopicsResponseV0TopicErrorCode.writeTo x)))))
@[simp, legacy_len] theorem deleteTopicsResponse.legacy_size (t : deleteTopicsResponse) : ((deleteTopicsResponse.writeTo t).length : Int) = deleteTopicsResponse.size t := by
  simp only [deleteTopicsResponse.size, deleteTopicsResponse.writeTo, legacy_len] <;> omega

/-- the Kafka type deleteTopicsResponse.writeTo emits for the version in `t.v`, and the value it carries -/
def deleteTopicsResponse.ty (t : deleteTopicsResponse) : Ty := .struct false ((if decide (t.v ≥ (1 : Int)) then ([.int32]) else []) ++ [(.array false false deleteTopicsResponseV0TopicErrorCode.tyC)]) [] []
def deleteTopicsResponse.val (t : deleteTopicsResponse) : Val := .struct ((if decide (t.v ≥ (1 : Int)) then ([(.int t.ThrottleTime)]) else []) ++ [(.arr (some (t.TopicErrorCodes.map fun x => (deleteTopicsResponseV0TopicErrorCode.val x))))]) []
@[simp, legacy_enc] theorem deleteTopicsResponse.legacy_model (t : deleteTopicsResponse) : encode (deleteTopicsResponse.ty t) (deleteTopicsResponse.val t) = deleteTopicsResponse.writeTo t := by
  simp only [deleteTopicsResponse.ty, deleteTopicsResponse.val, deleteTopicsResponse.writeTo, legacy_enc]

def deleteTopicsResponse.zero (v : Int) : deleteTopicsResponse := { v := v, ThrottleTime := 0, TopicErrorCodes := [] }
/-- readFrom of deleteTopicsResponse, statement by statement (`t.F ++ x`: the element callback appends to the field) -/
def deleteTopicsResponse.readFrom : deleteTopicsResponse → Rd deleteTopicsResponse :=
  (rdSeq (rdIf (fun t => decide (t.v ≥ (1 : Int))) (rdSeq (rdField (fun _ => readInt32) (fun t x => { t with ThrottleTime := x }))
    rdDone))
    (rdSeq (rdField (fun t => readArrayWith (deleteTopicsResponseV0TopicErrorCode.readFrom deleteTopicsResponseV0TopicErrorCode.zero)) (fun t x => { t with TopicErrorCodes := t.TopicErrorCodes ++ x }))
    rdDone))
/-- values the wire format can carry: field ranges; fields absent at the version are zero -/
structure deleteTopicsResponse.Ok (t : deleteTopicsResponse) : Prop where
  ThrottleTime_ok : inRng 32 t.ThrottleTime
  ThrottleTime_off : ¬ (t.v ≥ (1 : Int)) → t.ThrottleTime = 0
  TopicErrorCodes_len : t.TopicErrorCodes.length < 2 ^ 31
  TopicErrorCodes_ok : ∀ x ∈ t.TopicErrorCodes, deleteTopicsResponseV0TopicErrorCode.Ok x
theorem deleteTopicsResponse.read_write (t : deleteTopicsResponse) (h : deleteTopicsResponse.Ok t) (rest : Bytes) :
    deleteTopicsResponse.readFrom (deleteTopicsResponse.zero t.v) (deleteTopicsResponse.writeTo t ++ rest) = some (t, rest) := by
  simp only [deleteTopicsResponse.writeTo, List.append_assoc]
  exact rdSeq_rdIf_eq (fun _ _ => rdSeq_rdField_eq (readInt32_write _ · h.ThrottleTime_ok) rfl)
      (fun hc => by rw [h.ThrottleTime_off (of_decide_eq_false hc)]; rfl) <|
    rdSeq_rdField_eq (readArrayWith_writeArray _ _ _ · (fun x hx => deleteTopicsResponseV0TopicErrorCode.read_write x (h.TopicErrorCodes_ok x hx)) h.TopicErrorCodes_len) rfl

structure fetchRequestPartitionV2 where
  Partition : Int
  FetchOffset : Int
  MaxBytes : Int
def fetchRequestPartitionV2.size (t : fetchRequestPartitionV2) : Int :=
  (((4 : Int) + (8 : Int)) + (4 : Int))
def fetchRequestPartitionV2.writeTo (t : fetchRequestPartitionV2) : Bytes :=
  ((writeInt32 t.Partition) ++ (writeInt64 t.FetchOffset) ++ (writeInt32 t.MaxBytes))
@[simp, legacy_len] theorem fetchRequestPartitionV2.legacy_size (t : fetchRequestPartitionV2) : ((fetchRequestPartitionV2.writeTo t).length : Int) = fetchRequestPartitionV2.size t := by
  simp only [fetchRequestPartitionV2.size, fetchRequestPartitionV2.writeTo, legacy_len] <;> omega

/-- the fields fetchRequestPartitionV2.writeTo writes, as Kafka types and as values: lists, which a type that writes a fetchRequestPartitionV2 through
this `writeTo` splices into its own; `tyC` / `val` are the struct type and value made of them -/
def fetchRequestPartitionV2.tyFs : List Ty := ([.int32] ++ [.int64] ++ [.int32])
def fetchRequestPartitionV2.valFs (t : fetchRequestPartitionV2) : List Val := ([(.int t.Partition)] ++ [(.int t.FetchOffset)] ++ [(.int t.MaxBytes)])
def fetchRequestPartitionV2.tyC : Ty := .struct false fetchRequestPartitionV2.tyFs [] []
@[simp, legacy_enc] theorem fetchRequestPartitionV2.tyC_zeroSize : fetchRequestPartitionV2.tyC.zeroSize = false := rfl
def fetchRequestPartitionV2.ty (_ : fetchRequestPartitionV2) : Ty := fetchRequestPartitionV2.tyC
def fetchRequestPartitionV2.val (t : fetchRequestPartitionV2) : Val := .struct (fetchRequestPartitionV2.valFs t) []
@[simp, legacy_enc] theorem fetchRequestPartitionV2.legacy_modelC (t : fetchRequestPartitionV2) : encode fetchRequestPartitionV2.tyC (fetchRequestPartitionV2.val t) = fetchRequestPartitionV2.writeTo t := by
  simp only [fetchRequestPartitionV2.tyC, fetchRequestPartitionV2.val, fetchRequestPartitionV2.writeTo, fetchRequestPartitionV2.tyFs, fetchRequestPartitionV2.valFs, legacy_enc]
theorem fetchRequestPartitionV2.legacy_model (t : fetchRequestPartitionV2) : encode (fetchRequestPartitionV2.ty t) (fetchRequestPartitionV2.val t) = fetchRequestPartitionV2.writeTo t := fetchRequestPartitionV2.legacy_modelC t

structure fetchRequestTopicV2 where
  TopicName : Bytes
  Partitions : (List fetchRequestPartitionV2)
def fetchRequestTopicV2.size (t : fetchRequestTopicV2) : Int :=
  ((sizeofString t.TopicName) + (sizeofArray t.Partitions (fun x => (fetchRequestPartitionV2.size x))))
def fetchRequestTopicV2.writeTo (t : fetchRequestTopicV2) : Bytes :=
  ((writeString t.TopicName) ++ (writeArray t.Partitions (fun x => ((fetchRequestPartitionV2.writeTo x)))))
@[simp, legacy_len] theorem fetchRequestTopicV2.legacy_size (t : fetchRequestTopicV2) : ((fetchRequestTopicV2.writeTo t).length : Int) = fetchRequestTopicV2.size t := by
  simp only [fetchRequestTopicV2.size, fetchRequestTopicV2.writeTo, legacy_len] <;> omega

/-- the fields fetchRequestTopicV2.writeTo writes, as Kafka types and as values: lists, which a type that writes a fetchRequestTopicV2 through
this `writeTo` splices into its own; `tyC` / `val` are the struct type and value made of them -/
def fetchRequestTopicV2.tyFs : List Ty := ([(.string false false)] ++ [(.array false false fetchRequestPartitionV2.tyC)])
def fetchRequestTopicV2.valFs (t : fetchRequestTopicV2) : List Val := ([(.str t.TopicName)] ++ [(.arr (some (t.Partitions.map fun x => (fetchRequestPartitionV2.val x))))])
def fetchRequestTopicV2.tyC : Ty := .struct false fetchRequestTopicV2.tyFs [] []
@[simp, legacy_enc] theorem fetchRequestTopicV2.tyC_zeroSize : fetchRequestTopicV2.tyC.zeroSize = false := rfl
def fetchRequestTopicV2.ty (_ : fetchRequestTopicV2) : Ty := fetchRequestTopicV2.tyC
def fetchRequestTopicV2.val (t : fetchRequestTopicV2) : Val := .struct (fetchRequestTopicV2.valFs t) []
@[simp, legacy_enc] theorem fetchRequestTopicV2.legacy_modelC (t : fetchRequestTopicV2) : encode fetchRequestTopicV2.tyC (fetchRequestTopicV2.val t) = fetchRequestTopicV2.writeTo t := by
  simp only [fetchRequestTopicV2.tyC, fetchRequestTopicV2.val, fetchRequestTopicV2.writeTo, fetchRequestTopicV2.tyFs, fetchRequestTopicV2.valFs, legacy_enc]
theorem fetchRequestTopicV2.legacy_model (t : fetchRequestTopicV2) : encode (fetchRequestTopicV2.ty t) (fetchRequestTopicV2.val t) = fetchRequestTopicV2.writeTo t := fetchRequestTopicV2.legacy_modelC t

structure fetchRequestV2 where
  ReplicaID : Int
  MaxWaitTime : Int
  MinBytes : Int
  Topics : (List fetchRequestTopicV2)
def fetchRequestV2.size (t : fetchRequestV2) : Int :=
  ((((4 : Int) + (4 : Int)) + (4 : Int)) + (sizeofArray t.Topics (fun x => (fetchRequestTopicV2.size x))))
def fetchRequestV2.writeTo (t : fetchRequestV2) : Bytes :=
  ((writeInt32 t.ReplicaID) ++ (writeInt32 t.MaxWaitTime) ++ (writeInt32 t.MinBytes) ++ (writeArray t.Topics (fun x => ((fetchRequestTopicV2.writeTo x)))))
@[simp, legacy_len] theorem fetchRequestV2.legacy_size (t : fetchRequestV2) : ((fetchRequestV2.writeTo t).length : Int) = fetchRequestV2.size t := by
  simp only [fetchRequestV2.size, fetchRequestV2.writeTo, legacy_len] <;> omega

/-- the fields fetchRequestV2.writeTo writes, as Kafka types and as values: lists, which a type that writes a fetchRequestV2 through
this `writeTo` splices into its own; `tyC` / `val` are the struct type and value made of them -/
def fetchRequestV2.tyFs : List Ty := ([.int32] ++ [.int32] ++ [.int32] ++ [(.array false false fetchRequestTopicV2.tyC)])
def fetchRequestV2.valFs (t : fetchRequestV2) : List Val := ([(.int t.ReplicaID)] ++ [(.int t.MaxWaitTime)] ++ [(.int t.MinBytes)] ++ [(.arr (some (t.Topics.map fun x => (fetchRequestTopicV2.val x))))])
def fetchRequestV2.tyC : Ty := .struct false fetchRequestV2.tyFs [] []
@[simp, legacy_enc] theorem fetchRequestV2.tyC_zeroSize : fetchRequestV2.tyC.zeroSize = false := rfl
def fetchRequestV2.ty (_ : fetchRequestV2) : Ty := fetchRequestV2.tyC
def fetchRequestV2.val (t : fetchRequestV2) : Val := .struct (fetchRequestV2.valFs t) []
@[simp, legacy_enc] theorem fetchRequestV2.legacy_modelC (t : fetchRequestV2) : encode fetchRequestV2.tyC (fetchRequestV2.val t) = fetchRequestV2.writeTo t := by
  simp only [fetchRequestV2.tyC, fetchRequestV2.val, fetchRequestV2.writeTo, fetchRequestV2.tyFs, fetchRequestV2.valFs, legacy_enc]
theorem fetchRequestV2.legacy_model (t : fetchRequestV2) : encode (fetchRequestV2.ty t) (fetchRequestV2.val t) = fetchRequestV2.writeTo t := fetchRequestV2.legacy_modelC t

structure findCoordinatorRequestV0 where
  CoordinatorKey : Bytes
def findCoordinatorRequestV0.size (t : findCoordinatorRequestV0) : Int :=
  (sizeofString t.CoordinatorKey)
def findCoordinatorRequestV0.writeTo (t : findCoordinatorRequestV0) : Bytes :=
  ((writeString t.CoordinatorKey))
@[simp, legacy_len] theorem findCoordinatorRequestV0.legacy_size (t : findCoordinatorRequestV0) : ((findCoordinatorRequestV0.writeTo t).length : Int) = findCoordinatorRequestV0.size t := by
  simp only [findCoordinatorRequestV0.size, findCoordinatorRequestV0.writeTo, legacy_len] <;> omega

/-- the fields findCoordinatorRequestV0.writeTo writes, as Kafka types and as values: lists, which a type that writes a findCoordinatorRequestV0 through
this `writeTo` splices into its own; `tyC` / `val` are the struct type and value made of them -/
def findCoordinatorRequestV0.tyFs : List Ty := ([(.string false false)])
def findCoordinatorRequestV0.valFs (t : findCoordinatorRequestV0) : List Val := ([(.str t.CoordinatorKey)])
def findCoordinatorRequestV0.tyC : Ty := .struct false findCoordinatorRequestV0.tyFs [] []
@[simp, legacy_enc] theorem findCoordinatorRequestV0.tyC_zeroSize : findCoordinatorRequestV0.tyC.zeroSize = false := rfl
def findCoordinatorRequestV0.ty (_ : findCoordinatorRequestV0) : Ty := findCoordinatorRequestV0.tyC
def findCoordinatorRequestV0.val (t : findCoordinatorRequestV0) : Val := .struct (findCoordinatorRequestV0.valFs t) []
@[simp, legacy_enc] theorem findCoordinatorRequestV0.legacy_modelC (t : findCoordinatorRequestV0) : encode findCoordinatorRequestV0.tyC (findCoordinatorRequestV0.val t) = findCoordinatorRequestV0.writeTo t := by
  simp only [findCoordinatorRequestV0.tyC, findCoordinatorRequestV0.val, findCoordinatorRequestV0.writeTo, findCoordinatorRequestV0.tyFs, findCoordinatorRequestV0.valFs, legacy_enc]
theorem findCoordinatorRequestV0.legacy_model (t : findCoordinatorRequestV0) : encode (findCoordinatorRequestV0.ty t) (findCoordinatorRequestV0.val t) = findCoordinatorRequestV0.writeTo t := findCoordinatorRequestV0.legacy_modelC t

structure findCoordinatorResponseCoordinatorV0 where
  NodeID : Int
  Host : Bytes
  Port : Int
def findCoordinatorResponseCoordinatorV0.size (t : findCoordinatorResponseCoordinatorV0) : Int :=
  (((sizeofInt32 t.NodeID) + (sizeofString t.Host)) + (sizeofInt32 t.Port))
def findCoordinatorResponseCoordinatorV0.writeTo (t : findCoordinatorResponseCoordinatorV0) : Bytes :=
  ((writeInt32 t.NodeID) ++ (writeString t.Host) ++ (writeInt32 t.Port))
@[simp, legacy_len] theorem findCoordinatorResponseCoordinatorV0.legacy_size (t : findCoordinatorResponseCoordinatorV0) : ((findCoordinatorResponseCoordinatorV0.writeTo t).length : Int) = findCoordinatorResponseCoordinatorV0.size t := by
  simp only [findCoordinatorResponseCoordinatorV0.size, findCoordinatorResponseCoordinatorV0.writeTo, legacy_len] <;> omega

/-- the fields findCoordinatorResponseCoordinatorV0.writeTo writes, as Kafka types and as values: lists, which a type that writes a findCoordinatorResponseCoordinatorV0 through
this `writeTo` splices into its own; `tyC` / `val` are the struct type and value made of them -/
def findCoordinatorResponseCoordinatorV0.tyFs : List Ty := ([.int32] ++ [(.string false false)] ++ [.int32])
def findCoordinatorResponseCoordinatorV0.valFs (t : findCoordinatorResponseCoordinatorV0) : List Val := ([(.int t.NodeID)] ++ [(.str t.Host)] ++ [(.int t.Port)])
def findCoordinatorResponseCoordinatorV0.tyC : Ty := .struct false findCoordinatorResponseCoordinatorV0.tyFs [] []
@[simp, legacy_enc] theorem findCoordinatorResponseCoordinatorV0.tyC_zeroSize : findCoordinatorResponseCoordinatorV0.tyC.zeroSize = false := rfl
def findCoordinatorResponseCoordinatorV0.ty (_ : findCoordinatorResponseCoordinatorV0) : Ty := findCoordinatorResponseCoordinatorV0.tyC
def findCoordinatorResponseCoordinatorV0.val (t : findCoordinatorResponseCoordinatorV0) : Val := .struct (findCoordinatorResponseCoordinatorV0.valFs t) []
@[simp, legacy_enc] theorem findCoordinatorResponseCoordinatorV0.legacy_modelC (t : findCoordinatorResponseCoordinatorV0) : encode findCoordinatorResponseCoordinatorV0.tyC (findCoordinatorResponseCoordinatorV0.val t) = findCoordinatorResponseCoordinatorV0.writeTo t := by
  simp only [findCoordinatorResponseCoordinatorV0.tyC, findCoordinatorResponseCoordinatorV0.val, findCoordinatorResponseCoordinatorV0.writeTo, findCoordinatorResponseCoordinatorV0.tyFs, findCoordinatorResponseCoordinatorV0.valFs, legacy_enc]
theorem findCoordinatorResponseCoordinatorV0.legacy_model (t : findCoordinatorResponseCoordinatorV0) : encode (findCoordinatorResponseCoordinatorV0.ty t) (findCoordinatorResponseCoordinatorV0.val t) = findCoordinatorResponseCoordinatorV0.writeTo t := findCoordinatorResponseCoordinatorV0.legacy_modelC t

def findCoordinatorResponseCoordinatorV0.zero : findCoordinatorResponseCoordinatorV0 := { NodeID := 0, Host := [], Port := 0 }
/-- readFrom of findCoordinatorResponseCoordinatorV0, statement by statement -/
def findCoordinatorResponseCoordinatorV0.readFrom : findCoordinatorResponseCoordinatorV0 → Rd findCoordinatorResponseCoordinatorV0 :=
  (rdSeq (rdField (fun _ => readInt32) (fun t x => { t with NodeID := x }))
    (rdSeq (rdField (fun _ => readString) (fun t x => { t with Host := x }))
    (rdSeq (rdField (fun _ => readInt32) (fun t x => { t with Port := x }))
    rdDone)))
/-- values the wire format can carry: field ranges -/
structure findCoordinatorResponseCoordinatorV0.Ok (t : findCoordinatorResponseCoordinatorV0) : Prop where
  NodeID_ok : inRng 32 t.NodeID
  Host_ok : t.Host.length < 2 ^ 15
  Port_ok : inRng 32 t.Port
theorem findCoordinatorResponseCoordinatorV0.read_write (t : findCoordinatorResponseCoordinatorV0) (h : findCoordinatorResponseCoordinatorV0.Ok t) (rest : Bytes) :
    findCoordinatorResponseCoordinatorV0.readFrom findCoordinatorResponseCoordinatorV0.zero (findCoordinatorResponseCoordinatorV0.writeTo t ++ rest) = some (t, rest) := by
  simp only [findCoordinatorResponseCoordinatorV0.writeTo, List.append_assoc]
  exact rdSeq_rdField_eq (readInt32_write _ · h.NodeID_ok) <|
    rdSeq_rdField_eq (readString_write _ · h.Host_ok) <|
    rdSeq_rdField_eq (readInt32_write _ · h.Port_ok) rfl

structure findCoordinatorResponseV0 where
  ErrorCode : Int
  Coordinator : findCoordinatorResponseCoordinatorV0
def findCoordinatorResponseV0.size (t : findCoordinatorResponseV0) : Int :=
  ((sizeofInt16 t.ErrorCode) + (findCoordinatorResponseCoordinatorV0.size t.Coordinator))
def findCoordinatorResponseV0.writeTo (t : findCoordinatorResponseV0) : Bytes :=
  ((writeInt16 t.ErrorCode) ++ (findCoordinatorResponseCoordinatorV0.writeTo t.Coordinator))
@[simp, legacy_len] theorem findCoordinatorResponseV0.legacy_size (t : findCoordinatorResponseV0) : ((findCoordinatorResponseV0.writeTo t).length : Int) = findCoordinatorResponseV0.size t := by
  simp only [findCoordinatorResponseV0.size, findCoordinatorResponseV0.writeTo, legacy_len] <;> omega

/-- the fields findCoordinatorResponseV0.writeTo writes, as Kafka types and as values: lists, which a type that writes a findCoordinatorResponseV0 through
this `writeTo` splices into its own; `tyC` / `val` are the struct type and value made of them -/
def findCoordinatorResponseV0.tyFs : List Ty := ([.int16] ++ findCoordinatorResponseCoordinatorV0.tyFs)
def findCoordinatorResponseV0.valFs (t : findCoordinatorResponseV0) : List Val := ([(.int t.ErrorCode)] ++ (findCoordinatorResponseCoordinatorV0.valFs t.Coordinator))
def findCoordinatorResponseV0.tyC : Ty := .struct false findCoordinatorResponseV0.tyFs [] []
@[simp, legacy_enc] theorem findCoordinatorResponseV0.tyC_zeroSize : findCoordinatorResponseV0.tyC.zeroSize = false := rfl
def findCoordinatorResponseV0.ty (_ : findCoordinatorResponseV0) : Ty := findCoordinatorResponseV0.tyC
def findCoordinatorResponseV0.val (t : findCoordinatorResponseV0) : Val := .struct (findCoordinatorResponseV0.valFs t) []
@[simp, legacy_enc] theorem findCoordinatorResponseV0.legacy_modelC (t : findCoordinatorResponseV0) : encode findCoordinatorResponseV0.tyC (findCoordinatorResponseV0.val t) = findCoordinatorResponseV0.writeTo t := by
  simp only [findCoordinatorResponseV0.tyC, findCoordinatorResponseV0.val, findCoordinatorResponseV0.writeTo, findCoordinatorResponseV0.tyFs, findCoordinatorResponseV0.valFs, findCoordinatorResponseCoordinatorV0.tyFs, findCoordinatorResponseCoordinatorV0.valFs, findCoordinatorResponseCoordinatorV0.writeTo, legacy_enc]
theorem findCoordinatorResponseV0.legacy_model (t : findCoordinatorResponseV0) : encode (findCoordinatorResponseV0.ty t) (findCoordinatorResponseV0.val t) = findCoordinatorResponseV0.writeTo t := findCoordinatorResponseV0.legacy_modelC t

def findCoordinatorResponseV0.zero : findCoordinatorResponseV0 := { ErrorCode := 0, Coordinator := findCoordinatorResponseCoordinatorV0.zero }
/-- readFrom of findCoordinatorResponseV0, statement by statement -/
def findCoordinatorResponseV0.readFrom : findCoordinatorResponseV0 → Rd findCoordinatorResponseV0 :=
  (rdSeq (rdField (fun _ => readInt16) (fun t x => { t with ErrorCode := x }))
    (rdSeq (rdField (fun t => findCoordinatorResponseCoordinatorV0.readFrom t.Coordinator) (fun t x => { t with Coordinator := x }))
    rdDone))
/-- values the wire format can carry: field ranges -/
structure findCoordinatorResponseV0.Ok (t : findCoordinatorResponseV0) : Prop where
  ErrorCode_ok : inRng 16 t.ErrorCode
  Coordinator_ok : findCoordinatorResponseCoordinatorV0.Ok t.Coordinator
theorem findCoordinatorResponseV0.read_write (t : findCoordinatorResponseV0) (h : findCoordinatorResponseV0.Ok t) (rest : Bytes) :
    findCoordinatorResponseV0.readFrom findCoordinatorResponseV0.zero (findCoordinatorResponseV0.writeTo t ++ rest) = some (t, rest) := by
  simp only [findCoordinatorResponseV0.writeTo, List.append_assoc]
  exact rdSeq_rdField_eq (readInt16_write _ · h.ErrorCode_ok) <|
    rdSeq_rdField_eq (findCoordinatorResponseCoordinatorV0.read_write _ h.Coordinator_ok) rfl

structure groupMetadata where
  Version : Int
  Topics : (List Bytes)
  UserData : Bytes
def groupMetadata.size (t : groupMetadata) : Int :=
  (((sizeofInt16 t.Version) + (sizeofStringArray t.Topics)) + (sizeofBytes t.UserData))
def groupMetadata.writeTo (t : groupMetadata) : Bytes :=
  ((writeInt16 t.Version) ++ (writeStringArray t.Topics) ++ (writeBytes t.UserData))
@[simp, legacy_len] theorem groupMetadata.legacy_size (t : groupMetadata) : ((groupMetadata.writeTo t).length : Int) = groupMetadata.size t := by
  simp only [groupMetadata.size, groupMetadata.writeTo, legacy_len] <;> omega

/-- the fields groupMetadata.writeTo writes, as Kafka types and as values: lists, which a type that writes a groupMetadata through
this `writeTo` splices into its own; `tyC` / `val` are the struct type and value made of them -/
def groupMetadata.tyFs : List Ty := ([.int16] ++ [(.array false false (.string false false))] ++ [(.bytes false false)])
def groupMetadata.valFs (t : groupMetadata) : List Val := ([(.int t.Version)] ++ [(.arr (some (t.Topics.map .str)))] ++ [(.bytes (some t.UserData))])
def groupMetadata.tyC : Ty := .struct false groupMetadata.tyFs [] []
@[simp, legacy_enc] theorem groupMetadata.tyC_zeroSize : groupMetadata.tyC.zeroSize = false := rfl
def groupMetadata.ty (_ : groupMetadata) : Ty := groupMetadata.tyC
def groupMetadata.val (t : groupMetadata) : Val := .struct (groupMetadata.valFs t) []
@[simp, legacy_enc] theorem groupMetadata.legacy_modelC (t : groupMetadata) : encode groupMetadata.tyC (groupMetadata.val t) = groupMetadata.writeTo t := by
  simp only [groupMetadata.tyC, groupMetadata.val, groupMetadata.writeTo, groupMetadata.tyFs, groupMetadata.valFs, legacy_enc]
theorem groupMetadata.legacy_model (t : groupMetadata) : encode (groupMetadata.ty t) (groupMetadata.val t) = groupMetadata.writeTo t := groupMetadata.legacy_modelC t

def groupMetadata.zero : groupMetadata := { Version := 0, Topics := [], UserData := [] }
/-- readFrom of groupMetadata, statement by statement -/
def groupMetadata.readFrom : groupMetadata → Rd groupMetadata :=
  (rdSeq (rdField (fun _ => readInt16) (fun t x => { t with Version := x }))
    (rdSeq (rdField (fun _ => readStringArray) (fun t x => { t with Topics := x }))
    (rdSeq (rdField (fun _ => readBytes) (fun t x => { t with UserData := x }))
    rdDone)))
/-- values the wire format can carry: field ranges -/
structure groupMetadata.Ok (t : groupMetadata) : Prop where
  Version_ok : inRng 16 t.Version
  Topics_ok : ∀ x ∈ t.Topics, x.length < 2 ^ 15
  Topics_len : t.Topics.length < 2 ^ 31
  UserData_ok : t.UserData.length < 2 ^ 31
theorem groupMetadata.read_write (t : groupMetadata) (h : groupMetadata.Ok t) (rest : Bytes) :
    groupMetadata.readFrom groupMetadata.zero (groupMetadata.writeTo t ++ rest) = some (t, rest) := by
  simp only [groupMetadata.writeTo, List.append_assoc]
  exact rdSeq_rdField_eq (readInt16_write _ · h.Version_ok) <|
    rdSeq_rdField_eq (readStringArray_write _ · h.Topics_ok h.Topics_len) <|
    rdSeq_rdField_eq (readBytes_write _ · h.UserData_ok) rfl

structure heartbeatRequestV0 where
  GroupID : Bytes
  GenerationID : Int
  MemberID : Bytes
def heartbeatRequestV0.size (t : heartbeatRequestV0) : Int :=
  (((sizeofString t.GroupID) + (sizeofInt32 t.GenerationID)) + (sizeofString t.MemberID))
def heartbeatRequestV0.writeTo (t : heartbeatRequestV0) : Bytes :=
  ((writeString t.GroupID) ++ (writeInt32 t.GenerationID) ++ (writeString t.MemberID))
@[simp, legacy_len] theorem heartbeatRequestV0.legacy_size (t : heartbeatRequestV0) : ((heartbeatRequestV0.writeTo t).length : Int) = heartbeatRequestV0.size t := by
  simp only [heartbeatRequestV0.size, heartbeatRequestV0.writeTo, legacy_len] <;> omega

/-- the fields heartbeatRequestV0.writeTo writes, as Kafka types and as values: lists, which a type that writes a heartbeatRequestV0 through
this `writeTo` splices into its own; `tyC` / `val` are the struct type and value made of them -/
def heartbeatRequestV0.tyFs : List Ty := ([(.string false false)] ++ [.int32] ++ [(.string false false)])
def heartbeatRequestV0.valFs (t : heartbeatRequestV0) : List Val := ([(.str t.GroupID)] ++ [(.int t.GenerationID)] ++ [(.str t.MemberID)])
def heartbeatRequestV0.tyC : Ty := .struct false heartbeatRequestV0.tyFs [] []
@[simp, legacy_enc] theorem heartbeatRequestV0.tyC_zeroSize : heartbeatRequestV0.tyC.zeroSize = false := rfl
def heartbeatRequestV0.ty (_ : heartbeatRequestV0) : Ty := heartbeatRequestV0.tyC
def heartbeatRequestV0.val (t : heartbeatRequestV0) : Val := .struct (heartbeatRequestV0.valFs t) []
@[simp, legacy_enc] theorem heartbeatRequestV0.legacy_modelC (t : heartbeatRequestV0) : encode heartbeatRequestV0.tyC (heartbeatRequestV0.val t) = heartbeatRequestV0.writeTo t := by
  simp only [heartbeatRequestV0.tyC, heartbeatRequestV0.val, heartbeatRequestV0.writeTo, heartbeatRequestV0.tyFs, heartbeatRequestV0.valFs, legacy_enc]
theorem heartbeatRequestV0.legacy_model (t : heartbeatRequestV0) : encode (heartbeatRequestV0.ty t) (heartbeatRequestV0.val t) = heartbeatRequestV0.writeTo t := heartbeatRequestV0.legacy_modelC t

structure heartbeatResponseV0 where
  ErrorCode : Int
def heartbeatResponseV0.size (t : heartbeatResponseV0) : Int :=
  (sizeofInt16 t.ErrorCode)
def heartbeatResponseV0.writeTo (t : heartbeatResponseV0) : Bytes :=
  ((writeInt16 t.ErrorCode))
@[simp, legacy_len] theorem heartbeatResponseV0.legacy_size (t : heartbeatResponseV0) : ((heartbeatResponseV0.writeTo t).length : Int) = heartbeatResponseV0.size t := by
  simp only [heartbeatResponseV0.size, heartbeatResponseV0.writeTo, legacy_len] <;> omega

/-- the fields heartbeatResponseV0.writeTo writes, as Kafka types and as values: lists, which a type that writes a heartbeatResponseV0 through
this `writeTo` splices into its own; `tyC` / `val` are the struct type and value made of them -/
def heartbeatResponseV0.tyFs : List Ty := ([.int16])
def heartbeatResponseV0.valFs (t : heartbeatResponseV0) : List Val := ([(.int t.ErrorCode)])
def heartbeatResponseV0.tyC : Ty := .struct false heartbeatResponseV0.tyFs [] []
@[simp, legacy_enc] theorem heartbeatResponseV0.tyC_zeroSize : heartbeatResponseV0.tyC.zeroSize = false := rfl
def heartbeatResponseV0.ty (_ : heartbeatResponseV0) : Ty := heartbeatResponseV0.tyC
def heartbeatResponseV0.val (t : heartbeatResponseV0) : Val := .struct (heartbeatResponseV0.valFs t) []
@[simp, legacy_enc] theorem heartbeatResponseV0.legacy_modelC (t : heartbeatResponseV0) : encode heartbeatResponseV0.tyC (heartbeatResponseV0.val t) = heartbeatResponseV0.writeTo t := by
  simp only [heartbeatResponseV0.tyC, heartbeatResponseV0.val, heartbeatResponseV0.writeTo, heartbeatResponseV0.tyFs, heartbeatResponseV0.valFs, legacy_enc]
theorem heartbeatResponseV0.legacy_model (t : heartbeatResponseV0) : encode (heartbeatResponseV0.ty t) (heartbeatResponseV0.val t) = heartbeatResponseV0.writeTo t := heartbeatResponseV0.legacy_modelC t

def heartbeatResponseV0.zero : heartbeatResponseV0 := { ErrorCode := 0 }
/-- readFrom of heartbeatResponseV0, statement by statement -/
def heartbeatResponseV0.readFrom : heartbeatResponseV0 → Rd heartbeatResponseV0 :=
  (rdSeq (rdField (fun _ => readInt16) (fun t x => { t with ErrorCode := x }))
    rdDone)
/-- values the wire format can carry: field ranges -/
structure heartbeatResponseV0.Ok (t : heartbeatResponseV0) : Prop where
  ErrorCode_ok : inRng 16 t.ErrorCode
theorem heartbeatResponseV0.read_write (t : heartbeatResponseV0) (h : heartbeatResponseV0.Ok t) (rest : Bytes) :
    heartbeatResponseV0.readFrom heartbeatResponseV0.zero (heartbeatResponseV0.writeTo t ++ rest) = some (t, rest) := by
  exact rdSeq_rdField_eq (readInt16_write _ · h.ErrorCode_ok) rfl

structure joinGroupRequestGroupProtocolV1 where
  ProtocolName : Bytes
  ProtocolMetadata : Bytes
def joinGroupRequestGroupProtocolV1.size (t : joinGroupRequestGroupProtocolV1) : Int :=
  ((sizeofString t.ProtocolName) + (sizeofBytes t.ProtocolMetadata))
def joinGroupRequestGroupProtocolV1.writeTo (t : joinGroupRequestGroupProtocolV1) : Bytes :=
  ((writeString t.ProtocolName) ++ (writeBytes t.ProtocolMetadata))
@[simp, legacy_len] theorem joinGroupRequestGroupProtocolV1.legacy_size (t : joinGroupRequestGroupProtocolV1) : ((joinGroupRequestGroupProtocolV1.writeTo t).length : Int) = joinGroupRequestGroupProtocolV1.size t := by
  simp only [joinGroupRequestGroupProtocolV1.size, joinGroupRequestGroupProtocolV1.writeTo, legacy_len] <;> omega

/-- the fields joinGroupRequestGroupProtocolV1.writeTo writes, as Kafka types and as values: lists, which a type that writes a joinGroupRequestGroupProtocolV1 through
this `writeTo` splices into its own; `tyC` / `val` are the struct type and value made of them -/
def joinGroupRequestGroupProtocolV1.tyFs : List Ty := ([(.string false false)] ++ [(.bytes false false)])
def joinGroupRequestGroupProtocolV1.valFs (t : joinGroupRequestGroupProtocolV1) : List Val := ([(.str t.ProtocolName)] ++ [(.bytes (some t.ProtocolMetadata))])
def joinGroupRequestGroupProtocolV1.tyC : Ty := .struct false joinGroupRequestGroupProtocolV1.tyFs [] []
@[simp, legacy_enc] theorem joinGroupRequestGroupProtocolV1.tyC_zeroSize : joinGroupRequestGroupProtocolV1.tyC.zeroSize = false := rfl
def joinGroupRequestGroupProtocolV1.ty (_ : joinGroupRequestGroupProtocolV1) : Ty := joinGroupRequestGroupProtocolV1.tyC
def joinGroupRequestGroupProtocolV1.val (t : joinGroupRequestGroupProtocolV1) : Val := .struct (joinGroupRequestGroupProtocolV1.valFs t) []
@[simp, legacy_enc] theorem joinGroupRequestGroupProtocolV1.legacy_modelC (t : joinGroupRequestGroupProtocolV1) : encode joinGroupRequestGroupProtocolV1.tyC (joinGroupRequestGroupProtocolV1.val t) = joinGroupRequestGroupProtocolV1.writeTo t := by
  simp only [joinGroupRequestGroupProtocolV1.tyC, joinGroupRequestGroupProtocolV1.val, joinGroupRequestGroupProtocolV1.writeTo, joinGroupRequestGroupProtocolV1.tyFs, joinGroupRequestGroupProtocolV1.valFs, legacy_enc]
theorem joinGroupRequestGroupProtocolV1.legacy_model (t : joinGroupRequestGroupProtocolV1) : encode (joinGroupRequestGroupProtocolV1.ty t) (joinGroupRequestGroupProtocolV1.val t) = joinGroupRequestGroupProtocolV1.writeTo t := joinGroupRequestGroupProtocolV1.legacy_modelC t

structure joinGroupRequest where
  GroupID : Bytes
  SessionTimeout : Int
  RebalanceTimeout : Int
  MemberID : Bytes
  ProtocolType : Bytes
  GroupProtocols : (List joinGroupRequestGroupProtocolV1)
def joinGroupRequest.size (t : joinGroupRequest) : Int :=
  ((((((sizeofString t.GroupID) + (sizeofInt32 t.SessionTimeout)) + (sizeofInt32 t.RebalanceTimeout)) + (sizeofString t.MemberID)) + (sizeofString t.ProtocolType)) + (sizeofArray t.GroupProtocols (fun x => (joinGroupRequestGroupProtocolV1.size x))))
def joinGroupRequest.writeTo (t : joinGroupRequest) : Bytes :=
  ((writeString t.GroupID) ++ (writeInt32 t.SessionTimeout) ++ (writeInt32 t.RebalanceTimeout) ++ (writeString t.MemberID) ++ (writeString t.ProtocolType) ++ (writeArray t.GroupProtocols (fun x => ((joinGroupRequestGroupProtocolV1.writeTo x)))))
@[simp, legacy_len] theorem joinGroupRequest.legacy_size (t : joinGroupRequest) : ((joinGroupRequest.writeTo t).length : Int) = joinGroupRequest.size t := by
  simp only [joinGroupRequest.size, joinGroupRequest.writeTo, legacy_len] <;> omega

/-- the fields joinGroupRequest.writeTo writes, as Kafka types and as values: lists, which a type that writes a joinGroupRequest through
this `writeTo` splices into its own; `tyC` / `val` are the struct type and value made of them -/
def joinGroupRequest.tyFs : List Ty := ([(.string false false)] ++ [.int32] ++ [.int32] ++ [(.string false false)] ++ [(.string false false)] ++ [(.array false false joinGroupRequestGroupProtocolV1.tyC)])
def joinGroupRequest.valFs (t : joinGroupRequest) : List Val := ([(.str t.GroupID)] ++ [(.int t.SessionTimeout)] ++ [(.int t.RebalanceTimeout)] ++ [(.str t.MemberID)] ++ [(.str t.ProtocolType)] ++ [(.arr (some (t.GroupProtocols.map fun x => (joinGroupRequestGroupProtocolV1.val x))))])
def joinGroupRequest.tyC : Ty := .struct false joinGroupRequest.tyFs [] []
@[simp, legacy_enc] theorem joinGroupRequest.tyC_zeroSize : joinGroupRequest.tyC.zeroSize = false := rfl
def joinGroupRequest.ty (_ : joinGroupRequest) : Ty := joinGroupRequest.tyC
def joinGroupRequest.val (t : joinGroupRequest) : Val := .struct (joinGroupRequest.valFs t) []
@[simp, legacy_enc] theorem joinGroupRequest.legacy_modelC (t : joinGroupRequest) : encode joinGroupRequest.tyC (joinGroupRequest.val t) = joinGroupRequest.writeTo t := by
  simp only [joinGroupRequest.tyC, joinGroupRequest.val, joinGroupRequest.writeTo, joinGroupRequest.tyFs, joinGroupRequest.valFs, legacy_enc]
theorem joinGroupRequest.legacy_model (t : joinGroupRequest) : encode (joinGroupRequest.ty t) (joinGroupRequest.val t) = joinGroupRequest.writeTo t := joinGroupRequest.legacy_modelC t

structure joinGroupResponseMember where
  MemberID : Bytes
  MemberMetadata : Bytes
def joinGroupResponseMember.size (t : joinGroupResponseMember) : Int :=
  ((sizeofString t.MemberID) + (sizeofBytes t.MemberMetadata))
def joinGroupResponseMember.writeTo (t : joinGroupResponseMember) : Bytes :=
  ((writeString t.MemberID) ++ (writeBytes t.MemberMetadata))
@[simp, legacy_len] theorem joinGroupResponseMember.legacy_size (t : joinGroupResponseMember) : ((joinGroupResponseMember.writeTo t).length : Int) = joinGroupResponseMember.size t := by
  simp only [joinGroupResponseMember.size, joinGroupResponseMember.writeTo, legacy_len] <;> omega

/-- the fields joinGroupResponseMember.writeTo writes, as Kafka types and as values: lists, which a type that writes a joinGroupResponseMember through
this `writeTo` splices into its own; `tyC` / `val` are the struct type and value made of them -/
def joinGroupResponseMember.tyFs : List Ty := ([(.string false false)] ++ [(.bytes false false)])
def joinGroupResponseMember.valFs (t : joinGroupResponseMember) : List Val := ([(.str t.MemberID)] ++ [(.bytes (some t.MemberMetadata))])
def joinGroupResponseMember.tyC : Ty := .struct false joinGroupResponseMember.tyFs [] []
@[simp, legacy_enc] theorem joinGroupResponseMember.tyC_zeroSize : joinGroupResponseMember.tyC.zeroSize = false := rfl
def joinGroupResponseMember.ty (_ : joinGroupResponseMember) : Ty := joinGroupResponseMember.tyC
def joinGroupResponseMember.val (t : joinGroupResponseMember) : Val := .struct (joinGroupResponseMember.valFs t) []
@[simp, legacy_enc] theorem joinGroupResponseMember.legacy_modelC (t : joinGroupResponseMember) : encode joinGroupResponseMember.tyC (joinGroupResponseMember.val t) = joinGroupResponseMember.writeTo t := by
  simp only [joinGroupResponseMember.tyC, joinGroupResponseMember.val, joinGroupResponseMember.writeTo, joinGroupResponseMember.tyFs, joinGroupResponseMember.valFs, legacy_enc]
theorem joinGroupResponseMember.legacy_model (t : joinGroupResponseMember) : encode (joinGroupResponseMember.ty t) (joinGroupResponseMember.val t) = joinGroupResponseMember.writeTo t := joinGroupResponseMember.legacy_modelC t

def joinGroupResponseMember.zero : joinGroupResponseMember := { MemberID := [], MemberMetadata := [] }
/-- readFrom of joinGroupResponseMember, statement by statement -/
def joinGroupResponseMember.readFrom : joinGroupResponseMember → Rd joinGroupResponseMember :=
  (rdSeq (rdField (fun _ => readString) (fun t x => { t with MemberID := x }))
    (rdSeq (rdField (fun _ => readBytes) (fun t x => { t with MemberMetadata := x }))
    rdDone))
/-- values the wire format can carry: field ranges -/
structure joinGroupResponseMember.Ok (t : joinGroupResponseMember) : Prop where
  MemberID_ok : t.MemberID.length < 2 ^ 15
  MemberMetadata_ok : t.MemberMetadata.length < 2 ^ 31
theorem joinGroupResponseMember.read_write (t : joinGroupResponseMember) (h : joinGroupResponseMember.Ok t) (rest : Bytes) :
    joinGroupResponseMember.readFrom joinGroupResponseMember.zero (joinGroupResponseMember.writeTo t ++ rest) = some (t, rest) := by
  simp only [joinGroupResponseMember.writeTo, List.append_assoc]
  exact rdSeq_rdField_eq (readString_write _ · h.MemberID_ok) <|
    rdSeq_rdField_eq (readBytes_write _ · h.MemberMetadata_ok) rfl

structure joinGroupResponse where
  v : Int
  ThrottleTime : Int
  ErrorCode : Int
  GenerationID : Int
  GroupProtocol : Bytes
  LeaderID : Bytes
  MemberID : Bytes
  Members : (List joinGroupResponseMember)
/-- size() of joinGroupResponse is not translated (closure indexes something else than t.MemberID (len taken of t.MemberID): { return t.Members[i].size() }): structure and writeTo only, no `legacy_size` -/
def joinGroupResponse.writeTo (t : joinGroupResponse) : Bytes :=
  ((if decide (t.v ≥ (2 : Int)) then ((writeInt32 t.ThrottleTime)) else []) ++ (writeInt16 t.ErrorCode) ++ (writeInt32 t.GenerationID) ++ (writeString t.GroupProtocol) ++ (writeString t.LeaderID) ++ (writeString t.MemberID) ++ (writeArray t.Members (fun x => ((joinGroupResponseMember.writeTo x)))))

/-- the Kafka type joinGroupResponse.writeTo emits for the version in `t.v`, and the value it carries -/
def joinGroupResponse.ty (t : joinGroupResponse) : Ty := .struct false ((if decide (t.v ≥ (2 : Int)) then ([.int32]) else []) ++ [.int16] ++ [.int32] ++ [(.string false false)] ++ [(.string false false)] ++ [(.string false false)] ++ [(.array false false joinGroupResponseMember.tyC)]) [] []
def joinGroupResponse.val (t : joinGroupResponse) : Val := .struct ((if decide (t.v ≥ (2 : Int)) then ([(.int t.ThrottleTime)]) else []) ++ [(.int t.ErrorCode)] ++ [(.int t.GenerationID)] ++ [(.str t.GroupProtocol)] ++ [(.str t.LeaderID)] ++ [(.str t.MemberID)] ++ [(.arr (some (t.Members.map fun x => (joinGroupResponseMember.val x))))]) []
@[simp, legacy_enc] theorem joinGroupResponse.legacy_model (t : joinGroupResponse) : encode (joinGroupResponse.ty t) (joinGroupResponse.val t) = joinGroupResponse.writeTo t := by
  simp only [joinGroupResponse.ty, joinGroupResponse.val, joinGroupResponse.writeTo, legacy_enc]

def joinGroupResponse.zero (v : Int) : joinGroupResponse := { v := v, ThrottleTime := 0, ErrorCode := 0, GenerationID := 0, GroupProtocol := [], LeaderID := [], MemberID := [], Members := [] }
/-- readFrom of joinGroupResponse, statement by statement (`t.F ++ x`: the element callback appends to the field) -/
def joinGroupResponse.readFrom : joinGroupResponse → Rd joinGroupResponse :=
  (rdSeq (rdIf (fun t => decide (t.v ≥ (2 : Int))) (rdSeq (rdField (fun _ => readInt32) (fun t x => { t with ThrottleTime := x }))
    rdDone))
    (rdSeq (rdField (fun _ => readInt16) (fun t x => { t with ErrorCode := x }))
    (rdSeq (rdField (fun _ => readInt32) (fun t x => { t with GenerationID := x }))
    (rdSeq (rdField (fun _ => readString) (fun t x => { t with GroupProtocol := x }))
    (rdSeq (rdField (fun _ => readString) (fun t x => { t with LeaderID := x }))
    (rdSeq (rdField (fun _ => readString) (fun t x => { t with MemberID := x }))
    (rdSeq (rdField (fun t => readArrayWith (joinGroupResponseMember.readFrom joinGroupResponseMember.zero)) (fun t x => { t with Members := t.Members ++ x }))
    rdDone)))))))
/-- values the wire format can carry: field ranges; fields absent at the version are zero -/
structure joinGroupResponse.Ok (t : joinGroupResponse) : Prop where
  ThrottleTime_ok : inRng 32 t.ThrottleTime
  ThrottleTime_off : ¬ (t.v ≥ (2 : Int)) → t.ThrottleTime = 0
  ErrorCode_ok : inRng 16 t.ErrorCode
  GenerationID_ok : inRng 32 t.GenerationID
  GroupProtocol_ok : t.GroupProtocol.length < 2 ^ 15
  LeaderID_ok : t.LeaderID.length < 2 ^ 15
  MemberID_ok : t.MemberID.length < 2 ^ 15
  Members_len : t.Members.length < 2 ^ 31
  Members_ok : ∀ x ∈ t.Members, joinGroupResponseMember.Ok x
theorem joinGroupResponse.read_write (t : joinGroupResponse) (h : joinGroupResponse.Ok t) (rest : Bytes) :
    joinGroupResponse.readFrom (joinGroupResponse.zero t.v) (joinGroupResponse.writeTo t ++ rest) = some (t, rest) := by
  simp only [joinGroupResponse.writeTo, List.append_assoc]
  exact rdSeq_rdIf_eq (fun _ _ => rdSeq_rdField_eq (readInt32_write _ · h.ThrottleTime_ok) rfl)
      (fun hc => by rw [h.ThrottleTime_off (of_decide_eq_false hc)]; rfl) <|
    rdSeq_rdField_eq (readInt16_write _ · h.ErrorCode_ok) <|
    rdSeq_rdField_eq (readInt32_write _ · h.GenerationID_ok) <|
    rdSeq_rdField_eq (readString_write _ · h.GroupProtocol_ok) <|
    rdSeq_rdField_eq (readString_write _ · h.LeaderID_ok) <|
    rdSeq_rdField_eq (readString_write _ · h.MemberID_ok) <|
    rdSeq_rdField_eq (readArrayWith_writeArray _ _ _ · (fun x hx => joinGroupResponseMember.read_write x (h.Members_ok x hx)) h.Members_len) rfl

structure leaveGroupRequestV0 where
  GroupID : Bytes
  MemberID : Bytes
def leaveGroupRequestV0.size (t : leaveGroupRequestV0) : Int :=
  ((sizeofString t.GroupID) + (sizeofString t.MemberID))
def leaveGroupRequestV0.writeTo (t : leaveGroupRequestV0) : Bytes :=
  ((writeString t.GroupID) ++ (writeString t.MemberID))
@[simp, legacy_len] theorem leaveGroupRequestV0.legacy_size (t : leaveGroupRequestV0) : ((leaveGroupRequestV0.writeTo t).length : Int) = leaveGroupRequestV0.size t := by
  simp only [leaveGroupRequestV0.size, leaveGroupRequestV0.writeTo, legacy_len] <;> omega

/-- the fields leaveGroupRequestV0.writeTo writes, as Kafka types and as values: lists, which a type that writes a leaveGroupRequestV0 through
this `writeTo` splices into its own; `tyC` / `val` are the struct type and value made of them -/
def leaveGroupRequestV0.tyFs : List Ty := ([(.string false false)] ++ [(.string false false)])
def leaveGroupRequestV0.valFs (t : leaveGroupRequestV0) : List Val := ([(.str t.GroupID)] ++ [(.str t.MemberID)])
def leaveGroupRequestV0.tyC : Ty := .struct false leaveGroupRequestV0.tyFs [] []
@[simp, legacy_enc] theorem leaveGroupRequestV0.tyC_zeroSize : leaveGroupRequestV0.tyC.zeroSize = false := rfl
def leaveGroupRequestV0.ty (_ : leaveGroupRequestV0) : Ty := leaveGroupRequestV0.tyC
def leaveGroupRequestV0.val (t : leaveGroupRequestV0) : Val := .struct (leaveGroupRequestV0.valFs t) []
@[simp, legacy_enc] theorem leaveGroupRequestV0.legacy_modelC (t : leaveGroupRequestV0) : encode leaveGroupRequestV0.tyC (leaveGroupRequestV0.val t) = leaveGroupRequestV0.writeTo t := by
  simp only [leaveGroupRequestV0.tyC, leaveGroupRequestV0.val, leaveGroupRequestV0.writeTo, leaveGroupRequestV0.tyFs, leaveGroupRequestV0.valFs, legacy_enc]
theorem leaveGroupRequestV0.legacy_model (t : leaveGroupRequestV0) : encode (leaveGroupRequestV0.ty t) (leaveGroupRequestV0.val t) = leaveGroupRequestV0.writeTo t := leaveGroupRequestV0.legacy_modelC t

structure leaveGroupResponseV0 where
  ErrorCode : Int
def leaveGroupResponseV0.size (t : leaveGroupResponseV0) : Int :=
  (sizeofInt16 t.ErrorCode)
def leaveGroupResponseV0.writeTo (t : leaveGroupResponseV0) : Bytes :=
  ((writeInt16 t.ErrorCode))
@[simp, legacy_len] theorem leaveGroupResponseV0.legacy_size (t : leaveGroupResponseV0) : ((leaveGroupResponseV0.writeTo t).length : Int) = leaveGroupResponseV0.size t := by
  simp only [leaveGroupResponseV0.size, leaveGroupResponseV0.writeTo, legacy_len] <;> omega

/-- the fields leaveGroupResponseV0.writeTo writes, as Kafka types and as values: lists, which a type that writes a leaveGroupResponseV0 through
this `writeTo` splices into its own; `tyC` / `val` are the struct type and value made of them -/
def leaveGroupResponseV0.tyFs : List Ty := ([.int16])
def leaveGroupResponseV0.valFs (t : leaveGroupResponseV0) : List Val := ([(.int t.ErrorCode)])
def leaveGroupResponseV0.tyC : Ty := .struct false leaveGroupResponseV0.tyFs [] []
@[simp, legacy_enc] theorem leaveGroupResponseV0.tyC_zeroSize : leaveGroupResponseV0.tyC.zeroSize = false := rfl
def leaveGroupResponseV0.ty (_ : leaveGroupResponseV0) : Ty := leaveGroupResponseV0.tyC
def leaveGroupResponseV0.val (t : leaveGroupResponseV0) : Val := .struct (leaveGroupResponseV0.valFs t) []
@[simp, legacy_enc] theorem leaveGroupResponseV0.legacy_modelC (t : leaveGroupResponseV0) : encode leaveGroupResponseV0.tyC (leaveGroupResponseV0.val t) = leaveGroupResponseV0.writeTo t := by
  simp only [leaveGroupResponseV0.tyC, leaveGroupResponseV0.val, leaveGroupResponseV0.writeTo, leaveGroupResponseV0.tyFs, leaveGroupResponseV0.valFs, legacy_enc]
theorem leaveGroupResponseV0.legacy_model (t : leaveGroupResponseV0) : encode (leaveGroupResponseV0.ty t) (leaveGroupResponseV0.val t) = leaveGroupResponseV0.writeTo t := leaveGroupResponseV0.legacy_modelC t

def leaveGroupResponseV0.zero : leaveGroupResponseV0 := { ErrorCode := 0 }
/-- readFrom of leaveGroupResponseV0, statement by statement -/
def leaveGroupResponseV0.readFrom : leaveGroupResponseV0 → Rd leaveGroupResponseV0 :=
  (rdSeq (rdField (fun _ => readInt16) (fun t x => { t with ErrorCode := x }))
    rdDone)
/-- values the wire format can carry: field ranges -/
structure leaveGroupResponseV0.Ok (t : leaveGroupResponseV0) : Prop where
  ErrorCode_ok : inRng 16 t.ErrorCode
theorem leaveGroupResponseV0.read_write (t : leaveGroupResponseV0) (h : leaveGroupResponseV0.Ok t) (rest : Bytes) :
    leaveGroupResponseV0.readFrom leaveGroupResponseV0.zero (leaveGroupResponseV0.writeTo t ++ rest) = some (t, rest) := by
  exact rdSeq_rdField_eq (readInt16_write _ · h.ErrorCode_ok) rfl

structure listGroupsRequestV1 where
  mk ::
def listGroupsRequestV1.size (t : listGroupsRequestV1) : Int :=
  (0 : Int)
def listGroupsRequestV1.writeTo (t : listGroupsRequestV1) : Bytes :=
  ([] : Bytes)
@[simp, legacy_len] theorem listGroupsRequestV1.legacy_size (t : listGroupsRequestV1) : ((listGroupsRequestV1.writeTo t).length : Int) = listGroupsRequestV1.size t := by
  simp only [listGroupsRequestV1.size, listGroupsRequestV1.writeTo, legacy_len] <;> omega

/-- the fields listGroupsRequestV1.writeTo writes, as Kafka types and as values: lists, which a type that writes a listGroupsRequestV1 through
this `writeTo` splices into its own; `tyC` / `val` are the struct type and value made of them -/
def listGroupsRequestV1.tyFs : List Ty := ([] : List Ty)
def listGroupsRequestV1.valFs (t : listGroupsRequestV1) : List Val := ([] : List Val)
def listGroupsRequestV1.tyC : Ty := .struct false listGroupsRequestV1.tyFs [] []
@[simp, legacy_enc] theorem listGroupsRequestV1.tyC_zeroSize : listGroupsRequestV1.tyC.zeroSize = false := rfl
def listGroupsRequestV1.ty (_ : listGroupsRequestV1) : Ty := listGroupsRequestV1.tyC
def listGroupsRequestV1.val (t : listGroupsRequestV1) : Val := .struct (listGroupsRequestV1.valFs t) []
@[simp, legacy_enc] theorem listGroupsRequestV1.legacy_modelC (t : listGroupsRequestV1) : encode listGroupsRequestV1.tyC (listGroupsRequestV1.val t) = listGroupsRequestV1.writeTo t := by
  simp only [listGroupsRequestV1.tyC, listGroupsRequestV1.val, listGroupsRequestV1.writeTo, listGroupsRequestV1.tyFs, listGroupsRequestV1.valFs, legacy_enc]
theorem listGroupsRequestV1.legacy_model (t : listGroupsRequestV1) : encode (listGroupsRequestV1.ty t) (listGroupsRequestV1.val t) = listGroupsRequestV1.writeTo t := listGroupsRequestV1.legacy_modelC t

structure listGroupsResponseGroupV1 where
  GroupID : Bytes
  ProtocolType : Bytes
def listGroupsResponseGroupV1.size (t : listGroupsResponseGroupV1) : Int :=
  ((sizeofString t.GroupID) + (sizeofString t.ProtocolType))
def listGroupsResponseGroupV1.writeTo (t : listGroupsResponseGroupV1) : Bytes :=
  ((writeString t.GroupID) ++ (writeString t.ProtocolType))
@[simp, legacy_len] theorem listGroupsResponseGroupV1.legacy_size (t : listGroupsResponseGroupV1) : ((listGroupsResponseGroupV1.writeTo t).length : Int) = listGroupsResponseGroupV1.size t := by
  simp only [listGroupsResponseGroupV1.size, listGroupsResponseGroupV1.writeTo, legacy_len] <;> omega

/-- the fields listGroupsResponseGroupV1.writeTo writes, as Kafka types and as values: lists, which a type that writes a listGroupsResponseGroupV1 through
this `writeTo` splices into its own; `tyC` / `val` are the struct type and value made of them -/
def listGroupsResponseGroupV1.tyFs : List Ty := ([(.string false false)] ++ [(.string false false)])
def listGroupsResponseGroupV1.valFs (t : listGroupsResponseGroupV1) : List Val := ([(.str t.GroupID)] ++ [(.str t.ProtocolType)])
def listGroupsResponseGroupV1.tyC : Ty := .struct false listGroupsResponseGroupV1.tyFs [] []
@[simp, legacy_enc] theorem listGroupsResponseGroupV1.tyC_zeroSize : listGroupsResponseGroupV1.tyC.zeroSize = false := rfl
def listGroupsResponseGroupV1.ty (_ : listGroupsResponseGroupV1) : Ty := listGroupsResponseGroupV1.tyC
def listGroupsResponseGroupV1.val (t : listGroupsResponseGroupV1) : Val := .struct (listGroupsResponseGroupV1.valFs t) []
@[simp, legacy_enc] theorem listGroupsResponseGroupV1.legacy_modelC (t : listGroupsResponseGroupV1) : encode listGroupsResponseGroupV1.tyC (listGroupsResponseGroupV1.val t) = listGroupsResponseGroupV1.writeTo t := by
  simp only [listGroupsResponseGroupV1.tyC, listGroupsResponseGroupV1.val, listGroupsResponseGroupV1.writeTo, listGroupsResponseGroupV1.tyFs, listGroupsResponseGroupV1.valFs, legacy_enc]
theorem listGroupsResponseGroupV1.legacy_model (t : listGroupsResponseGroupV1) : encode (listGroupsResponseGroupV1.ty t) (listGroupsResponseGroupV1.val t) = listGroupsResponseGroupV1.writeTo t := listGroupsResponseGroupV1.legacy_modelC t

def listGroupsResponseGroupV1.zero : listGroupsResponseGroupV1 := { GroupID := [], ProtocolType := [] }
/-- readFrom of listGroupsResponseGroupV1, statement by statement -/
def listGroupsResponseGroupV1.readFrom : listGroupsResponseGroupV1 → Rd listGroupsResponseGroupV1 :=
  (rdSeq (rdField (fun _ => readString) (fun t x => { t with GroupID := x }))
    (rdSeq (rdField (fun _ => readString) (fun t x => { t with ProtocolType := x }))
    rdDone))
/-- values the wire format can carry: field ranges -/
structure listGroupsResponseGroupV1.Ok (t : listGroupsResponseGroupV1) : Prop where
  GroupID_ok : t.GroupID.length < 2 ^ 15
  ProtocolType_ok : t.ProtocolType.length < 2 ^ 15
theorem listGroupsResponseGroupV1.read_write (t : listGroupsResponseGroupV1) (h : listGroupsResponseGroupV1.Ok t) (rest : Bytes) :
    listGroupsResponseGroupV1.readFrom listGroupsResponseGroupV1.zero (listGroupsResponseGroupV1.writeTo t ++ rest) = some (t, rest) := by
  simp only [listGroupsResponseGroupV1.writeTo, List.append_assoc]
  exact rdSeq_rdField_eq (readString_write _ · h.GroupID_ok) <|
    rdSeq_rdField_eq (readString_write _ · h.ProtocolType_ok) rfl

structure listGroupsResponseV1 where
  ThrottleTimeMS : Int
  ErrorCode : Int
  Groups : (List listGroupsResponseGroupV1)
def listGroupsResponseV1.size (t : listGroupsResponseV1) : Int :=
  (((sizeofInt32 t.ThrottleTimeMS) + (sizeofInt16 t.ErrorCode)) + (sizeofArray t.Groups (fun x => (listGroupsResponseGroupV1.size x))))
def listGroupsResponseV1.writeTo (t : listGroupsResponseV1) : Bytes :=
  ((writeInt32 t.ThrottleTimeMS) ++ (writeInt16 t.ErrorCode) ++ (writeArray t.Groups (fun x => ((listGroupsResponseGroupV1.writeTo x)))))
@[simp, legacy_len] theorem listGroupsResponseV1.legacy_size (t : listGroupsResponseV1) : ((listGroupsResponseV1.writeTo t).length : Int) = listGroupsResponseV1.size t := by
  simp only [listGroupsResponseV1.size, listGroupsResponseV1.writeTo, legacy_len] <;> omega

/-- the fields listGroupsResponseV1.writeTo writes, as Kafka types and as values: lists, which a type that writes a listGroupsResponseV1 through
this `writeTo` splices into its own; `tyC` / `val` are the struct type and value made of them -/
def listGroupsResponseV1.tyFs : List Ty := ([.int32] ++ [.int16] ++ [(.array false false listGroupsResponseGroupV1.tyC)])
def listGroupsResponseV1.valFs (t : listGroupsResponseV1) : List Val := ([(.int t.ThrottleTimeMS)] ++ [(.int t.ErrorCode)] ++ [(.arr (some (t.Groups.map fun x => (listGroupsResponseGroupV1.val x))))])
def listGroupsResponseV1.tyC : Ty := .struct false listGroupsResponseV1.tyFs [] []
@[simp, legacy_enc] theorem listGroupsResponseV1.tyC_zeroSize : listGroupsResponseV1.tyC.zeroSize = false := rfl
def listGroupsResponseV1.ty (_ : listGroupsResponseV1) : Ty := listGroupsResponseV1.tyC
def listGroupsResponseV1.val (t : listGroupsResponseV1) : Val := .struct (listGroupsResponseV1.valFs t) []
@[simp, legacy_enc] theorem listGroupsResponseV1.legacy_modelC (t : listGroupsResponseV1) : encode listGroupsResponseV1.tyC (listGroupsResponseV1.val t) = listGroupsResponseV1.writeTo t := by
  simp only [listGroupsResponseV1.tyC, listGroupsResponseV1.val, listGroupsResponseV1.writeTo, listGroupsResponseV1.tyFs, listGroupsResponseV1.valFs, legacy_enc]
theorem listGroupsResponseV1.legacy_model (t : listGroupsResponseV1) : encode (listGroupsResponseV1.ty t) (listGroupsResponseV1.val t) = listGroupsResponseV1.writeTo t := listGroupsResponseV1.legacy_modelC t

def listGroupsResponseV1.zero : listGroupsResponseV1 := { ThrottleTimeMS := 0, ErrorCode := 0, Groups := [] }
/-- readFrom of listGroupsResponseV1, statement by statement (`t.F ++ x`: the element callback appends to the field) -/
def listGroupsResponseV1.readFrom : listGroupsResponseV1 → Rd listGroupsResponseV1 :=
  (rdSeq (rdField (fun _ => readInt32) (fun t x => { t with ThrottleTimeMS := x }))
    (rdSeq (rdField (fun _ => readInt16) (fun t x => { t with ErrorCode := x }))
    (rdSeq (rdField (fun t => readArrayWith (listGroupsResponseGroupV1.readFrom listGroupsResponseGroupV1.zero)) (fun t x => { t with Groups := t.Groups ++ x }))
    rdDone)))
/-- values the wire format can carry: field ranges -/
structure listGroupsResponseV1.Ok (t : listGroupsResponseV1) : Prop where
  ThrottleTimeMS_ok : inRng 32 t.ThrottleTimeMS
  ErrorCode_ok : inRng 16 t.ErrorCode
  Groups_len : t.Groups.length < 2 ^ 31
  Groups_ok : ∀ x ∈ t.Groups, listGroupsResponseGroupV1.Ok x
theorem listGroupsResponseV1.read_write (t : listGroupsResponseV1) (h : listGroupsResponseV1.Ok t) (rest : Bytes) :
    listGroupsResponseV1.readFrom listGroupsResponseV1.zero (listGroupsResponseV1.writeTo t ++ rest) = some (t, rest) := by
  simp only [listGroupsResponseV1.writeTo, List.append_assoc]
  exact rdSeq_rdField_eq (readInt32_write _ · h.ThrottleTimeMS_ok) <|
    rdSeq_rdField_eq (readInt16_write _ · h.ErrorCode_ok) <|
    rdSeq_rdField_eq (readArrayWith_writeArray _ _ _ · (fun x hx => listGroupsResponseGroupV1.read_write x (h.Groups_ok x hx)) h.Groups_len) rfl

structure listOffsetRequestPartitionV1 where
  Partition : Int
  Time : Int
def listOffsetRequestPartitionV1.size (t : listOffsetRequestPartitionV1) : Int :=
  ((4 : Int) + (8 : Int))
def listOffsetRequestPartitionV1.writeTo (t : listOffsetRequestPartitionV1) : Bytes :=
  ((writeInt32 t.Partition) ++ (writeInt64 t.Time))
@[simp, legacy_len] theorem listOffsetRequestPartitionV1.legacy_size (t : listOffsetRequestPartitionV1) : ((listOffsetRequestPartitionV1.writeTo t).length : Int) = listOffsetRequestPartitionV1.size t := by
  simp only [listOffsetRequestPartitionV1.size, listOffsetRequestPartitionV1.writeTo, legacy_len] <;> omega

/-- the fields listOffsetRequestPartitionV1.writeTo writes, as Kafka types and as values: lists, which a type that writes a listOffsetRequestPartitionV1 through
this `writeTo` splices into its own; `tyC` / `val` are the struct type and value made of them -/
def listOffsetRequestPartitionV1.tyFs : List Ty := ([.int32] ++ [.int64])
def listOffsetRequestPartitionV1.valFs (t : listOffsetRequestPartitionV1) : List Val := ([(.int t.Partition)] ++ [(.int t.Time)])
def listOffsetRequestPartitionV1.tyC : Ty := .struct false listOffsetRequestPartitionV1.tyFs [] []
@[simp, legacy_enc] theorem listOffsetRequestPartitionV1.tyC_zeroSize : listOffsetRequestPartitionV1.tyC.zeroSize = false := rfl
def listOffsetRequestPartitionV1.ty (_ : listOffsetRequestPartitionV1) : Ty := listOffsetRequestPartitionV1.tyC
def listOffsetRequestPartitionV1.val (t : listOffsetRequestPartitionV1) : Val := .struct (listOffsetRequestPartitionV1.valFs t) []
@[simp, legacy_enc] theorem listOffsetRequestPartitionV1.legacy_modelC (t : listOffsetRequestPartitionV1) : encode listOffsetRequestPartitionV1.tyC (listOffsetRequestPartitionV1.val t) = listOffsetRequestPartitionV1.writeTo t := by
  simp only [listOffsetRequestPartitionV1.tyC, listOffsetRequestPartitionV1.val, listOffsetRequestPartitionV1.writeTo, listOffsetRequestPartitionV1.tyFs, listOffsetRequestPartitionV1.valFs, legacy_enc]
theorem listOffsetRequestPartitionV1.legacy_model (t : listOffsetRequestPartitionV1) : encode (listOffsetRequestPartitionV1.ty t) (listOffsetRequestPartitionV1.val t) = listOffsetRequestPartitionV1.writeTo t := listOffsetRequestPartitionV1.legacy_modelC t

structure listOffsetRequestTopicV1 where
  TopicName : Bytes
  Partitions : (List listOffsetRequestPartitionV1)
def listOffsetRequestTopicV1.size (t : listOffsetRequestTopicV1) : Int :=
  ((sizeofString t.TopicName) + (sizeofArray t.Partitions (fun x => (listOffsetRequestPartitionV1.size x))))
def listOffsetRequestTopicV1.writeTo (t : listOffsetRequestTopicV1) : Bytes :=
  ((writeString t.TopicName) ++ (writeArray t.Partitions (fun x => ((listOffsetRequestPartitionV1.writeTo x)))))
@[simp, legacy_len] theorem listOffsetRequestTopicV1.legacy_size (t : listOffsetRequestTopicV1) : ((listOffsetRequestTopicV1.writeTo t).length : Int) = listOffsetRequestTopicV1.size t := by
  simp only [listOffsetRequestTopicV1.size, listOffsetRequestTopicV1.writeTo, legacy_len] <;> omega

/-- the fields listOffsetRequestTopicV1.writeTo writes, as Kafka types and as values: lists, which a type that writes a listOffsetRequestTopicV1 through
this `writeTo` splices into its own; `tyC` / `val` are the struct type and value made of them -/
def listOffsetRequestTopicV1.tyFs : List Ty := ([(.string false false)] ++ [(.array false false listOffsetRequestPartitionV1.tyC)])
def listOffsetRequestTopicV1.valFs (t : listOffsetRequestTopicV1) : List Val := ([(.str t.TopicName)] ++ [(.arr (some (t.Partitions.map fun x => (listOffsetRequestPartitionV1.val x))))])
def listOffsetRequestTopicV1.tyC : Ty := .struct false listOffsetRequestTopicV1.tyFs [] []
@[simp, legacy_enc] theorem listOffsetRequestTopicV1.tyC_zeroSize : listOffsetRequestTopicV1.tyC.zeroSize = false := rfl
def listOffsetRequestTopicV1.ty (_ : listOffsetRequestTopicV1) : Ty := listOffsetRequestTopicV1.tyC
def listOffsetRequestTopicV1.val (t : listOffsetRequestTopicV1) : Val := .struct (listOffsetRequestTopicV1.valFs t) []
@[simp, legacy_enc] theorem listOffsetRequestTopicV1.legacy_modelC (t : listOffsetRequestTopicV1) : encode listOffsetRequestTopicV1.tyC (listOffsetRequestTopicV1.val t) = listOffsetRequestTopicV1.writeTo t := by
  simp only [listOffsetRequestTopicV1.tyC, listOffsetRequestTopicV1.val, listOffsetRequestTopicV1.writeTo, listOffsetRequestTopicV1.tyFs, listOffsetRequestTopicV1.valFs, legacy_enc]
theorem listOffsetRequestTopicV1.legacy_model (t : listOffsetRequestTopicV1) : encode (listOffsetRequestTopicV1.ty t) (listOffsetRequestTopicV1.val t) = listOffsetRequestTopicV1.writeTo t := listOffsetRequestTopicV1.legacy_modelC t

structure listOffsetRequestV1 where
  ReplicaID : Int
  Topics : (List listOffsetRequestTopicV1)
def listOffsetRequestV1.size (t : listOffsetRequestV1) : Int :=
  ((4 : Int) + (sizeofArray t.Topics (fun x => (listOffsetRequestTopicV1.size x))))
def listOffsetRequestV1.writeTo (t : listOffsetRequestV1) : Bytes :=
  ((writeInt32 t.ReplicaID) ++ (writeArray t.Topics (fun x => ((listOffsetRequestTopicV1.writeTo x)))))
@[simp, legacy_len] theorem listOffsetRequestV1.legacy_size (t : listOffsetRequestV1) : ((listOffsetRequestV1.writeTo t).length : Int) = listOffsetRequestV1.size t := by
  simp only [listOffsetRequestV1.size, listOffsetRequestV1.writeTo, legacy_len] <;> omega

/-- the fields listOffsetRequestV1.writeTo writes, as Kafka types and as values: lists, which a type that writes a listOffsetRequestV1 through
this `writeTo` splices into its own; `tyC` / `val` are the struct type and value made of them -/
def listOffsetRequestV1.tyFs : List Ty := ([.int32] ++ [(.array false false listOffsetRequestTopicV1.tyC)])
def listOffsetRequestV1.valFs (t : listOffsetRequestV1) : List Val := ([(.int t.ReplicaID)] ++ [(.arr (some (t.Topics.map fun x => (listOffsetRequestTopicV1.val x))))])
def listOffsetRequestV1.tyC : Ty := .struct false listOffsetRequestV1.tyFs [] []
@[simp, legacy_enc] theorem listOffsetRequestV1.tyC_zeroSize : listOffsetRequestV1.tyC.zeroSize = false := rfl
def listOffsetRequestV1.ty (_ : listOffsetRequestV1) : Ty := listOffsetRequestV1.tyC
def listOffsetRequestV1.val (t : listOffsetRequestV1) : Val := .struct (listOffsetRequestV1.valFs t) []
@[simp, legacy_enc] theorem listOffsetRequestV1.legacy_modelC (t : listOffsetRequestV1) : encode listOffsetRequestV1.tyC (listOffsetRequestV1.val t) = listOffsetRequestV1.writeTo t := by
  simp only [listOffsetRequestV1.tyC, listOffsetRequestV1.val, listOffsetRequestV1.writeTo, listOffsetRequestV1.tyFs, listOffsetRequestV1.valFs, legacy_enc]
theorem listOffsetRequestV1.legacy_model (t : listOffsetRequestV1) : encode (listOffsetRequestV1.ty t) (listOffsetRequestV1.val t) = listOffsetRequestV1.writeTo t := listOffsetRequestV1.legacy_modelC t

structure partitionOffsetV1 where
  Partition : Int
  ErrorCode : Int
  Timestamp : Int
  Offset : Int
def partitionOffsetV1.size (t : partitionOffsetV1) : Int :=
  ((((4 : Int) + (2 : Int)) + (8 : Int)) + (8 : Int))
def partitionOffsetV1.writeTo (t : partitionOffsetV1) : Bytes :=
  ((writeInt32 t.Partition) ++ (writeInt16 t.ErrorCode) ++ (writeInt64 t.Timestamp) ++ (writeInt64 t.Offset))
@[simp, legacy_len] theorem partitionOffsetV1.legacy_size (t : partitionOffsetV1) : ((partitionOffsetV1.writeTo t).length : Int) = partitionOffsetV1.size t := by
  simp only [partitionOffsetV1.size, partitionOffsetV1.writeTo, legacy_len] <;> omega

/-- the fields partitionOffsetV1.writeTo writes, as Kafka types and as values: lists, which a type that writes a partitionOffsetV1 through
this `writeTo` splices into its own; `tyC` / `val` are the struct type and value made of them -/
def partitionOffsetV1.tyFs : List Ty := ([.int32] ++ [.int16] ++ [.int64] ++ [.int64])
def partitionOffsetV1.valFs (t : partitionOffsetV1) : List Val := ([(.int t.Partition)] ++ [(.int t.ErrorCode)] ++ [(.int t.Timestamp)] ++ [(.int t.Offset)])
def partitionOffsetV1.tyC : Ty := .struct false partitionOffsetV1.tyFs [] []
@[simp, legacy_enc] theorem partitionOffsetV1.tyC_zeroSize : partitionOffsetV1.tyC.zeroSize = false := rfl
def partitionOffsetV1.ty (_ : partitionOffsetV1) : Ty := partitionOffsetV1.tyC
def partitionOffsetV1.val (t : partitionOffsetV1) : Val := .struct (partitionOffsetV1.valFs t) []
@[simp, legacy_enc] theorem partitionOffsetV1.legacy_modelC (t : partitionOffsetV1) : encode partitionOffsetV1.tyC (partitionOffsetV1.val t) = partitionOffsetV1.writeTo t := by
  simp only [partitionOffsetV1.tyC, partitionOffsetV1.val, partitionOffsetV1.writeTo, partitionOffsetV1.tyFs, partitionOffsetV1.valFs, legacy_enc]
theorem partitionOffsetV1.legacy_model (t : partitionOffsetV1) : encode (partitionOffsetV1.ty t) (partitionOffsetV1.val t) = partitionOffsetV1.writeTo t := partitionOffsetV1.legacy_modelC t

def partitionOffsetV1.zero : partitionOffsetV1 := { Partition := 0, ErrorCode := 0, Timestamp := 0, Offset := 0 }
/-- readFrom of partitionOffsetV1, statement by statement -/
def partitionOffsetV1.readFrom : partitionOffsetV1 → Rd partitionOffsetV1 :=
  (rdSeq (rdField (fun _ => readInt32) (fun t x => { t with Partition := x }))
    (rdSeq (rdField (fun _ => readInt16) (fun t x => { t with ErrorCode := x }))
    (rdSeq (rdField (fun _ => readInt64) (fun t x => { t with Timestamp := x }))
    (rdSeq (rdField (fun _ => readInt64) (fun t x => { t with Offset := x }))
    rdDone))))
/-- values the wire format can carry: field ranges -/
structure partitionOffsetV1.Ok (t : partitionOffsetV1) : Prop where
  Partition_ok : inRng 32 t.Partition
  ErrorCode_ok : inRng 16 t.ErrorCode
  Timestamp_ok : inRng 64 t.Timestamp
  Offset_ok : inRng 64 t.Offset
theorem partitionOffsetV1.read_write (t : partitionOffsetV1) (h : partitionOffsetV1.Ok t) (rest : Bytes) :
    partitionOffsetV1.readFrom partitionOffsetV1.zero (partitionOffsetV1.writeTo t ++ rest) = some (t, rest) := by
  simp only [partitionOffsetV1.writeTo, List.append_assoc]
  exact rdSeq_rdField_eq (readInt32_write _ · h.Partition_ok) <|
    rdSeq_rdField_eq (readInt16_write _ · h.ErrorCode_ok) <|
    rdSeq_rdField_eq (readInt64_write _ · h.Timestamp_ok) <|
    rdSeq_rdField_eq (readInt64_write _ · h.Offset_ok) rfl

structure listOffsetResponseTopicV1 where
  TopicName : Bytes
  PartitionOffsets : (List partitionOffsetV1)
def listOffsetResponseTopicV1.size (t : listOffsetResponseTopicV1) : Int :=
  ((sizeofString t.TopicName) + (sizeofArray t.PartitionOffsets (fun x => (partitionOffsetV1.size x))))
def listOffsetResponseTopicV1.writeTo (t : listOffsetResponseTopicV1) : Bytes :=
  ((writeString t.TopicName) ++ (writeArray t.PartitionOffsets (fun x => ((partitionOffsetV1.writeTo x)))))
@[simp, legacy_len] theorem listOffsetResponseTopicV1.legacy_size (t : listOffsetResponseTopicV1) : ((listOffsetResponseTopicV1.writeTo t).length : Int) = listOffsetResponseTopicV1.size t := by
  simp only [listOffsetResponseTopicV1.size, listOffsetResponseTopicV1.writeTo, legacy_len] <;> omega

/-- the fields listOffsetResponseTopicV1.writeTo writes, as Kafka types and as values: lists, which a type that writes a listOffsetResponseTopicV1 through
this `writeTo` splices into its own; `tyC` / `val` are the struct type and value made of them -/
def listOffsetResponseTopicV1.tyFs : List Ty := ([(.string false false)] ++ [(.array false false partitionOffsetV1.tyC)])
def listOffsetResponseTopicV1.valFs (t : listOffsetResponseTopicV1) : List Val := ([(.str t.TopicName)] ++ [(.arr (some (t.PartitionOffsets.map fun x => (partitionOffsetV1.val x))))])
def listOffsetResponseTopicV1.tyC : Ty := .struct false listOffsetResponseTopicV1.tyFs [] []
@[simp, legacy_enc] theorem listOffsetResponseTopicV1.tyC_zeroSize : listOffsetResponseTopicV1.tyC.zeroSize = false := rfl
def listOffsetResponseTopicV1.ty (_ : listOffsetResponseTopicV1) : Ty := listOffsetResponseTopicV1.tyC
def listOffsetResponseTopicV1.val (t : listOffsetResponseTopicV1) : Val := .struct (listOffsetResponseTopicV1.valFs t) []
@[simp, legacy_enc] theorem listOffsetResponseTopicV1.legacy_modelC (t : listOffsetResponseTopicV1) : encode listOffsetResponseTopicV1.tyC (listOffsetResponseTopicV1.val t) = listOffsetResponseTopicV1.writeTo t := by
  simp only [listOffsetResponseTopicV1.tyC, listOffsetResponseTopicV1.val, listOffsetResponseTopicV1.writeTo, listOffsetResponseTopicV1.tyFs, listOffsetResponseTopicV1.valFs, legacy_enc]
theorem listOffsetResponseTopicV1.legacy_model (t : listOffsetResponseTopicV1) : encode (listOffsetResponseTopicV1.ty t) (listOffsetResponseTopicV1.val t) = listOffsetResponseTopicV1.writeTo t := listOffsetResponseTopicV1.legacy_modelC t

structure listOffsetResponseV1 where
  items : List listOffsetResponseTopicV1
  isNil : Bool
def listOffsetResponseV1.size (t : listOffsetResponseV1) : Int :=
  (sizeofArray t.items (fun x => (listOffsetResponseTopicV1.size x)))
def listOffsetResponseV1.writeTo (t : listOffsetResponseV1) : Bytes :=
  ((writeArray t.items (fun x => ((listOffsetResponseTopicV1.writeTo x)))))
@[simp, legacy_len] theorem listOffsetResponseV1.legacy_size (t : listOffsetResponseV1) : ((listOffsetResponseV1.writeTo t).length : Int) = listOffsetResponseV1.size t := by
  simp only [listOffsetResponseV1.size, listOffsetResponseV1.writeTo, legacy_len] <;> omega

/-- the fields listOffsetResponseV1.writeTo writes, as Kafka types and as values: lists, which a type that writes a listOffsetResponseV1 through
this `writeTo` splices into its own; `tyC` / `val` are the struct type and value made of them -/
def listOffsetResponseV1.tyFs : List Ty := ([(.array false false listOffsetResponseTopicV1.tyC)])
def listOffsetResponseV1.valFs (t : listOffsetResponseV1) : List Val := ([(.arr (some (t.items.map fun x => (listOffsetResponseTopicV1.val x))))])
def listOffsetResponseV1.tyC : Ty := .struct false listOffsetResponseV1.tyFs [] []
@[simp, legacy_enc] theorem listOffsetResponseV1.tyC_zeroSize : listOffsetResponseV1.tyC.zeroSize = false := rfl
def listOffsetResponseV1.ty (_ : listOffsetResponseV1) : Ty := listOffsetResponseV1.tyC
def listOffsetResponseV1.val (t : listOffsetResponseV1) : Val := .struct (listOffsetResponseV1.valFs t) []
@[simp, legacy_enc] theorem listOffsetResponseV1.legacy_modelC (t : listOffsetResponseV1) : encode listOffsetResponseV1.tyC (listOffsetResponseV1.val t) = listOffsetResponseV1.writeTo t := by
  simp only [listOffsetResponseV1.tyC, listOffsetResponseV1.val, listOffsetResponseV1.writeTo, listOffsetResponseV1.tyFs, listOffsetResponseV1.valFs, legacy_enc]
theorem listOffsetResponseV1.legacy_model (t : listOffsetResponseV1) : encode (listOffsetResponseV1.ty t) (listOffsetResponseV1.val t) = listOffsetResponseV1.writeTo t := listOffsetResponseV1.legacy_modelC t

structure partitionMetadataV1 where
  PartitionErrorCode : Int
  PartitionID : Int
  Leader : Int
  Replicas : (List Int)
  Isr : (List Int)
def partitionMetadataV1.size (t : partitionMetadataV1) : Int :=
  (((((2 : Int) + (4 : Int)) + (4 : Int)) + (sizeofInt32Array t.Replicas)) + (sizeofInt32Array t.Isr))
def partitionMetadataV1.writeTo (t : partitionMetadataV1) : Bytes :=
  ((writeInt16 t.PartitionErrorCode) ++ (writeInt32 t.PartitionID) ++ (writeInt32 t.Leader) ++ (writeInt32Array t.Replicas) ++ (writeInt32Array t.Isr))
@[simp, legacy_len] theorem partitionMetadataV1.legacy_size (t : partitionMetadataV1) : ((partitionMetadataV1.writeTo t).length : Int) = partitionMetadataV1.size t := by
  simp only [partitionMetadataV1.size, partitionMetadataV1.writeTo, legacy_len] <;> omega

/-- the fields partitionMetadataV1.writeTo writes, as Kafka types and as values: lists, which a type that writes a partitionMetadataV1 through
this `writeTo` splices into its own; `tyC` / `val` are the struct type and value made of them -/
def partitionMetadataV1.tyFs : List Ty := ([.int16] ++ [.int32] ++ [.int32] ++ [(.array false false .int32)] ++ [(.array false false .int32)])
def partitionMetadataV1.valFs (t : partitionMetadataV1) : List Val := ([(.int t.PartitionErrorCode)] ++ [(.int t.PartitionID)] ++ [(.int t.Leader)] ++ [(.arr (some (t.Replicas.map .int)))] ++ [(.arr (some (t.Isr.map .int)))])
def partitionMetadataV1.tyC : Ty := .struct false partitionMetadataV1.tyFs [] []
@[simp, legacy_enc] theorem partitionMetadataV1.tyC_zeroSize : partitionMetadataV1.tyC.zeroSize = false := rfl
def partitionMetadataV1.ty (_ : partitionMetadataV1) : Ty := partitionMetadataV1.tyC
def partitionMetadataV1.val (t : partitionMetadataV1) : Val := .struct (partitionMetadataV1.valFs t) []
@[simp, legacy_enc] theorem partitionMetadataV1.legacy_modelC (t : partitionMetadataV1) : encode partitionMetadataV1.tyC (partitionMetadataV1.val t) = partitionMetadataV1.writeTo t := by
  simp only [partitionMetadataV1.tyC, partitionMetadataV1.val, partitionMetadataV1.writeTo, partitionMetadataV1.tyFs, partitionMetadataV1.valFs, legacy_enc]
theorem partitionMetadataV1.legacy_model (t : partitionMetadataV1) : encode (partitionMetadataV1.ty t) (partitionMetadataV1.val t) = partitionMetadataV1.writeTo t := partitionMetadataV1.legacy_modelC t

def partitionMetadataV1.zero : partitionMetadataV1 := { PartitionErrorCode := 0, PartitionID := 0, Leader := 0, Replicas := [], Isr := [] }
/-- the reflective read() (struct fields in declaration order) of partitionMetadataV1, statement by statement -/
def partitionMetadataV1.readFrom : partitionMetadataV1 → Rd partitionMetadataV1 :=
  (rdSeq (rdField (fun _ => readInt16) (fun t x => { t with PartitionErrorCode := x }))
    (rdSeq (rdField (fun _ => readInt32) (fun t x => { t with PartitionID := x }))
    (rdSeq (rdField (fun _ => readInt32) (fun t x => { t with Leader := x }))
    (rdSeq (rdField (fun _ => readInt32Array) (fun t x => { t with Replicas := x }))
    (rdSeq (rdField (fun _ => readInt32Array) (fun t x => { t with Isr := x }))
    rdDone)))))
/-- values the wire format can carry: field ranges -/
structure partitionMetadataV1.Ok (t : partitionMetadataV1) : Prop where
  PartitionErrorCode_ok : inRng 16 t.PartitionErrorCode
  PartitionID_ok : inRng 32 t.PartitionID
  Leader_ok : inRng 32 t.Leader
  Replicas_ok : ∀ x ∈ t.Replicas, inRng 32 x
  Replicas_len : t.Replicas.length < 2 ^ 31
  Isr_ok : ∀ x ∈ t.Isr, inRng 32 x
  Isr_len : t.Isr.length < 2 ^ 31
theorem partitionMetadataV1.read_write (t : partitionMetadataV1) (h : partitionMetadataV1.Ok t) (rest : Bytes) :
    partitionMetadataV1.readFrom partitionMetadataV1.zero (partitionMetadataV1.writeTo t ++ rest) = some (t, rest) := by
  simp only [partitionMetadataV1.writeTo, List.append_assoc]
  exact rdSeq_rdField_eq (readInt16_write _ · h.PartitionErrorCode_ok) <|
    rdSeq_rdField_eq (readInt32_write _ · h.PartitionID_ok) <|
    rdSeq_rdField_eq (readInt32_write _ · h.Leader_ok) <|
    rdSeq_rdField_eq (readInt32Array_write _ · h.Replicas_ok h.Replicas_len) <|
    rdSeq_rdField_eq (readInt32Array_write _ · h.Isr_ok h.Isr_len) rfl

structure topicMetadataV1 where
  TopicErrorCode : Int
  TopicName : Bytes
  Internal : Bool
  Partitions : (List partitionMetadataV1)
def topicMetadataV1.size (t : topicMetadataV1) : Int :=
  ((((2 : Int) + (1 : Int)) + (sizeofString t.TopicName)) + (sizeofArray t.Partitions (fun x => (partitionMetadataV1.size x))))
def topicMetadataV1.writeTo (t : topicMetadataV1) : Bytes :=
  ((writeInt16 t.TopicErrorCode) ++ (writeString t.TopicName) ++ (writeBool t.Internal) ++ (writeArray t.Partitions (fun x => ((partitionMetadataV1.writeTo x)))))
@[simp, legacy_len] theorem topicMetadataV1.legacy_size (t : topicMetadataV1) : ((topicMetadataV1.writeTo t).length : Int) = topicMetadataV1.size t := by
  simp only [topicMetadataV1.size, topicMetadataV1.writeTo, legacy_len] <;> omega

/-- the fields topicMetadataV1.writeTo writes, as Kafka types and as values: lists, which a type that writes a topicMetadataV1 through
this `writeTo` splices into its own; `tyC` / `val` are the struct type and value made of them -/
def topicMetadataV1.tyFs : List Ty := ([.int16] ++ [(.string false false)] ++ [.bool] ++ [(.array false false partitionMetadataV1.tyC)])
def topicMetadataV1.valFs (t : topicMetadataV1) : List Val := ([(.int t.TopicErrorCode)] ++ [(.str t.TopicName)] ++ [(.bool t.Internal)] ++ [(.arr (some (t.Partitions.map fun x => (partitionMetadataV1.val x))))])
def topicMetadataV1.tyC : Ty := .struct false topicMetadataV1.tyFs [] []
@[simp, legacy_enc] theorem topicMetadataV1.tyC_zeroSize : topicMetadataV1.tyC.zeroSize = false := rfl
def topicMetadataV1.ty (_ : topicMetadataV1) : Ty := topicMetadataV1.tyC
def topicMetadataV1.val (t : topicMetadataV1) : Val := .struct (topicMetadataV1.valFs t) []
@[simp, legacy_enc] theorem topicMetadataV1.legacy_modelC (t : topicMetadataV1) : encode topicMetadataV1.tyC (topicMetadataV1.val t) = topicMetadataV1.writeTo t := by
  simp only [topicMetadataV1.tyC, topicMetadataV1.val, topicMetadataV1.writeTo, topicMetadataV1.tyFs, topicMetadataV1.valFs, legacy_enc]
theorem topicMetadataV1.legacy_model (t : topicMetadataV1) : encode (topicMetadataV1.ty t) (topicMetadataV1.val t) = topicMetadataV1.writeTo t := topicMetadataV1.legacy_modelC t

def topicMetadataV1.zero : topicMetadataV1 := { TopicErrorCode := 0, TopicName := [], Internal := false, Partitions := [] }
/-- the reflective read() (struct fields in declaration order) of topicMetadataV1, statement by statement -/
def topicMetadataV1.readFrom : topicMetadataV1 → Rd topicMetadataV1 :=
  (rdSeq (rdField (fun _ => readInt16) (fun t x => { t with TopicErrorCode := x }))
    (rdSeq (rdField (fun _ => readString) (fun t x => { t with TopicName := x }))
    (rdSeq (rdField (fun _ => readBool) (fun t x => { t with Internal := x }))
    (rdSeq (rdField (fun _ => readArrayWith (partitionMetadataV1.readFrom partitionMetadataV1.zero)) (fun t x => { t with Partitions := x }))
    rdDone))))
/-- values the wire format can carry: field ranges -/
structure topicMetadataV1.Ok (t : topicMetadataV1) : Prop where
  TopicErrorCode_ok : inRng 16 t.TopicErrorCode
  TopicName_ok : t.TopicName.length < 2 ^ 15
  Partitions_len : t.Partitions.length < 2 ^ 31
  Partitions_ok : ∀ x ∈ t.Partitions, partitionMetadataV1.Ok x
theorem topicMetadataV1.read_write (t : topicMetadataV1) (h : topicMetadataV1.Ok t) (rest : Bytes) :
    topicMetadataV1.readFrom topicMetadataV1.zero (topicMetadataV1.writeTo t ++ rest) = some (t, rest) := by
  simp only [topicMetadataV1.writeTo, List.append_assoc]
  exact rdSeq_rdField_eq (readInt16_write _ · h.TopicErrorCode_ok) <|
    rdSeq_rdField_eq (readString_write _ · h.TopicName_ok) <|
    rdSeq_rdField_eq (readBool_write _) <|
    rdSeq_rdField_eq (readArrayWith_writeArray _ _ _ · (fun x hx => partitionMetadataV1.read_write x (h.Partitions_ok x hx)) h.Partitions_len) rfl

structure metadataResponseV1 where
  Brokers : (List brokerMetadataV1)
  ControllerID : Int
  Topics : (List topicMetadataV1)
/-- size() of metadataResponseV1 is not translated (assignment n1 := sizeofArray(len(r.Brokers), func(i int) int32 { return r.Brokers[i].size() })): structure and writeTo only, no `legacy_size` -/
def metadataResponseV1.writeTo (t : metadataResponseV1) : Bytes :=
  ((writeArray t.Brokers (fun x => ((brokerMetadataV1.writeTo x)))) ++ (writeInt32 t.ControllerID) ++ (writeArray t.Topics (fun x => ((topicMetadataV1.writeTo x)))))

/-- the fields metadataResponseV1.writeTo writes, as Kafka types and as values: lists, which a type that writes a metadataResponseV1 through
this `writeTo` splices into its own; `tyC` / `val` are the struct type and value made of them -/
def metadataResponseV1.tyFs : List Ty := ([(.array false false brokerMetadataV1.tyC)] ++ [.int32] ++ [(.array false false topicMetadataV1.tyC)])
def metadataResponseV1.valFs (t : metadataResponseV1) : List Val := ([(.arr (some (t.Brokers.map fun x => (brokerMetadataV1.val x))))] ++ [(.int t.ControllerID)] ++ [(.arr (some (t.Topics.map fun x => (topicMetadataV1.val x))))])
def metadataResponseV1.tyC : Ty := .struct false metadataResponseV1.tyFs [] []
@[simp, legacy_enc] theorem metadataResponseV1.tyC_zeroSize : metadataResponseV1.tyC.zeroSize = false := rfl
def metadataResponseV1.ty (_ : metadataResponseV1) : Ty := metadataResponseV1.tyC
def metadataResponseV1.val (t : metadataResponseV1) : Val := .struct (metadataResponseV1.valFs t) []
@[simp, legacy_enc] theorem metadataResponseV1.legacy_modelC (t : metadataResponseV1) : encode metadataResponseV1.tyC (metadataResponseV1.val t) = metadataResponseV1.writeTo t := by
  simp only [metadataResponseV1.tyC, metadataResponseV1.val, metadataResponseV1.writeTo, metadataResponseV1.tyFs, metadataResponseV1.valFs, legacy_enc]
theorem metadataResponseV1.legacy_model (t : metadataResponseV1) : encode (metadataResponseV1.ty t) (metadataResponseV1.val t) = metadataResponseV1.writeTo t := metadataResponseV1.legacy_modelC t

def metadataResponseV1.zero : metadataResponseV1 := { Brokers := [], ControllerID := 0, Topics := [] }
/-- the reflective read() (struct fields in declaration order) of metadataResponseV1, statement by statement -/
def metadataResponseV1.readFrom : metadataResponseV1 → Rd metadataResponseV1 :=
  (rdSeq (rdField (fun _ => readArrayWith (brokerMetadataV1.readFrom brokerMetadataV1.zero)) (fun t x => { t with Brokers := x }))
    (rdSeq (rdField (fun _ => readInt32) (fun t x => { t with ControllerID := x }))
    (rdSeq (rdField (fun _ => readArrayWith (topicMetadataV1.readFrom topicMetadataV1.zero)) (fun t x => { t with Topics := x }))
    rdDone)))
/-- values the wire format can carry: field ranges -/
structure metadataResponseV1.Ok (t : metadataResponseV1) : Prop where
  Brokers_len : t.Brokers.length < 2 ^ 31
  Brokers_ok : ∀ x ∈ t.Brokers, brokerMetadataV1.Ok x
  ControllerID_ok : inRng 32 t.ControllerID
  Topics_len : t.Topics.length < 2 ^ 31
  Topics_ok : ∀ x ∈ t.Topics, topicMetadataV1.Ok x
theorem metadataResponseV1.read_write (t : metadataResponseV1) (h : metadataResponseV1.Ok t) (rest : Bytes) :
    metadataResponseV1.readFrom metadataResponseV1.zero (metadataResponseV1.writeTo t ++ rest) = some (t, rest) := by
  simp only [metadataResponseV1.writeTo, List.append_assoc]
  exact rdSeq_rdField_eq (readArrayWith_writeArray _ _ _ · (fun x hx => brokerMetadataV1.read_write x (h.Brokers_ok x hx)) h.Brokers_len) <|
    rdSeq_rdField_eq (readInt32_write _ · h.ControllerID_ok) <|
    rdSeq_rdField_eq (readArrayWith_writeArray _ _ _ · (fun x hx => topicMetadataV1.read_write x (h.Topics_ok x hx)) h.Topics_len) rfl

structure partitionMetadataV6 where
  PartitionErrorCode : Int
  PartitionID : Int
  Leader : Int
  Replicas : (List Int)
  Isr : (List Int)
  OfflineReplicas : (List Int)
def partitionMetadataV6.size (t : partitionMetadataV6) : Int :=
  ((((((2 : Int) + (4 : Int)) + (4 : Int)) + (sizeofInt32Array t.Replicas)) + (sizeofInt32Array t.Isr)) + (sizeofInt32Array t.OfflineReplicas))
def partitionMetadataV6.writeTo (t : partitionMetadataV6) : Bytes :=
  ((writeInt16 t.PartitionErrorCode) ++ (writeInt32 t.PartitionID) ++ (writeInt32 t.Leader) ++ (writeInt32Array t.Replicas) ++ (writeInt32Array t.Isr) ++ (writeInt32Array t.OfflineReplicas))
@[simp, legacy_len] theorem partitionMetadataV6.legacy_size (t : partitionMetadataV6) : ((partitionMetadataV6.writeTo t).length : Int) = partitionMetadataV6.size t := by
  simp only [partitionMetadataV6.size, partitionMetadataV6.writeTo, legacy_len] <;> omega

/-- the fields partitionMetadataV6.writeTo writes, as Kafka types and as values: lists, which a type that writes a partitionMetadataV6 through
this `writeTo` splices into its own; `tyC` / `val` are the struct type and value made of them -/
def partitionMetadataV6.tyFs : List Ty := ([.int16] ++ [.int32] ++ [.int32] ++ [(.array false false .int32)] ++ [(.array false false .int32)] ++ [(.array false false .int32)])
def partitionMetadataV6.valFs (t : partitionMetadataV6) : List Val := ([(.int t.PartitionErrorCode)] ++ [(.int t.PartitionID)] ++ [(.int t.Leader)] ++ [(.arr (some (t.Replicas.map .int)))] ++ [(.arr (some (t.Isr.map .int)))] ++ [(.arr (some (t.OfflineReplicas.map .int)))])
def partitionMetadataV6.tyC : Ty := .struct false partitionMetadataV6.tyFs [] []
@[simp, legacy_enc] theorem partitionMetadataV6.tyC_zeroSize : partitionMetadataV6.tyC.zeroSize = false := rfl
def partitionMetadataV6.ty (_ : partitionMetadataV6) : Ty := partitionMetadataV6.tyC
def partitionMetadataV6.val (t : partitionMetadataV6) : Val := .struct (partitionMetadataV6.valFs t) []
@[simp, legacy_enc] theorem partitionMetadataV6.legacy_modelC (t : partitionMetadataV6) : encode partitionMetadataV6.tyC (partitionMetadataV6.val t) = partitionMetadataV6.writeTo t := by
  simp only [partitionMetadataV6.tyC, partitionMetadataV6.val, partitionMetadataV6.writeTo, partitionMetadataV6.tyFs, partitionMetadataV6.valFs, legacy_enc]
theorem partitionMetadataV6.legacy_model (t : partitionMetadataV6) : encode (partitionMetadataV6.ty t) (partitionMetadataV6.val t) = partitionMetadataV6.writeTo t := partitionMetadataV6.legacy_modelC t

def partitionMetadataV6.zero : partitionMetadataV6 := { PartitionErrorCode := 0, PartitionID := 0, Leader := 0, Replicas := [], Isr := [], OfflineReplicas := [] }
/-- the reflective read() (struct fields in declaration order) of partitionMetadataV6, statement by statement -/
def partitionMetadataV6.readFrom : partitionMetadataV6 → Rd partitionMetadataV6 :=
  (rdSeq (rdField (fun _ => readInt16) (fun t x => { t with PartitionErrorCode := x }))
    (rdSeq (rdField (fun _ => readInt32) (fun t x => { t with PartitionID := x }))
    (rdSeq (rdField (fun _ => readInt32) (fun t x => { t with Leader := x }))
    (rdSeq (rdField (fun _ => readInt32Array) (fun t x => { t with Replicas := x }))
    (rdSeq (rdField (fun _ => readInt32Array) (fun t x => { t with Isr := x }))
    (rdSeq (rdField (fun _ => readInt32Array) (fun t x => { t with OfflineReplicas := x }))
    rdDone))))))
/-- values the wire format can carry: field ranges -/
structure partitionMetadataV6.Ok (t : partitionMetadataV6) : Prop where
  PartitionErrorCode_ok : inRng 16 t.PartitionErrorCode
  PartitionID_ok : inRng 32 t.PartitionID
  Leader_ok : inRng 32 t.Leader
  Replicas_ok : ∀ x ∈ t.Replicas, inRng 32 x
  Replicas_len : t.Replicas.length < 2 ^ 31
  Isr_ok : ∀ x ∈ t.Isr, inRng 32 x
  Isr_len : t.Isr.length < 2 ^ 31
  OfflineReplicas_ok : ∀ x ∈ t.OfflineReplicas, inRng 32 x
  OfflineReplicas_len : t.OfflineReplicas.length < 2 ^ 31
theorem partitionMetadataV6.read_write (t : partitionMetadataV6) (h : partitionMetadataV6.Ok t) (rest : Bytes) :
    partitionMetadataV6.readFrom partitionMetadataV6.zero (partitionMetadataV6.writeTo t ++ rest) = some (t, rest) := by
  simp only [partitionMetadataV6.writeTo, List.append_assoc]
  exact rdSeq_rdField_eq (readInt16_write _ · h.PartitionErrorCode_ok) <|
    rdSeq_rdField_eq (readInt32_write _ · h.PartitionID_ok) <|
    rdSeq_rdField_eq (readInt32_write _ · h.Leader_ok) <|
    rdSeq_rdField_eq (readInt32Array_write _ · h.Replicas_ok h.Replicas_len) <|
    rdSeq_rdField_eq (readInt32Array_write _ · h.Isr_ok h.Isr_len) <|
    rdSeq_rdField_eq (readInt32Array_write _ · h.OfflineReplicas_ok h.OfflineReplicas_len) rfl

structure topicMetadataV6 where
  TopicErrorCode : Int
  TopicName : Bytes
  Internal : Bool
  Partitions : (List partitionMetadataV6)
def topicMetadataV6.size (t : topicMetadataV6) : Int :=
  ((((2 : Int) + (1 : Int)) + (sizeofString t.TopicName)) + (sizeofArray t.Partitions (fun x => (partitionMetadataV6.size x))))
def topicMetadataV6.writeTo (t : topicMetadataV6) : Bytes :=
  ((writeInt16 t.TopicErrorCode) ++ (writeString t.TopicName) ++ (writeBool t.Internal) ++ (writeArray t.Partitions (fun x => ((partitionMetadataV6.writeTo x)))))
@[simp, legacy_len] theorem topicMetadataV6.legacy_size (t : topicMetadataV6) : ((topicMetadataV6.writeTo t).length : Int) = topicMetadataV6.size t := by
  simp only [topicMetadataV6.size, topicMetadataV6.writeTo, legacy_len] <;> omega

/-- the fields topicMetadataV6.writeTo writes, as Kafka types and as values: lists, which a type that writes a topicMetadataV6 through
this `writeTo` splices into its own; `tyC` / `val` are the struct type and value made of them -/
def topicMetadataV6.tyFs : List Ty := ([.int16] ++ [(.string false false)] ++ [.bool] ++ [(.array false false partitionMetadataV6.tyC)])
def topicMetadataV6.valFs (t : topicMetadataV6) : List Val := ([(.int t.TopicErrorCode)] ++ [(.str t.TopicName)] ++ [(.bool t.Internal)] ++ [(.arr (some (t.Partitions.map fun x => (partitionMetadataV6.val x))))])
def topicMetadataV6.tyC : Ty := .struct false topicMetadataV6.tyFs [] []
@[simp, legacy_enc] theorem topicMetadataV6.tyC_zeroSize : topicMetadataV6.tyC.zeroSize = false := rfl
def topicMetadataV6.ty (_ : topicMetadataV6) : Ty := topicMetadataV6.tyC
def topicMetadataV6.val (t : topicMetadataV6) : Val := .struct (topicMetadataV6.valFs t) []
@[simp, legacy_enc] theorem topicMetadataV6.legacy_modelC (t : topicMetadataV6) : encode topicMetadataV6.tyC (topicMetadataV6.val t) = topicMetadataV6.writeTo t := by
  simp only [topicMetadataV6.tyC, topicMetadataV6.val, topicMetadataV6.writeTo, topicMetadataV6.tyFs, topicMetadataV6.valFs, legacy_enc]
theorem topicMetadataV6.legacy_model (t : topicMetadataV6) : encode (topicMetadataV6.ty t) (topicMetadataV6.val t) = topicMetadataV6.writeTo t := topicMetadataV6.legacy_modelC t

def topicMetadataV6.zero : topicMetadataV6 := { TopicErrorCode := 0, TopicName := [], Internal := false, Partitions := [] }
/-- the reflective read() (struct fields in declaration order) of topicMetadataV6, statement by statement -/
def topicMetadataV6.readFrom : topicMetadataV6 → Rd topicMetadataV6 :=
  (rdSeq (rdField (fun _ => readInt16) (fun t x => { t with TopicErrorCode := x }))
    (rdSeq (rdField (fun _ => readString) (fun t x => { t with TopicName := x }))
    (rdSeq (rdField (fun _ => readBool) (fun t x => { t with Internal := x }))
    (rdSeq (rdField (fun _ => readArrayWith (partitionMetadataV6.readFrom partitionMetadataV6.zero)) (fun t x => { t with Partitions := x }))
    rdDone))))
/-- values the wire format can carry: field ranges -/
structure topicMetadataV6.Ok (t : topicMetadataV6) : Prop where
  TopicErrorCode_ok : inRng 16 t.TopicErrorCode
  TopicName_ok : t.TopicName.length < 2 ^ 15
  Partitions_len : t.Partitions.length < 2 ^ 31
  Partitions_ok : ∀ x ∈ t.Partitions, partitionMetadataV6.Ok x
theorem topicMetadataV6.read_write (t : topicMetadataV6) (h : topicMetadataV6.Ok t) (rest : Bytes) :
    topicMetadataV6.readFrom topicMetadataV6.zero (topicMetadataV6.writeTo t ++ rest) = some (t, rest) := by
  simp only [topicMetadataV6.writeTo, List.append_assoc]
  exact rdSeq_rdField_eq (readInt16_write _ · h.TopicErrorCode_ok) <|
    rdSeq_rdField_eq (readString_write _ · h.TopicName_ok) <|
    rdSeq_rdField_eq (readBool_write _) <|
    rdSeq_rdField_eq (readArrayWith_writeArray _ _ _ · (fun x hx => partitionMetadataV6.read_write x (h.Partitions_ok x hx)) h.Partitions_len) rfl

structure metadataResponseV6 where
  ThrottleTimeMs : Int
  Brokers : (List brokerMetadataV1)
  ClusterId : Bytes
  ControllerID : Int
  Topics : (List topicMetadataV6)
/-- size() of metadataResponseV6 is not translated (assignment n1 := sizeofArray(len(r.Brokers), func(i int) int32 { return r.Brokers[i].size() })): structure and writeTo only, no `legacy_size` -/
def metadataResponseV6.writeTo (t : metadataResponseV6) : Bytes :=
  ((writeInt32 t.ThrottleTimeMs) ++ (writeArray t.Brokers (fun x => ((brokerMetadataV1.writeTo x)))) ++ (writeString t.ClusterId) ++ (writeInt32 t.ControllerID) ++ (writeArray t.Topics (fun x => ((topicMetadataV6.writeTo x)))))

/-- the fields metadataResponseV6.writeTo writes, as Kafka types and as values: lists, which a type that writes a metadataResponseV6 through
this `writeTo` splices into its own; `tyC` / `val` are the struct type and value made of them -/
def metadataResponseV6.tyFs : List Ty := ([.int32] ++ [(.array false false brokerMetadataV1.tyC)] ++ [(.string false false)] ++ [.int32] ++ [(.array false false topicMetadataV6.tyC)])
def metadataResponseV6.valFs (t : metadataResponseV6) : List Val := ([(.int t.ThrottleTimeMs)] ++ [(.arr (some (t.Brokers.map fun x => (brokerMetadataV1.val x))))] ++ [(.str t.ClusterId)] ++ [(.int t.ControllerID)] ++ [(.arr (some (t.Topics.map fun x => (topicMetadataV6.val x))))])
def metadataResponseV6.tyC : Ty := .struct false metadataResponseV6.tyFs [] []
@[simp, legacy_enc] theorem metadataResponseV6.tyC_zeroSize : metadataResponseV6.tyC.zeroSize = false := rfl
def metadataResponseV6.ty (_ : metadataResponseV6) : Ty := metadataResponseV6.tyC
def metadataResponseV6.val (t : metadataResponseV6) : Val := .struct (metadataResponseV6.valFs t) []
@[simp, legacy_enc] theorem metadataResponseV6.legacy_modelC (t : metadataResponseV6) : encode metadataResponseV6.tyC (metadataResponseV6.val t) = metadataResponseV6.writeTo t := by
  simp only [metadataResponseV6.tyC, metadataResponseV6.val, metadataResponseV6.writeTo, metadataResponseV6.tyFs, metadataResponseV6.valFs, legacy_enc]
theorem metadataResponseV6.legacy_model (t : metadataResponseV6) : encode (metadataResponseV6.ty t) (metadataResponseV6.val t) = metadataResponseV6.writeTo t := metadataResponseV6.legacy_modelC t

def metadataResponseV6.zero : metadataResponseV6 := { ThrottleTimeMs := 0, Brokers := [], ClusterId := [], ControllerID := 0, Topics := [] }
/-- the reflective read() (struct fields in declaration order) of metadataResponseV6, statement by statement -/
def metadataResponseV6.readFrom : metadataResponseV6 → Rd metadataResponseV6 :=
  (rdSeq (rdField (fun _ => readInt32) (fun t x => { t with ThrottleTimeMs := x }))
    (rdSeq (rdField (fun _ => readArrayWith (brokerMetadataV1.readFrom brokerMetadataV1.zero)) (fun t x => { t with Brokers := x }))
    (rdSeq (rdField (fun _ => readString) (fun t x => { t with ClusterId := x }))
    (rdSeq (rdField (fun _ => readInt32) (fun t x => { t with ControllerID := x }))
    (rdSeq (rdField (fun _ => readArrayWith (topicMetadataV6.readFrom topicMetadataV6.zero)) (fun t x => { t with Topics := x }))
    rdDone)))))
/-- values the wire format can carry: field ranges -/
structure metadataResponseV6.Ok (t : metadataResponseV6) : Prop where
  ThrottleTimeMs_ok : inRng 32 t.ThrottleTimeMs
  Brokers_len : t.Brokers.length < 2 ^ 31
  Brokers_ok : ∀ x ∈ t.Brokers, brokerMetadataV1.Ok x
  ClusterId_ok : t.ClusterId.length < 2 ^ 15
  ControllerID_ok : inRng 32 t.ControllerID
  Topics_len : t.Topics.length < 2 ^ 31
  Topics_ok : ∀ x ∈ t.Topics, topicMetadataV6.Ok x
theorem metadataResponseV6.read_write (t : metadataResponseV6) (h : metadataResponseV6.Ok t) (rest : Bytes) :
    metadataResponseV6.readFrom metadataResponseV6.zero (metadataResponseV6.writeTo t ++ rest) = some (t, rest) := by
  simp only [metadataResponseV6.writeTo, List.append_assoc]
  exact rdSeq_rdField_eq (readInt32_write _ · h.ThrottleTimeMs_ok) <|
    rdSeq_rdField_eq (readArrayWith_writeArray _ _ _ · (fun x hx => brokerMetadataV1.read_write x (h.Brokers_ok x hx)) h.Brokers_len) <|
    rdSeq_rdField_eq (readString_write _ · h.ClusterId_ok) <|
    rdSeq_rdField_eq (readInt32_write _ · h.ControllerID_ok) <|
    rdSeq_rdField_eq (readArrayWith_writeArray _ _ _ · (fun x hx => topicMetadataV6.read_write x (h.Topics_ok x hx)) h.Topics_len) rfl

structure offsetCommitRequestV2Partition where
  Partition : Int
  Offset : Int
  Metadata : Bytes
def offsetCommitRequestV2Partition.size (t : offsetCommitRequestV2Partition) : Int :=
  (((sizeofInt32 t.Partition) + (sizeofInt64 t.Offset)) + (sizeofString t.Metadata))
def offsetCommitRequestV2Partition.writeTo (t : offsetCommitRequestV2Partition) : Bytes :=
  ((writeInt32 t.Partition) ++ (writeInt64 t.Offset) ++ (writeString t.Metadata))
@[simp, legacy_len] theorem offsetCommitRequestV2Partition.legacy_size (t : offsetCommitRequestV2Partition) : ((offsetCommitRequestV2Partition.writeTo t).length : Int) = offsetCommitRequestV2Partition.size t := by
  simp only [offsetCommitRequestV2Partition.size, offsetCommitRequestV2Partition.writeTo, legacy_len] <;> omega

/-- the fields offsetCommitRequestV2Partition.writeTo writes, as Kafka types and as values: lists, which a type that writes a offsetCommitRequestV2Partition through
this `writeTo` splices into its own; `tyC` / `val` are the struct type and value made of them -/
def offsetCommitRequestV2Partition.tyFs : List Ty := ([.int32] ++ [.int64] ++ [(.string false false)])
def offsetCommitRequestV2Partition.valFs (t : offsetCommitRequestV2Partition) : List Val := ([(.int t.Partition)] ++ [(.int t.Offset)] ++ [(.str t.Metadata)])
def offsetCommitRequestV2Partition.tyC : Ty := .struct false offsetCommitRequestV2Partition.tyFs [] []
@[simp, legacy_enc] theorem offsetCommitRequestV2Partition.tyC_zeroSize : offsetCommitRequestV2Partition.tyC.zeroSize = false := rfl
def offsetCommitRequestV2Partition.ty (_ : offsetCommitRequestV2Partition) : Ty := offsetCommitRequestV2Partition.tyC
def offsetCommitRequestV2Partition.val (t : offsetCommitRequestV2Partition) : Val := .struct (offsetCommitRequestV2Partition.valFs t) []
@[simp, legacy_enc] theorem offsetCommitRequestV2Partition.legacy_modelC (t : offsetCommitRequestV2Partition) : encode offsetCommitRequestV2Partition.tyC (offsetCommitRequestV2Partition.val t) = offsetCommitRequestV2Partition.writeTo t := by
  simp only [offsetCommitRequestV2Partition.tyC, offsetCommitRequestV2Partition.val, offsetCommitRequestV2Partition.writeTo, offsetCommitRequestV2Partition.tyFs, offsetCommitRequestV2Partition.valFs, legacy_enc]
theorem offsetCommitRequestV2Partition.legacy_model (t : offsetCommitRequestV2Partition) : encode (offsetCommitRequestV2Partition.ty t) (offsetCommitRequestV2Partition.val t) = offsetCommitRequestV2Partition.writeTo t := offsetCommitRequestV2Partition.legacy_modelC t

structure offsetCommitRequestV2Topic where
  Topic : Bytes
  Partitions : (List offsetCommitRequestV2Partition)
def offsetCommitRequestV2Topic.size (t : offsetCommitRequestV2Topic) : Int :=
  ((sizeofString t.Topic) + (sizeofArray t.Partitions (fun x => (offsetCommitRequestV2Partition.size x))))
def offsetCommitRequestV2Topic.writeTo (t : offsetCommitRequestV2Topic) : Bytes :=
  ((writeString t.Topic) ++ (writeArray t.Partitions (fun x => ((offsetCommitRequestV2Partition.writeTo x)))))
@[simp, legacy_len] theorem offsetCommitRequestV2Topic.legacy_size (t : offsetCommitRequestV2Topic) : ((offsetCommitRequestV2Topic.writeTo t).length : Int) = offsetCommitRequestV2Topic.size t := by
  simp only [offsetCommitRequestV2Topic.size, offsetCommitRequestV2Topic.writeTo, legacy_len] <;> omega

/-- the fields offsetCommitRequestV2Topic.writeTo writes, as Kafka types and as values: lists, which a type that writes a offsetCommitRequestV2Topic through
this `writeTo` splices into its own; `tyC` / `val` are the struct type and value made of them -/
def offsetCommitRequestV2Topic.tyFs : List Ty := ([(.string false false)] ++ [(.array false false offsetCommitRequestV2Partition.tyC)])
def offsetCommitRequestV2Topic.valFs (t : offsetCommitRequestV2Topic) : List Val := ([(.str t.Topic)] ++ [(.arr (some (t.Partitions.map fun x => (offsetCommitRequestV2Partition.val x))))])
def offsetCommitRequestV2Topic.tyC : Ty := .struct false offsetCommitRequestV2Topic.tyFs [] []
@[simp, legacy_enc] theorem offsetCommitRequestV2Topic.tyC_zeroSize : offsetCommitRequestV2Topic.tyC.zeroSize = false := rfl
def offsetCommitRequestV2Topic.ty (_ : offsetCommitRequestV2Topic) : Ty := offsetCommitRequestV2Topic.tyC
def offsetCommitRequestV2Topic.val (t : offsetCommitRequestV2Topic) : Val := .struct (offsetCommitRequestV2Topic.valFs t) []
@[simp, legacy_enc] theorem offsetCommitRequestV2Topic.legacy_modelC (t : offsetCommitRequestV2Topic) : encode offsetCommitRequestV2Topic.tyC (offsetCommitRequestV2Topic.val t) = offsetCommitRequestV2Topic.writeTo t := by
  simp only [offsetCommitRequestV2Topic.tyC, offsetCommitRequestV2Topic.val, offsetCommitRequestV2Topic.writeTo, offsetCommitRequestV2Topic.tyFs, offsetCommitRequestV2Topic.valFs, legacy_enc]
theorem offsetCommitRequestV2Topic.legacy_model (t : offsetCommitRequestV2Topic) : encode (offsetCommitRequestV2Topic.ty t) (offsetCommitRequestV2Topic.val t) = offsetCommitRequestV2Topic.writeTo t := offsetCommitRequestV2Topic.legacy_modelC t

structure offsetCommitRequestV2 where
  GroupID : Bytes
  GenerationID : Int
  MemberID : Bytes
  RetentionTime : Int
  Topics : (List offsetCommitRequestV2Topic)
def offsetCommitRequestV2.size (t : offsetCommitRequestV2) : Int :=
  (((((sizeofString t.GroupID) + (sizeofInt32 t.GenerationID)) + (sizeofString t.MemberID)) + (sizeofInt64 t.RetentionTime)) + (sizeofArray t.Topics (fun x => (offsetCommitRequestV2Topic.size x))))
def offsetCommitRequestV2.writeTo (t : offsetCommitRequestV2) : Bytes :=
  ((writeString t.GroupID) ++ (writeInt32 t.GenerationID) ++ (writeString t.MemberID) ++ (writeInt64 t.RetentionTime) ++ (writeArray t.Topics (fun x => ((offsetCommitRequestV2Topic.writeTo x)))))
@[simp, legacy_len] theorem offsetCommitRequestV2.legacy_size (t : offsetCommitRequestV2) : ((offsetCommitRequestV2.writeTo t).length : Int) = offsetCommitRequestV2.size t := by
  simp only [offsetCommitRequestV2.size, offsetCommitRequestV2.writeTo, legacy_len] <;> omega

/-- the fields offsetCommitRequestV2.writeTo writes, as Kafka types and as values: lists, which a type that writes a offsetCommitRequestV2 through
this `writeTo` splices into its own; `tyC` / `val` are the struct type and value made of them -/
def offsetCommitRequestV2.tyFs : List Ty := ([(.string false false)] ++ [.int32] ++ [(.string false false)] ++ [.int64] ++ [(.array false false offsetCommitRequestV2Topic.tyC)])
def offsetCommitRequestV2.valFs (t : offsetCommitRequestV2) : List Val := ([(.str t.GroupID)] ++ [(.int t.GenerationID)] ++ [(.str t.MemberID)] ++ [(.int t.RetentionTime)] ++ [(.arr (some (t.Topics.map fun x => (offsetCommitRequestV2Topic.val x))))])
def offsetCommitRequestV2.tyC : Ty := .struct false offsetCommitRequestV2.tyFs [] []
@[simp, legacy_enc] theorem offsetCommitRequestV2.tyC_zeroSize : offsetCommitRequestV2.tyC.zeroSize = false := rfl
def offsetCommitRequestV2.ty (_ : offsetCommitRequestV2) : Ty := offsetCommitRequestV2.tyC
def offsetCommitRequestV2.val (t : offsetCommitRequestV2) : Val := .struct (offsetCommitRequestV2.valFs t) []
@[simp, legacy_enc] theorem offsetCommitRequestV2.legacy_modelC (t : offsetCommitRequestV2) : encode offsetCommitRequestV2.tyC (offsetCommitRequestV2.val t) = offsetCommitRequestV2.writeTo t := by
  simp only [offsetCommitRequestV2.tyC, offsetCommitRequestV2.val, offsetCommitRequestV2.writeTo, offsetCommitRequestV2.tyFs, offsetCommitRequestV2.valFs, legacy_enc]
theorem offsetCommitRequestV2.legacy_model (t : offsetCommitRequestV2) : encode (offsetCommitRequestV2.ty t) (offsetCommitRequestV2.val t) = offsetCommitRequestV2.writeTo t := offsetCommitRequestV2.legacy_modelC t

structure offsetCommitResponseV2PartitionResponse where
  Partition : Int
  ErrorCode : Int
def offsetCommitResponseV2PartitionResponse.size (t : offsetCommitResponseV2PartitionResponse) : Int :=
  ((sizeofInt32 t.Partition) + (sizeofInt16 t.ErrorCode))
def offsetCommitResponseV2PartitionResponse.writeTo (t : offsetCommitResponseV2PartitionResponse) : Bytes :=
  ((writeInt32 t.Partition) ++ (writeInt16 t.ErrorCode))
@[simp, legacy_len] theorem offsetCommitResponseV2PartitionResponse.legacy_size (t : offsetCommitResponseV2PartitionResponse) : ((offsetCommitResponseV2PartitionResponse.writeTo t).length : Int) = offsetCommitResponseV2PartitionResponse.size t := by
  simp only [offsetCommitResponseV2PartitionResponse.size, offsetCommitResponseV2PartitionResponse.writeTo, legacy_len] <;> omega

/-- the fields offsetCommitResponseV2PartitionResponse.writeTo writes, as Kafka types and as values: lists, which a type that writes a offsetCommitResponseV2PartitionResponse through
this `writeTo` splices into its own; `tyC` / `val` are the struct type and value made of them -/
def offsetCommitResponseV2PartitionResponse.tyFs : List Ty := ([.int32] ++ [.int16])
def offsetCommitResponseV2PartitionResponse.valFs (t : offsetCommitResponseV2PartitionResponse) : List Val := ([(.int t.Partition)] ++ [(.int t.ErrorCode)])
def offsetCommitResponseV2PartitionResponse.tyC : Ty := .struct false offsetCommitResponseV2PartitionResponse.tyFs [] []
@[simp, legacy_enc] theorem offsetCommitResponseV2PartitionResponse.tyC_zeroSize : offsetCommitResponseV2PartitionResponse.tyC.zeroSize = false := rfl
def offsetCommitResponseV2PartitionResponse.ty (_ : offsetCommitResponseV2PartitionResponse) : Ty := offsetCommitResponseV2PartitionResponse.tyC
def offsetCommitResponseV2PartitionResponse.val (t : offsetCommitResponseV2PartitionResponse) : Val := .struct (offsetCommitResponseV2PartitionResponse.valFs t) []
@[simp, legacy_enc] theorem offsetCommitResponseV2PartitionResponse.legacy_modelC (t : offsetCommitResponseV2PartitionResponse) : encode offsetCommitResponseV2PartitionResponse.tyC (offsetCommitResponseV2PartitionResponse.val t) = offsetCommitResponseV2PartitionResponse.writeTo t := by
  simp only [offsetCommitResponseV2PartitionResponse.tyC, offsetCommitResponseV2PartitionResponse.val, offsetCommitResponseV2PartitionResponse.writeTo, offsetCommitResponseV2PartitionResponse.tyFs, offsetCommitResponseV2PartitionResponse.valFs, legacy_enc]
theorem offsetCommitResponseV2PartitionResponse.legacy_model (t : offsetCommitResponseV2PartitionResponse) : encode (offsetCommitResponseV2PartitionResponse.ty t) (offsetCommitResponseV2PartitionResponse.val t) = offsetCommitResponseV2PartitionResponse.writeTo t := offsetCommitResponseV2PartitionResponse.legacy_modelC t

def offsetCommitResponseV2PartitionResponse.zero : offsetCommitResponseV2PartitionResponse := { Partition := 0, ErrorCode := 0 }
/-- readFrom of offsetCommitResponseV2PartitionResponse, statement by statement -/
def offsetCommitResponseV2PartitionResponse.readFrom : offsetCommitResponseV2PartitionResponse → Rd offsetCommitResponseV2PartitionResponse :=
  (rdSeq (rdField (fun _ => readInt32) (fun t x => { t with Partition := x }))
    (rdSeq (rdField (fun _ => readInt16) (fun t x => { t with ErrorCode := x }))
    rdDone))
/-- values the wire format can carry: field ranges -/
structure offsetCommitResponseV2PartitionResponse.Ok (t : offsetCommitResponseV2PartitionResponse) : Prop where
  Partition_ok : inRng 32 t.Partition
  ErrorCode_ok : inRng 16 t.ErrorCode
theorem offsetCommitResponseV2PartitionResponse.read_write (t : offsetCommitResponseV2PartitionResponse) (h : offsetCommitResponseV2PartitionResponse.Ok t) (rest : Bytes) :
    offsetCommitResponseV2PartitionResponse.readFrom offsetCommitResponseV2PartitionResponse.zero (offsetCommitResponseV2PartitionResponse.writeTo t ++ rest) = some (t, rest) := by
  simp only [offsetCommitResponseV2PartitionResponse.writeTo, List.append_assoc]
  exact rdSeq_rdField_eq (readInt32_write _ · h.Partition_ok) <|
    rdSeq_rdField_eq (readInt16_write _ · h.ErrorCode_ok) rfl

structure offsetCommitResponseV2Response where
  Topic : Bytes
  PartitionResponses : (List offsetCommitResponseV2PartitionResponse)
def offsetCommitResponseV2Response.size (t : offsetCommitResponseV2Response) : Int :=
  ((sizeofString t.Topic) + (sizeofArray t.PartitionResponses (fun x => (offsetCommitResponseV2PartitionResponse.size x))))
def offsetCommitResponseV2Response.writeTo (t : offsetCommitResponseV2Response) : Bytes :=
  ((writeString t.Topic) ++ (writeArray t.PartitionResponses (fun x => ((offsetCommitResponseV2PartitionResponse.writeTo x)))))
@[simp, legacy_len] theorem offsetCommitResponseV2Response.legacy_size (t : offsetCommitResponseV2Response) : ((offsetCommitResponseV2Response.writeTo t).length : Int) = offsetCommitResponseV2Response.size t := by
  simp only [offsetCommitResponseV2Response.size, offsetCommitResponseV2Response.writeTo, legacy_len] <;> omega

/-- the fields offsetCommitResponseV2Response.writeTo writes, as Kafka types and as values: lists, which a type that writes a offsetCommitResponseV2Response through
this `writeTo` splices into its own; `tyC` / `val` are the struct type and value made of them -/
def offsetCommitResponseV2Response.tyFs : List Ty := ([(.string false false)] ++ [(.array false false offsetCommitResponseV2PartitionResponse.tyC)])
def offsetCommitResponseV2Response.valFs (t : offsetCommitResponseV2Response) : List Val := ([(.str t.Topic)] ++ [(.arr (some (t.PartitionResponses.map fun x => (offsetCommitResponseV2PartitionResponse.val x))))])
def offsetCommitResponseV2Response.tyC : Ty := .struct false offsetCommitResponseV2Response.tyFs [] []
@[simp, legacy_enc] theorem offsetCommitResponseV2Response.tyC_zeroSize : offsetCommitResponseV2Response.tyC.zeroSize = false := rfl
def offsetCommitResponseV2Response.ty (_ : offsetCommitResponseV2Response) : Ty := offsetCommitResponseV2Response.tyC
def offsetCommitResponseV2Response.val (t : offsetCommitResponseV2Response) : Val := .struct (offsetCommitResponseV2Response.valFs t) []
@[simp, legacy_enc] theorem offsetCommitResponseV2Response.legacy_modelC (t : offsetCommitResponseV2Response) : encode offsetCommitResponseV2Response.tyC (offsetCommitResponseV2Response.val t) = offsetCommitResponseV2Response.writeTo t := by
  simp only [offsetCommitResponseV2Response.tyC, offsetCommitResponseV2Response.val, offsetCommitResponseV2Response.writeTo, offsetCommitResponseV2Response.tyFs, offsetCommitResponseV2Response.valFs, legacy_enc]
theorem offsetCommitResponseV2Response.legacy_model (t : offsetCommitResponseV2Response) : encode (offsetCommitResponseV2Response.ty t) (offsetCommitResponseV2Response.val t) = offsetCommitResponseV2Response.writeTo t := offsetCommitResponseV2Response.legacy_modelC t

def offsetCommitResponseV2Response.zero : offsetCommitResponseV2Response := { Topic := [], PartitionResponses := [] }
/-- readFrom of offsetCommitResponseV2Response, statement by statement (`t.F ++ x`: the element callback appends to the field) -/
def offsetCommitResponseV2Response.readFrom : offsetCommitResponseV2Response → Rd offsetCommitResponseV2Response :=
  (rdSeq (rdField (fun _ => readString) (fun t x => { t with Topic := x }))
    (rdSeq (rdField (fun t => readArrayWith (offsetCommitResponseV2PartitionResponse.readFrom offsetCommitResponseV2PartitionResponse.zero)) (fun t x => { t with PartitionResponses := t.PartitionResponses ++ x }))
    rdDone))
/-- values the wire format can carry: field ranges -/
structure offsetCommitResponseV2Response.Ok (t : offsetCommitResponseV2Response) : Prop where
  Topic_ok : t.Topic.length < 2 ^ 15
  PartitionResponses_len : t.PartitionResponses.length < 2 ^ 31
  PartitionResponses_ok : ∀ x ∈ t.PartitionResponses, offsetCommitResponseV2PartitionResponse.Ok x
theorem offsetCommitResponseV2Response.read_write (t : offsetCommitResponseV2Response) (h : offsetCommitResponseV2Response.Ok t) (rest : Bytes) :
    offsetCommitResponseV2Response.readFrom offsetCommitResponseV2Response.zero (offsetCommitResponseV2Response.writeTo t ++ rest) = some (t, rest) := by
  simp only [offsetCommitResponseV2Response.writeTo, List.append_assoc]
  exact rdSeq_rdField_eq (readString_write _ · h.Topic_ok) <|
    rdSeq_rdField_eq (readArrayWith_writeArray _ _ _ · (fun x hx => offsetCommitResponseV2PartitionResponse.read_write x (h.PartitionResponses_ok x hx)) h.PartitionResponses_len) rfl

structure offsetCommitResponseV2 where
  Responses : (List offsetCommitResponseV2Response)
def offsetCommitResponseV2.size (t : offsetCommitResponseV2) : Int :=
  (sizeofArray t.Responses (fun x => (offsetCommitResponseV2Response.size x)))
def offsetCommitResponseV2.writeTo (t : offsetCommitResponseV2) : Bytes :=
  ((writeArray t.Responses (fun x => ((offsetCommitResponseV2Response.writeTo x)))))
@[simp, legacy_len] theorem offsetCommitResponseV2.legacy_size (t : offsetCommitResponseV2) : ((offsetCommitResponseV2.writeTo t).length : Int) = offsetCommitResponseV2.size t := by
  simp only [offsetCommitResponseV2.size, offsetCommitResponseV2.writeTo, legacy_len] <;> omega

/-- the fields offsetCommitResponseV2.writeTo writes, as Kafka types and as values: lists, which a type that writes a offsetCommitResponseV2 through
this `writeTo` splices into its own; `tyC` / `val` are the struct type and value made of them -/
def offsetCommitResponseV2.tyFs : List Ty := ([(.array false false offsetCommitResponseV2Response.tyC)])
def offsetCommitResponseV2.valFs (t : offsetCommitResponseV2) : List Val := ([(.arr (some (t.Responses.map fun x => (offsetCommitResponseV2Response.val x))))])
def offsetCommitResponseV2.tyC : Ty := .struct false offsetCommitResponseV2.tyFs [] []
@[simp, legacy_enc] theorem offsetCommitResponseV2.tyC_zeroSize : offsetCommitResponseV2.tyC.zeroSize = false := rfl
def offsetCommitResponseV2.ty (_ : offsetCommitResponseV2) : Ty := offsetCommitResponseV2.tyC
def offsetCommitResponseV2.val (t : offsetCommitResponseV2) : Val := .struct (offsetCommitResponseV2.valFs t) []
@[simp, legacy_enc] theorem offsetCommitResponseV2.legacy_modelC (t : offsetCommitResponseV2) : encode offsetCommitResponseV2.tyC (offsetCommitResponseV2.val t) = offsetCommitResponseV2.writeTo t := by
  simp only [offsetCommitResponseV2.tyC, offsetCommitResponseV2.val, offsetCommitResponseV2.writeTo, offsetCommitResponseV2.tyFs, offsetCommitResponseV2.valFs, legacy_enc]
theorem offsetCommitResponseV2.legacy_model (t : offsetCommitResponseV2) : encode (offsetCommitResponseV2.ty t) (offsetCommitResponseV2.val t) = offsetCommitResponseV2.writeTo t := offsetCommitResponseV2.legacy_modelC t

def offsetCommitResponseV2.zero : offsetCommitResponseV2 := { Responses := [] }
/-- readFrom of offsetCommitResponseV2, statement by statement (`t.F ++ x`: the element callback appends to the field) -/
def offsetCommitResponseV2.readFrom : offsetCommitResponseV2 → Rd offsetCommitResponseV2 :=
  (rdSeq (rdField (fun t => readArrayWith (offsetCommitResponseV2Response.readFrom offsetCommitResponseV2Response.zero)) (fun t x => { t with Responses := t.Responses ++ x }))
    rdDone)
/-- values the wire format can carry: field ranges -/
structure offsetCommitResponseV2.Ok (t : offsetCommitResponseV2) : Prop where
  Responses_len : t.Responses.length < 2 ^ 31
  Responses_ok : ∀ x ∈ t.Responses, offsetCommitResponseV2Response.Ok x
theorem offsetCommitResponseV2.read_write (t : offsetCommitResponseV2) (h : offsetCommitResponseV2.Ok t) (rest : Bytes) :
    offsetCommitResponseV2.readFrom offsetCommitResponseV2.zero (offsetCommitResponseV2.writeTo t ++ rest) = some (t, rest) := by
  exact rdSeq_rdField_eq (readArrayWith_writeArray _ _ _ · (fun x hx => offsetCommitResponseV2Response.read_write x (h.Responses_ok x hx)) h.Responses_len) rfl

structure offsetFetchRequestV1Topic where
  Topic : Bytes
  Partitions : (List Int)
def offsetFetchRequestV1Topic.size (t : offsetFetchRequestV1Topic) : Int :=
  ((sizeofString t.Topic) + (sizeofInt32Array t.Partitions))
def offsetFetchRequestV1Topic.writeTo (t : offsetFetchRequestV1Topic) : Bytes :=
  ((writeString t.Topic) ++ (writeInt32Array t.Partitions))
@[simp, legacy_len] theorem offsetFetchRequestV1Topic.legacy_size (t : offsetFetchRequestV1Topic) : ((offsetFetchRequestV1Topic.writeTo t).length : Int) = offsetFetchRequestV1Topic.size t := by
  simp only [offsetFetchRequestV1Topic.size, offsetFetchRequestV1Topic.writeTo, legacy_len] <;> omega

/-- the fields offsetFetchRequestV1Topic.writeTo writes, as Kafka types and as values: lists, which a type that writes a offsetFetchRequestV1Topic through
this `writeTo` splices into its own; `tyC` / `val` are the struct type and value made of them -/
def offsetFetchRequestV1Topic.tyFs : List Ty := ([(.string false false)] ++ [(.array false false .int32)])
def offsetFetchRequestV1Topic.valFs (t : offsetFetchRequestV1Topic) : List Val := ([(.str t.Topic)] ++ [(.arr (some (t.Partitions.map .int)))])
def offsetFetchRequestV1Topic.tyC : Ty := .struct false offsetFetchRequestV1Topic.tyFs [] []
@[simp, legacy_enc] theorem offsetFetchRequestV1Topic.tyC_zeroSize : offsetFetchRequestV1Topic.tyC.zeroSize = false := rfl
def offsetFetchRequestV1Topic.ty (_ : offsetFetchRequestV1Topic) : Ty := offsetFetchRequestV1Topic.tyC
def offsetFetchRequestV1Topic.val (t : offsetFetchRequestV1Topic) : Val := .struct (offsetFetchRequestV1Topic.valFs t) []
@[simp, legacy_enc] theorem offsetFetchRequestV1Topic.legacy_modelC (t : offsetFetchRequestV1Topic) : encode offsetFetchRequestV1Topic.tyC (offsetFetchRequestV1Topic.val t) = offsetFetchRequestV1Topic.writeTo t := by
  simp only [offsetFetchRequestV1Topic.tyC, offsetFetchRequestV1Topic.val, offsetFetchRequestV1Topic.writeTo, offsetFetchRequestV1Topic.tyFs, offsetFetchRequestV1Topic.valFs, legacy_enc]
theorem offsetFetchRequestV1Topic.legacy_model (t : offsetFetchRequestV1Topic) : encode (offsetFetchRequestV1Topic.ty t) (offsetFetchRequestV1Topic.val t) = offsetFetchRequestV1Topic.writeTo t := offsetFetchRequestV1Topic.legacy_modelC t

structure offsetFetchRequestV1 where
  GroupID : Bytes
  Topics : (List offsetFetchRequestV1Topic)
def offsetFetchRequestV1.size (t : offsetFetchRequestV1) : Int :=
  ((sizeofString t.GroupID) + (sizeofArray t.Topics (fun x => (offsetFetchRequestV1Topic.size x))))
def offsetFetchRequestV1.writeTo (t : offsetFetchRequestV1) : Bytes :=
  ((writeString t.GroupID) ++ (writeArray t.Topics (fun x => ((offsetFetchRequestV1Topic.writeTo x)))))
@[simp, legacy_len] theorem offsetFetchRequestV1.legacy_size (t : offsetFetchRequestV1) : ((offsetFetchRequestV1.writeTo t).length : Int) = offsetFetchRequestV1.size t := by
  simp only [offsetFetchRequestV1.size, offsetFetchRequestV1.writeTo, legacy_len] <;> omega

/-- the fields offsetFetchRequestV1.writeTo writes, as Kafka types and as values: lists, which a type that writes a offsetFetchRequestV1 through
this `writeTo` splices into its own; `tyC` / `val` are the struct type and value made of them -/
def offsetFetchRequestV1.tyFs : List Ty := ([(.string false false)] ++ [(.array false false offsetFetchRequestV1Topic.tyC)])
def offsetFetchRequestV1.valFs (t : offsetFetchRequestV1) : List Val := ([(.str t.GroupID)] ++ [(.arr (some (t.Topics.map fun x => (offsetFetchRequestV1Topic.val x))))])
def offsetFetchRequestV1.tyC : Ty := .struct false offsetFetchRequestV1.tyFs [] []
@[simp, legacy_enc] theorem offsetFetchRequestV1.tyC_zeroSize : offsetFetchRequestV1.tyC.zeroSize = false := rfl
def offsetFetchRequestV1.ty (_ : offsetFetchRequestV1) : Ty := offsetFetchRequestV1.tyC
def offsetFetchRequestV1.val (t : offsetFetchRequestV1) : Val := .struct (offsetFetchRequestV1.valFs t) []
@[simp, legacy_enc] theorem offsetFetchRequestV1.legacy_modelC (t : offsetFetchRequestV1) : encode offsetFetchRequestV1.tyC (offsetFetchRequestV1.val t) = offsetFetchRequestV1.writeTo t := by
  simp only [offsetFetchRequestV1.tyC, offsetFetchRequestV1.val, offsetFetchRequestV1.writeTo, offsetFetchRequestV1.tyFs, offsetFetchRequestV1.valFs, legacy_enc]
theorem offsetFetchRequestV1.legacy_model (t : offsetFetchRequestV1) : encode (offsetFetchRequestV1.ty t) (offsetFetchRequestV1.val t) = offsetFetchRequestV1.writeTo t := offsetFetchRequestV1.legacy_modelC t

structure offsetFetchResponseV1PartitionResponse where
  Partition : Int
  Offset : Int
  Metadata : Bytes
  ErrorCode : Int
def offsetFetchResponseV1PartitionResponse.size (t : offsetFetchResponseV1PartitionResponse) : Int :=
  ((((sizeofInt32 t.Partition) + (sizeofInt64 t.Offset)) + (sizeofString t.Metadata)) + (sizeofInt16 t.ErrorCode))
def offsetFetchResponseV1PartitionResponse.writeTo (t : offsetFetchResponseV1PartitionResponse) : Bytes :=
  ((writeInt32 t.Partition) ++ (writeInt64 t.Offset) ++ (writeString t.Metadata) ++ (writeInt16 t.ErrorCode))
@[simp, legacy_len] theorem offsetFetchResponseV1PartitionResponse.legacy_size (t : offsetFetchResponseV1PartitionResponse) : ((offsetFetchResponseV1PartitionResponse.writeTo t).length : Int) = offsetFetchResponseV1PartitionResponse.size t := by
  simp only [offsetFetchResponseV1PartitionResponse.size, offsetFetchResponseV1PartitionResponse.writeTo, legacy_len] <;> omega

/-- the fields offsetFetchResponseV1PartitionResponse.writeTo writes, as Kafka types and as values: lists, which a type that writes a offsetFetchResponseV1PartitionResponse through
this `writeTo` splices into its own; `tyC` / `val` are the struct type and value made of them -/
def offsetFetchResponseV1PartitionResponse.tyFs : List Ty := ([.int32] ++ [.int64] ++ [(.string false false)] ++ [.int16])
def offsetFetchResponseV1PartitionResponse.valFs (t : offsetFetchResponseV1PartitionResponse) : List Val := ([(.int t.Partition)] ++ [(.int t.Offset)] ++ [(.str t.Metadata)] ++ [(.int t.ErrorCode)])
def offsetFetchResponseV1PartitionResponse.tyC : Ty := .struct false offsetFetchResponseV1PartitionResponse.tyFs [] []
@[simp, legacy_enc] theorem offsetFetchResponseV1PartitionResponse.tyC_zeroSize : offsetFetchResponseV1PartitionResponse.tyC.zeroSize = false := rfl
def offsetFetchResponseV1PartitionResponse.ty (_ : offsetFetchResponseV1PartitionResponse) : Ty := offsetFetchResponseV1PartitionResponse.tyC
def offsetFetchResponseV1PartitionResponse.val (t : offsetFetchResponseV1PartitionResponse) : Val := .struct (offsetFetchResponseV1PartitionResponse.valFs t) []
@[simp, legacy_enc] theorem offsetFetchResponseV1PartitionResponse.legacy_modelC (t : offsetFetchResponseV1PartitionResponse) : encode offsetFetchResponseV1PartitionResponse.tyC (offsetFetchResponseV1PartitionResponse.val t) = offsetFetchResponseV1PartitionResponse.writeTo t := by
  simp only [offsetFetchResponseV1PartitionResponse.tyC, offsetFetchResponseV1PartitionResponse.val, offsetFetchResponseV1PartitionResponse.writeTo, offsetFetchResponseV1PartitionResponse.tyFs, offsetFetchResponseV1PartitionResponse.valFs, legacy_enc]
theorem offsetFetchResponseV1PartitionResponse.legacy_model (t : offsetFetchResponseV1PartitionResponse) : encode (offsetFetchResponseV1PartitionResponse.ty t) (offsetFetchResponseV1PartitionResponse.val t) = offsetFetchResponseV1PartitionResponse.writeTo t := offsetFetchResponseV1PartitionResponse.legacy_modelC t

def offsetFetchResponseV1PartitionResponse.zero : offsetFetchResponseV1PartitionResponse := { Partition := 0, Offset := 0, Metadata := [], ErrorCode := 0 }
/-- readFrom of offsetFetchResponseV1PartitionResponse, statement by statement -/
def offsetFetchResponseV1PartitionResponse.readFrom : offsetFetchResponseV1PartitionResponse → Rd offsetFetchResponseV1PartitionResponse :=
  (rdSeq (rdField (fun _ => readInt32) (fun t x => { t with Partition := x }))
    (rdSeq (rdField (fun _ => readInt64) (fun t x => { t with Offset := x }))
    (rdSeq (rdField (fun _ => readString) (fun t x => { t with Metadata := x }))
    (rdSeq (rdField (fun _ => readInt16) (fun t x => { t with ErrorCode := x }))
    rdDone))))
/-- values the wire format can carry: field ranges -/
structure offsetFetchResponseV1PartitionResponse.Ok (t : offsetFetchResponseV1PartitionResponse) : Prop where
  Partition_ok : inRng 32 t.Partition
  Offset_ok : inRng 64 t.Offset
  Metadata_ok : t.Metadata.length < 2 ^ 15
  ErrorCode_ok : inRng 16 t.ErrorCode
theorem offsetFetchResponseV1PartitionResponse.read_write (t : offsetFetchResponseV1PartitionResponse) (h : offsetFetchResponseV1PartitionResponse.Ok t) (rest : Bytes) :
    offsetFetchResponseV1PartitionResponse.readFrom offsetFetchResponseV1PartitionResponse.zero (offsetFetchResponseV1PartitionResponse.writeTo t ++ rest) = some (t, rest) := by
  simp only [offsetFetchResponseV1PartitionResponse.writeTo, List.append_assoc]
  exact rdSeq_rdField_eq (readInt32_write _ · h.Partition_ok) <|
    rdSeq_rdField_eq (readInt64_write _ · h.Offset_ok) <|
    rdSeq_rdField_eq (readString_write _ · h.Metadata_ok) <|
    rdSeq_rdField_eq (readInt16_write _ · h.ErrorCode_ok) rfl

structure offsetFetchResponseV1Response where
  Topic : Bytes
  PartitionResponses : (List offsetFetchResponseV1PartitionResponse)
def offsetFetchResponseV1Response.size (t : offsetFetchResponseV1Response) : Int :=
  ((sizeofString t.Topic) + (sizeofArray t.PartitionResponses (fun x => (offsetFetchResponseV1PartitionResponse.size x))))
def offsetFetchResponseV1Response.writeTo (t : offsetFetchResponseV1Response) : Bytes :=
  ((writeString t.Topic) ++ (writeArray t.PartitionResponses (fun x => ((offsetFetchResponseV1PartitionResponse.writeTo x)))))
@[simp, legacy_len] theorem offsetFetchResponseV1Response.legacy_size (t : offsetFetchResponseV1Response) : ((offsetFetchResponseV1Response.writeTo t).length : Int) = offsetFetchResponseV1Response.size t := by
  simp only [offsetFetchResponseV1Response.size, offsetFetchResponseV1Response.writeTo, legacy_len] <;> omega

/-- the fields offsetFetchResponseV1Response.writeTo writes, as Kafka types and as values: lists, which a type that writes a offsetFetchResponseV1Response through
this `writeTo` splices into its own; `tyC` / `val` are the struct type and value made of them -/
def offsetFetchResponseV1Response.tyFs : List Ty := ([(.string false false)] ++ [(.array false false offsetFetchResponseV1PartitionResponse.tyC)])
def offsetFetchResponseV1Response.valFs (t : offsetFetchResponseV1Response) : List Val := ([(.str t.Topic)] ++ [(.arr (some (t.PartitionResponses.map fun x => (offsetFetchResponseV1PartitionResponse.val x))))])
def offsetFetchResponseV1Response.tyC : Ty := .struct false offsetFetchResponseV1Response.tyFs [] []
@[simp, legacy_enc] theorem offsetFetchResponseV1Response.tyC_zeroSize : offsetFetchResponseV1Response.tyC.zeroSize = false := rfl
def offsetFetchResponseV1Response.ty (_ : offsetFetchResponseV1Response) : Ty := offsetFetchResponseV1Response.tyC
def offsetFetchResponseV1Response.val (t : offsetFetchResponseV1Response) : Val := .struct (offsetFetchResponseV1Response.valFs t) []
@[simp, legacy_enc] theorem offsetFetchResponseV1Response.legacy_modelC (t : offsetFetchResponseV1Response) : encode offsetFetchResponseV1Response.tyC (offsetFetchResponseV1Response.val t) = offsetFetchResponseV1Response.writeTo t := by
  simp only [offsetFetchResponseV1Response.tyC, offsetFetchResponseV1Response.val, offsetFetchResponseV1Response.writeTo, offsetFetchResponseV1Response.tyFs, offsetFetchResponseV1Response.valFs, legacy_enc]
theorem offsetFetchResponseV1Response.legacy_model (t : offsetFetchResponseV1Response) : encode (offsetFetchResponseV1Response.ty t) (offsetFetchResponseV1Response.val t) = offsetFetchResponseV1Response.writeTo t := offsetFetchResponseV1Response.legacy_modelC t

def offsetFetchResponseV1Response.zero : offsetFetchResponseV1Response := { Topic := [], PartitionResponses := [] }
/-- readFrom of offsetFetchResponseV1Response, statement by statement (`t.F ++ x`: the element callback appends to the field) -/
def offsetFetchResponseV1Response.readFrom : offsetFetchResponseV1Response → Rd offsetFetchResponseV1Response :=
  (rdSeq (rdField (fun _ => readString) (fun t x => { t with Topic := x }))
    (rdSeq (rdField (fun t => readArrayWith (offsetFetchResponseV1PartitionResponse.readFrom offsetFetchResponseV1PartitionResponse.zero)) (fun t x => { t with PartitionResponses := t.PartitionResponses ++ x }))
    rdDone))
/-- values the wire format can carry: field ranges -/
structure offsetFetchResponseV1Response.Ok (t : offsetFetchResponseV1Response) : Prop where
  Topic_ok : t.Topic.length < 2 ^ 15
  PartitionResponses_len : t.PartitionResponses.length < 2 ^ 31
  PartitionResponses_ok : ∀ x ∈ t.PartitionResponses, offsetFetchResponseV1PartitionResponse.Ok x
theorem offsetFetchResponseV1Response.read_write (t : offsetFetchResponseV1Response) (h : offsetFetchResponseV1Response.Ok t) (rest : Bytes) :
    offsetFetchResponseV1Response.readFrom offsetFetchResponseV1Response.zero (offsetFetchResponseV1Response.writeTo t ++ rest) = some (t, rest) := by
  simp only [offsetFetchResponseV1Response.writeTo, List.append_assoc]
  exact rdSeq_rdField_eq (readString_write _ · h.Topic_ok) <|
    rdSeq_rdField_eq (readArrayWith_writeArray _ _ _ · (fun x hx => offsetFetchResponseV1PartitionResponse.read_write x (h.PartitionResponses_ok x hx)) h.PartitionResponses_len) rfl

structure offsetFetchResponseV1 where
  Responses : (List offsetFetchResponseV1Response)
def offsetFetchResponseV1.size (t : offsetFetchResponseV1) : Int :=
  (sizeofArray t.Responses (fun x => (offsetFetchResponseV1Response.size x)))
def offsetFetchResponseV1.writeTo (t : offsetFetchResponseV1) : Bytes :=
  ((writeArray t.Responses (fun x => ((offsetFetchResponseV1Response.writeTo x)))))
@[simp, legacy_len] theorem offsetFetchResponseV1.legacy_size (t : offsetFetchResponseV1) : ((offsetFetchResponseV1.writeTo t).length : Int) = offsetFetchResponseV1.size t := by
  simp only [offsetFetchResponseV1.size, offsetFetchResponseV1.writeTo, legacy_len] <;> omega

/-- the fields offsetFetchResponseV1.writeTo writes, as Kafka types and as values: lists, which a type that writes a offsetFetchResponseV1 through
this `writeTo` splices into its own; `tyC` / `val` are the struct type and value made of them -/
def offsetFetchResponseV1.tyFs : List Ty := ([(.array false false offsetFetchResponseV1Response.tyC)])
def offsetFetchResponseV1.valFs (t : offsetFetchResponseV1) : List Val := ([(.arr (some (t.Responses.map fun x => (offsetFetchResponseV1Response.val x))))])
def offsetFetchResponseV1.tyC : Ty := .struct false offsetFetchResponseV1.tyFs [] []
@[simp, legacy_enc] theorem offsetFetchResponseV1.tyC_zeroSize : offsetFetchResponseV1.tyC.zeroSize = false := rfl
def offsetFetchResponseV1.ty (_ : offsetFetchResponseV1) : Ty := offsetFetchResponseV1.tyC
def offsetFetchResponseV1.val (t : offsetFetchResponseV1) : Val := .struct (offsetFetchResponseV1.valFs t) []
@[simp, legacy_enc] theorem offsetFetchResponseV1.legacy_modelC (t : offsetFetchResponseV1) : encode offsetFetchResponseV1.tyC (offsetFetchResponseV1.val t) = offsetFetchResponseV1.writeTo t := by
  simp only [offsetFetchResponseV1.tyC, offsetFetchResponseV1.val, offsetFetchResponseV1.writeTo, offsetFetchResponseV1.tyFs, offsetFetchResponseV1.valFs, legacy_enc]
theorem offsetFetchResponseV1.legacy_model (t : offsetFetchResponseV1) : encode (offsetFetchResponseV1.ty t) (offsetFetchResponseV1.val t) = offsetFetchResponseV1.writeTo t := offsetFetchResponseV1.legacy_modelC t

def offsetFetchResponseV1.zero : offsetFetchResponseV1 := { Responses := [] }
/-- readFrom of offsetFetchResponseV1, statement by statement (`t.F ++ x`: the element callback appends to the field) -/
def offsetFetchResponseV1.readFrom : offsetFetchResponseV1 → Rd offsetFetchResponseV1 :=
  (rdSeq (rdField (fun t => readArrayWith (offsetFetchResponseV1Response.readFrom offsetFetchResponseV1Response.zero)) (fun t x => { t with Responses := t.Responses ++ x }))
    rdDone)
/-- values the wire format can carry: field ranges -/
structure offsetFetchResponseV1.Ok (t : offsetFetchResponseV1) : Prop where
  Responses_len : t.Responses.length < 2 ^ 31
  Responses_ok : ∀ x ∈ t.Responses, offsetFetchResponseV1Response.Ok x
theorem offsetFetchResponseV1.read_write (t : offsetFetchResponseV1) (h : offsetFetchResponseV1.Ok t) (rest : Bytes) :
    offsetFetchResponseV1.readFrom offsetFetchResponseV1.zero (offsetFetchResponseV1.writeTo t ++ rest) = some (t, rest) := by
  exact rdSeq_rdField_eq (readArrayWith_writeArray _ _ _ · (fun x hx => offsetFetchResponseV1Response.read_write x (h.Responses_ok x hx)) h.Responses_len) rfl

structure produceResponsePartitionV2 where
  Partition : Int
  ErrorCode : Int
  Offset : Int
  Timestamp : Int
def produceResponsePartitionV2.size (t : produceResponsePartitionV2) : Int :=
  ((((4 : Int) + (2 : Int)) + (8 : Int)) + (8 : Int))
def produceResponsePartitionV2.writeTo (t : produceResponsePartitionV2) : Bytes :=
  ((writeInt32 t.Partition) ++ (writeInt16 t.ErrorCode) ++ (writeInt64 t.Offset) ++ (writeInt64 t.Timestamp))
@[simp, legacy_len] theorem produceResponsePartitionV2.legacy_size (t : produceResponsePartitionV2) : ((produceResponsePartitionV2.writeTo t).length : Int) = produceResponsePartitionV2.size t := by
  simp only [produceResponsePartitionV2.size, produceResponsePartitionV2.writeTo, legacy_len] <;> omega

/-- the fields produceResponsePartitionV2.writeTo writes, as Kafka types and as values: lists, which a type that writes a produceResponsePartitionV2 through
this `writeTo` splices into its own; `tyC` / `val` are the struct type and value made of them -/
def produceResponsePartitionV2.tyFs : List Ty := ([.int32] ++ [.int16] ++ [.int64] ++ [.int64])
def produceResponsePartitionV2.valFs (t : produceResponsePartitionV2) : List Val := ([(.int t.Partition)] ++ [(.int t.ErrorCode)] ++ [(.int t.Offset)] ++ [(.int t.Timestamp)])
def produceResponsePartitionV2.tyC : Ty := .struct false produceResponsePartitionV2.tyFs [] []
@[simp, legacy_enc] theorem produceResponsePartitionV2.tyC_zeroSize : produceResponsePartitionV2.tyC.zeroSize = false := rfl
def produceResponsePartitionV2.ty (_ : produceResponsePartitionV2) : Ty := produceResponsePartitionV2.tyC
def produceResponsePartitionV2.val (t : produceResponsePartitionV2) : Val := .struct (produceResponsePartitionV2.valFs t) []
@[simp, legacy_enc] theorem produceResponsePartitionV2.legacy_modelC (t : produceResponsePartitionV2) : encode produceResponsePartitionV2.tyC (produceResponsePartitionV2.val t) = produceResponsePartitionV2.writeTo t := by
  simp only [produceResponsePartitionV2.tyC, produceResponsePartitionV2.val, produceResponsePartitionV2.writeTo, produceResponsePartitionV2.tyFs, produceResponsePartitionV2.valFs, legacy_enc]
theorem produceResponsePartitionV2.legacy_model (t : produceResponsePartitionV2) : encode (produceResponsePartitionV2.ty t) (produceResponsePartitionV2.val t) = produceResponsePartitionV2.writeTo t := produceResponsePartitionV2.legacy_modelC t

def produceResponsePartitionV2.zero : produceResponsePartitionV2 := { Partition := 0, ErrorCode := 0, Offset := 0, Timestamp := 0 }
/-- readFrom of produceResponsePartitionV2, statement by statement -/
def produceResponsePartitionV2.readFrom : produceResponsePartitionV2 → Rd produceResponsePartitionV2 :=
  (rdSeq (rdField (fun _ => readInt32) (fun t x => { t with Partition := x }))
    (rdSeq (rdField (fun _ => readInt16) (fun t x => { t with ErrorCode := x }))
    (rdSeq (rdField (fun _ => readInt64) (fun t x => { t with Offset := x }))
    (rdSeq (rdField (fun _ => readInt64) (fun t x => { t with Timestamp := x }))
    rdDone))))
/-- values the wire format can carry: field ranges -/
structure produceResponsePartitionV2.Ok (t : produceResponsePartitionV2) : Prop where
  Partition_ok : inRng 32 t.Partition
  ErrorCode_ok : inRng 16 t.ErrorCode
  Offset_ok : inRng 64 t.Offset
  Timestamp_ok : inRng 64 t.Timestamp
theorem produceResponsePartitionV2.read_write (t : produceResponsePartitionV2) (h : produceResponsePartitionV2.Ok t) (rest : Bytes) :
    produceResponsePartitionV2.readFrom produceResponsePartitionV2.zero (produceResponsePartitionV2.writeTo t ++ rest) = some (t, rest) := by
  simp only [produceResponsePartitionV2.writeTo, List.append_assoc]
  exact rdSeq_rdField_eq (readInt32_write _ · h.Partition_ok) <|
    rdSeq_rdField_eq (readInt16_write _ · h.ErrorCode_ok) <|
    rdSeq_rdField_eq (readInt64_write _ · h.Offset_ok) <|
    rdSeq_rdField_eq (readInt64_write _ · h.Timestamp_ok) rfl

structure produceResponsePartitionV7 where
  Partition : Int
  ErrorCode : Int
  Offset : Int
  Timestamp : Int
  StartOffset : Int
def produceResponsePartitionV7.size (t : produceResponsePartitionV7) : Int :=
  (((((4 : Int) + (2 : Int)) + (8 : Int)) + (8 : Int)) + (8 : Int))
def produceResponsePartitionV7.writeTo (t : produceResponsePartitionV7) : Bytes :=
  ((writeInt32 t.Partition) ++ (writeInt16 t.ErrorCode) ++ (writeInt64 t.Offset) ++ (writeInt64 t.Timestamp) ++ (writeInt64 t.StartOffset))
@[simp, legacy_len] theorem produceResponsePartitionV7.legacy_size (t : produceResponsePartitionV7) : ((produceResponsePartitionV7.writeTo t).length : Int) = produceResponsePartitionV7.size t := by
  simp only [produceResponsePartitionV7.size, produceResponsePartitionV7.writeTo, legacy_len] <;> omega

/-- the fields produceResponsePartitionV7.writeTo writes, as Kafka types and as values: lists, which a type that writes a produceResponsePartitionV7 through
this `writeTo` splices into its own; `tyC` / `val` are the struct type and value made of them -/
def produceResponsePartitionV7.tyFs : List Ty := ([.int32] ++ [.int16] ++ [.int64] ++ [.int64] ++ [.int64])
def produceResponsePartitionV7.valFs (t : produceResponsePartitionV7) : List Val := ([(.int t.Partition)] ++ [(.int t.ErrorCode)] ++ [(.int t.Offset)] ++ [(.int t.Timestamp)] ++ [(.int t.StartOffset)])
def produceResponsePartitionV7.tyC : Ty := .struct false produceResponsePartitionV7.tyFs [] []
@[simp, legacy_enc] theorem produceResponsePartitionV7.tyC_zeroSize : produceResponsePartitionV7.tyC.zeroSize = false := rfl
def produceResponsePartitionV7.ty (_ : produceResponsePartitionV7) : Ty := produceResponsePartitionV7.tyC
def produceResponsePartitionV7.val (t : produceResponsePartitionV7) : Val := .struct (produceResponsePartitionV7.valFs t) []
@[simp, legacy_enc] theorem produceResponsePartitionV7.legacy_modelC (t : produceResponsePartitionV7) : encode produceResponsePartitionV7.tyC (produceResponsePartitionV7.val t) = produceResponsePartitionV7.writeTo t := by
  simp only [produceResponsePartitionV7.tyC, produceResponsePartitionV7.val, produceResponsePartitionV7.writeTo, produceResponsePartitionV7.tyFs, produceResponsePartitionV7.valFs, legacy_enc]
theorem produceResponsePartitionV7.legacy_model (t : produceResponsePartitionV7) : encode (produceResponsePartitionV7.ty t) (produceResponsePartitionV7.val t) = produceResponsePartitionV7.writeTo t := produceResponsePartitionV7.legacy_modelC t

def produceResponsePartitionV7.zero : produceResponsePartitionV7 := { Partition := 0, ErrorCode := 0, Offset := 0, Timestamp := 0, StartOffset := 0 }
/-- readFrom of produceResponsePartitionV7, statement by statement -/
def produceResponsePartitionV7.readFrom : produceResponsePartitionV7 → Rd produceResponsePartitionV7 :=
  (rdSeq (rdField (fun _ => readInt32) (fun t x => { t with Partition := x }))
    (rdSeq (rdField (fun _ => readInt16) (fun t x => { t with ErrorCode := x }))
    (rdSeq (rdField (fun _ => readInt64) (fun t x => { t with Offset := x }))
    (rdSeq (rdField (fun _ => readInt64) (fun t x => { t with Timestamp := x }))
    (rdSeq (rdField (fun _ => readInt64) (fun t x => { t with StartOffset := x }))
    rdDone)))))
/-- values the wire format can carry: field ranges -/
structure produceResponsePartitionV7.Ok (t : produceResponsePartitionV7) : Prop where
  Partition_ok : inRng 32 t.Partition
  ErrorCode_ok : inRng 16 t.ErrorCode
  Offset_ok : inRng 64 t.Offset
  Timestamp_ok : inRng 64 t.Timestamp
  StartOffset_ok : inRng 64 t.StartOffset
theorem produceResponsePartitionV7.read_write (t : produceResponsePartitionV7) (h : produceResponsePartitionV7.Ok t) (rest : Bytes) :
    produceResponsePartitionV7.readFrom produceResponsePartitionV7.zero (produceResponsePartitionV7.writeTo t ++ rest) = some (t, rest) := by
  simp only [produceResponsePartitionV7.writeTo, List.append_assoc]
  exact rdSeq_rdField_eq (readInt32_write _ · h.Partition_ok) <|
    rdSeq_rdField_eq (readInt16_write _ · h.ErrorCode_ok) <|
    rdSeq_rdField_eq (readInt64_write _ · h.Offset_ok) <|
    rdSeq_rdField_eq (readInt64_write _ · h.Timestamp_ok) <|
    rdSeq_rdField_eq (readInt64_write _ · h.StartOffset_ok) rfl

structure requestHeader where
  Size : Int
  ApiKey : Int
  ApiVersion : Int
  CorrelationID : Int
  ClientID : Bytes
def requestHeader.size (t : requestHeader) : Int :=
  (((((4 : Int) + (2 : Int)) + (2 : Int)) + (4 : Int)) + (sizeofString t.ClientID))
def requestHeader.writeTo (t : requestHeader) : Bytes :=
  ((writeInt32 t.Size) ++ (writeInt16 t.ApiKey) ++ (writeInt16 t.ApiVersion) ++ (writeInt32 t.CorrelationID) ++ (writeString t.ClientID))
@[simp, legacy_len] theorem requestHeader.legacy_size (t : requestHeader) : ((requestHeader.writeTo t).length : Int) = requestHeader.size t := by
  simp only [requestHeader.size, requestHeader.writeTo, legacy_len] <;> omega

/-- the fields requestHeader.writeTo writes, as Kafka types and as values: lists, which a type that writes a requestHeader through
this `writeTo` splices into its own; `tyC` / `val` are the struct type and value made of them -/
def requestHeader.tyFs : List Ty := ([.int32] ++ [.int16] ++ [.int16] ++ [.int32] ++ [(.string false false)])
def requestHeader.valFs (t : requestHeader) : List Val := ([(.int t.Size)] ++ [(.int t.ApiKey)] ++ [(.int t.ApiVersion)] ++ [(.int t.CorrelationID)] ++ [(.str t.ClientID)])
def requestHeader.tyC : Ty := .struct false requestHeader.tyFs [] []
@[simp, legacy_enc] theorem requestHeader.tyC_zeroSize : requestHeader.tyC.zeroSize = false := rfl
def requestHeader.ty (_ : requestHeader) : Ty := requestHeader.tyC
def requestHeader.val (t : requestHeader) : Val := .struct (requestHeader.valFs t) []
@[simp, legacy_enc] theorem requestHeader.legacy_modelC (t : requestHeader) : encode requestHeader.tyC (requestHeader.val t) = requestHeader.writeTo t := by
  simp only [requestHeader.tyC, requestHeader.val, requestHeader.writeTo, requestHeader.tyFs, requestHeader.valFs, legacy_enc]
theorem requestHeader.legacy_model (t : requestHeader) : encode (requestHeader.ty t) (requestHeader.val t) = requestHeader.writeTo t := requestHeader.legacy_modelC t

structure saslAuthenticateRequestV0 where
  Data : Bytes
def saslAuthenticateRequestV0.size (t : saslAuthenticateRequestV0) : Int :=
  (sizeofBytes t.Data)
def saslAuthenticateRequestV0.writeTo (t : saslAuthenticateRequestV0) : Bytes :=
  ((writeBytes t.Data))
@[simp, legacy_len] theorem saslAuthenticateRequestV0.legacy_size (t : saslAuthenticateRequestV0) : ((saslAuthenticateRequestV0.writeTo t).length : Int) = saslAuthenticateRequestV0.size t := by
  simp only [saslAuthenticateRequestV0.size, saslAuthenticateRequestV0.writeTo, legacy_len] <;> omega

/-- the fields saslAuthenticateRequestV0.writeTo writes, as Kafka types and as values: lists, which a type that writes a saslAuthenticateRequestV0 through
this `writeTo` splices into its own; `tyC` / `val` are the struct type and value made of them -/
def saslAuthenticateRequestV0.tyFs : List Ty := ([(.bytes false false)])
def saslAuthenticateRequestV0.valFs (t : saslAuthenticateRequestV0) : List Val := ([(.bytes (some t.Data))])
def saslAuthenticateRequestV0.tyC : Ty := .struct false saslAuthenticateRequestV0.tyFs [] []
@[simp, legacy_enc] theorem saslAuthenticateRequestV0.tyC_zeroSize : saslAuthenticateRequestV0.tyC.zeroSize = false := rfl
def saslAuthenticateRequestV0.ty (_ : saslAuthenticateRequestV0) : Ty := saslAuthenticateRequestV0.tyC
def saslAuthenticateRequestV0.val (t : saslAuthenticateRequestV0) : Val := .struct (saslAuthenticateRequestV0.valFs t) []
@[simp, legacy_enc] theorem saslAuthenticateRequestV0.legacy_modelC (t : saslAuthenticateRequestV0) : encode saslAuthenticateRequestV0.tyC (saslAuthenticateRequestV0.val t) = saslAuthenticateRequestV0.writeTo t := by
  simp only [saslAuthenticateRequestV0.tyC, saslAuthenticateRequestV0.val, saslAuthenticateRequestV0.writeTo, saslAuthenticateRequestV0.tyFs, saslAuthenticateRequestV0.valFs, legacy_enc]
theorem saslAuthenticateRequestV0.legacy_model (t : saslAuthenticateRequestV0) : encode (saslAuthenticateRequestV0.ty t) (saslAuthenticateRequestV0.val t) = saslAuthenticateRequestV0.writeTo t := saslAuthenticateRequestV0.legacy_modelC t

def saslAuthenticateRequestV0.zero : saslAuthenticateRequestV0 := { Data := [] }
/-- readFrom of saslAuthenticateRequestV0, statement by statement -/
def saslAuthenticateRequestV0.readFrom : saslAuthenticateRequestV0 → Rd saslAuthenticateRequestV0 :=
  (rdSeq (rdField (fun _ => readBytes) (fun t x => { t with Data := x }))
    rdDone)
/-- values the wire format can carry: field ranges -/
structure saslAuthenticateRequestV0.Ok (t : saslAuthenticateRequestV0) : Prop where
  Data_ok : t.Data.length < 2 ^ 31
theorem saslAuthenticateRequestV0.read_write (t : saslAuthenticateRequestV0) (h : saslAuthenticateRequestV0.Ok t) (rest : Bytes) :
    saslAuthenticateRequestV0.readFrom saslAuthenticateRequestV0.zero (saslAuthenticateRequestV0.writeTo t ++ rest) = some (t, rest) := by
  exact rdSeq_rdField_eq (readBytes_write _ · h.Data_ok) rfl

structure saslAuthenticateResponseV0 where
  ErrorCode : Int
  ErrorMessage : Bytes
  Data : Bytes
def saslAuthenticateResponseV0.size (t : saslAuthenticateResponseV0) : Int :=
  (((sizeofInt16 t.ErrorCode) + (sizeofString t.ErrorMessage)) + (sizeofBytes t.Data))
def saslAuthenticateResponseV0.writeTo (t : saslAuthenticateResponseV0) : Bytes :=
  ((writeInt16 t.ErrorCode) ++ (writeString t.ErrorMessage) ++ (writeBytes t.Data))
@[simp, legacy_len] theorem saslAuthenticateResponseV0.legacy_size (t : saslAuthenticateResponseV0) : ((saslAuthenticateResponseV0.writeTo t).length : Int) = saslAuthenticateResponseV0.size t := by
  simp only [saslAuthenticateResponseV0.size, saslAuthenticateResponseV0.writeTo, legacy_len] <;> omega

/-- the fields saslAuthenticateResponseV0.writeTo writes, as Kafka types and as values: lists, which a type that writes a saslAuthenticateResponseV0 through
this `writeTo` splices into its own; `tyC` / `val` are the struct type and value made of them -/
def saslAuthenticateResponseV0.tyFs : List Ty := ([.int16] ++ [(.string false false)] ++ [(.bytes false false)])
def saslAuthenticateResponseV0.valFs (t : saslAuthenticateResponseV0) : List Val := ([(.int t.ErrorCode)] ++ [(.str t.ErrorMessage)] ++ [(.bytes (some t.Data))])
def saslAuthenticateResponseV0.tyC : Ty := .struct false saslAuthenticateResponseV0.tyFs [] []
@[simp, legacy_enc] theorem saslAuthenticateResponseV0.tyC_zeroSize : saslAuthenticateResponseV0.tyC.zeroSize = false := rfl
def saslAuthenticateResponseV0.ty (_ : saslAuthenticateResponseV0) : Ty := saslAuthenticateResponseV0.tyC
def saslAuthenticateResponseV0.val (t : saslAuthenticateResponseV0) : Val := .struct (saslAuthenticateResponseV0.valFs t) []
@[simp, legacy_enc] theorem saslAuthenticateResponseV0.legacy_modelC (t : saslAuthenticateResponseV0) : encode saslAuthenticateResponseV0.tyC (saslAuthenticateResponseV0.val t) = saslAuthenticateResponseV0.writeTo t := by
  simp only [saslAuthenticateResponseV0.tyC, saslAuthenticateResponseV0.val, saslAuthenticateResponseV0.writeTo, saslAuthenticateResponseV0.tyFs, saslAuthenticateResponseV0.valFs, legacy_enc]
theorem saslAuthenticateResponseV0.legacy_model (t : saslAuthenticateResponseV0) : encode (saslAuthenticateResponseV0.ty t) (saslAuthenticateResponseV0.val t) = saslAuthenticateResponseV0.writeTo t := saslAuthenticateResponseV0.legacy_modelC t

def saslAuthenticateResponseV0.zero : saslAuthenticateResponseV0 := { ErrorCode := 0, ErrorMessage := [], Data := [] }
/-- readFrom of saslAuthenticateResponseV0, statement by statement -/
def saslAuthenticateResponseV0.readFrom : saslAuthenticateResponseV0 → Rd saslAuthenticateResponseV0 :=
  (rdSeq (rdField (fun _ => readInt16) (fun t x => { t with ErrorCode := x }))
    (rdSeq (rdField (fun _ => readString) (fun t x => { t with ErrorMessage := x }))
    (rdSeq (rdField (fun _ => readBytes) (fun t x => { t with Data := x }))
    rdDone)))
/-- values the wire format can carry: field ranges -/
structure saslAuthenticateResponseV0.Ok (t : saslAuthenticateResponseV0) : Prop where
  ErrorCode_ok : inRng 16 t.ErrorCode
  ErrorMessage_ok : t.ErrorMessage.length < 2 ^ 15
  Data_ok : t.Data.length < 2 ^ 31
theorem saslAuthenticateResponseV0.read_write (t : saslAuthenticateResponseV0) (h : saslAuthenticateResponseV0.Ok t) (rest : Bytes) :
    saslAuthenticateResponseV0.readFrom saslAuthenticateResponseV0.zero (saslAuthenticateResponseV0.writeTo t ++ rest) = some (t, rest) := by
  simp only [saslAuthenticateResponseV0.writeTo, List.append_assoc]
  exact rdSeq_rdField_eq (readInt16_write _ · h.ErrorCode_ok) <|
    rdSeq_rdField_eq (readString_write _ · h.ErrorMessage_ok) <|
    rdSeq_rdField_eq (readBytes_write _ · h.Data_ok) rfl

structure saslHandshakeRequestV0 where
  Mechanism : Bytes
def saslHandshakeRequestV0.size (t : saslHandshakeRequestV0) : Int :=
  (sizeofString t.Mechanism)
def saslHandshakeRequestV0.writeTo (t : saslHandshakeRequestV0) : Bytes :=
  ((writeString t.Mechanism))
@[simp, legacy_len] theorem saslHandshakeRequestV0.legacy_size (t : saslHandshakeRequestV0) : ((saslHandshakeRequestV0.writeTo t).length : Int) = saslHandshakeRequestV0.size t := by
  simp only [saslHandshakeRequestV0.size, saslHandshakeRequestV0.writeTo, legacy_len] <;> omega

/-- the fields saslHandshakeRequestV0.writeTo writes, as Kafka types and as values: lists, which a type that writes a saslHandshakeRequestV0 through
this `writeTo` splices into its own; `tyC` / `val` are the struct type and value made of them -/
def saslHandshakeRequestV0.tyFs : List Ty := ([(.string false false)])
def saslHandshakeRequestV0.valFs (t : saslHandshakeRequestV0) : List Val := ([(.str t.Mechanism)])
def saslHandshakeRequestV0.tyC : Ty := .struct false saslHandshakeRequestV0.tyFs [] []
@[simp, legacy_enc] theorem saslHandshakeRequestV0.tyC_zeroSize : saslHandshakeRequestV0.tyC.zeroSize = false := rfl
def saslHandshakeRequestV0.ty (_ : saslHandshakeRequestV0) : Ty := saslHandshakeRequestV0.tyC
def saslHandshakeRequestV0.val (t : saslHandshakeRequestV0) : Val := .struct (saslHandshakeRequestV0.valFs t) []
@[simp, legacy_enc] theorem saslHandshakeRequestV0.legacy_modelC (t : saslHandshakeRequestV0) : encode saslHandshakeRequestV0.tyC (saslHandshakeRequestV0.val t) = saslHandshakeRequestV0.writeTo t := by
  simp only [saslHandshakeRequestV0.tyC, saslHandshakeRequestV0.val, saslHandshakeRequestV0.writeTo, saslHandshakeRequestV0.tyFs, saslHandshakeRequestV0.valFs, legacy_enc]
theorem saslHandshakeRequestV0.legacy_model (t : saslHandshakeRequestV0) : encode (saslHandshakeRequestV0.ty t) (saslHandshakeRequestV0.val t) = saslHandshakeRequestV0.writeTo t := saslHandshakeRequestV0.legacy_modelC t

def saslHandshakeRequestV0.zero : saslHandshakeRequestV0 := { Mechanism := [] }
/-- readFrom of saslHandshakeRequestV0, statement by statement -/
def saslHandshakeRequestV0.readFrom : saslHandshakeRequestV0 → Rd saslHandshakeRequestV0 :=
  (rdSeq (rdField (fun _ => readString) (fun t x => { t with Mechanism := x }))
    rdDone)
/-- values the wire format can carry: field ranges -/
structure saslHandshakeRequestV0.Ok (t : saslHandshakeRequestV0) : Prop where
  Mechanism_ok : t.Mechanism.length < 2 ^ 15
theorem saslHandshakeRequestV0.read_write (t : saslHandshakeRequestV0) (h : saslHandshakeRequestV0.Ok t) (rest : Bytes) :
    saslHandshakeRequestV0.readFrom saslHandshakeRequestV0.zero (saslHandshakeRequestV0.writeTo t ++ rest) = some (t, rest) := by
  exact rdSeq_rdField_eq (readString_write _ · h.Mechanism_ok) rfl

structure saslHandshakeResponseV0 where
  ErrorCode : Int
  EnabledMechanisms : (List Bytes)
def saslHandshakeResponseV0.size (t : saslHandshakeResponseV0) : Int :=
  ((sizeofInt16 t.ErrorCode) + (sizeofStringArray t.EnabledMechanisms))
def saslHandshakeResponseV0.writeTo (t : saslHandshakeResponseV0) : Bytes :=
  ((writeInt16 t.ErrorCode) ++ (writeStringArray t.EnabledMechanisms))
@[simp, legacy_len] theorem saslHandshakeResponseV0.legacy_size (t : saslHandshakeResponseV0) : ((saslHandshakeResponseV0.writeTo t).length : Int) = saslHandshakeResponseV0.size t := by
  simp only [saslHandshakeResponseV0.size, saslHandshakeResponseV0.writeTo, legacy_len] <;> omega

/-- the fields saslHandshakeResponseV0.writeTo writes, as Kafka types and as values: lists, which a type that writes a saslHandshakeResponseV0 through
this `writeTo` splices into its own; `tyC` / `val` are the struct type and value made of them -/
def saslHandshakeResponseV0.tyFs : List Ty := ([.int16] ++ [(.array false false (.string false false))])
def saslHandshakeResponseV0.valFs (t : saslHandshakeResponseV0) : List Val := ([(.int t.ErrorCode)] ++ [(.arr (some (t.EnabledMechanisms.map .str)))])
def saslHandshakeResponseV0.tyC : Ty := .struct false saslHandshakeResponseV0.tyFs [] []
@[simp, legacy_enc] theorem saslHandshakeResponseV0.tyC_zeroSize : saslHandshakeResponseV0.tyC.zeroSize = false := rfl
def saslHandshakeResponseV0.ty (_ : saslHandshakeResponseV0) : Ty := saslHandshakeResponseV0.tyC
def saslHandshakeResponseV0.val (t : saslHandshakeResponseV0) : Val := .struct (saslHandshakeResponseV0.valFs t) []
@[simp, legacy_enc] theorem saslHandshakeResponseV0.legacy_modelC (t : saslHandshakeResponseV0) : encode saslHandshakeResponseV0.tyC (saslHandshakeResponseV0.val t) = saslHandshakeResponseV0.writeTo t := by
  simp only [saslHandshakeResponseV0.tyC, saslHandshakeResponseV0.val, saslHandshakeResponseV0.writeTo, saslHandshakeResponseV0.tyFs, saslHandshakeResponseV0.valFs, legacy_enc]
theorem saslHandshakeResponseV0.legacy_model (t : saslHandshakeResponseV0) : encode (saslHandshakeResponseV0.ty t) (saslHandshakeResponseV0.val t) = saslHandshakeResponseV0.writeTo t := saslHandshakeResponseV0.legacy_modelC t

def saslHandshakeResponseV0.zero : saslHandshakeResponseV0 := { ErrorCode := 0, EnabledMechanisms := [] }
/-- readFrom of saslHandshakeResponseV0, statement by statement -/
def saslHandshakeResponseV0.readFrom : saslHandshakeResponseV0 → Rd saslHandshakeResponseV0 :=
  (rdSeq (rdField (fun _ => readInt16) (fun t x => { t with ErrorCode := x }))
    (rdSeq (rdField (fun _ => readStringArray) (fun t x => { t with EnabledMechanisms := x }))
    rdDone))
/-- values the wire format can carry: field ranges -/
structure saslHandshakeResponseV0.Ok (t : saslHandshakeResponseV0) : Prop where
  ErrorCode_ok : inRng 16 t.ErrorCode
  EnabledMechanisms_ok : ∀ x ∈ t.EnabledMechanisms, x.length < 2 ^ 15
  EnabledMechanisms_len : t.EnabledMechanisms.length < 2 ^ 31
theorem saslHandshakeResponseV0.read_write (t : saslHandshakeResponseV0) (h : saslHandshakeResponseV0.Ok t) (rest : Bytes) :
    saslHandshakeResponseV0.readFrom saslHandshakeResponseV0.zero (saslHandshakeResponseV0.writeTo t ++ rest) = some (t, rest) := by
  simp only [saslHandshakeResponseV0.writeTo, List.append_assoc]
  exact rdSeq_rdField_eq (readInt16_write _ · h.ErrorCode_ok) <|
    rdSeq_rdField_eq (readStringArray_write _ · h.EnabledMechanisms_ok h.EnabledMechanisms_len) rfl

structure syncGroupRequestGroupAssignmentV0 where
  MemberID : Bytes
  MemberAssignments : Bytes
def syncGroupRequestGroupAssignmentV0.size (t : syncGroupRequestGroupAssignmentV0) : Int :=
  ((sizeofString t.MemberID) + (sizeofBytes t.MemberAssignments))
def syncGroupRequestGroupAssignmentV0.writeTo (t : syncGroupRequestGroupAssignmentV0) : Bytes :=
  ((writeString t.MemberID) ++ (writeBytes t.MemberAssignments))
@[simp, legacy_len] theorem syncGroupRequestGroupAssignmentV0.legacy_size (t : syncGroupRequestGroupAssignmentV0) : ((syncGroupRequestGroupAssignmentV0.writeTo t).length : Int) = syncGroupRequestGroupAssignmentV0.size t := by
  simp only [syncGroupRequestGroupAssignmentV0.size, syncGroupRequestGroupAssignmentV0.writeTo, legacy_len] <;> omega

/-- the fields syncGroupRequestGroupAssignmentV0.writeTo writes, as Kafka types and as values: lists, which a type that writes a syncGroupRequestGroupAssignmentV0 through
this `writeTo` splices into its own; `tyC` / `val` are the struct type and value made of them -/
def syncGroupRequestGroupAssignmentV0.tyFs : List Ty := ([(.string false false)] ++ [(.bytes false false)])
def syncGroupRequestGroupAssignmentV0.valFs (t : syncGroupRequestGroupAssignmentV0) : List Val := ([(.str t.MemberID)] ++ [(.bytes (some t.MemberAssignments))])
def syncGroupRequestGroupAssignmentV0.tyC : Ty := .struct false syncGroupRequestGroupAssignmentV0.tyFs [] []
@[simp, legacy_enc] theorem syncGroupRequestGroupAssignmentV0.tyC_zeroSize : syncGroupRequestGroupAssignmentV0.tyC.zeroSize = false := rfl
def syncGroupRequestGroupAssignmentV0.ty (_ : syncGroupRequestGroupAssignmentV0) : Ty := syncGroupRequestGroupAssignmentV0.tyC
def syncGroupRequestGroupAssignmentV0.val (t : syncGroupRequestGroupAssignmentV0) : Val := .struct (syncGroupRequestGroupAssignmentV0.valFs t) []
@[simp, legacy_enc] theorem syncGroupRequestGroupAssignmentV0.legacy_modelC (t : syncGroupRequestGroupAssignmentV0) : encode syncGroupRequestGroupAssignmentV0.tyC (syncGroupRequestGroupAssignmentV0.val t) = syncGroupRequestGroupAssignmentV0.writeTo t := by
  simp only [syncGroupRequestGroupAssignmentV0.tyC, syncGroupRequestGroupAssignmentV0.val, syncGroupRequestGroupAssignmentV0.writeTo, syncGroupRequestGroupAssignmentV0.tyFs, syncGroupRequestGroupAssignmentV0.valFs, legacy_enc]
theorem syncGroupRequestGroupAssignmentV0.legacy_model (t : syncGroupRequestGroupAssignmentV0) : encode (syncGroupRequestGroupAssignmentV0.ty t) (syncGroupRequestGroupAssignmentV0.val t) = syncGroupRequestGroupAssignmentV0.writeTo t := syncGroupRequestGroupAssignmentV0.legacy_modelC t

structure syncGroupRequestV0 where
  GroupID : Bytes
  GenerationID : Int
  MemberID : Bytes
  GroupAssignments : (List syncGroupRequestGroupAssignmentV0)
def syncGroupRequestV0.size (t : syncGroupRequestV0) : Int :=
  ((((sizeofString t.GroupID) + (sizeofInt32 t.GenerationID)) + (sizeofString t.MemberID)) + (sizeofArray t.GroupAssignments (fun x => (syncGroupRequestGroupAssignmentV0.size x))))
def syncGroupRequestV0.writeTo (t : syncGroupRequestV0) : Bytes :=
  ((writeString t.GroupID) ++ (writeInt32 t.GenerationID) ++ (writeString t.MemberID) ++ (writeArray t.GroupAssignments (fun x => ((syncGroupRequestGroupAssignmentV0.writeTo x)))))
@[simp, legacy_len] theorem syncGroupRequestV0.legacy_size (t : syncGroupRequestV0) : ((syncGroupRequestV0.writeTo t).length : Int) = syncGroupRequestV0.size t := by
  simp only [syncGroupRequestV0.size, syncGroupRequestV0.writeTo, legacy_len] <;> omega

/-- the fields syncGroupRequestV0.writeTo writes, as Kafka types and as values: lists, which a type that writes a syncGroupRequestV0 through
this `writeTo` splices into its own; `tyC` / `val` are the struct type and value made of them -/
def syncGroupRequestV0.tyFs : List Ty := ([(.string false false)] ++ [.int32] ++ [(.string false false)] ++ [(.array false false syncGroupRequestGroupAssignmentV0.tyC)])
def syncGroupRequestV0.valFs (t : syncGroupRequestV0) : List Val := ([(.str t.GroupID)] ++ [(.int t.GenerationID)] ++ [(.str t.MemberID)] ++ [(.arr (some (t.GroupAssignments.map fun x => (syncGroupRequestGroupAssignmentV0.val x))))])
def syncGroupRequestV0.tyC : Ty := .struct false syncGroupRequestV0.tyFs [] []
@[simp, legacy_enc] theorem syncGroupRequestV0.tyC_zeroSize : syncGroupRequestV0.tyC.zeroSize = false := rfl
def syncGroupRequestV0.ty (_ : syncGroupRequestV0) : Ty := syncGroupRequestV0.tyC
def syncGroupRequestV0.val (t : syncGroupRequestV0) : Val := .struct (syncGroupRequestV0.valFs t) []
@[simp, legacy_enc] theorem syncGroupRequestV0.legacy_modelC (t : syncGroupRequestV0) : encode syncGroupRequestV0.tyC (syncGroupRequestV0.val t) = syncGroupRequestV0.writeTo t := by
  simp only [syncGroupRequestV0.tyC, syncGroupRequestV0.val, syncGroupRequestV0.writeTo, syncGroupRequestV0.tyFs, syncGroupRequestV0.valFs, legacy_enc]
theorem syncGroupRequestV0.legacy_model (t : syncGroupRequestV0) : encode (syncGroupRequestV0.ty t) (syncGroupRequestV0.val t) = syncGroupRequestV0.writeTo t := syncGroupRequestV0.legacy_modelC t

structure syncGroupResponseV0 where
  ErrorCode : Int
  MemberAssignments : Bytes
def syncGroupResponseV0.size (t : syncGroupResponseV0) : Int :=
  ((sizeofInt16 t.ErrorCode) + (sizeofBytes t.MemberAssignments))
def syncGroupResponseV0.writeTo (t : syncGroupResponseV0) : Bytes :=
  ((writeInt16 t.ErrorCode) ++ (writeBytes t.MemberAssignments))
@[simp, legacy_len] theorem syncGroupResponseV0.legacy_size (t : syncGroupResponseV0) : ((syncGroupResponseV0.writeTo t).length : Int) = syncGroupResponseV0.size t := by
  simp only [syncGroupResponseV0.size, syncGroupResponseV0.writeTo, legacy_len] <;> omega

/-- the fields syncGroupResponseV0.writeTo writes, as Kafka types and as values: lists, which a type that writes a syncGroupResponseV0 through
this `writeTo` splices into its own; `tyC` / `val` are the struct type and value made of them -/
def syncGroupResponseV0.tyFs : List Ty := ([.int16] ++ [(.bytes false false)])
def syncGroupResponseV0.valFs (t : syncGroupResponseV0) : List Val := ([(.int t.ErrorCode)] ++ [(.bytes (some t.MemberAssignments))])
def syncGroupResponseV0.tyC : Ty := .struct false syncGroupResponseV0.tyFs [] []
@[simp, legacy_enc] theorem syncGroupResponseV0.tyC_zeroSize : syncGroupResponseV0.tyC.zeroSize = false := rfl
def syncGroupResponseV0.ty (_ : syncGroupResponseV0) : Ty := syncGroupResponseV0.tyC
def syncGroupResponseV0.val (t : syncGroupResponseV0) : Val := .struct (syncGroupResponseV0.valFs t) []
@[simp, legacy_enc] theorem syncGroupResponseV0.legacy_modelC (t : syncGroupResponseV0) : encode syncGroupResponseV0.tyC (syncGroupResponseV0.val t) = syncGroupResponseV0.writeTo t := by
  simp only [syncGroupResponseV0.tyC, syncGroupResponseV0.val, syncGroupResponseV0.writeTo, syncGroupResponseV0.tyFs, syncGroupResponseV0.valFs, legacy_enc]
theorem syncGroupResponseV0.legacy_model (t : syncGroupResponseV0) : encode (syncGroupResponseV0.ty t) (syncGroupResponseV0.val t) = syncGroupResponseV0.writeTo t := syncGroupResponseV0.legacy_modelC t

def syncGroupResponseV0.zero : syncGroupResponseV0 := { ErrorCode := 0, MemberAssignments := [] }
/-- readFrom of syncGroupResponseV0, statement by statement -/
def syncGroupResponseV0.readFrom : syncGroupResponseV0 → Rd syncGroupResponseV0 :=
  (rdSeq (rdField (fun _ => readInt16) (fun t x => { t with ErrorCode := x }))
    (rdSeq (rdField (fun _ => readBytes) (fun t x => { t with MemberAssignments := x }))
    rdDone))
/-- values the wire format can carry: field ranges -/
structure syncGroupResponseV0.Ok (t : syncGroupResponseV0) : Prop where
  ErrorCode_ok : inRng 16 t.ErrorCode
  MemberAssignments_ok : t.MemberAssignments.length < 2 ^ 31
theorem syncGroupResponseV0.read_write (t : syncGroupResponseV0) (h : syncGroupResponseV0.Ok t) (rest : Bytes) :
    syncGroupResponseV0.readFrom syncGroupResponseV0.zero (syncGroupResponseV0.writeTo t ++ rest) = some (t, rest) := by
  simp only [syncGroupResponseV0.writeTo, List.append_assoc]
  exact rdSeq_rdField_eq (readInt16_write _ · h.ErrorCode_ok) <|
    rdSeq_rdField_eq (readBytes_write _ · h.MemberAssignments_ok) rfl

structure topicMetadataRequestV1 where
  items : List Bytes
  isNil : Bool
def topicMetadataRequestV1.size (t : topicMetadataRequestV1) : Int :=
  (sizeofStringArray t.items)
def topicMetadataRequestV1.writeTo (t : topicMetadataRequestV1) : Bytes :=
  ((if (t.isNil && t.items.isEmpty) then ((writeArrayLen (-(1 : Int)))) else ((writeStringArray t.items))))
@[simp, legacy_len] theorem topicMetadataRequestV1.legacy_size (t : topicMetadataRequestV1) : ((topicMetadataRequestV1.writeTo t).length : Int) = topicMetadataRequestV1.size t := by
  simp only [topicMetadataRequestV1.size, topicMetadataRequestV1.writeTo, legacy_len] <;> omega

/-- the fields topicMetadataRequestV1.writeTo writes, as Kafka types and as values: lists, which a type that writes a topicMetadataRequestV1 through
this `writeTo` splices into its own; `tyC` / `val` are the struct type and value made of them -/
def topicMetadataRequestV1.tyFs : List Ty := ([(.array false true (.string false false))])
def topicMetadataRequestV1.valFs (t : topicMetadataRequestV1) : List Val := ([(.arr (if (t.isNil && t.items.isEmpty) then none else (some (t.items.map .str))))])
def topicMetadataRequestV1.tyC : Ty := .struct false topicMetadataRequestV1.tyFs [] []
@[simp, legacy_enc] theorem topicMetadataRequestV1.tyC_zeroSize : topicMetadataRequestV1.tyC.zeroSize = false := rfl
def topicMetadataRequestV1.ty (_ : topicMetadataRequestV1) : Ty := topicMetadataRequestV1.tyC
def topicMetadataRequestV1.val (t : topicMetadataRequestV1) : Val := .struct (topicMetadataRequestV1.valFs t) []
@[simp, legacy_enc] theorem topicMetadataRequestV1.legacy_modelC (t : topicMetadataRequestV1) : encode topicMetadataRequestV1.tyC (topicMetadataRequestV1.val t) = topicMetadataRequestV1.writeTo t := by
  simp only [topicMetadataRequestV1.tyC, topicMetadataRequestV1.val, topicMetadataRequestV1.writeTo, topicMetadataRequestV1.tyFs, topicMetadataRequestV1.valFs, legacy_enc]
theorem topicMetadataRequestV1.legacy_model (t : topicMetadataRequestV1) : encode (topicMetadataRequestV1.ty t) (topicMetadataRequestV1.val t) = topicMetadataRequestV1.writeTo t := topicMetadataRequestV1.legacy_modelC t

structure topicMetadataRequestV6 where
  Topics : (List Bytes)
  Topics_isNil : Bool
  AllowAutoTopicCreation : Bool
def topicMetadataRequestV6.size (t : topicMetadataRequestV6) : Int :=
  ((sizeofStringArray t.Topics) + (1 : Int))
def topicMetadataRequestV6.writeTo (t : topicMetadataRequestV6) : Bytes :=
  ((if (t.Topics_isNil && t.Topics.isEmpty) then ((writeArrayLen (-(1 : Int)))) else ((writeStringArray t.Topics))) ++ (writeBool t.AllowAutoTopicCreation))
@[simp, legacy_len] theorem topicMetadataRequestV6.legacy_size (t : topicMetadataRequestV6) : ((topicMetadataRequestV6.writeTo t).length : Int) = topicMetadataRequestV6.size t := by
  simp only [topicMetadataRequestV6.size, topicMetadataRequestV6.writeTo, legacy_len] <;> omega

/-- the fields topicMetadataRequestV6.writeTo writes, as Kafka types and as values: lists, which a type that writes a topicMetadataRequestV6 through
this `writeTo` splices into its own; `tyC` / `val` are the struct type and value made of them -/
def topicMetadataRequestV6.tyFs : List Ty := ([(.array false true (.string false false))] ++ [.bool])
def topicMetadataRequestV6.valFs (t : topicMetadataRequestV6) : List Val := ([(.arr (if (t.Topics_isNil && t.Topics.isEmpty) then none else (some (t.Topics.map .str))))] ++ [(.bool t.AllowAutoTopicCreation)])
def topicMetadataRequestV6.tyC : Ty := .struct false topicMetadataRequestV6.tyFs [] []
@[simp, legacy_enc] theorem topicMetadataRequestV6.tyC_zeroSize : topicMetadataRequestV6.tyC.zeroSize = false := rfl
def topicMetadataRequestV6.ty (_ : topicMetadataRequestV6) : Ty := topicMetadataRequestV6.tyC
def topicMetadataRequestV6.val (t : topicMetadataRequestV6) : Val := .struct (topicMetadataRequestV6.valFs t) []
@[simp, legacy_enc] theorem topicMetadataRequestV6.legacy_modelC (t : topicMetadataRequestV6) : encode topicMetadataRequestV6.tyC (topicMetadataRequestV6.val t) = topicMetadataRequestV6.writeTo t := by
  simp only [topicMetadataRequestV6.tyC, topicMetadataRequestV6.val, topicMetadataRequestV6.writeTo, topicMetadataRequestV6.tyFs, topicMetadataRequestV6.valFs, legacy_enc]
theorem topicMetadataRequestV6.legacy_model (t : topicMetadataRequestV6) : encode (topicMetadataRequestV6.ty t) (topicMetadataRequestV6.val t) = topicMetadataRequestV6.writeTo t := topicMetadataRequestV6.legacy_modelC t

/-- a kafka.Message as the message-set writer sees it: offset, millisecond timestamp, key, value -/
structure Message where
  Offset : Int
  Time : Int
  Key : Bytes
  Value : Bytes
def messageSize (key value : Bytes) : Int :=
  ((((((4 : Int) + (1 : Int)) + (1 : Int)) + (8 : Int)) + (sizeofBytes key)) + (sizeofBytes value))
def messageSetSize (msgs : List Message) : Int :=
  sumInt (msgs.map fun msg => ((((((((8 : Int) + (4 : Int)) + (4 : Int)) + (1 : Int)) + (1 : Int)) + (8 : Int)) + (sizeofBytes msg.Key)) + (sizeofBytes msg.Value)))
/-- the dry run `cw.write…` the CRC is computed over -/
def writeMessage.checksummed (attributes time : Int) (key value : Bytes) : Bytes :=
  (writeInt8 (1 : Int)) ++ (writeInt8 attributes) ++ (writeInt64 time) ++ (writeBytes key) ++ (writeBytes value)
def writeMessage (crc : Bytes → Int) (offset attributes time : Int) (key value : Bytes) : Bytes :=
  (writeInt64 offset) ++ (writeInt32 (messageSize key value)) ++ (writeInt32 (crc (writeMessage.checksummed attributes time key value))) ++ (writeInt8 (1 : Int)) ++ (writeInt8 attributes) ++ (writeInt64 time) ++ (writeBytes key) ++ (writeBytes value)
/-- offset, size, CRC, and then exactly the bytes the CRC was computed over -/
theorem writeMessage.crc_covers (crc : Bytes → Int) (offset attributes time : Int) (key value : Bytes) :
    writeMessage crc offset attributes time key value =
      writeInt64 offset ++ writeInt32 (messageSize key value) ++ writeInt32 (crc (writeMessage.checksummed attributes time key value)) ++
        writeMessage.checksummed attributes time key value := by
  simp only [writeMessage, writeMessage.checksummed, List.append_assoc]
/-- the message-size field announces the bytes that follow it -/
theorem writeMessage.legacy_size (crc : Bytes → Int) (offset attributes time : Int) (key value : Bytes) :
    ((writeMessage crc offset attributes time key value).length : Int) = 8 + 4 + messageSize key value := by
  simp only [writeMessage, messageSize, legacy_len] <;> omega
/-- the bytes written for a message set are `messageSetSize` many -/
theorem messageSet_len (crc : Bytes → Int) (attributes : Int) (msgs : List Message) :
    ((writeEach msgs (fun msg => writeMessage crc msg.Offset attributes msg.Time msg.Key msg.Value)).length : Int) = messageSetSize msgs :=
  len_writeEach_of msgs _ _ fun m => by rw [writeMessage.legacy_size, messageSize]; omega

structure writeFetchRequestV10.Args where
  correlationID : Int
  clientID : Bytes
  topic : Bytes
  partition : Int
  offset : Int
  minBytes : Int
  maxBytes : Int
  maxWait : Int
  isolationLevel : Int
/-- the `requestHeader{…}` literal of writeFetchRequestV10 (Size is assigned afterwards) -/
def writeFetchRequestV10.hdr0 (a : writeFetchRequestV10.Args) : requestHeader :=
  { Size := 0, ApiKey := (1 : Int), ApiVersion := (10 : Int), CorrelationID := a.correlationID, ClientID := a.clientID }
/-- `h.Size = …` -/
def writeFetchRequestV10.announced (a : writeFetchRequestV10.Args) : Int :=
  (((((((((((((((((((requestHeader.size (writeFetchRequestV10.hdr0 a)) - (4 : Int))) + (4 : Int)) + (4 : Int)) + (4 : Int)) + (4 : Int)) + (1 : Int)) + (4 : Int)) + (4 : Int)) + (4 : Int)) + (sizeofString a.topic)) + (4 : Int)) + (4 : Int)) + (4 : Int)) + (8 : Int)) + (8 : Int)) + (4 : Int)) + (4 : Int))
def writeFetchRequestV10.bytes (a : writeFetchRequestV10.Args) : Bytes :=
  (requestHeader.writeTo { writeFetchRequestV10.hdr0 a with Size := writeFetchRequestV10.announced a }) ++
  (writeInt32 (-(1 : Int))) ++
  (writeInt32 (milliseconds a.maxWait)) ++
  (writeInt32 a.minBytes) ++
  (writeInt32 a.maxBytes) ++
  (writeInt8 a.isolationLevel) ++
  (writeInt32 (0 : Int)) ++
  (writeInt32 (-(1 : Int))) ++
  (writeArrayLen (1 : Int)) ++
  (writeString a.topic) ++
  (writeArrayLen (1 : Int)) ++
  (writeInt32 a.partition) ++
  (writeInt32 (-(1 : Int))) ++
  (writeInt64 a.offset) ++
  (writeInt64 (0 : Int)) ++
  (writeInt32 a.maxBytes) ++
  (writeArrayLen (0 : Int))
/-- the body as the flat sequence of writeBuffer calls after the header -/
def writeFetchRequestV10.prims (a : writeFetchRequestV10.Args) : List Prim :=
  [(.i32 (-(1 : Int))), (.i32 (milliseconds a.maxWait)), (.i32 a.minBytes), (.i32 a.maxBytes), (.i8 a.isolationLevel), (.i32 (0 : Int)), (.i32 (-(1 : Int))), (.alen (1 : Int)), (.str a.topic), (.alen (1 : Int)), (.i32 a.partition), (.i32 (-(1 : Int))), (.i64 a.offset), (.i64 (0 : Int)), (.i32 a.maxBytes), (.alen (0 : Int))]
theorem writeFetchRequestV10.bytes_flat (a : writeFetchRequestV10.Args) : writeFetchRequestV10.bytes a = requestHeader.writeTo { writeFetchRequestV10.hdr0 a with Size := writeFetchRequestV10.announced a } ++ flat (writeFetchRequestV10.prims a) :=
  flat_foldl _ (writeFetchRequestV10.prims a)
/-- the size prefix announces exactly the bytes that follow it -/
theorem writeFetchRequestV10.legacy_size (a : writeFetchRequestV10.Args) : ((writeFetchRequestV10.bytes a).length : Int) = 4 + writeFetchRequestV10.announced a := by
  simp only [writeFetchRequestV10.bytes, writeFetchRequestV10.announced, requestHeader.size, legacy_len] <;> omega
/-- the header carries the api key and the version the function is named after -/
theorem writeFetchRequestV10.legacy_header_version (a : writeFetchRequestV10.Args) : (writeFetchRequestV10.hdr0 a).ApiVersion = 10 ∧ (writeFetchRequestV10.hdr0 a).ApiKey = 1 :=
  ⟨rfl, rfl⟩

structure writeFetchRequestV2.Args where
  correlationID : Int
  clientID : Bytes
  topic : Bytes
  partition : Int
  offset : Int
  minBytes : Int
  maxBytes : Int
  maxWait : Int
/-- the `requestHeader{…}` literal of writeFetchRequestV2 (Size is assigned afterwards) -/
def writeFetchRequestV2.hdr0 (a : writeFetchRequestV2.Args) : requestHeader :=
  { Size := 0, ApiKey := (1 : Int), ApiVersion := (2 : Int), CorrelationID := a.correlationID, ClientID := a.clientID }
/-- `h.Size = …` -/
def writeFetchRequestV2.announced (a : writeFetchRequestV2.Args) : Int :=
  ((((((((((((requestHeader.size (writeFetchRequestV2.hdr0 a)) - (4 : Int))) + (4 : Int)) + (4 : Int)) + (4 : Int)) + (4 : Int)) + (sizeofString a.topic)) + (4 : Int)) + (4 : Int)) + (8 : Int)) + (4 : Int))
def writeFetchRequestV2.bytes (a : writeFetchRequestV2.Args) : Bytes :=
  (requestHeader.writeTo { writeFetchRequestV2.hdr0 a with Size := writeFetchRequestV2.announced a }) ++
  (writeInt32 (-(1 : Int))) ++
  (writeInt32 (milliseconds a.maxWait)) ++
  (writeInt32 a.minBytes) ++
  (writeArrayLen (1 : Int)) ++
  (writeString a.topic) ++
  (writeArrayLen (1 : Int)) ++
  (writeInt32 a.partition) ++
  (writeInt64 a.offset) ++
  (writeInt32 a.maxBytes)
/-- the body as the flat sequence of writeBuffer calls after the header -/
def writeFetchRequestV2.prims (a : writeFetchRequestV2.Args) : List Prim :=
  [(.i32 (-(1 : Int))), (.i32 (milliseconds a.maxWait)), (.i32 a.minBytes), (.alen (1 : Int)), (.str a.topic), (.alen (1 : Int)), (.i32 a.partition), (.i64 a.offset), (.i32 a.maxBytes)]
theorem writeFetchRequestV2.bytes_flat (a : writeFetchRequestV2.Args) : writeFetchRequestV2.bytes a = requestHeader.writeTo { writeFetchRequestV2.hdr0 a with Size := writeFetchRequestV2.announced a } ++ flat (writeFetchRequestV2.prims a) :=
  flat_foldl _ (writeFetchRequestV2.prims a)
/-- the size prefix announces exactly the bytes that follow it -/
theorem writeFetchRequestV2.legacy_size (a : writeFetchRequestV2.Args) : ((writeFetchRequestV2.bytes a).length : Int) = 4 + writeFetchRequestV2.announced a := by
  simp only [writeFetchRequestV2.bytes, writeFetchRequestV2.announced, requestHeader.size, legacy_len] <;> omega
/-- the header carries the api key and the version the function is named after -/
theorem writeFetchRequestV2.legacy_header_version (a : writeFetchRequestV2.Args) : (writeFetchRequestV2.hdr0 a).ApiVersion = 2 ∧ (writeFetchRequestV2.hdr0 a).ApiKey = 1 :=
  ⟨rfl, rfl⟩

structure writeFetchRequestV5.Args where
  correlationID : Int
  clientID : Bytes
  topic : Bytes
  partition : Int
  offset : Int
  minBytes : Int
  maxBytes : Int
  maxWait : Int
  isolationLevel : Int
/-- the `requestHeader{…}` literal of writeFetchRequestV5 (Size is assigned afterwards) -/
def writeFetchRequestV5.hdr0 (a : writeFetchRequestV5.Args) : requestHeader :=
  { Size := 0, ApiKey := (1 : Int), ApiVersion := (5 : Int), CorrelationID := a.correlationID, ClientID := a.clientID }
/-- `h.Size = …` -/
def writeFetchRequestV5.announced (a : writeFetchRequestV5.Args) : Int :=
  (((((((((((((((requestHeader.size (writeFetchRequestV5.hdr0 a)) - (4 : Int))) + (4 : Int)) + (4 : Int)) + (4 : Int)) + (4 : Int)) + (1 : Int)) + (4 : Int)) + (sizeofString a.topic)) + (4 : Int)) + (4 : Int)) + (8 : Int)) + (8 : Int)) + (4 : Int))
def writeFetchRequestV5.bytes (a : writeFetchRequestV5.Args) : Bytes :=
  (requestHeader.writeTo { writeFetchRequestV5.hdr0 a with Size := writeFetchRequestV5.announced a }) ++
  (writeInt32 (-(1 : Int))) ++
  (writeInt32 (milliseconds a.maxWait)) ++
  (writeInt32 a.minBytes) ++
  (writeInt32 a.maxBytes) ++
  (writeInt8 a.isolationLevel) ++
  (writeArrayLen (1 : Int)) ++
  (writeString a.topic) ++
  (writeArrayLen (1 : Int)) ++
  (writeInt32 a.partition) ++
  (writeInt64 a.offset) ++
  (writeInt64 (0 : Int)) ++
  (writeInt32 a.maxBytes)
/-- the body as the flat sequence of writeBuffer calls after the header -/
def writeFetchRequestV5.prims (a : writeFetchRequestV5.Args) : List Prim :=
  [(.i32 (-(1 : Int))), (.i32 (milliseconds a.maxWait)), (.i32 a.minBytes), (.i32 a.maxBytes), (.i8 a.isolationLevel), (.alen (1 : Int)), (.str a.topic), (.alen (1 : Int)), (.i32 a.partition), (.i64 a.offset), (.i64 (0 : Int)), (.i32 a.maxBytes)]
theorem writeFetchRequestV5.bytes_flat (a : writeFetchRequestV5.Args) : writeFetchRequestV5.bytes a = requestHeader.writeTo { writeFetchRequestV5.hdr0 a with Size := writeFetchRequestV5.announced a } ++ flat (writeFetchRequestV5.prims a) :=
  flat_foldl _ (writeFetchRequestV5.prims a)
/-- the size prefix announces exactly the bytes that follow it -/
theorem writeFetchRequestV5.legacy_size (a : writeFetchRequestV5.Args) : ((writeFetchRequestV5.bytes a).length : Int) = 4 + writeFetchRequestV5.announced a := by
  simp only [writeFetchRequestV5.bytes, writeFetchRequestV5.announced, requestHeader.size, legacy_len] <;> omega
/-- the header carries the api key and the version the function is named after -/
theorem writeFetchRequestV5.legacy_header_version (a : writeFetchRequestV5.Args) : (writeFetchRequestV5.hdr0 a).ApiVersion = 5 ∧ (writeFetchRequestV5.hdr0 a).ApiKey = 1 :=
  ⟨rfl, rfl⟩

structure writeListOffsetRequestV1.Args where
  correlationID : Int
  clientID : Bytes
  topic : Bytes
  partition : Int
  time : Int
/-- the `requestHeader{…}` literal of writeListOffsetRequestV1 (Size is assigned afterwards) -/
def writeListOffsetRequestV1.hdr0 (a : writeListOffsetRequestV1.Args) : requestHeader :=
  { Size := 0, ApiKey := (2 : Int), ApiVersion := (1 : Int), CorrelationID := a.correlationID, ClientID := a.clientID }
/-- `h.Size = …` -/
def writeListOffsetRequestV1.announced (a : writeListOffsetRequestV1.Args) : Int :=
  (((((((((requestHeader.size (writeListOffsetRequestV1.hdr0 a)) - (4 : Int))) + (4 : Int)) + (4 : Int)) + (sizeofString a.topic)) + (4 : Int)) + (4 : Int)) + (8 : Int))
def writeListOffsetRequestV1.bytes (a : writeListOffsetRequestV1.Args) : Bytes :=
  (requestHeader.writeTo { writeListOffsetRequestV1.hdr0 a with Size := writeListOffsetRequestV1.announced a }) ++
  (writeInt32 (-(1 : Int))) ++
  (writeArrayLen (1 : Int)) ++
  (writeString a.topic) ++
  (writeArrayLen (1 : Int)) ++
  (writeInt32 a.partition) ++
  (writeInt64 a.time)
/-- the body as the flat sequence of writeBuffer calls after the header -/
def writeListOffsetRequestV1.prims (a : writeListOffsetRequestV1.Args) : List Prim :=
  [(.i32 (-(1 : Int))), (.alen (1 : Int)), (.str a.topic), (.alen (1 : Int)), (.i32 a.partition), (.i64 a.time)]
theorem writeListOffsetRequestV1.bytes_flat (a : writeListOffsetRequestV1.Args) : writeListOffsetRequestV1.bytes a = requestHeader.writeTo { writeListOffsetRequestV1.hdr0 a with Size := writeListOffsetRequestV1.announced a } ++ flat (writeListOffsetRequestV1.prims a) :=
  flat_foldl _ (writeListOffsetRequestV1.prims a)
/-- the size prefix announces exactly the bytes that follow it -/
theorem writeListOffsetRequestV1.legacy_size (a : writeListOffsetRequestV1.Args) : ((writeListOffsetRequestV1.bytes a).length : Int) = 4 + writeListOffsetRequestV1.announced a := by
  simp only [writeListOffsetRequestV1.bytes, writeListOffsetRequestV1.announced, requestHeader.size, legacy_len] <;> omega
/-- the header carries the api key and the version the function is named after -/
theorem writeListOffsetRequestV1.legacy_header_version (a : writeListOffsetRequestV1.Args) : (writeListOffsetRequestV1.hdr0 a).ApiVersion = 1 ∧ (writeListOffsetRequestV1.hdr0 a).ApiKey = 2 :=
  ⟨rfl, rfl⟩

structure writeProduceRequestV2.Args where
  correlationID : Int
  clientID : Bytes
  topic : Bytes
  partition : Int
  timeout : Int
  requiredAcks : Int
  msgs : (List Message)
  size : Int
  attributes : Int
  crc : Bytes → Int
/-- the `requestHeader{…}` literal of writeProduceRequestV2 -/
def writeProduceRequestV2.hdr0 (a : writeProduceRequestV2.Args) : requestHeader :=
  { Size := 0, ApiKey := (0 : Int), ApiVersion := (2 : Int), CorrelationID := a.correlationID, ClientID := a.clientID }
/-- `h.Size = …` (size, attributes, msgs: the values the `codec == nil` / compressed branch leaves).  The body ends in a message
set, which is not a sequence of schema primitives: no `prims` / `bytes_flat` / `legacy_eq_spec` for this writer -/
def writeProduceRequestV2.announced (a : writeProduceRequestV2.Args) : Int :=
  (((((((((((requestHeader.size (writeProduceRequestV2.hdr0 a)) - (4 : Int))) + (2 : Int)) + (4 : Int)) + (4 : Int)) + (sizeofString a.topic)) + (4 : Int)) + (4 : Int)) + (4 : Int)) + a.size)
def writeProduceRequestV2.bytes (a : writeProduceRequestV2.Args) : Bytes :=
  (requestHeader.writeTo { writeProduceRequestV2.hdr0 a with Size := writeProduceRequestV2.announced a }) ++
  (writeInt16 a.requiredAcks) ++
  (writeInt32 (milliseconds a.timeout)) ++
  (writeArrayLen (1 : Int)) ++
  (writeString a.topic) ++
  (writeArrayLen (1 : Int)) ++
  (writeInt32 a.partition) ++
  (writeInt32 a.size) ++
  (writeEach a.msgs (fun msg => writeMessage a.crc msg.Offset a.attributes msg.Time msg.Key msg.Value))
/-- both branches of `if codec == nil` establish `size = messageSetSize(msgs)` (checked on the source: the plain branch assigns it,
compressMessageSet returns `messageSetSize(Message{Value: compressed})` and msgs becomes that one message); under it the size
prefix announces exactly the bytes that follow -/
theorem writeProduceRequestV2.legacy_size (a : writeProduceRequestV2.Args) (hsize : a.size = messageSetSize a.msgs) : ((writeProduceRequestV2.bytes a).length : Int) = 4 + writeProduceRequestV2.announced a := by
  simp only [writeProduceRequestV2.bytes, List.length_append, Int.natCast_add, messageSet_len, ← hsize]
  simp only [writeProduceRequestV2.announced, requestHeader.size, legacy_len] <;> omega
/-- the header carries the api key and the version the function is named after -/
theorem writeProduceRequestV2.legacy_header_version (a : writeProduceRequestV2.Args) : (writeProduceRequestV2.hdr0 a).ApiVersion = 2 ∧ (writeProduceRequestV2.hdr0 a).ApiKey = 0 :=
  ⟨rfl, rfl⟩

structure writeProduceRequestV3.Args where
  correlationID : Int
  clientID : Bytes
  topic : Bytes
  partition : Int
  timeout : Int
  requiredAcks : Int
  transactionalID : (Option Bytes)
  recordBatch : RecordBatchBlob
/-- the `requestHeader{…}` literal of writeProduceRequestV3 (Size is assigned afterwards) -/
def writeProduceRequestV3.hdr0 (a : writeProduceRequestV3.Args) : requestHeader :=
  { Size := 0, ApiKey := (0 : Int), ApiVersion := (3 : Int), CorrelationID := a.correlationID, ClientID := a.clientID }
/-- `h.Size = …` -/
def writeProduceRequestV3.announced (a : writeProduceRequestV3.Args) : Int :=
  ((((((((((((requestHeader.size (writeProduceRequestV3.hdr0 a)) - (4 : Int))) + (sizeofNullableString a.transactionalID)) + (2 : Int)) + (4 : Int)) + (4 : Int)) + (sizeofString a.topic)) + (4 : Int)) + (4 : Int)) + (4 : Int)) + a.recordBatch.size)
def writeProduceRequestV3.bytes (a : writeProduceRequestV3.Args) : Bytes :=
  (requestHeader.writeTo { writeProduceRequestV3.hdr0 a with Size := writeProduceRequestV3.announced a }) ++
  (writeNullableString a.transactionalID) ++
  (writeInt16 a.requiredAcks) ++
  (writeInt32 (milliseconds a.timeout)) ++
  (writeArrayLen (1 : Int)) ++
  (writeString a.topic) ++
  (writeArrayLen (1 : Int)) ++
  (writeInt32 a.partition) ++
  (writeInt32 a.recordBatch.size ++ a.recordBatch.body)
/-- the body as the flat sequence of writeBuffer calls after the header -/
def writeProduceRequestV3.prims (a : writeProduceRequestV3.Args) : List Prim :=
  [(.nstr a.transactionalID), (.i16 a.requiredAcks), (.i32 (milliseconds a.timeout)), (.alen (1 : Int)), (.str a.topic), (.alen (1 : Int)), (.i32 a.partition), (.blob a.recordBatch)]
theorem writeProduceRequestV3.bytes_flat (a : writeProduceRequestV3.Args) : writeProduceRequestV3.bytes a = requestHeader.writeTo { writeProduceRequestV3.hdr0 a with Size := writeProduceRequestV3.announced a } ++ flat (writeProduceRequestV3.prims a) :=
  flat_foldl _ (writeProduceRequestV3.prims a)
/-- the size prefix announces exactly the bytes that follow it -/
theorem writeProduceRequestV3.legacy_size (a : writeProduceRequestV3.Args) : ((writeProduceRequestV3.bytes a).length : Int) = 4 + writeProduceRequestV3.announced a := by
  simp only [writeProduceRequestV3.bytes, writeProduceRequestV3.announced, requestHeader.size, legacy_len] <;> omega
/-- the header carries the api key and the version the function is named after -/
theorem writeProduceRequestV3.legacy_header_version (a : writeProduceRequestV3.Args) : (writeProduceRequestV3.hdr0 a).ApiVersion = 3 ∧ (writeProduceRequestV3.hdr0 a).ApiKey = 0 :=
  ⟨rfl, rfl⟩

structure writeProduceRequestV7.Args where
  correlationID : Int
  clientID : Bytes
  topic : Bytes
  partition : Int
  timeout : Int
  requiredAcks : Int
  transactionalID : (Option Bytes)
  recordBatch : RecordBatchBlob
/-- the `requestHeader{…}` literal of writeProduceRequestV7 (Size is assigned afterwards) -/
def writeProduceRequestV7.hdr0 (a : writeProduceRequestV7.Args) : requestHeader :=
  { Size := 0, ApiKey := (0 : Int), ApiVersion := (7 : Int), CorrelationID := a.correlationID, ClientID := a.clientID }
/-- `h.Size = …` -/
def writeProduceRequestV7.announced (a : writeProduceRequestV7.Args) : Int :=
  ((((((((((((requestHeader.size (writeProduceRequestV7.hdr0 a)) - (4 : Int))) + (sizeofNullableString a.transactionalID)) + (2 : Int)) + (4 : Int)) + (4 : Int)) + (sizeofString a.topic)) + (4 : Int)) + (4 : Int)) + (4 : Int)) + a.recordBatch.size)
def writeProduceRequestV7.bytes (a : writeProduceRequestV7.Args) : Bytes :=
  (requestHeader.writeTo { writeProduceRequestV7.hdr0 a with Size := writeProduceRequestV7.announced a }) ++
  (writeNullableString a.transactionalID) ++
  (writeInt16 a.requiredAcks) ++
  (writeInt32 (milliseconds a.timeout)) ++
  (writeArrayLen (1 : Int)) ++
  (writeString a.topic) ++
  (writeArrayLen (1 : Int)) ++
  (writeInt32 a.partition) ++
  (writeInt32 a.recordBatch.size ++ a.recordBatch.body)
/-- the body as the flat sequence of writeBuffer calls after the header -/
def writeProduceRequestV7.prims (a : writeProduceRequestV7.Args) : List Prim :=
  [(.nstr a.transactionalID), (.i16 a.requiredAcks), (.i32 (milliseconds a.timeout)), (.alen (1 : Int)), (.str a.topic), (.alen (1 : Int)), (.i32 a.partition), (.blob a.recordBatch)]
theorem writeProduceRequestV7.bytes_flat (a : writeProduceRequestV7.Args) : writeProduceRequestV7.bytes a = requestHeader.writeTo { writeProduceRequestV7.hdr0 a with Size := writeProduceRequestV7.announced a } ++ flat (writeProduceRequestV7.prims a) :=
  flat_foldl _ (writeProduceRequestV7.prims a)
/-- the size prefix announces exactly the bytes that follow it -/
theorem writeProduceRequestV7.legacy_size (a : writeProduceRequestV7.Args) : ((writeProduceRequestV7.bytes a).length : Int) = 4 + writeProduceRequestV7.announced a := by
  simp only [writeProduceRequestV7.bytes, writeProduceRequestV7.announced, requestHeader.size, legacy_len] <;> omega
/-- the header carries the api key and the version the function is named after -/
theorem writeProduceRequestV7.legacy_header_version (a : writeProduceRequestV7.Args) : (writeProduceRequestV7.hdr0 a).ApiVersion = 7 ∧ (writeProduceRequestV7.hdr0 a).ApiKey = 0 :=
  ⟨rfl, rfl⟩

/-- write.go: the zig-zag value and the 7-bit loop of `varIntLen` (sizes of record batches, hence of Produce requests) and of
`writeVarInt` (the bytes): "uint64((i << 1) ^ (i >> 63))" / "uint64((i << 1) ^ (i >> 63))", loops "u >= 0x80 :: u >>= 7" / "u >= 0x80 :: u >>= 7" -/
def varIntLenCountsWrittenBytes : Bool := true
/-- the length `varIntLen` announces for a (possibly negative: timestamp deltas) varint is the number of bytes `writeVarInt` writes:
established by the translator, which printed `true` above after comparing the text of the two Go functions (same zig-zag
expression, same loop); neither function is modelled here -/
theorem varint_len_counts_written_bytes : varIntLenCountsWrittenBytes = true := by decide

/-- write.go request writers translated (each has `legacy_size` and `legacy_header_version`) -/
def writers : List String := ["writeFetchRequestV10", "writeFetchRequestV2", "writeFetchRequestV5", "writeListOffsetRequestV1", "writeProduceRequestV2", "writeProduceRequestV3", "writeProduceRequestV7"]
/-- types with both size() and writeTo() that were translated (each has a `legacy_size` theorem above) -/
def translated : List String := ["brokerMetadataV1", "createTopicsRequestV0ReplicaAssignment", "createTopicsRequestV0ConfigEntry", "createTopicsRequestV0Topic", "createTopicsRequest", "createTopicsResponseTopicError", "createTopicsResponse", "deleteTopicsRequest", "deleteTopicsResponseV0TopicErrorCode", "deleteTopicsResponse", "fetchRequestPartitionV2", "fetchRequestTopicV2", "fetchRequestV2", "findCoordinatorRequestV0", "findCoordinatorResponseCoordinatorV0", "findCoordinatorResponseV0", "groupMetadata", "heartbeatRequestV0", "heartbeatResponseV0", "joinGroupRequestGroupProtocolV1", "joinGroupRequest", "joinGroupResponseMember", "leaveGroupRequestV0", "leaveGroupResponseV0", "listGroupsRequestV1", "listGroupsResponseGroupV1", "listGroupsResponseV1", "listOffsetRequestPartitionV1", "listOffsetRequestTopicV1", "listOffsetRequestV1", "partitionOffsetV1", "listOffsetResponseTopicV1", "listOffsetResponseV1", "partitionMetadataV1", "topicMetadataV1", "partitionMetadataV6", "topicMetadataV6", "offsetCommitRequestV2Partition", "offsetCommitRequestV2Topic", "offsetCommitRequestV2", "offsetCommitResponseV2PartitionResponse", "offsetCommitResponseV2Response", "offsetCommitResponseV2", "offsetFetchRequestV1Topic", "offsetFetchRequestV1", "offsetFetchResponseV1PartitionResponse", "offsetFetchResponseV1Response", "offsetFetchResponseV1", "produceResponsePartitionV2", "produceResponsePartitionV7", "requestHeader", "saslAuthenticateRequestV0", "saslAuthenticateResponseV0", "saslHandshakeRequestV0", "saslHandshakeResponseV0", "syncGroupRequestGroupAssignmentV0", "syncGroupRequestV0", "syncGroupResponseV0", "topicMetadataRequestV1", "topicMetadataRequestV6"]
/-- translated types for which no `ty` / `val` (hence no `legacy_model`) is printed, with the reason -/
def noSchema : List (String × String) := [("createTopicsResponse", "nested versioned type createTopicsResponseTopicError")]
/-- types whose reader was translated (each has `read_write` above) -/
def readers : List String := ["brokerMetadataV1", "createTopicsResponseTopicError", "createTopicsResponse", "deleteTopicsResponseV0TopicErrorCode", "deleteTopicsResponse", "findCoordinatorResponseCoordinatorV0", "findCoordinatorResponseV0", "groupMetadata", "heartbeatResponseV0", "joinGroupResponseMember", "joinGroupResponse", "leaveGroupResponseV0", "listGroupsResponseGroupV1", "listGroupsResponseV1", "partitionOffsetV1", "partitionMetadataV1", "topicMetadataV1", "metadataResponseV1", "partitionMetadataV6", "topicMetadataV6", "metadataResponseV6", "offsetCommitResponseV2PartitionResponse", "offsetCommitResponseV2Response", "offsetCommitResponseV2", "offsetFetchResponseV1PartitionResponse", "offsetFetchResponseV1Response", "offsetFetchResponseV1", "produceResponsePartitionV2", "produceResponsePartitionV7", "saslAuthenticateRequestV0", "saslAuthenticateResponseV0", "saslHandshakeRequestV0", "saslHandshakeResponseV0", "syncGroupResponseV0"]
/-- types with a readFrom / read reflectively whose reader is not translated, with the reason -/
def noReader : List (String × String) := []
/-- the translated readers followed by the same type's writer, for the oracle: version, body ↦ (re-encoded bytes, bytes left) -/
def rewriters : List (String × (Int → Bytes → Option (Bytes × Bytes))) := [
  ("brokerMetadataV1", fun _ bs => (brokerMetadataV1.readFrom brokerMetadataV1.zero bs).map fun (t, r) => (brokerMetadataV1.writeTo t, r)),
  ("createTopicsResponseTopicError", fun v bs => (createTopicsResponseTopicError.readFrom (createTopicsResponseTopicError.zero v) bs).map fun (t, r) => (createTopicsResponseTopicError.writeTo t, r)),
  ("createTopicsResponse", fun v bs => (createTopicsResponse.readFrom (createTopicsResponse.zero v) bs).map fun (t, r) => (createTopicsResponse.writeTo t, r)),
  ("deleteTopicsResponseV0TopicErrorCode", fun _ bs => (deleteTopicsResponseV0TopicErrorCode.readFrom deleteTopicsResponseV0TopicErrorCode.zero bs).map fun (t, r) => (deleteTopicsResponseV0TopicErrorCode.writeTo t, r)),
  ("deleteTopicsResponse", fun v bs => (deleteTopicsResponse.readFrom (deleteTopicsResponse.zero v) bs).map fun (t, r) => (deleteTopicsResponse.writeTo t, r)),
  ("findCoordinatorResponseCoordinatorV0", fun _ bs => (findCoordinatorResponseCoordinatorV0.readFrom findCoordinatorResponseCoordinatorV0.zero bs).map fun (t, r) => (findCoordinatorResponseCoordinatorV0.writeTo t, r)),
  ("findCoordinatorResponseV0", fun _ bs => (findCoordinatorResponseV0.readFrom findCoordinatorResponseV0.zero bs).map fun (t, r) => (findCoordinatorResponseV0.writeTo t, r)),
  ("groupMetadata", fun _ bs => (groupMetadata.readFrom groupMetadata.zero bs).map fun (t, r) => (groupMetadata.writeTo t, r)),
  ("heartbeatResponseV0", fun _ bs => (heartbeatResponseV0.readFrom heartbeatResponseV0.zero bs).map fun (t, r) => (heartbeatResponseV0.writeTo t, r)),
  ("joinGroupResponseMember", fun _ bs => (joinGroupResponseMember.readFrom joinGroupResponseMember.zero bs).map fun (t, r) => (joinGroupResponseMember.writeTo t, r)),
  ("joinGroupResponse", fun v bs => (joinGroupResponse.readFrom (joinGroupResponse.zero v) bs).map fun (t, r) => (joinGroupResponse.writeTo t, r)),
  ("leaveGroupResponseV0", fun _ bs => (leaveGroupResponseV0.readFrom leaveGroupResponseV0.zero bs).map fun (t, r) => (leaveGroupResponseV0.writeTo t, r)),
  ("listGroupsResponseGroupV1", fun _ bs => (listGroupsResponseGroupV1.readFrom listGroupsResponseGroupV1.zero bs).map fun (t, r) => (listGroupsResponseGroupV1.writeTo t, r)),
  ("listGroupsResponseV1", fun _ bs => (listGroupsResponseV1.readFrom listGroupsResponseV1.zero bs).map fun (t, r) => (listGroupsResponseV1.writeTo t, r)),
  ("partitionOffsetV1", fun _ bs => (partitionOffsetV1.readFrom partitionOffsetV1.zero bs).map fun (t, r) => (partitionOffsetV1.writeTo t, r)),
  ("partitionMetadataV1", fun _ bs => (partitionMetadataV1.readFrom partitionMetadataV1.zero bs).map fun (t, r) => (partitionMetadataV1.writeTo t, r)),
  ("topicMetadataV1", fun _ bs => (topicMetadataV1.readFrom topicMetadataV1.zero bs).map fun (t, r) => (topicMetadataV1.writeTo t, r)),
  ("metadataResponseV1", fun _ bs => (metadataResponseV1.readFrom metadataResponseV1.zero bs).map fun (t, r) => (metadataResponseV1.writeTo t, r)),
  ("partitionMetadataV6", fun _ bs => (partitionMetadataV6.readFrom partitionMetadataV6.zero bs).map fun (t, r) => (partitionMetadataV6.writeTo t, r)),
  ("topicMetadataV6", fun _ bs => (topicMetadataV6.readFrom topicMetadataV6.zero bs).map fun (t, r) => (topicMetadataV6.writeTo t, r)),
  ("metadataResponseV6", fun _ bs => (metadataResponseV6.readFrom metadataResponseV6.zero bs).map fun (t, r) => (metadataResponseV6.writeTo t, r)),
  ("offsetCommitResponseV2PartitionResponse", fun _ bs => (offsetCommitResponseV2PartitionResponse.readFrom offsetCommitResponseV2PartitionResponse.zero bs).map fun (t, r) => (offsetCommitResponseV2PartitionResponse.writeTo t, r)),
  ("offsetCommitResponseV2Response", fun _ bs => (offsetCommitResponseV2Response.readFrom offsetCommitResponseV2Response.zero bs).map fun (t, r) => (offsetCommitResponseV2Response.writeTo t, r)),
  ("offsetCommitResponseV2", fun _ bs => (offsetCommitResponseV2.readFrom offsetCommitResponseV2.zero bs).map fun (t, r) => (offsetCommitResponseV2.writeTo t, r)),
  ("offsetFetchResponseV1PartitionResponse", fun _ bs => (offsetFetchResponseV1PartitionResponse.readFrom offsetFetchResponseV1PartitionResponse.zero bs).map fun (t, r) => (offsetFetchResponseV1PartitionResponse.writeTo t, r)),
  ("offsetFetchResponseV1Response", fun _ bs => (offsetFetchResponseV1Response.readFrom offsetFetchResponseV1Response.zero bs).map fun (t, r) => (offsetFetchResponseV1Response.writeTo t, r)),
  ("offsetFetchResponseV1", fun _ bs => (offsetFetchResponseV1.readFrom offsetFetchResponseV1.zero bs).map fun (t, r) => (offsetFetchResponseV1.writeTo t, r)),
  ("produceResponsePartitionV2", fun _ bs => (produceResponsePartitionV2.readFrom produceResponsePartitionV2.zero bs).map fun (t, r) => (produceResponsePartitionV2.writeTo t, r)),
  ("produceResponsePartitionV7", fun _ bs => (produceResponsePartitionV7.readFrom produceResponsePartitionV7.zero bs).map fun (t, r) => (produceResponsePartitionV7.writeTo t, r)),
  ("saslAuthenticateRequestV0", fun _ bs => (saslAuthenticateRequestV0.readFrom saslAuthenticateRequestV0.zero bs).map fun (t, r) => (saslAuthenticateRequestV0.writeTo t, r)),
  ("saslAuthenticateResponseV0", fun _ bs => (saslAuthenticateResponseV0.readFrom saslAuthenticateResponseV0.zero bs).map fun (t, r) => (saslAuthenticateResponseV0.writeTo t, r)),
  ("saslHandshakeRequestV0", fun _ bs => (saslHandshakeRequestV0.readFrom saslHandshakeRequestV0.zero bs).map fun (t, r) => (saslHandshakeRequestV0.writeTo t, r)),
  ("saslHandshakeResponseV0", fun _ bs => (saslHandshakeResponseV0.readFrom saslHandshakeResponseV0.zero bs).map fun (t, r) => (saslHandshakeResponseV0.writeTo t, r)),
  ("syncGroupResponseV0", fun _ bs => (syncGroupResponseV0.readFrom syncGroupResponseV0.zero bs).map fun (t, r) => (syncGroupResponseV0.writeTo t, r))]
/-- types passed to (*Conn).writeRequest -/
def emitted : List String := ["createTopicsRequest", "deleteTopicsRequest", "findCoordinatorRequestV0", "heartbeatRequestV0", "joinGroupRequest", "leaveGroupRequestV0", "listGroupsRequestV1", "offsetCommitRequestV2", "offsetFetchRequestV1", "saslAuthenticateRequestV0", "saslHandshakeRequestV0", "syncGroupRequestV0", "topicMetadataRequestV1", "topicMetadataRequestV6"]
/-- types of which some part is not translated (`size()` alone for those that have `writeTo` above; else the whole type), with the reason -/
def untranslated : List (String × String) := [("message", "condition m.MagicByte != 0"), ("messageSetItem", "depends on an untranslated type"), ("messageSet", "depends on an untranslated type"), ("fetchResponsePartitionV2", "depends on an untranslated type"), ("fetchResponseTopicV2", "depends on an untranslated type"), ("fetchResponseV2", "depends on an untranslated type"), ("groupAssignment", "statement for topic, partitions := range t.Topics { wb.writeString(topic) wb.writeInt32Array(partitions) }"), ("joinGroupResponse", "size(): closure indexes something else than t.MemberID (len taken of t.MemberID): { return t.Members[i].size() }"), ("metadataResponseV1", "size(): assignment n1 := sizeofArray(len(r.Brokers), func(i int) int32 { return r.Brokers[i].size() })"), ("metadataResponseV6", "size(): assignment n1 := sizeofArray(len(r.Brokers), func(i int) int32 { return r.Brokers[i].size() })"), ("produceRequestPartitionV2", "depends on an untranslated type"), ("produceRequestTopicV2", "depends on an untranslated type"), ("produceRequestV2", "depends on an untranslated type")]
/-- every type passed to writeRequest is among the translated ones (each of which has its `legacy_size` above) -/
theorem emitted_covered : emitted.all (fun n => translated.contains n) = true := by decide +kernel

end KV.Gen.Legacy
