-- GENERATED by /verif/go/extract (legacy) from /repo/*.go — do not edit
import KafkaVerif.Lemmas.LegacyFrame
namespace KV.Gen.Legacy
open KV KV.Legacy KV.Codec

/-! ### `T.legacy_eq_spec_vK`: what `(*Conn).writeRequest` sends for `T` under an api key and version is the reference encoding

The golden table is asked with the writer's own type `T.ty t` as hint: the nullable flags the table leaves open (`unsure`) follow the
hint, so agreement on those is by construction; the rest of the schema is compared (`Ty.beq`) up to `Spec.denull`, Conn writing every
string non-null. -/

/-- createTopicsRequest sent as api key 19 version 0 -/
theorem createTopicsRequest.legacy_eq_spec_v0 (t : createTopicsRequest) (hv : t.v = 0) (hwt : wt (createTopicsRequest.ty t) (createTopicsRequest.val t) = true) :
    ∃ g, Spec.goldenTy 19 true 0 (createTopicsRequest.ty t) = some g ∧ createTopicsRequest.writeTo t = Spec.encode (Spec.denull g) (createTopicsRequest.val t) :=
  eq_spec_of (by simp only [createTopicsRequest.ty, hv]; decide +kernel) (createTopicsRequest.legacy_model t) (by simp only [createTopicsRequest.ty, hv]; decide +kernel) hwt

/-- createTopicsRequest sent as api key 19 version 1 -/
theorem createTopicsRequest.legacy_eq_spec_v1 (t : createTopicsRequest) (hv : t.v = 1) (hwt : wt (createTopicsRequest.ty t) (createTopicsRequest.val t) = true) :
    ∃ g, Spec.goldenTy 19 true 1 (createTopicsRequest.ty t) = some g ∧ createTopicsRequest.writeTo t = Spec.encode (Spec.denull g) (createTopicsRequest.val t) :=
  eq_spec_of (by simp only [createTopicsRequest.ty, hv]; decide +kernel) (createTopicsRequest.legacy_model t) (by simp only [createTopicsRequest.ty, hv]; decide +kernel) hwt

/-- createTopicsRequest sent as api key 19 version 2 -/
theorem createTopicsRequest.legacy_eq_spec_v2 (t : createTopicsRequest) (hv : t.v = 2) (hwt : wt (createTopicsRequest.ty t) (createTopicsRequest.val t) = true) :
    ∃ g, Spec.goldenTy 19 true 2 (createTopicsRequest.ty t) = some g ∧ createTopicsRequest.writeTo t = Spec.encode (Spec.denull g) (createTopicsRequest.val t) :=
  eq_spec_of (by simp only [createTopicsRequest.ty, hv]; decide +kernel) (createTopicsRequest.legacy_model t) (by simp only [createTopicsRequest.ty, hv]; decide +kernel) hwt

/-- deleteTopicsRequest sent as api key 20 version 0 -/
theorem deleteTopicsRequest.legacy_eq_spec_v0 (t : deleteTopicsRequest) (hwt : wt (deleteTopicsRequest.ty t) (deleteTopicsRequest.val t) = true) :
    ∃ g, Spec.goldenTy 20 true 0 (deleteTopicsRequest.ty t) = some g ∧ deleteTopicsRequest.writeTo t = Spec.encode (Spec.denull g) (deleteTopicsRequest.val t) :=
  eq_spec_of (by simp only [deleteTopicsRequest.ty]; decide +kernel) (deleteTopicsRequest.legacy_model t) (by simp only [deleteTopicsRequest.ty]; decide +kernel) hwt

/-- deleteTopicsRequest sent as api key 20 version 1 -/
theorem deleteTopicsRequest.legacy_eq_spec_v1 (t : deleteTopicsRequest) (hwt : wt (deleteTopicsRequest.ty t) (deleteTopicsRequest.val t) = true) :
    ∃ g, Spec.goldenTy 20 true 1 (deleteTopicsRequest.ty t) = some g ∧ deleteTopicsRequest.writeTo t = Spec.encode (Spec.denull g) (deleteTopicsRequest.val t) :=
  eq_spec_of (by simp only [deleteTopicsRequest.ty]; decide +kernel) (deleteTopicsRequest.legacy_model t) (by simp only [deleteTopicsRequest.ty]; decide +kernel) hwt

/-- findCoordinatorRequestV0 sent as api key 10 version 0 -/
theorem findCoordinatorRequestV0.legacy_eq_spec_v0 (t : findCoordinatorRequestV0) (hwt : wt (findCoordinatorRequestV0.ty t) (findCoordinatorRequestV0.val t) = true) :
    ∃ g, Spec.goldenTy 10 true 0 (findCoordinatorRequestV0.ty t) = some g ∧ findCoordinatorRequestV0.writeTo t = Spec.encode (Spec.denull g) (findCoordinatorRequestV0.val t) :=
  eq_spec_of (by simp only [findCoordinatorRequestV0.ty]; decide +kernel) (findCoordinatorRequestV0.legacy_model t) (by simp only [findCoordinatorRequestV0.ty]; decide +kernel) hwt

/-- heartbeatRequestV0 sent as api key 12 version 0 -/
theorem heartbeatRequestV0.legacy_eq_spec_v0 (t : heartbeatRequestV0) (hwt : wt (heartbeatRequestV0.ty t) (heartbeatRequestV0.val t) = true) :
    ∃ g, Spec.goldenTy 12 true 0 (heartbeatRequestV0.ty t) = some g ∧ heartbeatRequestV0.writeTo t = Spec.encode (Spec.denull g) (heartbeatRequestV0.val t) :=
  eq_spec_of (by simp only [heartbeatRequestV0.ty]; decide +kernel) (heartbeatRequestV0.legacy_model t) (by simp only [heartbeatRequestV0.ty]; decide +kernel) hwt

/-- joinGroupRequest sent as api key 11 version 1 -/
theorem joinGroupRequest.legacy_eq_spec_v1 (t : joinGroupRequest) (hwt : wt (joinGroupRequest.ty t) (joinGroupRequest.val t) = true) :
    ∃ g, Spec.goldenTy 11 true 1 (joinGroupRequest.ty t) = some g ∧ joinGroupRequest.writeTo t = Spec.encode (Spec.denull g) (joinGroupRequest.val t) :=
  eq_spec_of (by simp only [joinGroupRequest.ty]; decide +kernel) (joinGroupRequest.legacy_model t) (by simp only [joinGroupRequest.ty]; decide +kernel) hwt

/-- joinGroupRequest sent as api key 11 version 2 -/
theorem joinGroupRequest.legacy_eq_spec_v2 (t : joinGroupRequest) (hwt : wt (joinGroupRequest.ty t) (joinGroupRequest.val t) = true) :
    ∃ g, Spec.goldenTy 11 true 2 (joinGroupRequest.ty t) = some g ∧ joinGroupRequest.writeTo t = Spec.encode (Spec.denull g) (joinGroupRequest.val t) :=
  eq_spec_of (by simp only [joinGroupRequest.ty]; decide +kernel) (joinGroupRequest.legacy_model t) (by simp only [joinGroupRequest.ty]; decide +kernel) hwt

/-- leaveGroupRequestV0 sent as api key 13 version 0 -/
theorem leaveGroupRequestV0.legacy_eq_spec_v0 (t : leaveGroupRequestV0) (hwt : wt (leaveGroupRequestV0.ty t) (leaveGroupRequestV0.val t) = true) :
    ∃ g, Spec.goldenTy 13 true 0 (leaveGroupRequestV0.ty t) = some g ∧ leaveGroupRequestV0.writeTo t = Spec.encode (Spec.denull g) (leaveGroupRequestV0.val t) :=
  eq_spec_of (by simp only [leaveGroupRequestV0.ty]; decide +kernel) (leaveGroupRequestV0.legacy_model t) (by simp only [leaveGroupRequestV0.ty]; decide +kernel) hwt

/-- listGroupsRequestV1 sent as api key 16 version 1 -/
theorem listGroupsRequestV1.legacy_eq_spec_v1 (t : listGroupsRequestV1) (hwt : wt (listGroupsRequestV1.ty t) (listGroupsRequestV1.val t) = true) :
    ∃ g, Spec.goldenTy 16 true 1 (listGroupsRequestV1.ty t) = some g ∧ listGroupsRequestV1.writeTo t = Spec.encode (Spec.denull g) (listGroupsRequestV1.val t) :=
  eq_spec_of (by simp only [listGroupsRequestV1.ty]; decide +kernel) (listGroupsRequestV1.legacy_model t) (by simp only [listGroupsRequestV1.ty]; decide +kernel) hwt

/-- offsetCommitRequestV2 sent as api key 8 version 2 -/
theorem offsetCommitRequestV2.legacy_eq_spec_v2 (t : offsetCommitRequestV2) (hwt : wt (offsetCommitRequestV2.ty t) (offsetCommitRequestV2.val t) = true) :
    ∃ g, Spec.goldenTy 8 true 2 (offsetCommitRequestV2.ty t) = some g ∧ offsetCommitRequestV2.writeTo t = Spec.encode (Spec.denull g) (offsetCommitRequestV2.val t) :=
  eq_spec_of (by simp only [offsetCommitRequestV2.ty]; decide +kernel) (offsetCommitRequestV2.legacy_model t) (by simp only [offsetCommitRequestV2.ty]; decide +kernel) hwt

/-- offsetFetchRequestV1 sent as api key 9 version 1 -/
theorem offsetFetchRequestV1.legacy_eq_spec_v1 (t : offsetFetchRequestV1) (hwt : wt (offsetFetchRequestV1.ty t) (offsetFetchRequestV1.val t) = true) :
    ∃ g, Spec.goldenTy 9 true 1 (offsetFetchRequestV1.ty t) = some g ∧ offsetFetchRequestV1.writeTo t = Spec.encode (Spec.denull g) (offsetFetchRequestV1.val t) :=
  eq_spec_of (by simp only [offsetFetchRequestV1.ty]; decide +kernel) (offsetFetchRequestV1.legacy_model t) (by simp only [offsetFetchRequestV1.ty]; decide +kernel) hwt

/-- saslAuthenticateRequestV0 sent as api key 36 version 0 -/
theorem saslAuthenticateRequestV0.legacy_eq_spec_v0 (t : saslAuthenticateRequestV0) (hwt : wt (saslAuthenticateRequestV0.ty t) (saslAuthenticateRequestV0.val t) = true) :
    ∃ g, Spec.goldenTy 36 true 0 (saslAuthenticateRequestV0.ty t) = some g ∧ saslAuthenticateRequestV0.writeTo t = Spec.encode (Spec.denull g) (saslAuthenticateRequestV0.val t) :=
  eq_spec_of (by simp only [saslAuthenticateRequestV0.ty]; decide +kernel) (saslAuthenticateRequestV0.legacy_model t) (by simp only [saslAuthenticateRequestV0.ty]; decide +kernel) hwt

/-- saslHandshakeRequestV0 sent as api key 17 version 0 -/
theorem saslHandshakeRequestV0.legacy_eq_spec_v0 (t : saslHandshakeRequestV0) (hwt : wt (saslHandshakeRequestV0.ty t) (saslHandshakeRequestV0.val t) = true) :
    ∃ g, Spec.goldenTy 17 true 0 (saslHandshakeRequestV0.ty t) = some g ∧ saslHandshakeRequestV0.writeTo t = Spec.encode (Spec.denull g) (saslHandshakeRequestV0.val t) :=
  eq_spec_of (by simp only [saslHandshakeRequestV0.ty]; decide +kernel) (saslHandshakeRequestV0.legacy_model t) (by simp only [saslHandshakeRequestV0.ty]; decide +kernel) hwt

/-- saslHandshakeRequestV0 sent as api key 17 version 1 -/
theorem saslHandshakeRequestV0.legacy_eq_spec_v1 (t : saslHandshakeRequestV0) (hwt : wt (saslHandshakeRequestV0.ty t) (saslHandshakeRequestV0.val t) = true) :
    ∃ g, Spec.goldenTy 17 true 1 (saslHandshakeRequestV0.ty t) = some g ∧ saslHandshakeRequestV0.writeTo t = Spec.encode (Spec.denull g) (saslHandshakeRequestV0.val t) :=
  eq_spec_of (by simp only [saslHandshakeRequestV0.ty]; decide +kernel) (saslHandshakeRequestV0.legacy_model t) (by simp only [saslHandshakeRequestV0.ty]; decide +kernel) hwt

/-- syncGroupRequestV0 sent as api key 14 version 0 -/
theorem syncGroupRequestV0.legacy_eq_spec_v0 (t : syncGroupRequestV0) (hwt : wt (syncGroupRequestV0.ty t) (syncGroupRequestV0.val t) = true) :
    ∃ g, Spec.goldenTy 14 true 0 (syncGroupRequestV0.ty t) = some g ∧ syncGroupRequestV0.writeTo t = Spec.encode (Spec.denull g) (syncGroupRequestV0.val t) :=
  eq_spec_of (by simp only [syncGroupRequestV0.ty]; decide +kernel) (syncGroupRequestV0.legacy_model t) (by simp only [syncGroupRequestV0.ty]; decide +kernel) hwt

/-- topicMetadataRequestV1 sent as api key 3 version 1 -/
theorem topicMetadataRequestV1.legacy_eq_spec_v1 (t : topicMetadataRequestV1) (hwt : wt (topicMetadataRequestV1.ty t) (topicMetadataRequestV1.val t) = true) :
    ∃ g, Spec.goldenTy 3 true 1 (topicMetadataRequestV1.ty t) = some g ∧ topicMetadataRequestV1.writeTo t = Spec.encode (Spec.denull g) (topicMetadataRequestV1.val t) :=
  eq_spec_of (by simp only [topicMetadataRequestV1.ty]; decide +kernel) (topicMetadataRequestV1.legacy_model t) (by simp only [topicMetadataRequestV1.ty]; decide +kernel) hwt

/-- topicMetadataRequestV6 sent as api key 3 version 6 -/
theorem topicMetadataRequestV6.legacy_eq_spec_v6 (t : topicMetadataRequestV6) (hwt : wt (topicMetadataRequestV6.ty t) (topicMetadataRequestV6.val t) = true) :
    ∃ g, Spec.goldenTy 3 true 6 (topicMetadataRequestV6.ty t) = some g ∧ topicMetadataRequestV6.writeTo t = Spec.encode (Spec.denull g) (topicMetadataRequestV6.val t) :=
  eq_spec_of (by simp only [topicMetadataRequestV6.ty]; decide +kernel) (topicMetadataRequestV6.legacy_model t) (by simp only [topicMetadataRequestV6.ty]; decide +kernel) hwt

/-! ### `T.legacy_read_spec_vK`: the response type `T` read under an api key and version

The writer's schema is the golden RESPONSE schema (up to string nullability, hint as above), its bytes are the reference encoding, and
the reader Conn uses gives the value back from exactly those bytes. -/

/-- deleteTopicsResponse read as the response of api key 20 version 0 -/
theorem deleteTopicsResponse.legacy_read_spec_v0 (t : deleteTopicsResponse) (hv : t.v = 0) (hwt : wt (deleteTopicsResponse.ty t) (deleteTopicsResponse.val t) = true) (hok : deleteTopicsResponse.Ok t) (rest : Bytes) :
    ∃ g, Spec.goldenTy 20 false 0 (deleteTopicsResponse.ty t) = some g ∧
      deleteTopicsResponse.readFrom (deleteTopicsResponse.zero 0) (Spec.encode (Spec.denull g) (deleteTopicsResponse.val t) ++ rest) = some (t, rest) :=
  read_spec_of (eq_spec_of (by simp only [deleteTopicsResponse.ty, hv]; decide +kernel) (deleteTopicsResponse.legacy_model t) (by simp only [deleteTopicsResponse.ty, hv]; decide +kernel) hwt)
    (hv ▸ deleteTopicsResponse.read_write t hok) rest

/-- deleteTopicsResponse read as the response of api key 20 version 1 -/
theorem deleteTopicsResponse.legacy_read_spec_v1 (t : deleteTopicsResponse) (hv : t.v = 1) (hwt : wt (deleteTopicsResponse.ty t) (deleteTopicsResponse.val t) = true) (hok : deleteTopicsResponse.Ok t) (rest : Bytes) :
    ∃ g, Spec.goldenTy 20 false 1 (deleteTopicsResponse.ty t) = some g ∧
      deleteTopicsResponse.readFrom (deleteTopicsResponse.zero 1) (Spec.encode (Spec.denull g) (deleteTopicsResponse.val t) ++ rest) = some (t, rest) :=
  read_spec_of (eq_spec_of (by simp only [deleteTopicsResponse.ty, hv]; decide +kernel) (deleteTopicsResponse.legacy_model t) (by simp only [deleteTopicsResponse.ty, hv]; decide +kernel) hwt)
    (hv ▸ deleteTopicsResponse.read_write t hok) rest

/-- findCoordinatorResponseV0 read as the response of api key 10 version 0 -/
theorem findCoordinatorResponseV0.legacy_read_spec_v0 (t : findCoordinatorResponseV0) (hwt : wt (findCoordinatorResponseV0.ty t) (findCoordinatorResponseV0.val t) = true) (hok : findCoordinatorResponseV0.Ok t) (rest : Bytes) :
    ∃ g, Spec.goldenTy 10 false 0 (findCoordinatorResponseV0.ty t) = some g ∧
      findCoordinatorResponseV0.readFrom findCoordinatorResponseV0.zero (Spec.encode (Spec.denull g) (findCoordinatorResponseV0.val t) ++ rest) = some (t, rest) :=
  read_spec_of (eq_spec_of (by simp only [findCoordinatorResponseV0.ty]; decide +kernel) (findCoordinatorResponseV0.legacy_model t) (by simp only [findCoordinatorResponseV0.ty]; decide +kernel) hwt)
    (findCoordinatorResponseV0.read_write t hok) rest

/-- heartbeatResponseV0 read as the response of api key 12 version 0 -/
theorem heartbeatResponseV0.legacy_read_spec_v0 (t : heartbeatResponseV0) (hwt : wt (heartbeatResponseV0.ty t) (heartbeatResponseV0.val t) = true) (hok : heartbeatResponseV0.Ok t) (rest : Bytes) :
    ∃ g, Spec.goldenTy 12 false 0 (heartbeatResponseV0.ty t) = some g ∧
      heartbeatResponseV0.readFrom heartbeatResponseV0.zero (Spec.encode (Spec.denull g) (heartbeatResponseV0.val t) ++ rest) = some (t, rest) :=
  read_spec_of (eq_spec_of (by simp only [heartbeatResponseV0.ty]; decide +kernel) (heartbeatResponseV0.legacy_model t) (by simp only [heartbeatResponseV0.ty]; decide +kernel) hwt)
    (heartbeatResponseV0.read_write t hok) rest

/-- joinGroupResponse read as the response of api key 11 version 1 -/
theorem joinGroupResponse.legacy_read_spec_v1 (t : joinGroupResponse) (hv : t.v = 1) (hwt : wt (joinGroupResponse.ty t) (joinGroupResponse.val t) = true) (hok : joinGroupResponse.Ok t) (rest : Bytes) :
    ∃ g, Spec.goldenTy 11 false 1 (joinGroupResponse.ty t) = some g ∧
      joinGroupResponse.readFrom (joinGroupResponse.zero 1) (Spec.encode (Spec.denull g) (joinGroupResponse.val t) ++ rest) = some (t, rest) :=
  read_spec_of (eq_spec_of (by simp only [joinGroupResponse.ty, hv]; decide +kernel) (joinGroupResponse.legacy_model t) (by simp only [joinGroupResponse.ty, hv]; decide +kernel) hwt)
    (hv ▸ joinGroupResponse.read_write t hok) rest

/-- joinGroupResponse read as the response of api key 11 version 2 -/
theorem joinGroupResponse.legacy_read_spec_v2 (t : joinGroupResponse) (hv : t.v = 2) (hwt : wt (joinGroupResponse.ty t) (joinGroupResponse.val t) = true) (hok : joinGroupResponse.Ok t) (rest : Bytes) :
    ∃ g, Spec.goldenTy 11 false 2 (joinGroupResponse.ty t) = some g ∧
      joinGroupResponse.readFrom (joinGroupResponse.zero 2) (Spec.encode (Spec.denull g) (joinGroupResponse.val t) ++ rest) = some (t, rest) :=
  read_spec_of (eq_spec_of (by simp only [joinGroupResponse.ty, hv]; decide +kernel) (joinGroupResponse.legacy_model t) (by simp only [joinGroupResponse.ty, hv]; decide +kernel) hwt)
    (hv ▸ joinGroupResponse.read_write t hok) rest

/-- leaveGroupResponseV0 read as the response of api key 13 version 0 -/
theorem leaveGroupResponseV0.legacy_read_spec_v0 (t : leaveGroupResponseV0) (hwt : wt (leaveGroupResponseV0.ty t) (leaveGroupResponseV0.val t) = true) (hok : leaveGroupResponseV0.Ok t) (rest : Bytes) :
    ∃ g, Spec.goldenTy 13 false 0 (leaveGroupResponseV0.ty t) = some g ∧
      leaveGroupResponseV0.readFrom leaveGroupResponseV0.zero (Spec.encode (Spec.denull g) (leaveGroupResponseV0.val t) ++ rest) = some (t, rest) :=
  read_spec_of (eq_spec_of (by simp only [leaveGroupResponseV0.ty]; decide +kernel) (leaveGroupResponseV0.legacy_model t) (by simp only [leaveGroupResponseV0.ty]; decide +kernel) hwt)
    (leaveGroupResponseV0.read_write t hok) rest

/-- listGroupsResponseV1 read as the response of api key 16 version 1 -/
theorem listGroupsResponseV1.legacy_read_spec_v1 (t : listGroupsResponseV1) (hwt : wt (listGroupsResponseV1.ty t) (listGroupsResponseV1.val t) = true) (hok : listGroupsResponseV1.Ok t) (rest : Bytes) :
    ∃ g, Spec.goldenTy 16 false 1 (listGroupsResponseV1.ty t) = some g ∧
      listGroupsResponseV1.readFrom listGroupsResponseV1.zero (Spec.encode (Spec.denull g) (listGroupsResponseV1.val t) ++ rest) = some (t, rest) :=
  read_spec_of (eq_spec_of (by simp only [listGroupsResponseV1.ty]; decide +kernel) (listGroupsResponseV1.legacy_model t) (by simp only [listGroupsResponseV1.ty]; decide +kernel) hwt)
    (listGroupsResponseV1.read_write t hok) rest

/-- metadataResponseV1 read as the response of api key 3 version 1 -/
theorem metadataResponseV1.legacy_read_spec_v1 (t : metadataResponseV1) (hwt : wt (metadataResponseV1.ty t) (metadataResponseV1.val t) = true) (hok : metadataResponseV1.Ok t) (rest : Bytes) :
    ∃ g, Spec.goldenTy 3 false 1 (metadataResponseV1.ty t) = some g ∧
      metadataResponseV1.readFrom metadataResponseV1.zero (Spec.encode (Spec.denull g) (metadataResponseV1.val t) ++ rest) = some (t, rest) :=
  read_spec_of (eq_spec_of (by simp only [metadataResponseV1.ty]; decide +kernel) (metadataResponseV1.legacy_model t) (by simp only [metadataResponseV1.ty]; decide +kernel) hwt)
    (metadataResponseV1.read_write t hok) rest

/-- offsetCommitResponseV2 read as the response of api key 8 version 2 -/
theorem offsetCommitResponseV2.legacy_read_spec_v2 (t : offsetCommitResponseV2) (hwt : wt (offsetCommitResponseV2.ty t) (offsetCommitResponseV2.val t) = true) (hok : offsetCommitResponseV2.Ok t) (rest : Bytes) :
    ∃ g, Spec.goldenTy 8 false 2 (offsetCommitResponseV2.ty t) = some g ∧
      offsetCommitResponseV2.readFrom offsetCommitResponseV2.zero (Spec.encode (Spec.denull g) (offsetCommitResponseV2.val t) ++ rest) = some (t, rest) :=
  read_spec_of (eq_spec_of (by simp only [offsetCommitResponseV2.ty]; decide +kernel) (offsetCommitResponseV2.legacy_model t) (by simp only [offsetCommitResponseV2.ty]; decide +kernel) hwt)
    (offsetCommitResponseV2.read_write t hok) rest

/-- offsetFetchResponseV1 read as the response of api key 9 version 1 -/
theorem offsetFetchResponseV1.legacy_read_spec_v1 (t : offsetFetchResponseV1) (hwt : wt (offsetFetchResponseV1.ty t) (offsetFetchResponseV1.val t) = true) (hok : offsetFetchResponseV1.Ok t) (rest : Bytes) :
    ∃ g, Spec.goldenTy 9 false 1 (offsetFetchResponseV1.ty t) = some g ∧
      offsetFetchResponseV1.readFrom offsetFetchResponseV1.zero (Spec.encode (Spec.denull g) (offsetFetchResponseV1.val t) ++ rest) = some (t, rest) :=
  read_spec_of (eq_spec_of (by simp only [offsetFetchResponseV1.ty]; decide +kernel) (offsetFetchResponseV1.legacy_model t) (by simp only [offsetFetchResponseV1.ty]; decide +kernel) hwt)
    (offsetFetchResponseV1.read_write t hok) rest

/-- saslAuthenticateResponseV0 read as the response of api key 36 version 0 -/
theorem saslAuthenticateResponseV0.legacy_read_spec_v0 (t : saslAuthenticateResponseV0) (hwt : wt (saslAuthenticateResponseV0.ty t) (saslAuthenticateResponseV0.val t) = true) (hok : saslAuthenticateResponseV0.Ok t) (rest : Bytes) :
    ∃ g, Spec.goldenTy 36 false 0 (saslAuthenticateResponseV0.ty t) = some g ∧
      saslAuthenticateResponseV0.readFrom saslAuthenticateResponseV0.zero (Spec.encode (Spec.denull g) (saslAuthenticateResponseV0.val t) ++ rest) = some (t, rest) :=
  read_spec_of (eq_spec_of (by simp only [saslAuthenticateResponseV0.ty]; decide +kernel) (saslAuthenticateResponseV0.legacy_model t) (by simp only [saslAuthenticateResponseV0.ty]; decide +kernel) hwt)
    (saslAuthenticateResponseV0.read_write t hok) rest

/-- saslHandshakeResponseV0 read as the response of api key 17 version 0 -/
theorem saslHandshakeResponseV0.legacy_read_spec_v0 (t : saslHandshakeResponseV0) (hwt : wt (saslHandshakeResponseV0.ty t) (saslHandshakeResponseV0.val t) = true) (hok : saslHandshakeResponseV0.Ok t) (rest : Bytes) :
    ∃ g, Spec.goldenTy 17 false 0 (saslHandshakeResponseV0.ty t) = some g ∧
      saslHandshakeResponseV0.readFrom saslHandshakeResponseV0.zero (Spec.encode (Spec.denull g) (saslHandshakeResponseV0.val t) ++ rest) = some (t, rest) :=
  read_spec_of (eq_spec_of (by simp only [saslHandshakeResponseV0.ty]; decide +kernel) (saslHandshakeResponseV0.legacy_model t) (by simp only [saslHandshakeResponseV0.ty]; decide +kernel) hwt)
    (saslHandshakeResponseV0.read_write t hok) rest

/-- saslHandshakeResponseV0 read as the response of api key 17 version 1 -/
theorem saslHandshakeResponseV0.legacy_read_spec_v1 (t : saslHandshakeResponseV0) (hwt : wt (saslHandshakeResponseV0.ty t) (saslHandshakeResponseV0.val t) = true) (hok : saslHandshakeResponseV0.Ok t) (rest : Bytes) :
    ∃ g, Spec.goldenTy 17 false 1 (saslHandshakeResponseV0.ty t) = some g ∧
      saslHandshakeResponseV0.readFrom saslHandshakeResponseV0.zero (Spec.encode (Spec.denull g) (saslHandshakeResponseV0.val t) ++ rest) = some (t, rest) :=
  read_spec_of (eq_spec_of (by simp only [saslHandshakeResponseV0.ty]; decide +kernel) (saslHandshakeResponseV0.legacy_model t) (by simp only [saslHandshakeResponseV0.ty]; decide +kernel) hwt)
    (saslHandshakeResponseV0.read_write t hok) rest

/-- syncGroupResponseV0 read as the response of api key 14 version 0 -/
theorem syncGroupResponseV0.legacy_read_spec_v0 (t : syncGroupResponseV0) (hwt : wt (syncGroupResponseV0.ty t) (syncGroupResponseV0.val t) = true) (hok : syncGroupResponseV0.Ok t) (rest : Bytes) :
    ∃ g, Spec.goldenTy 14 false 0 (syncGroupResponseV0.ty t) = some g ∧
      syncGroupResponseV0.readFrom syncGroupResponseV0.zero (Spec.encode (Spec.denull g) (syncGroupResponseV0.val t) ++ rest) = some (t, rest) :=
  read_spec_of (eq_spec_of (by simp only [syncGroupResponseV0.ty]; decide +kernel) (syncGroupResponseV0.legacy_model t) (by simp only [syncGroupResponseV0.ty]; decide +kernel) hwt)
    (syncGroupResponseV0.read_write t hok) rest

/-- (type, api key, version) of every response type covered by `legacy_read_spec` -/
def goldenReadCovered : List (String × Nat × Nat) := [("deleteTopicsResponse", 20, 0), ("deleteTopicsResponse", 20, 1), ("findCoordinatorResponseV0", 10, 0), ("heartbeatResponseV0", 12, 0), ("joinGroupResponse", 11, 1), ("joinGroupResponse", 11, 2), ("leaveGroupResponseV0", 13, 0), ("listGroupsResponseV1", 16, 1), ("metadataResponseV1", 3, 1), ("offsetCommitResponseV2", 8, 2), ("offsetFetchResponseV1", 9, 1), ("saslAuthenticateResponseV0", 36, 0), ("saslHandshakeResponseV0", 17, 0), ("saslHandshakeResponseV0", 17, 1), ("syncGroupResponseV0", 14, 0)]
/-- response types seen next to a writeRequest call whose schema or reader is not translated -/
def goldenReadSkipped : List String := ["createTopicsResponse"]

/-! ### `F.legacy_eq_spec`, for the write.go writers: the SHAPE of the body against the golden schema

The flat sequence of writeBuffer calls `F.prims a` reads (`unflatten`) as a value of the golden schema of the api key and version, and
its bytes `flat (F.prims a)` are the MODEL encoding of that value under a type equal to the golden one up to string nullability:
field count, order of types and array nesting agree for all arguments; which argument lands in which same-typed field is not said.
`F.bytes a` is the header followed by `flat (F.prims a)` (`F.bytes_flat`, Gen/Legacy.lean).  These theorems do not go on to the
reference encoder: `C04.encode_eq_spec` would ask for `tw.wf` and `wt tw v` of the type and value read, which nothing here provides,
and the header's bytes are `legacy_frame_eq_spec`'s (Lemmas/LegacyFrame.lean).
The last argument of `goldenTy` is the hint for nullable flags the table leaves open; there is none here, `.bool` is a dummy. -/

/-- the body writeFetchRequestV10 writes against api key 1 version 10 -/
theorem writeFetchRequestV10.legacy_eq_spec (a : writeFetchRequestV10.Args) :
    ∃ g tw v, Spec.goldenTy 1 true 10 .bool = some g ∧ unflatten g (writeFetchRequestV10.prims a) = some (tw, v, []) ∧
      Spec.denull tw = Spec.denull g ∧ flat (writeFetchRequestV10.prims a) = encode tw v := by
  exact flat_eq_spec rfl rfl

/-- the body writeFetchRequestV2 writes against api key 1 version 2 -/
theorem writeFetchRequestV2.legacy_eq_spec (a : writeFetchRequestV2.Args) :
    ∃ g tw v, Spec.goldenTy 1 true 2 .bool = some g ∧ unflatten g (writeFetchRequestV2.prims a) = some (tw, v, []) ∧
      Spec.denull tw = Spec.denull g ∧ flat (writeFetchRequestV2.prims a) = encode tw v := by
  exact flat_eq_spec rfl rfl

/-- the body writeFetchRequestV5 writes against api key 1 version 5 -/
theorem writeFetchRequestV5.legacy_eq_spec (a : writeFetchRequestV5.Args) :
    ∃ g tw v, Spec.goldenTy 1 true 5 .bool = some g ∧ unflatten g (writeFetchRequestV5.prims a) = some (tw, v, []) ∧
      Spec.denull tw = Spec.denull g ∧ flat (writeFetchRequestV5.prims a) = encode tw v := by
  exact flat_eq_spec rfl rfl

/-- the body writeListOffsetRequestV1 writes against api key 2 version 1 -/
theorem writeListOffsetRequestV1.legacy_eq_spec (a : writeListOffsetRequestV1.Args) :
    ∃ g tw v, Spec.goldenTy 2 true 1 .bool = some g ∧ unflatten g (writeListOffsetRequestV1.prims a) = some (tw, v, []) ∧
      Spec.denull tw = Spec.denull g ∧ flat (writeListOffsetRequestV1.prims a) = encode tw v := by
  exact flat_eq_spec rfl rfl

/-- the body writeProduceRequestV3 writes against api key 0 version 3.
`hnil`: with a transactional id `some s` the sequence reads only for non-empty `s` (an empty non-null string is not a model
value at a nullable type); the theorem is stated for the case without id -/
theorem writeProduceRequestV3.legacy_eq_spec (a : writeProduceRequestV3.Args) (hnil : a.transactionalID = none) :
    ∃ g tw v, Spec.goldenTy 0 true 3 .bool = some g ∧ unflatten g (writeProduceRequestV3.prims a) = some (tw, v, []) ∧
      Spec.denull tw = Spec.denull g ∧ flat (writeProduceRequestV3.prims a) = encode tw v := by
  simp only [writeProduceRequestV3.prims, hnil]
  exact flat_eq_spec rfl rfl

/-- the body writeProduceRequestV7 writes against api key 0 version 7.
`hnil`: with a transactional id `some s` the sequence reads only for non-empty `s` (an empty non-null string is not a model
value at a nullable type); the theorem is stated for the case without id -/
theorem writeProduceRequestV7.legacy_eq_spec (a : writeProduceRequestV7.Args) (hnil : a.transactionalID = none) :
    ∃ g tw v, Spec.goldenTy 0 true 7 .bool = some g ∧ unflatten g (writeProduceRequestV7.prims a) = some (tw, v, []) ∧
      Spec.denull tw = Spec.denull g ∧ flat (writeProduceRequestV7.prims a) = encode tw v := by
  simp only [writeProduceRequestV7.prims, hnil]
  exact flat_eq_spec rfl rfl

/-- (type, api key, version) of every `(*Conn).writeRequest` call site covered above -/
def goldenCovered : List (String × Nat × Nat) := [("createTopicsRequest", 19, 0), ("createTopicsRequest", 19, 1), ("createTopicsRequest", 19, 2), ("deleteTopicsRequest", 20, 0), ("deleteTopicsRequest", 20, 1), ("findCoordinatorRequestV0", 10, 0), ("heartbeatRequestV0", 12, 0), ("joinGroupRequest", 11, 1), ("joinGroupRequest", 11, 2), ("leaveGroupRequestV0", 13, 0), ("listGroupsRequestV1", 16, 1), ("offsetCommitRequestV2", 8, 2), ("offsetFetchRequestV1", 9, 1), ("saslAuthenticateRequestV0", 36, 0), ("saslHandshakeRequestV0", 17, 0), ("saslHandshakeRequestV0", 17, 1), ("syncGroupRequestV0", 14, 0), ("topicMetadataRequestV1", 3, 1), ("topicMetadataRequestV6", 3, 6)]

end KV.Gen.Legacy
